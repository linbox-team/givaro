/-
C05 — the checker's code arithmetic (`Spec.GFq`: p-adic digit lists, `csucc`, `cmul` = schoolbook product reduced modulo the monic
`X^k + flow`) is arithmetic of every commutative ring `K` with `p = 0` that contains a root `x` of that polynomial: a code decodes to
its digits evaluated at `x` (`decoding_of_root`; `K = F_p[X]/(f)`, `x` the class of `X`, is the case meant, and no Mathlib `Polynomial`
is needed to say it).  Also here: codes stay below `q` under `csucc` and `cmul`.
-/
import GivaroModel.Lemmas.GFqTables
import GivaroModel.Lemmas.PadicLemmas
import Mathlib.Tactic.Ring
import Mathlib.Tactic.Linarith
import Mathlib.Tactic.LinearCombination
namespace Givaro.Lemmas.GFqZech
open Givaro.Model.Zech Givaro.Spec.GFq

section
variable {K : Type*} [CommRing K] (x : K)

/-- value at `x` of a coefficient list (low degree first) -/
def ev : List Nat → K
  | [] => 0
  | d :: ds => (d : K) + x * ev ds

variable {p : Nat}

theorem len_polyAdd : ∀ (a b : List Nat), a.length = b.length → (polyAdd p a b).length = a.length
  | [], [], _ => by simp [polyAdd]
  | a :: as, b :: bs, h => by
    simp only [polyAdd, List.length_cons]
    rw [len_polyAdd as bs (by simpa using h)]
  | [], _ :: _, h => by simp at h
  | _ :: _, [], h => by simp at h

theorem lt_polyAdd (hp : 0 < p) : ∀ (a b : List Nat), a.length = b.length → ∀ d ∈ polyAdd p a b, d < p
  | [], [], _ => by simp [polyAdd]
  | a :: as, b :: bs, h => by
    intro d hd
    simp only [polyAdd, List.mem_cons] at hd
    rcases hd with rfl | hd
    · exact Nat.mod_lt _ hp
    · exact lt_polyAdd hp as bs (by simpa using h) d hd
  | [], _ :: _, h => by simp at h
  | _ :: _, [], h => by simp at h

theorem lt_polyScale (hp : 0 < p) (c : Nat) (a : List Nat) : ∀ d ∈ polyScale p c a, d < p := by
  intro d hd
  simp only [polyScale, List.mem_map] at hd
  obtain ⟨y, _, rfl⟩ := hd
  exact Nat.mod_lt _ hp

theorem polyMulX_eq (flow a : List Nat) (hk : 1 ≤ flow.length) (ha : a.length = flow.length) :
    ∃ lead, a = a.dropLast ++ [lead] ∧
      polyMulX p flow a = polyAdd p (0 :: a.dropLast) (polyNeg p (polyScale p lead flow)) ∧
      (0 :: a.dropLast).length = (polyNeg p (polyScale p lead flow)).length ∧ (0 :: a.dropLast).length = flow.length := by
  have hne : a ≠ [] := by
    intro h
    rw [h, List.length_nil] at ha
    omega
  obtain ⟨lead, hl⟩ : ∃ lead, a.getLast? = some lead := by
    cases h : a.getLast? with
    | none => exact absurd (List.getLast?_eq_none_iff.mp h) hne
    | some v => exact ⟨v, rfl⟩
  have hlen : (0 :: a.dropLast).length = flow.length := by
    rw [List.length_cons, List.length_dropLast, ha]; omega
  refine ⟨lead, (List.dropLast_append_getLast? lead (Option.mem_def.mpr hl)).symm, ?_, ?_, hlen⟩
  · unfold polyMulX polySub; rw [hl]
  · rw [hlen]; simp [polyNeg, polyScale]

theorem len_polyMulX (flow a : List Nat) (hk : 1 ≤ flow.length) (ha : a.length = flow.length) :
    (polyMulX p flow a).length = flow.length := by
  obtain ⟨lead, _, e, h1, h2⟩ := polyMulX_eq (p := p) flow a hk ha
  rw [e, len_polyAdd _ _ h1, h2]

theorem len_polyMul (flow a : List Nat) (hk : 1 ≤ flow.length) (ha : a.length = flow.length) :
    ∀ b : List Nat, (polyMul p flow a b).length = flow.length
  | [] => by simp [polyMul, ha]
  | b :: bs => by
    have h := len_polyMulX (p := p) flow _ hk (len_polyMul flow a hk ha bs)
    rw [polyMul, len_polyAdd _ _ (by rw [h]; simp [polyScale, ha]), h]

theorem lt_polyMul (hp : 0 < p) (flow a : List Nat) (hk : 1 ≤ flow.length) (ha : a.length = flow.length) :
    ∀ b : List Nat, ∀ d ∈ polyMul p flow a b, d < p
  | [] => by
    intro d hd
    simp only [polyMul, List.mem_map] at hd
    obtain ⟨_, _, rfl⟩ := hd
    exact hp
  | b :: bs => by
    have h := len_polyMulX (p := p) flow _ hk (len_polyMul (p := p) flow a hk ha bs)
    exact lt_polyAdd hp _ _ (by rw [h]; simp [polyScale, ha])

theorem ev_append_single (l : List Nat) (d : Nat) : ev x (l ++ [d]) = ev x l + (d : K) * x ^ l.length := by
  induction l with
  | nil => simp [ev]
  | cons a as ih => simp only [List.cons_append, ev, ih, List.length_cons, pow_succ]; ring

theorem ev_replicate (n : Nat) : ev x (List.replicate n 0) = 0 := by
  induction n with
  | zero => simp [ev]
  | succ n ih => simp only [List.replicate_succ, ev, ih]; simp

theorem ev_append_zeros (l : List Nat) (n : Nat) : ev x (l ++ List.replicate n 0) = ev x l := by
  induction l with
  | nil => simp [ev_replicate, ev]
  | cons a as ih => simp only [List.cons_append, ev, ih]

variable (hp0 : ((p : Nat) : K) = 0)
include hp0

theorem cast_mod (n : Nat) : ((n % p : Nat) : K) = (n : K) := by
  conv_rhs => rw [← Nat.div_add_mod n p]
  push_cast
  rw [hp0]; ring

theorem ev_map_mod : ∀ l : List Nat, ev x (l.map (· % p)) = ev x l
  | [] => rfl
  | d :: ds => by rw [List.map_cons, ev, ev, cast_mod hp0, ev_map_mod ds]

theorem ev_polyAdd : ∀ (a b : List Nat), ev x (polyAdd p a b) = ev x a + ev x b
  | [], [] => (add_zero _).symm
  | [], _ :: _ => (zero_add _).symm
  | _ :: _, [] => (add_zero _).symm
  | a :: as, b :: bs => by
    simp only [polyAdd, ev]
    rw [cast_mod hp0, ev_polyAdd as bs]
    push_cast; ring

theorem ev_polyScale (c : Nat) : ∀ (a : List Nat), ev x (polyScale p c a) = (c : K) * ev x a
  | [] => by simp [polyScale, ev]
  | a :: as => by
    have ih := ev_polyScale c as
    simp only [polyScale, List.map_cons, ev] at ih ⊢
    rw [cast_mod hp0, ih]; push_cast; ring

theorem ev_polyNeg : ∀ (a : List Nat), (∀ d ∈ a, d < p) → ev x (polyNeg p a) = - ev x a
  | [], _ => by simp [polyNeg, ev]
  | a :: as, h => by
    have ih := ev_polyNeg as (fun d hd => h d (List.mem_cons_of_mem _ hd))
    have ha : a < p := h a (List.mem_cons_self ..)
    simp only [polyNeg, List.map_cons, ev] at ih ⊢
    rw [cast_mod hp0, ih, Nat.mod_eq_of_lt ha]
    have : ((p - a : Nat) : K) = (p : K) - a := by rw [Nat.cast_sub (le_of_lt ha)]
    rw [this, hp0]; ring

theorem ev_polyMulX (hp : 0 < p) (flow a : List Nat) (hk : 1 ≤ flow.length) (ha : a.length = flow.length)
    (hroot : ev x flow + x ^ flow.length = 0) : ev x (polyMulX p flow a) = x * ev x a := by
  obtain ⟨lead, hsplit, e, h1, h2⟩ := polyMulX_eq (p := p) flow a hk ha
  have hdl : a.dropLast.length = flow.length - 1 := by rw [List.length_dropLast, ha]
  rw [e, ev_polyAdd x hp0, ev_polyNeg x hp0 _ (lt_polyScale hp lead flow), ev_polyScale x hp0]
  conv_rhs => rw [hsplit, ev_append_single, hdl]
  simp only [ev, Nat.cast_zero, zero_add]
  have hx : x * x ^ (flow.length - 1) = x ^ flow.length := mul_pow_sub_one (Nat.ne_of_gt hk) x
  have : ev x flow = - x ^ flow.length := by linear_combination hroot
  rw [this, mul_add, mul_left_comm, hx]; ring

theorem ev_polyMul (hp : 0 < p) (flow a : List Nat) (hk : 1 ≤ flow.length) (ha : a.length = flow.length)
    (hroot : ev x flow + x ^ flow.length = 0) :
    ∀ b : List Nat, ev x (polyMul p flow a b) = ev x a * ev x b
  | [] => by simp [polyMul, ev, ev_replicate]
  | b :: bs => by
    have hl := len_polyMul (p := p) flow a hk ha bs
    rw [polyMul, ev_polyAdd x hp0,
      ev_polyMulX x hp0 hp flow _ hk hl hroot, ev_polyMul hp flow a hk ha hroot bs, ev_polyScale x hp0, ev]
    ring

end

theorem len_digits (p : Nat) : ∀ k n, (digits p k n).length = k
  | 0, _ => rfl
  | k + 1, n => by simp [digits, len_digits p k]

/-- the code of a coefficient list is `Poly1PadicDom::eval` of C08, the digits of a code its `radixdirect` -/
theorem undigits_eq_eval (p : Nat) : ∀ ds, undigits p ds = Model.Padic.eval p ds
  | [] => rfl
  | d :: ds => congrArg (d + p * ·) (undigits_eq_eval p ds)

theorem digits_eq_radixDirect (p : Nat) : ∀ k n, digits p k n = Model.Padic.radixDirect p k n
  | 0, _ => rfl
  | k + 1, n => by rw [digits, Model.Padic.radixDirect, digits_eq_radixDirect p k, Nat.mod_def, Nat.mul_comm]

theorem lt_digits {p : Nat} (hp : 0 < p) (k n : Nat) : ∀ d ∈ digits p k n, d < p :=
  digits_eq_radixDirect p k n ▸ (Padic.radixDirect_spec p hp k n).2.1

theorem undigits_digits {p : Nat} (hp : 0 < p) (k n : Nat) (h : n < p ^ k) : undigits p (digits p k n) = n := by
  rw [undigits_eq_eval, digits_eq_radixDirect, (Padic.radixDirect_spec p hp k n).2.2, Nat.mod_eq_of_lt h]

theorem digits_undigits {p : Nat} (hp : 0 < p) : ∀ (ds : List Nat), (∀ d ∈ ds, d < p) → digits p ds.length (undigits p ds) = ds
  | [], _ => rfl
  | d :: ds, h => by
    have hd : d < p := h d (List.mem_cons_self ..)
    have ih := digits_undigits hp ds (fun e he => h e (List.mem_cons_of_mem _ he))
    simp only [List.length_cons, digits, undigits]
    rw [Nat.add_mul_mod_self_left, Nat.mod_eq_of_lt hd, Nat.add_mul_div_left _ _ hp, Nat.div_eq_of_lt hd, Nat.zero_add, ih]

theorem undigits_append_zeros (p : Nat) (l : List Nat) (n : Nat) : undigits p (l ++ List.replicate n 0) = undigits p l := by
  rw [undigits_eq_eval, Padic.eval_append, Padic.eval_replicate_zero, Nat.mul_zero, Nat.add_zero, undigits_eq_eval]

theorem digits_undigits_pad {p : Nat} (hp : 0 < p) (k : Nat) (l : List Nat) (hl : l.length ≤ k) (hlt : ∀ d ∈ l, d < p) :
    digits p k (undigits p l) = l ++ List.replicate (k - l.length) 0 := by
  have h1 : (l ++ List.replicate (k - l.length) 0).length = k := by simp; omega
  have h2 : ∀ d ∈ l ++ List.replicate (k - l.length) 0, d < p := by
    intro d hd
    rw [List.mem_append] at hd
    rcases hd with hd | hd
    · exact hlt d hd
    · rw [List.mem_replicate] at hd; omega
  have := digits_undigits hp _ h2
  rw [h1, undigits_append_zeros] at this
  exact this

/-- reading a digit list back from its code, at any point of any ring: the p-adic look-up of `init` and the unpacking of a
    Kronecker substitution are both this -/
theorem ev_digits_undigits {K : Type*} [CommRing K] (x : K) {p : Nat} (hp : 0 < p) (k : Nat) (l : List Nat) (hl : l.length ≤ k)
    (hlt : ∀ d ∈ l, d < p) : ev x (digits p k (undigits p l)) = ev x l := by
  rw [digits_undigits_pad hp k l hl hlt, ev_append_zeros]

theorem digits_eq_map_range (B : Nat) : ∀ n r, digits B n r = (List.range n).map (fun j => r / B ^ j % B)
  | 0, _ => rfl
  | n + 1, r => by
    rw [digits, digits_eq_map_range B n, List.range_succ_eq_map, List.map_cons, List.map_map, pow_zero, Nat.div_one]
    refine congrArg _ (List.map_congr_left fun j _ => ?_)
    rw [Function.comp, Nat.div_div_eq_div_mul, pow_succ']

theorem undigits_lt {p : Nat} (ds : List Nat) (h : ∀ d ∈ ds, d < p) : undigits p ds < p ^ ds.length :=
  undigits_eq_eval p ds ▸ Padic.eval_lt p ds h

theorem len_flow (F : Field) : F.flow.length = F.k := len_digits _ _ _

theorem cmul_lt (F : Field) (hp : 2 ≤ F.p) (hk : 1 ≤ F.k) (a b : Nat) : F.cmul a b < F.q := by
  unfold Field.cmul Field.q
  split
  · rw [show F.k = 1 by omega, pow_one]; exact Nat.mod_lt _ (by omega)
  · have ha : (digits F.p F.k a).length = F.flow.length := by rw [len_digits, len_flow]
    have := undigits_lt _
      (lt_polyMul (by omega : 0 < F.p) F.flow _ (by rw [len_flow]; omega) ha (digits F.p F.k b))
    rwa [len_polyMul _ _ (by rw [len_flow]; omega) ha, len_flow] at this

theorem csucc_div_mod (F : Field) (hp : 2 ≤ F.p) (a : Nat) :
    F.csucc a / F.p = a / F.p ∧ F.csucc a % F.p = (a % F.p + 1) % F.p := by
  have hd := Nat.div_add_mod a F.p
  have hlt := Nat.mod_lt a (show 0 < F.p by omega)
  unfold Field.csucc
  split
  · rename_i h
    have e : a - (F.p - 1) = F.p * (a / F.p) := by omega
    rw [e, h, Nat.mul_div_cancel_left _ (by omega), Nat.mul_mod_right, Nat.sub_add_cancel (by omega), Nat.mod_self]
    exact ⟨rfl, rfl⟩
  · rename_i h
    have e : a + 1 = a % F.p + 1 + F.p * (a / F.p) := by omega
    have hlt' : a % F.p + 1 < F.p := by omega
    rw [e, Nat.add_mul_div_left _ _ (by omega), Nat.add_mul_mod_self_left, Nat.div_eq_of_lt hlt', Nat.zero_add]
    exact ⟨rfl, rfl⟩

/-- the successor keeps the quotient by `p`, hence stays below `q = p^k` -/
theorem csucc_lt (F : Field) (hp : 2 ≤ F.p) (hk : 1 ≤ F.k) (a : Nat) (ha : a < F.q) : F.csucc a < F.q := by
  obtain ⟨c, hc⟩ := p_dvd_q F hk
  rw [hc, Nat.mul_comm, ← Nat.div_lt_iff_lt_mul (by omega)] at ha ⊢
  rwa [(csucc_div_mod F hp a).1]

section
variable {K : Type*} [CommRing K] (x : K) {p : Nat}

theorem ev_digits_zero : ∀ k, ev x (digits p k 0) = 0
  | 0 => rfl
  | k + 1 => by simp [digits, ev, ev_digits_zero k]

theorem ev_digits_one (hp : 2 ≤ p) (k : Nat) : ev x (digits p (k + 1) 1) = 1 := by
  simp only [digits, ev]
  rw [Nat.mod_eq_of_lt (by omega), Nat.div_eq_of_lt (by omega), ev_digits_zero]; simp

theorem decoding_of_root (F : Field) (hp0 : ((F.p : Nat) : K) = 0) (hp : 2 ≤ F.p) (hk1 : 1 ≤ F.k)
    (hroot : 2 ≤ F.k → ev x F.flow + x ^ F.k = 0) :
    Decoding K F (fun a => ev x (digits F.p F.k a)) := by
  obtain ⟨k, hk⟩ : ∃ k, F.k = k + 1 := ⟨F.k - 1, by omega⟩
  refine ⟨ev_digits_zero x _, by rw [hk]; exact ev_digits_one x hp k, fun a _ => ?_, fun a b _ _ => ?_⟩
  · show ev x (digits F.p F.k (F.csucc a)) = ev x (digits F.p F.k a) + 1
    obtain ⟨h1, h2⟩ := csucc_div_mod F hp a
    rw [hk]
    simp only [digits, ev]
    rw [h1, h2, cast_mod hp0]
    push_cast; ring
  · show ev x (digits F.p F.k (F.cmul a b)) = ev x (digits F.p F.k a) * ev x (digits F.p F.k b)
    unfold Field.cmul
    by_cases h1 : F.k ≤ 1
    · have hk0 : F.k = 1 := by omega
      simp only [hk0, Nat.le_refl, ↓reduceIte, digits, ev, mul_zero, add_zero]
      rw [Nat.mod_mod, cast_mod hp0, cast_mod hp0, cast_mod hp0]; push_cast; ring
    · simp only [h1, ↓reduceIte]
      have hfl : F.flow.length = F.k := len_flow F
      have hr := hroot (by omega)
      rw [← hfl] at hr
      have ha : (digits F.p F.k a).length = F.flow.length := by rw [len_digits, hfl]
      have := digits_undigits (by omega : 0 < F.p) _
        (lt_polyMul (by omega) F.flow _ (by omega) ha (digits F.p F.k b))
      rw [len_polyMul _ _ (by omega) ha, hfl] at this
      rw [this, ev_polyMul x hp0 (by omega) F.flow _ (by omega) ha hr]
end

/-- for `k = 1` a code is its own digit list, so `Nat.cast` is the decoding of `decoding_of_root` at any point (here 0):
    for prime fields nothing is assumed beyond the check -/
theorem decoding_prime (F : Field) (hk : F.k = 1) (hp : 2 ≤ F.p) :
    Decoding (ZMod F.p) F (fun a => (a : ZMod F.p)) := by
  have D := decoding_of_root (0 : ZMod F.p) F (ZMod.natCast_self _) hp (by omega) (fun h => by omega)
  have e : (fun a => ev (0 : ZMod F.p) (digits F.p F.k a)) = fun a : Nat => (a : ZMod F.p) := by
    funext a
    rw [hk]
    simp only [digits, ev, zero_mul, add_zero, ZMod.natCast_mod]
  exact e ▸ D

end Givaro.Lemmas.GFqZech
