/-
C05 — GFqExtFast: the q-adic transform is Kronecker substitution in the state `shift = _BITS`, `maxn = maxdot()`, which satisfies
the invariant; `Props.C05.qadic_transform_exact` draws the conclusions (dot products of at most `maxdot()` terms, exactness in a double).
-/
import GivaroModel.Model.GFqExt
import GivaroModel.Lemmas.GFqKron
namespace Givaro.Lemmas.GFqKron
open Givaro.Model.GFqKron Givaro.Model.GFqExt Givaro.Lemmas.GFqZech

/-- the q-adic state of a `GFqExtFast` object seen as a Kronecker state -/
def qstate (p k : Nat) : KState :=
  { p := p, k := k, shift := bits k, base := 2 ^ bits k, mask := 2 ^ bits k - 1, maxn := maxdot p k }

theorem div_div_div (a b c d : Nat) : a / b / c / d = a / (b * c * d) := by
  rw [Nat.div_div_eq_div_mul, Nat.div_div_eq_div_mul, mul_assoc]

theorem maxdot_room (p k : Nat) : maxdot p k * epmunsq p k < 2 ^ bits k := by
  unfold maxdot epmunsq
  rw [div_div_div]
  have hpos : 0 < 2 ^ bits k := Nat.pow_pos (by norm_num)
  have e : (p - 1) * (p - 1) * k = k * (p - 1) * (p - 1) := by ring
  rw [e]
  have := Nat.div_mul_le_self (2 ^ bits k - 1) (k * (p - 1) * (p - 1))
  omega

theorem inv_qstate (p k : Nat) : Inv (qstate p k) := ⟨rfl, rfl, maxdot_room p k⟩

theorem pack_eq (p k : Nat) : ∀ cs, pack k cs = convert (qstate p k) cs
  | [] => rfl
  | c :: cs => by
    simp only [pack, convert, Nat.shiftLeft_eq, pack_eq p k cs]
    rfl

theorem qadicDigits_eq_unpack (p k d : Nat) :
    (qadicDigits k d).map (· % p) = unpack (qstate p k) d := by
  rw [unpack_eq_digits _ rfl, digits_eq_map_range]; rfl

/-- the double the application accumulates: `Σ_t convert(a_t)·convert(b_t)` (an exact integer) -/
def accDouble (k : Nat) : List (List Nat × List Nat) → Nat
  | [] => 0
  | (a, b) :: rest => pack k a * pack k b + accDouble k rest

theorem accDouble_eq (p k : Nat) : ∀ ts, accDouble k ts = accInt (qstate p k) ts
  | [] => rfl
  | (a, b) :: rest => by simp only [accDouble, accInt, pack_eq p k, accDouble_eq p k rest]

end Givaro.Lemmas.GFqKron
