/-
C16 (tie T, second table) — the special member functions of the ring / field / polynomial-domain classes.

`Generated/SMFDomains.lean` is regenerated on every run of the check from the clang AST of a translation unit that uses every copy /
move operation of every domain class instantiation of the C16/C18 zoo (translate/gen_smf_domains.py, the extractor of C14's table
pointed at `Modular_implem<…>`, `Modular<Log16>`, `ModularBalanced<…>`, `ModularExtended<…>`, `Montgomery<…>`, `GFqDom<…>`,
`GFqExtFast/GFqExt/GFqKronecker`, `Extension<…>`, `Poly1Dom<…>`, `Poly1FactorDom<…>`, `QField<Rational>`): per instantiation, per
copy operation, per data member, the members of the *source* object read to initialise / assign it, and whether that copy sits
under a condition other than the self-assignment guard `this != &src`.

"The result of an operation is unaffected by whether the object is the original, a copy-constructed copy or the target of an
assignment" needs the copy to carry the whole state.  The theorem is a kernel evaluation over the whole table, with no hand-written
list of state members on this side: every data member of every domain class is copied, unconditionally, from the same member of the
source by every copy operation the class offers.  The only members excused are the three constants `zero`, `one`, `mOne`: several
classes declare them `const` and re-derive them (constructor: from the already copied members; assignment: through
`assign(const_cast<Element&>(one), F.one)`, which the extractor does not follow) -- their values are functions of the other members,
and C04's `constants_after_assign` plus the history harness compare them on every run.
-/
import GivaroModel.Generated.SMFDomains
namespace Givaro.Props.C16SMF
open Givaro.Gen.SMFDomains

/-- the operation is not offered by the class (never declared, deleted, or an implicit one the class cannot have) -/
def notOffered (r : Row) : Bool := r.how == "absent" || r.how == "deleted" || r.how == "implicit-unused-or-deleted"

def copyOp (r : Row) : Bool := r.op == "copy-ctor" || r.op == "copy-assign"

/-- constants whose value is a function of the other members -/
def derivedConstant (m : String) : Bool := m == "zero" || m == "one" || m == "mOne"

/-- what the two table theorems below ask of a row, as one test -/
def rowOk (r : Row) : Bool :=
  notOffered r || ((r.how == "user" || r.how == "implicit") && (!r.conditional || !copyOp r) &&
    (derivedConstant r.member || r.sources == [r.member]))

theorem rows_checked : rows.all rowOk = true := by decide +kernel

/-- every copy operation a domain class offers has a body the translator could read, and copies every data member, unconditionally,
    from the same member of the source -/
theorem domain_copies_memberwise_complete :
    ∀ r ∈ rows, copyOp r = true → notOffered r = false →
      (r.how = "user" ∨ r.how = "implicit") ∧ r.conditional = false ∧
      (derivedConstant r.member = true ∨ r.sources = [r.member]) := by
  intro r hr hc hn
  simpa only [rowOk, hn, hc, Bool.false_or, Bool.not_true, Bool.or_false, Bool.and_eq_true, Bool.or_eq_true, beq_iff_eq,
    Bool.not_eq_true', and_assoc] using List.all_eq_true.mp rows_checked r hr

/-- a move operation that exists copies/moves every member as well (classes with user-written copies mostly have none) -/
theorem domain_moves_memberwise_complete :
    ∀ r ∈ rows, copyOp r = false → notOffered r = false →
      (r.how = "user" ∨ r.how = "implicit") ∧ (derivedConstant r.member = true ∨ r.sources = [r.member]) := by
  intro r hr hc hn
  simpa only [rowOk, hn, hc, Bool.false_or, Bool.not_false, Bool.or_true, Bool.and_true, Bool.and_eq_true, Bool.or_eq_true,
    beq_iff_eq] using List.all_eq_true.mp rows_checked r hr

/-- non-vacuity: every domain class of the zoo is in the table, offers a copy constructor, and user-written copy operations occur -/
theorem smf_domains_table_covers_zoo :
    (∀ c ∈ ["Modular_implem", "Modular", "ModularBalanced", "ModularExtended", "Montgomery", "GFqDom", "GFqExtFast", "Extension",
            "Poly1Dom", "Poly1FactorDom", "QField"],
      ∃ r ∈ rows, r.cls = c ∧ r.op = "copy-ctor" ∧ notOffered r = false) ∧
    (∃ r ∈ rows, r.op = "copy-assign" ∧ r.how = "user" ∧ r.sources = [r.member]) := by
  refine ⟨fun c hc => ?_, by decide +kernel⟩
  -- the classes offering a copy constructor are collected in one pass; the eleven names are looked up in that list
  have hm : c ∈ (rows.filter fun r => r.op == "copy-ctor" && !notOffered r).map Row.cls := by
    revert c
    decide +kernel
  obtain ⟨r, hr, rfl⟩ := List.mem_map.mp hm
  obtain ⟨hr, hp⟩ := List.mem_filter.mp hr
  rw [Bool.and_eq_true, beq_iff_eq, Bool.not_eq_true'] at hp
  exact ⟨r, hr, rfl, hp⟩

example : rows.length > 400 := by decide +kernel

end Givaro.Props.C16SMF
