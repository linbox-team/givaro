/- C06 helper lemmas: rudiv.h — div_3_2 on numbers (any base): the first remainder (`d32_first`) and one add-back of the divisor
   (`addback`, used for both quotient corrections); the generic div_3_2 template, given div_2_1 at its level. -/
import GivaroModel.Lemmas.RecIntMulLow
namespace Givaro.Model.RecInt

theorem lex_gt_iff {n : Nat} (d1 d0 c a0 : RU n) (h1 : WF d1) (h0 : WF d0) (hc : WF c) (ha : WF a0) :
    (decide (cmp d1 c > 0) || (decide (cmp d1 c = 0) && decide (cmp d0 a0 > 0))) = true ↔
      val a0 + Bn n * val c < val d0 + Bn n * val d1 := by
  have g1 : cmp d1 c > 0 ↔ val c < val d1 := by rw [gt_iff_lt, ← not_le, cmp_le d1 c h1 hc, not_le]
  have g0 : cmp d0 a0 > 0 ↔ val a0 < val d0 := by rw [gt_iff_lt, ← not_le, cmp_le d0 a0 h0 ha, not_le]
  rw [lex_lt_iff (val_lt a0 ha) (val_lt d0 h0), Bool.or_eq_true, Bool.and_eq_true, decide_eq_true_eq, decide_eq_true_eq,
    decide_eq_true_eq, g1, g0, cmp_eq d1 c h1 hc, eq_comm]

/-- One add-back of the divisor `b` (`B2` is the square of the base). A negative remainder of `N` by `q·b` is held in `Nat` as
    `N + B2 = q·b + R`, and `e` is the room left below it (`q·b < N + b + e`). The carry `ρ` out of `R + b` says whether the remainder by
    `(q-1)·b` is non-negative, hence final; if not, the same state holds again with room `e`. `div_3_2` uses this twice, with `e = b` and
    then with `e = 0`, where `ρ = false` is absurd since `x < B2`: at most two corrections. -/
theorem addback {B2 b N q R e : Nat} (hN : N + B2 = q * b + R) (hR : R < B2) (hlow : q * b < N + b + e) :
    1 ≤ q ∧ ∀ {Q x : Nat} {ρ : Bool}, Q + 1 = q → x + c2n ρ * B2 = R + b →
      (ρ = true → N = Q * b + x ∧ x < b) ∧ (ρ = false → N + B2 = Q * b + x ∧ Q * b < N + e) := by
  constructor
  · rcases Nat.eq_zero_or_pos q with h0 | h0
    · rw [h0, Nat.zero_mul] at hN; omega
    · exact h0
  · intro Q x ρ hQ he
    rw [← hQ, Nat.add_mul, Nat.one_mul] at hN hlow
    constructor
    · rintro rfl; rw [c2n_true, Nat.one_mul] at he; omega
    · rintro rfl; rw [c2n_false, Nat.zero_mul, Nat.add_zero] at he; omega

/-- The first remainder of `div_3_2` on numbers, in base `W`: `q`, `c` (with the carry `ret`) come from dividing `A = (a2|a1)` by `b1`, and
    `hov` says that `q` is not below the quotient of `(A|a0)` by `(b1|b0)`. After subtracting `D = q·b0` from `(c|a0)` the remainder `R`
    (borrow `β`) is final, or negative by less than twice the divisor. -/
theorem d32_first (W q c a0 b1 b0 A D R : Nat) (ret β : Bool)
    (hq : q < W) (ha0 : a0 < W) (hb1 : b1 < W) (hb0 : b0 < W) (hn : W ≤ 2 * b1)
    (hA : A = q * b1 + c + c2n ret * W) (hov : (A + 1) * W ≤ (q + 1) * (b1 * W + b0))
    (hD : D = q * b0) (hR : R < W * W) (P1 : R + D = (a0 + W * c) + c2n β * (W * W)) :
    (¬(ret = false ∧ a0 + W * c < D) → A * W + a0 = q * (b1 * W + b0) + R ∧ R < b1 * W + b0) ∧
    (ret = false ∧ a0 + W * c < D →
      A * W + a0 + W * W = q * (b1 * W + b0) + R ∧ q * (b1 * W + b0) < A * W + a0 + (b1 * W + b0) + (b1 * W + b0)) := by
  have hbb : b1 * W + b0 < W * W := by rw [Nat.mul_comm b1, Nat.add_comm]; exact digit_lt hb0 hb1
  have hDlt : D < W * W := by rw [hD]; exact Nat.mul_lt_mul'' hq hb0
  have hK2 : W * W ≤ 2 * (b1 * W + b0) := by
    have := Nat.mul_le_mul_right W hn
    rw [Nat.mul_assoc] at this
    omega
  have EN : (A * W + a0) + D = q * (b1 * W + b0) + (a0 + W * c) + c2n ret * (W * W) := by
    linear_combination W * hA + hD
  -- the estimate is not too small: the first remainder is below the divisor
  have hT : (a0 + W * c) + c2n ret * (W * W) < (b1 * W + b0) + D := by
    rw [Nat.add_mul, Nat.add_mul, Nat.one_mul, Nat.one_mul] at hov
    omega
  clear hov hA hD hq hb1 hb0 hn ha0
  constructor
  · intro hneg
    -- `R` and the true remainder `(c|a0) + ret·W² - D` both lie in `[0, W²)`, so the borrow `β` equals `ret`
    cases ret <;> cases β
    all_goals
      simp only [c2n_true, c2n_false, Nat.one_mul, Nat.zero_mul, Nat.add_zero, true_and, Bool.true_eq_false, false_and,
        not_false_eq_true, not_lt] at P1 EN hT hneg
      omega
  · rintro ⟨rfl, hlt⟩
    cases β
    all_goals
      simp only [c2n_true, c2n_false, Nat.one_mul, Nat.zero_mul, Nat.add_zero] at P1 EN hT
      omega

/-- what a quotient/remainder routine with a two-digit divisor must deliver -/
def Div32Ok {n : Nat} (x : RU n × RU n × RU n) (a2 a1 a0 b1 b0 : RU n) : Prop :=
  WF x.1 ∧ WF x.2.1 ∧ WF x.2.2 ∧
  (val a2 * Bn n + val a1) * Bn n + val a0 = val x.1 * (val b1 * Bn n + val b0) + (val x.2.1 * Bn n + val x.2.2) ∧
  val x.2.1 * Bn n + val x.2.2 < val b1 * Bn n + val b0
/-- the same for a one-digit divisor: `(ah|al) = q·b + r`, `r < b` -/
def Div21Ok {n : Nat} (x : RU n × RU n) (ah al b : RU n) : Prop :=
  WF x.1 ∧ WF x.2 ∧ val ah * Bn n + val al = val x.1 * val b + val x.2 ∧ val x.2 < val b

theorem qhat_top {W a2 a1 b1 b0 : Nat} (hb0 : b0 < W) (hlt : a2 * W + a1 < b1 * W + b0) (hge : ¬ a2 < b1) : a2 = b1 := by
  by_contra he
  have := digit_lt hb0 (show b1 < a2 by omega)
  rw [Nat.mul_comm a2, Nat.mul_comm b1] at hlt
  omega

/-- the quotient estimate `(q, c, ret1)`: `div_2_1(a2, a1, b1)` when `a2 < b1`, otherwise `B-1` with `c = a1 + b1` and its carry
    (at level 0 `div_2_1` is `recint_udiv_qrnnd`) -/
def qhatG {k : Nat} (t : Nat) (a2 a1 b1 : RU k) : RU k × RU k × Bool :=
  if cmp a2 b1 < 0 then ((div_2_1 t a2 a1 b1).1, (div_2_1 t a2 a1 b1).2, false) else (ones k, (add a1 b1).1, (add a1 b1).2)

/-- the rest of the template: `d = q·b0`, `r = (c|a0) - d`, up to two corrections -/
def div32tailR {k : Nat} (t : Nat) (q c : RU k) (ret1 : Bool) (a0 b1 b0 : RU k) : RU k × RU k × RU k :=
  let d := lmul t q b0
  let s0 := sub a0 (lo d)
  let r1 := sub_wcNC c (hi d) s0.2
  if !ret1 && (decide (cmp (hi d) c > 0) || (decide (cmp (hi d) c = 0) && decide (cmp (lo d) a0 > 0))) then
    let x0 := add s0.1 b0
    let x1 := add_wc r1 b1 x0.2
    if !x1.2 then
      let y0 := add x0.1 b0
      ((sub_1 (sub_1 q).1).1, add_wcNC x1.1 b1 y0.2, y0.1)
    else ((sub_1 q).1, x1.1, x0.1)
  else (q, r1, s0.1)

theorem div_3_2_succ_eq {m : Nat} (t : Nat) (a2 a1 a0 b1 b0 : RU (m+1)) :
    div_3_2 t a2 a1 a0 b1 b0 = div32tailR t (qhatG t a2 a1 b1).1 (qhatG t a2 a1 b1).2.1 (qhatG t a2 a1 b1).2.2 a0 b1 b0 := by
  simp only [div_3_2, div32tailR, qhatG]
  rfl

/-- the estimate `q` with its partial remainder; the last conjunct says that `q` is not below the quotient of `(a2|a1|a0)` by `(b1|b0)` -/
theorem qhatG_ok (t k : Nat)
    (IH21 : ∀ ah al b : RU k, WF ah → WF al → WF b → Bn k ≤ 2 * val b → val ah < val b → Div21Ok (div_2_1 t ah al b) ah al b)
    (a2 a1 b1 b0 : RU k) (ha2 : WF a2) (ha1 : WF a1) (hb1 : WF b1) (hb0 : WF b0)
    (hn : Bn k ≤ 2 * val b1) (hlt : val a2 * Bn k + val a1 < val b1 * Bn k + val b0) :
    WF (qhatG t a2 a1 b1).1 ∧ WF (qhatG t a2 a1 b1).2.1 ∧
    (val a2 * Bn k + val a1 = val (qhatG t a2 a1 b1).1 * val b1 + val (qhatG t a2 a1 b1).2.1 + c2n (qhatG t a2 a1 b1).2.2 * Bn k) ∧
    (val a2 * Bn k + val a1 + 1) * Bn k ≤ (val (qhatG t a2 a1 b1).1 + 1) * (val b1 * Bn k + val b0) := by
  unfold qhatG
  by_cases hc : cmp a2 b1 < 0
  · rw [if_pos hc]
    obtain ⟨h1, h2, h3, h4⟩ := IH21 a2 a1 b1 ha2 ha1 hb1 hn ((cmp_lt a2 b1 ha2 hb1).mp hc)
    refine ⟨h1, h2, by simpa using h3, ?_⟩
    -- `A + 1 ≤ (q + 1)·b1` as the remainder is below `b1`
    calc _ ≤ ((val (div_2_1 t a2 a1 b1).1 + 1) * val b1) * Bn k :=
            Nat.mul_le_mul_right _ (by rw [h3, Nat.add_mul, Nat.one_mul]; omega)
      _ ≤ _ := by rw [Nat.mul_assoc]; exact Nat.mul_le_mul_left _ (Nat.le_add_right _ _)
  · rw [if_neg hc]
    have heq := qhat_top (val_lt _ hb0) hlt (fun h => hc ((cmp_lt a2 b1 ha2 hb1).mpr h))
    obtain ⟨how, hoe⟩ := ones_ok k
    obtain ⟨hsw, hse⟩ := add_ok a1 b1 ha1 hb1
    refine ⟨how, hsw, ?_, ?_⟩
    · simp only
      rw [heq]
      linear_combination hse.symm + val b1 * hoe.symm
    · -- the estimate is `B - 1` and `A < b`
      rw [hoe, Nat.mul_comm]
      exact Nat.mul_le_mul_left _ hlt

theorem two_digits {k : Nat} (x1 x0 : RU k) (h1 : WF x1) (h0 : WF x0) : val x1 * Bn k + val x0 < Bn k * Bn k := by
  rw [Nat.mul_comm, Nat.add_comm]; exact digit_lt (val_lt x0 h0) (val_lt x1 h1)

/-- `sub_1(q); add(ret, r0, b0); add_wc(ret, r1, b1, ret)` on a negative remainder `(r1|r0)`: `addback` on the machine -/
theorem addback_ok {k : Nat} {q r1 r0 b1 b0 : RU k} {x0 x1 : RU k × Bool} {N e : Nat} (hq : WF q) (hr1 : WF r1) (hr0 : WF r0)
    (h0 : AddOk x0 (val r0 + val b0)) (h1 : AddOk x1 (val r1 + val b1 + c2n x0.2))
    (hN : N + Bn k * Bn k = val q * (val b1 * Bn k + val b0) + (val r1 * Bn k + val r0))
    (hlow : val q * (val b1 * Bn k + val b0) < N + (val b1 * Bn k + val b0) + e) :
    WF (sub_1 q).1 ∧
    (x1.2 = true → N = val (sub_1 q).1 * (val b1 * Bn k + val b0) + (val x1.1 * Bn k + val x0.1) ∧
      val x1.1 * Bn k + val x0.1 < val b1 * Bn k + val b0) ∧
    (x1.2 = false → N + Bn k * Bn k = val (sub_1 q).1 * (val b1 * Bn k + val b0) + (val x1.1 * Bn k + val x0.1) ∧
      val (sub_1 q).1 * (val b1 * Bn k + val b0) < N + e) := by
  obtain ⟨hq1, AB⟩ := addback hN (two_digits r1 r0 hr1 hr0) hlow
  obtain ⟨hQw, hQe⟩ := sub_1_pos q hq hq1
  exact ⟨hQw, AB hQe (by linear_combination h0.2 + Bn k * h1.2)⟩

theorem div32tailR_ok {k : Nat} (t : Nat) (q c a0 b1 b0 a2 a1 : RU k) (ret1 : Bool)
    (hq : WF q) (hc : WF c) (ha0 : WF a0) (hb1 : WF b1) (hb0 : WF b0) (hn : Bn k ≤ 2 * val b1)
    (hA : val a2 * Bn k + val a1 = val q * val b1 + val c + c2n ret1 * Bn k)
    (hov : (val a2 * Bn k + val a1 + 1) * Bn k ≤ (val q + 1) * (val b1 * Bn k + val b0)) :
    Div32Ok (div32tailR t q c ret1 a0 b1 b0) a2 a1 a0 b1 b0 := by
  simp only [div32tailR]
  obtain ⟨hd0, hd1, hde⟩ := (lmul_ok t q b0 hq hb0).digits
  generalize lmul t q b0 = d at hd0 hd1 hde ⊢
  obtain ⟨hs0w, hs0e⟩ := sub_ok a0 (lo d) ha0 hd0
  generalize sub a0 (lo d) = s0 at hs0w hs0e ⊢
  rw [sub_wcNC_eq]
  obtain ⟨hr1w, hr1e⟩ := sub_wc_ok c (hi d) s0.2 hc hd1
  generalize sub_wc c (hi d) s0.2 = r at hr1w hr1e ⊢
  obtain ⟨r1, β⟩ := r
  dsimp only at hr1w hr1e ⊢
  have hlex := lex_gt_iff (hi d) (lo d) c a0 hd1 hd0 hc ha0
  obtain ⟨CP, CN⟩ := d32_first (Bn k) (val q) (val c) (val a0) (val b1) (val b0) (val a2 * Bn k + val a1)
    (val (lo d) + Bn k * val (hi d)) (val r1 * Bn k + val s0.1) ret1 β
    (val_lt q hq) (val_lt a0 ha0) (val_lt b1 hb1) (val_lt b0 hb0) hn hA hov hde (two_digits r1 s0.1 hr1w hs0w)
    (by linear_combination hs0e + Bn k * hr1e)
  unfold Div32Ok
  by_cases hcond : (!ret1 && (decide (cmp (hi d) c > 0) || decide (cmp (hi d) c = 0) && decide (cmp (lo d) a0 > 0))) = true
  · rw [if_pos hcond]
    rw [Bool.and_eq_true, Bool.not_eq_true', hlex] at hcond
    have hx0 := add_ok s0.1 b0 hs0w hb0
    have hx1 := add_wc_ok r1 b1 (add s0.1 b0).2 hr1w hb1
    obtain ⟨hQ1, Ct, Cf⟩ := addback_ok hq hr1w hs0w hx0 hx1 (CN hcond).1 (CN hcond).2
    generalize add s0.1 b0 = x0 at hx0 hx1 Ct Cf ⊢
    generalize add_wc r1 b1 x0.2 = x1 at hx1 Ct Cf ⊢
    cases hx12 : x1.2
    · simp only [Bool.not_false, ↓reduceIte]
      rw [add_wcNC_eq]
      have hy0 := add_ok x0.1 b0 hx0.1 hb0
      have hy1 := add_wc_ok x1.1 b1 (add x0.1 b0).2 hx1.1 hb1
      obtain ⟨hQ2, Dt, Df⟩ := addback_ok (e := 0) hQ1 hx1.1 hx0.1 hy0 hy1 (Cf hx12).1 (Cf hx12).2
      -- no room is left below the remainder, so the second add-back carries
      have hy := two_digits _ _ hy1.1 hy0.1
      cases hy12 : (add_wc x1.1 b1 (add x0.1 b0).2).2
      · have := Df hy12; omega
      · exact ⟨hQ2, hy1.1, hy0.1, Dt hy12⟩
    · simp only [Bool.not_true, Bool.false_eq_true, ↓reduceIte]
      exact ⟨hQ1, hx1.1, hx0.1, Ct hx12⟩
  · rw [if_neg hcond]
    rw [Bool.and_eq_true, Bool.not_eq_true', hlex] at hcond
    exact ⟨hq, hr1w, hs0w, CP hcond⟩

end Givaro.Model.RecInt
