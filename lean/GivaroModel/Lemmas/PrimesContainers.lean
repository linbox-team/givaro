/- C12 — container-output functions on pre-filled containers (model: Model/PrimesContainers.lean): pushing onto a non-empty
   accumulator commutes with the loops of `set` / `set(Lf,n)`. -/
import GivaroModel.Model.PrimesContainers
namespace Givaro.Lemmas.Primes
open Givaro Givaro.Model.Primes

theorem setLoop_append (pf : Nat → Nat) : ∀ (fuel nn : Nat) (acc base : List (Nat × Nat)) (c : Bool),
    setLoop pf fuel nn (acc ++ base) c = (setLoop pf fuel nn acc c).map (fun r => (base.reverse ++ r.1, r.2)) := by
  intro fuel
  induction fuel with
  | zero => intro nn acc base c; rfl
  | succ f ih =>
    intro nn acc base c
    unfold setLoop
    by_cases hle : nn ≤ 1
    · simp [hle, List.reverse_append]
    · simp only [hle, ↓reduceIte]
      rcases hd : divLoop (if pf nn = 1 then nn else pf nn) (nn + 1) (nn / (if pf nn = 1 then nn else pf nn)) 0 with _ | ⟨nn', k⟩
      · simp
      · simp only
        rw [← List.cons_append]
        exact ih nn' _ base _

theorem set1Loop_append (pf : Nat → Nat) : ∀ (fuel nn : Nat) (acc base : List Nat),
    set1Loop pf fuel nn (acc ++ base) = (set1Loop pf fuel nn acc).map (fun r => base.reverse ++ r) := by
  intro fuel
  induction fuel with
  | zero => intro nn acc base; rfl
  | succ f ih =>
    intro nn acc base
    unfold set1Loop
    by_cases hle : nn ≤ 1
    · simp [hle, List.reverse_append]
    · simp only [hle, ↓reduceIte]
      rcases hd : divLoop (pf nn) (nn + 1) (nn / pf nn) 0 with _ | ⟨nn', k⟩
      · simp
      · simp only
        rw [← List.cons_append]
        exact ih nn' _ base

end Givaro.Lemmas.Primes
