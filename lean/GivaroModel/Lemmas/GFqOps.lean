/-
C05 — every Zech macro of gfq.inl that a member function uses, and `SQ`, computes the ring operation it is named after on canonical
operands, in any commutative ring in which the tables satisfy `ZechHyp` (`MULSUB` is modelled and has no lemma).
On non-zero operands a macro is `wrapPos` of an exponent, after at most one look-up in `plus1` (`tail`): the equations `X_eq` put it in
that form, `elt_wrapPos` says what a wrapped exponent stands for.  `ADD`, `NEG`, `MUL`, `INV`, `DIV`, `AUTOSUB` are proved so; `SUB`,
`MULADD` and `SQ` return the very index of `ADD ∘ NEG`, `ADD ∘ MUL`, `MUL` (`SUB_eq_ADD_NEG` …, no table hypothesis) and inherit.
Stated with `Rep`, so that member functions compose.  At the end: what the two array loop headers store (`arrLoop_spec`, `arrLoopFrom1_spec`).
-/
import GivaroModel.Lemmas.GFqZech
namespace Givaro.Lemmas.GFqZech
open Givaro.Model.Zech

/-- the tail shared by `ADD`, `SUB`, `MULADD`: look `x` up in `plus1`, add `b`, wrap -/
def tail (F : Dom) (x b : Int) : Int :=
  if F.pl x ≠ 0 then wrapPos F.mun (F.pl x + b) else F.pl x

/-- the tail of `AUTOSUB`: as `tail`, with the sum negated (`∓ mOne`) before the wrap -/
def tailNeg (F : Dom) (x b : Int) : Int :=
  if F.pl x ≠ 0 then wrapPos F.mun (if F.pl x + b > 0 then F.pl x + b - F.mo else F.pl x + b + F.mo) else F.pl x

theorem ADD_eq (F : Dom) (a b : Int) :
    ADD F.mun F.pl a b = if b = 0 then a else if a = 0 then b else tail F (wrapPos F.mun (a - b)) b := rfl

theorem NEG_eq (mo mun a : Int) : NEG mo mun a = if a = 0 then 0 else wrapPos mun (a - mo) := rfl

theorem SUB_eq (F : Dom) (a b : Int) :
    SUB F.mo F.mun F.pl a b = if a = 0 then NEG F.mo F.mun b else if b = 0 then a else
      tail F (wrapPos F.mun (wrapPos F.mun (b - a - F.mo))) a := rfl

theorem AUTOSUB_eq (F : Dom) (c b : Int) :
    AUTOSUB F.mo F.mun F.pl c b = if c = 0 then NEG F.mo F.mun b else if b ≠ 0 then
      tailNeg F (wrapPos F.mun (wrapPos F.mun (c - b - F.mo))) b else c := rfl

theorem DIV_eq (mun a b : Int) : DIV mun a b = if a = 0 then 0 else wrapPos mun (a - b) := rfl

theorem SQ_eq (mun a : Int) : SQ mun a = if a = 0 then 0 else wrapPos mun (2 * a - mun) := rfl

theorem MUL_eq (mun a b : Int) : MUL mun a b = if a = 0 ∨ b = 0 then 0 else wrapPos mun (a + b - mun) := by
  simp only [MUL, wrapPos, gt_iff_lt, sub_pos, sub_add_cancel]

theorem INV_eq (mun a : Int) (h : a ≤ mun) : INV mun a = wrapPos mun (mun - a) := by
  show (if mun - a ≠ 0 then mun - a else mun) = if mun - a > 0 then mun - a else mun - a + mun
  split <;> split <;> omega

theorem MULADD_eq (F : Dom) (a1 a2 b : Int) :
    MULADD F.mun F.pl a1 a2 b = if a1 = 0 ∨ a2 = 0 then b else if b = 0 then wrapPos F.mun (a1 + a2 - F.mun) else
      tail F (wrapPos F.mun (if a1 + a2 - b - F.mun < 0 then a1 + a2 - b - F.mun + F.mun else a1 + a2 - b - F.mun)) b := rfl

section
variable {mun a b c : Int}

theorem wrapPos_pos (h : 0 < c) : wrapPos mun c = c := if_pos h
theorem wrapPos_nonpos (h : c ≤ 0) : wrapPos mun c = c + mun := if_neg (not_lt.2 h)

/-- an index may be subtracted before or after the first adjustment: the same exponent reaches the second -/
theorem wrapPos_sub (ha : 1 ≤ a ∧ a ≤ mun) :
    wrapPos mun (wrapPos mun c - a) = wrapPos mun (wrapPos mun (c - a)) := by
  rcases lt_or_ge 0 c with h | h
  · rw [wrapPos_pos h]
    rcases lt_or_ge 0 (c - a) with h' | h'
    · rw [wrapPos_pos h', wrapPos_pos h']
    · rw [wrapPos_nonpos h', wrapPos_pos (show 0 < c - a + mun by omega)]
  · rw [wrapPos_nonpos h, wrapPos_nonpos (show c - a ≤ 0 by omega), add_sub_right_comm]

/-- `MULADD` adjusts a negative exponent where the other macros adjust a non-positive one -/
theorem wrapPos_neg_adjust (hm : 0 < mun) :
    wrapPos mun (if c < 0 then c + mun else c) = wrapPos mun (wrapPos mun c) := by
  rcases lt_trichotomy c 0 with h | rfl | h
  · rw [if_pos h, wrapPos_nonpos h.le]
  · rw [if_neg (lt_irrefl _), wrapPos_nonpos le_rfl, zero_add, wrapPos_pos hm]
  · rw [if_neg (not_lt.2 h.le), wrapPos_pos h, wrapPos_pos h]

/-- `SUB a b` reads `plus1` at the index at which `ADD (NEG b) a` reads it.  `AUTOSUB` does not reduce this way: its last adjustment by
    `mOne` agrees with `NEG` of the sum only if `mun ∣ 2·mOne`, which the index arithmetic alone does not know. -/
theorem SUB_eq_ADD_NEG (F : Dom) (hm : 1 ≤ F.mo ∧ F.mo ≤ F.mun) (ha : 0 ≤ a ∧ a ≤ F.mun) (hb : 0 ≤ b ∧ b ≤ F.mun) :
    SUB F.mo F.mun F.pl a b = ADD F.mun F.pl (NEG F.mo F.mun b) a := by
  rw [SUB_eq, ADD_eq]
  by_cases ha0 : a = 0
  · rw [if_pos ha0, if_pos ha0]
  by_cases hb0 : b = 0
  · rw [if_neg ha0, if_neg ha0, if_pos hb0, hb0, NEG_eq, if_pos rfl, if_pos rfl]
  have hn : wrapPos F.mun (b - F.mo) ≠ 0 := by unfold wrapPos; split <;> omega
  rw [if_neg ha0, if_neg ha0, if_neg hb0, NEG_eq, if_neg hb0, if_neg hn, wrapPos_sub (by omega), sub_right_comm]

theorem MULADD_eq_ADD_MUL (F : Dom) {a1 a2 : Int} (h1 : 0 ≤ a1 ∧ a1 ≤ F.mun) (h2 : 0 ≤ a2 ∧ a2 ≤ F.mun) (hb : 0 ≤ b ∧ b ≤ F.mun) :
    MULADD F.mun F.pl a1 a2 b = ADD F.mun F.pl (MUL F.mun a1 a2) b := by
  rw [MULADD_eq, ADD_eq, MUL_eq]
  by_cases hb0 : b = 0
  · rw [if_pos hb0, if_pos hb0, hb0]
  by_cases h0 : a1 = 0 ∨ a2 = 0
  · rw [if_pos h0, if_pos h0, if_neg hb0, if_pos rfl]
  have hn : wrapPos F.mun (a1 + a2 - F.mun) ≠ 0 := by unfold wrapPos; split <;> omega
  rw [if_neg h0, if_neg h0, if_neg hb0, if_neg hb0, if_neg hn, wrapPos_neg_adjust (by omega), wrapPos_sub (by omega),
    sub_right_comm]

theorem SQ_eq_MUL (mun a : Int) : SQ mun a = MUL mun a a := by
  simp only [SQ_eq, MUL_eq, or_self, two_mul]
end

section
variable {K : Type*} [CommRing K] {F : Dom} {q : Int} {γ : K} {elt : Int → K} (H : ZechHyp F q γ elt)
include H

theorem tail_correct (x b : Int) (hx1 : 1 ≤ x) (hx2 : x ≤ q - 1) (hb1 : 1 ≤ b) (hb2 : b ≤ q - 1) :
    elt (tail F x b) = (H.g x + 1) * H.g b ∧ Canon q (tail F x b) := by
  unfold tail
  by_cases hc : F.pl x = 0
  · rw [if_neg (not_not.2 hc), hc, H.elt_zero, pl_g0 H x hx1 hx2 hc, zero_mul]
    exact ⟨rfl, canon_zero H⟩
  · have hl := H.pl_lo x hx1 hx2 hc
    have hh := H.pl_hi x hx1 hx2 hc
    obtain ⟨e, l, u⟩ := elt_wrapPos H (F.pl x + b) (by omega) (by omega)
    rw [if_pos hc, e, g_add, pl_g H x hx1 hx2 hc]
    exact ⟨rfl, by omega, u⟩

theorem tailNeg_correct (x b : Int) (hx1 : 1 ≤ x) (hx2 : x ≤ q - 1) (hb1 : 1 ≤ b) (hb2 : b ≤ q - 1) :
    elt (tailNeg F x b) = -((H.g x + 1) * H.g b) ∧ Canon q (tailNeg F x b) := by
  unfold tailNeg
  by_cases hc : F.pl x = 0
  · rw [if_neg (not_not.2 hc), hc, H.elt_zero, pl_g0 H x hx1 hx2 hc, zero_mul, neg_zero]
    exact ⟨rfl, canon_zero H⟩
  · have hl := H.pl_lo x hx1 hx2 hc
    have hh := H.pl_hi x hx1 hx2 hc
    have hm1 := H.mo_lo
    have hm2 := H.mo_hi
    have hg : H.g (if F.pl x + b > 0 then F.pl x + b - F.mo else F.pl x + b + F.mo) = -((H.g x + 1) * H.g b) := by
      rw [← pl_g H x hx1 hx2 hc, ← g_add]
      split
      · exact g_sub_mo H _
      · exact g_add_mo H _
    obtain ⟨e, l, u⟩ := elt_wrapPos H (if F.pl x + b > 0 then F.pl x + b - F.mo else F.pl x + b + F.mo)
      (by split <;> omega) (by split <;> omega)
    rw [if_pos hc, e, hg]
    exact ⟨rfl, by omega, u⟩

end

section
variable {K : Type*} [CommRing K] {F : Dom} {q : Int} {γ : K} {elt : Int → K} {H : ZechHyp F q γ elt} {a b c : Int} {u v w : K}

theorem Rep.add (ha : Rep H a u) (hb : Rep H b v) : Rep H (ADD F.mun F.pl a b) (u + v) := by
  obtain ⟨rfl, ha⟩ := ha
  obtain ⟨rfl, hb⟩ := hb
  unfold Rep
  rw [ADD_eq]
  by_cases hb0 : b = 0
  · rw [if_pos hb0, hb0, H.elt_zero, add_zero]; exact ⟨rfl, ha⟩
  by_cases ha0 : a = 0
  · rw [if_neg hb0, if_pos ha0, ha0, H.elt_zero, zero_add]; exact ⟨rfl, hb⟩
  obtain ⟨ea, la⟩ := elt_g_of_canon H ha ha0
  obtain ⟨eb, lb⟩ := elt_g_of_canon H hb hb0
  obtain ⟨ex, lx, ux⟩ := elt_wrapPos H (a - b) (by have := hb.2; omega) (by have := ha.2; omega)
  rw [elt_g H _ lx ux] at ex
  obtain ⟨e, c⟩ := tail_correct H _ b lx ux lb hb.2
  rw [if_neg hb0, if_neg ha0, e, ex, add_mul, g_sub_mul, one_mul, ea, eb]
  exact ⟨rfl, c⟩

theorem Rep.neg (ha : Rep H a u) : Rep H (NEG F.mo F.mun a) (-u) := by
  obtain ⟨rfl, ha⟩ := ha
  unfold Rep
  rw [NEG_eq]
  by_cases ha0 : a = 0
  · rw [if_pos ha0, ha0, H.elt_zero, neg_zero]; exact ⟨rfl, canon_zero H⟩
  obtain ⟨ea, la⟩ := elt_g_of_canon H ha ha0
  have hm1 := H.mo_lo
  have hm2 := H.mo_hi
  have ha2 := ha.2
  obtain ⟨e, l, u⟩ := elt_wrapPos H (a - F.mo) (by omega) (by omega)
  rw [if_neg ha0, e, g_sub_mo, ea]
  exact ⟨rfl, by omega, u⟩

theorem Rep.mun (ha : Rep H a u) : 0 ≤ a ∧ a ≤ F.mun := by rw [H.mun_eq]; exact ha.2

theorem Rep.sub (ha : Rep H a u) (hb : Rep H b v) : Rep H (SUB F.mo F.mun F.pl a b) (u - v) := by
  rw [SUB_eq_ADD_NEG F ⟨H.mo_lo, H.mun_eq ▸ H.mo_hi⟩ ha.mun hb.mun]
  exact (hb.neg.add ha).congr (neg_add_eq_sub _ _)

theorem Rep.autosub (hc : Rep H c u) (hb : Rep H b v) : Rep H (AUTOSUB F.mo F.mun F.pl c b) (u - v) := by
  obtain ⟨rfl, hc⟩ := hc
  obtain ⟨rfl, hb⟩ := hb
  unfold Rep
  rw [AUTOSUB_eq]
  by_cases hc0 : c = 0
  · rw [if_pos hc0, hc0, H.elt_zero, zero_sub]; exact (Rep.of_canon H hb).neg
  by_cases hb0 : b = 0
  · rw [if_neg hc0, if_neg (not_not.2 hb0), hb0, H.elt_zero, sub_zero]; exact ⟨rfl, hc⟩
  obtain ⟨ec, lc⟩ := elt_g_of_canon H hc hc0
  obtain ⟨eb, lb⟩ := elt_g_of_canon H hb hb0
  obtain ⟨ex, lx, ux⟩ := elt_wrapPos2 H (c - b - F.mo) (by have := hb.2; have := H.mo_hi; omega)
    (by have := hc.2; have := H.mo_lo; omega)
  rw [elt_g H _ lx ux] at ex
  obtain ⟨e, cn⟩ := tailNeg_correct H _ b lx ux lb hb.2
  rw [if_neg hc0, if_pos hb0, e, ex, g_sub_mo, add_mul, neg_mul, g_sub_mul, one_mul, ec, eb]
  exact ⟨by ring, cn⟩

theorem Rep.mul (ha : Rep H a u) (hb : Rep H b v) : Rep H (MUL F.mun a b) (u * v) := by
  obtain ⟨rfl, ha⟩ := ha
  obtain ⟨rfl, hb⟩ := hb
  unfold Rep
  rw [MUL_eq]
  by_cases h0 : a = 0 ∨ b = 0
  · rw [if_pos h0, H.elt_zero]
    refine ⟨?_, canon_zero H⟩
    rcases h0 with h | h
    · rw [h, H.elt_zero, zero_mul]
    · rw [h, H.elt_zero, mul_zero]
  obtain ⟨ea, la⟩ := elt_g_of_canon H ha (fun h => h0 (Or.inl h))
  obtain ⟨eb, lb⟩ := elt_g_of_canon H hb (fun h => h0 (Or.inr h))
  have hm := H.mun_eq
  have a2 := ha.2
  have b2 := hb.2
  obtain ⟨e, l, u⟩ := elt_wrapPos H (a + b - F.mun) (by omega) (by omega)
  rw [if_neg h0, e, g_sub_mun, g_add, ea, eb]
  exact ⟨rfl, by omega, u⟩

theorem Rep.sq (ha : Rep H a u) : Rep H (SQ F.mun a) (u * u) := by
  rw [SQ_eq_MUL]; exact ha.mul ha

theorem Rep.muladd {a1 a2 : Int} (h1 : Rep H a1 u) (h2 : Rep H a2 v) (hb : Rep H b w) :
    Rep H (MULADD F.mun F.pl a1 a2 b) (u * v + w) := by
  rw [MULADD_eq_ADD_MUL F h1.mun h2.mun hb.mun]
  exact (h1.mul h2).add hb

/-- `Rep.inv` and `Rep.div` return no `Rep`: `K` is only a ring, so the inverse and the quotient are given by their equations -/
theorem Rep.inv (ha : Rep H a u) (ha0 : a ≠ 0) :
    elt (INV F.mun a) * u = 1 ∧ Canon q (INV F.mun a) ∧ INV F.mun a ≠ 0 := by
  obtain ⟨rfl, ha⟩ := ha
  have hm := H.mun_eq
  have ha2 := ha.2
  obtain ⟨ea, la⟩ := elt_g_of_canon H ha ha0
  obtain ⟨e, l, u⟩ := elt_wrapPos H (F.mun - a) (by omega) (by omega)
  rw [INV_eq F.mun a (by omega), e, ea, g_sub_mul, g_mun']
  exact ⟨rfl, ⟨by omega, u⟩, by omega⟩

theorem Rep.div (ha : Rep H a u) (hb : Rep H b v) (hb0 : b ≠ 0) :
    elt (DIV F.mun a b) * v = u ∧ Canon q (DIV F.mun a b) := by
  obtain ⟨rfl, ha⟩ := ha
  obtain ⟨rfl, hb⟩ := hb
  rw [DIV_eq]
  by_cases ha0 : a = 0
  · rw [if_pos ha0, ha0, H.elt_zero, zero_mul]; exact ⟨rfl, canon_zero H⟩
  obtain ⟨ea, la⟩ := elt_g_of_canon H ha ha0
  obtain ⟨eb, lb⟩ := elt_g_of_canon H hb hb0
  obtain ⟨e, l, u⟩ := elt_wrapPos H (a - b) (by have := hb.2; omega) (by have := ha.2; omega)
  rw [if_neg ha0, e, ea, eb, g_sub_mul]
  exact ⟨rfl, by omega, u⟩

end

/-- `hloc`: the body at index `i` reads only cell `i` of the destination (true of all sixteen array forms) -/
theorem arrLoop_spec (body : Nat → (Nat → Int) → Int)
    (hloc : ∀ i r r', r i = r' i → body i r = body i r') :
    ∀ (sz : Nat) (r : Nat → Int) (i : Nat),
      (i < sz → arrLoop body sz r i = body i r) ∧ (sz ≤ i → arrLoop body sz r i = r i) := by
  intro sz
  induction sz with
  | zero => intro r i; exact ⟨fun h => absurd h (Nat.not_lt_zero _), fun _ => rfl⟩
  | succ n ih =>
    intro r i
    have hi := ih (upd r n (body n r)) i
    simp only [arrLoop]
    constructor
    · intro h
      by_cases hn : i < n
      · rw [hi.1 hn]
        apply hloc
        unfold upd; simp only [Nat.ne_of_lt hn, ↓reduceIte]
      · have : i = n := by omega
        subst this
        rw [hi.2 (Nat.le_refl _)]
        unfold upd; simp only [↓reduceIte]
    · intro h
      rw [hi.2 (by omega)]
      unfold upd
      have : i ≠ n := by omega
      simp only [this, ↓reduceIte]

theorem arrLoopFrom1_spec (body : Nat → (Nat → Int) → Int)
    (hloc : ∀ i r r', r i = r' i → body i r = body i r') :
    ∀ (n : Nat) (r : Nat → Int) (i : Nat),
      (1 ≤ i → i ≤ n → arrLoopFrom1 body n r i = body i r) ∧ ((i = 0 ∨ n < i) → arrLoopFrom1 body n r i = r i) := by
  intro n
  induction n with
  | zero => intro r i; exact ⟨fun h1 h2 => by omega, fun _ => rfl⟩
  | succ n ih =>
    intro r i
    have hi := ih (upd r (n + 1) (body (n + 1) r)) i
    simp only [arrLoopFrom1]
    constructor
    · intro h1 h2
      by_cases hn : i ≤ n
      · rw [hi.1 h1 hn]
        apply hloc
        unfold upd
        have : i ≠ n + 1 := by omega
        simp only [this, ↓reduceIte]
      · have : i = n + 1 := by omega
        subst this
        rw [hi.2 (Or.inr (Nat.lt_succ_self _))]
        unfold upd; simp only [↓reduceIte]
    · intro h
      rw [hi.2 (by omega)]
      unfold upd
      have : i ≠ n + 1 := by omega
      simp only [this, ↓reduceIte]

end Givaro.Lemmas.GFqZech
