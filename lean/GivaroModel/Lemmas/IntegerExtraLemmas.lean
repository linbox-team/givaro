/-
C01 (part 2) — arithmetic behind Props/C01Extra.lean: sign of a difference, an integer against a scaled rational (both exponent
signs of `mpz_cmp_d`), truncating shifts, the limb decomposition, the loop of `pp` (`PPInv`, `ppLoop_sound`: in the namespace
`Givaro.Props.C01X` of the property file, where `pp_sound` uses them).
-/
import GivaroModel.Model.IntegerExtra
import Mathlib.Tactic.Positivity
import Mathlib.Tactic.NormNum
import Mathlib.Algebra.Order.Field.Power
import Mathlib.Data.Rat.Cast.Order
import Mathlib.Data.Int.GCD
import Mathlib.Data.Nat.Prime.Basic
namespace Givaro.Lemmas.IntegerExtra
open Givaro.Model.IntegerExtra

theorem sgn_sub (x y : Int) : (sgn (x - y) < 0 ↔ x < y) ∧ (sgn (x - y) = 0 ↔ x = y) ∧ (0 < sgn (x - y) ↔ y < x) := by
  unfold sgn
  split
  · omega
  · split <;> omega

theorem two_zpow_nonneg (e : Int) (h : 0 ≤ e) : (2 : ℚ) ^ e = ((2 ^ e.toNat : Int) : ℚ) := by
  obtain ⟨n, rfl⟩ := Int.eq_ofNat_of_zero_le h
  simp [zpow_natCast]

theorem two_zpow_neg (e : Int) (h : e < 0) : (2 : ℚ) ^ e * ((2 ^ (-e).toNat : Int) : ℚ) = 1 := by
  rw [← two_zpow_nonneg (-e) (by omega), ← zpow_add₀ (by norm_num), add_neg_cancel, zpow_zero]

/-- comparing `a` with a rational `v` such that `v * K = b`, `K > 0`: compare `a * K` with `b` -/
theorem cmp_scaled (a b K : Int) (v : ℚ) (hK : 0 < K) (hv : v * K = b) :
    (a * K < b ↔ (a : ℚ) < v) ∧ (a * K = b ↔ (a : ℚ) = v) ∧ (b < a * K ↔ v < (a : ℚ)) := by
  have hKq : (0 : ℚ) < K := by exact_mod_cast hK
  refine ⟨?_, ?_, ?_⟩
  · rw [← mul_lt_mul_iff_of_pos_right hKq, hv]; norm_cast
  · rw [← mul_left_inj' hKq.ne', hv]; norm_cast
  · rw [← mul_lt_mul_iff_of_pos_right hKq, hv]; norm_cast

theorem shift_bracket (n k : Nat) : n / 2 ^ k * 2 ^ k ≤ n ∧ n < (n / 2 ^ k + 1) * 2 ^ k := by
  refine ⟨Nat.div_mul_le_self _ _, ?_⟩
  rw [Nat.add_mul, Nat.one_mul]
  exact Nat.lt_div_mul_add (Nat.two_pow_pos k)

theorem limbs_zero : limbs 0 = [] := by
  rw [limbs, dif_pos rfl]

theorem limbs_of_ne_zero {n : Nat} (h : n ≠ 0) : limbs n = n % 2^64 :: limbs (n / 2^64) := by
  rw [limbs, dif_neg h]

theorem limbs_induction {P : Nat → List Nat → Prop} (h0 : P 0 [])
    (hs : ∀ n, n ≠ 0 → P (n / 2^64) (limbs (n / 2^64)) → P n (n % 2^64 :: limbs (n / 2^64))) (n : Nat) :
    P n (limbs n) := by
  induction n using Nat.strong_induction_on with
  | _ n ih =>
    by_cases h : n = 0
    · subst h; rw [limbs_zero]; exact h0
    · rw [limbs_of_ne_zero h]
      exact hs n h (ih _ (Nat.div_lt_self (Nat.pos_of_ne_zero h) (by decide)))

theorem ofLimbs_limbs (n : Nat) : ofLimbs (limbs n) = n := by
  refine limbs_induction (P := fun n l => ofLimbs l = n) rfl (fun n _ ih => ?_) n
  simp only [ofLimbs]
  rw [ih]
  omega

theorem limbs_lt (n : Nat) : ∀ l ∈ limbs n, l < 2^64 := by
  refine limbs_induction (P := fun _ ls => ∀ l ∈ ls, l < 2^64) (by simp) (fun n _ ih l hl => ?_) n
  rcases List.mem_cons.1 hl with rfl | hl
  · exact Nat.mod_lt _ (by decide)
  · exact ih l hl

end Givaro.Lemmas.IntegerExtra

namespace Givaro.Props.C01X
open Givaro.Model.IntegerExtra

/-- invariant of `ppLoop`: `u` divides `p`, `v` divides `u`, every prime `u` shares with `q` divides `v` -/
structure PPInv (p q u : Int) (v : Nat) : Prop where
  udvd : u ∣ p
  une : u ≠ 0
  vdvd : (v : Int) ∣ u
  primes : ∀ r : Nat, r.Prime → r ∣ u.natAbs → r ∣ q.natAbs → r ∣ v

theorem ppLoop_sound (p q : Int) : ∀ (fuel : Nat) (u : Int) (v : Nat), PPInv p q u v → u.natAbs < 2 ^ fuel →
    ppLoop fuel u v ∣ p ∧ Int.gcd (ppLoop fuel u v) q = 1 := by
  intro fuel
  induction fuel with
  | zero =>
    intro u v inv hlt
    have : u.natAbs = 0 := by simpa using hlt
    exact absurd (Int.natAbs_eq_zero.mp this) inv.une
  | succ fuel ih =>
    intro u v inv hlt
    unfold ppLoop
    by_cases hv : v = 1
    · simp only [hv, if_true]
      refine ⟨inv.udvd, ?_⟩
      rw [Int.gcd_eq_natAbs_gcd_natAbs]
      by_contra hne
      obtain ⟨r, hr, hrd⟩ := Nat.exists_prime_and_dvd hne
      have h1 := inv.primes r hr (dvd_trans hrd (Nat.gcd_dvd_left _ _)) (dvd_trans hrd (Nat.gcd_dvd_right _ _))
      rw [hv] at h1
      exact hr.one_lt.ne' (Nat.dvd_one.mp h1)
    · simp only [hv, if_false]
      have hvpos : 0 < v := by
        refine Nat.pos_of_ne_zero (fun h0 => inv.une ?_)
        have := inv.vdvd
        rwa [h0, Nat.cast_zero, zero_dvd_iff] at this
      have hv2 : 2 ≤ v := by omega
      set u' := Int.tdiv u (v : Int) with hu'
      have hmul : (v : Int) * u' = u := Int.mul_tdiv_cancel' inv.vdvd
      have hu'dvd : u' ∣ u := ⟨(v : Int), by rw [mul_comm]; exact hmul.symm⟩
      have hu'ne : u' ≠ 0 := by
        intro h0; rw [h0, mul_zero] at hmul; exact inv.une hmul.symm
      have hnat : u'.natAbs * v = u.natAbs := by
        have := congrArg Int.natAbs hmul
        rw [Int.natAbs_mul, Int.natAbs_natCast] at this
        rw [mul_comm]; exact this
      apply ih u' (Int.gcd u' v)
      · refine ⟨dvd_trans hu'dvd inv.udvd, hu'ne, ?_, ?_⟩
        · exact Int.gcd_dvd_left _ _
        · intro r hr hru hrq
          have hru0 : r ∣ u.natAbs := by rw [← hnat]; exact dvd_mul_of_dvd_left hru v
          have hrv : r ∣ v := inv.primes r hr hru0 hrq
          rw [Int.gcd_eq_natAbs_gcd_natAbs, Int.natAbs_natCast]
          exact Nat.dvd_gcd hru hrv
      · have hpos : 0 < u'.natAbs := Int.natAbs_pos.mpr hu'ne
        have : u'.natAbs * 2 ≤ u.natAbs := by rw [← hnat]; exact Nat.mul_le_mul_left _ hv2
        rw [pow_succ] at hlt
        omega

end Givaro.Props.C01X
