/-
C17 — the operations of the Array0 model on a well-formed state.  Each is, once the invariant has excluded the faults, a
short sequence of the state changes of `Array0Inv.lean` (the equations `…_eq`, `…_fast`, `…_slow`); hence it keeps the
invariant, only grows the store (`Mono`) and, an element write apart (it is seen by the aliases), touches only the handle it
is applied to (`Good`).
Also here: the abstraction function `abs` to the machine of Spec/Array0Spec.lean (`writeCells_spec` says what the machine
does) and the basic lemmas about `contents` that the equations need.
-/
import GivaroModel.Lemmas.Array0Inv
import GivaroModel.Lemmas.Array0Mono
import GivaroModel.Spec.Array0Spec
namespace Givaro.Model.Array0
variable {α : Type}

def Op.target : Op α → Nat
  | .build h _ _ => h | .noCopy h _ => h | .withCopy h _ => h | .destroy h => h
  | .allocate h _ => h | .resize h _ => h | .reserve h _ => h | .pushBack h _ => h | .pushBackSelf h _ => h | .write h _ _ => h
  | .copy h _ => h | .logcopy h _ => h | .assign h _ => h

/-- the one operation that changes what other handles (the aliases) denote -/
def Op.isWrite : Op α → Bool
  | .write _ _ _ => true
  | _ => false

/-! ### the abstraction to the value-semantics machine -/

section
open Givaro.Spec.Array0Spec

def absH (H : Handle) : VHandle := ⟨H.d, H.size⟩

/-- the abstraction function: a handle is (block pointer, logical size), a group is a data block -/
def abs (s : State α) : VState α := { n := s.n, hs := fun h => absH (s.hs h), cells := s.ddata, next := s.dnext }

end

/-- `s'` comes from an operation on handle `h` of the well-formed `s`: invariant kept, `n` unchanged, the other handles (`frame`) and their
    data blocks (`dpres`) untouched, the store only grown (`mono`) -/
structure Good (s s' : State α) (h : Nat) : Prop where
  inv : Inv s'
  n : s'.n = s.n
  frame : ∀ k, k ≠ h → s'.hs k = s.hs k
  dpres : ∀ k, k ≠ h → k < s.n → ∀ b, (s.hs k).d = some b → s'.ddata b = s.ddata b
  mono : Mono s s'

theorem Good.refl {s : State α} (I : Inv s) (h : Nat) : Good s s h :=
  ⟨I, rfl, fun _ _ => rfl, fun _ _ _ _ _ => rfl, Mono.refl s⟩

theorem Good.trans {s s' s'' : State α} {h : Nat} (a : Good s s' h) (b : Good s' s'' h) : Good s s'' h :=
  ⟨b.inv, b.n.trans a.n, fun k hk => (b.frame k hk).trans (a.frame k hk), fun k ne kn x hx => by
    rw [b.dpres k ne (by rw [a.n]; exact kn) x (by rw [a.frame k ne]; exact hx), a.dpres k ne kn x hx],
   a.mono.trans b.mono⟩

theorem Good.lt {s s' : State α} {h k : Nat} (G : Good s s' h) (kn : k < s.n) : k < s'.n := by rw [G.n]; exact kn

/-- `h` is empty or the only owner of its block -/
def Sole (s : State α) (h : Nat) : Prop := s.hs h = Handle.empty ∨ ∃ c, (s.hs h).cnt = some c ∧ s.cval c = 1

theorem sole_excl {s : State α} (I : Inv s) {h : Nat} (hn : h < s.n) (so : Sole s h) {b : Nat} (hb : (s.hs h).d = some b) :
    ∀ k, k ≠ h → k < s.n → (s.hs k).d ≠ some b := by
  intro k ne kn q
  rcases so with e | ⟨c, hc, one⟩
  · rw [e] at hb; cases hb
  · exact excl_of_one I hn hc one k ne kn (by rw [q, hb])

theorem good_destroy {s : State α} (I : Inv s) {h : Nat} (hn : h < s.n) :
    Good s (destroy s h) h ∧ (destroy s h).hs h = Handle.empty := by
  obtain ⟨D, eh, en, ed, _⟩ := destroy_inv I hn
  exact ⟨⟨D, en, fun k hk => by rw [eh, upd_other _ _ _ _ hk], fun _ _ _ _ _ => by rw [ed], mono_destroy s h⟩,
    by rw [eh, upd_same]⟩

theorem good_refresh {s : State α} (I : Inv s) {h : Nat} (hn : h < s.n) {l : List α} {sz : Nat} (hl : l.length ≠ 0)
    (hsz : sz ≤ l.length) : Good s (attachFresh (destroy s h) h l sz) h := by
  obtain ⟨G, he⟩ := good_destroy I hn
  exact G.trans ⟨attachFresh_inv G.inv (G.lt hn) he hl hsz, rfl, fun _ hk => upd_other _ _ _ _ hk,
    fun _ _ kn _ hb => upd_other _ _ _ _ (Nat.ne_of_lt (d_lt_dnext G.inv kn hb)), mono_attachFresh _ _ _ _⟩

theorem attachFresh_size (s : State α) (h : Nat) (l : List α) (sz : Nat) : ((attachFresh s h l sz).hs h).size = sz := by
  show (upd s.hs h _ h).size = sz
  rw [upd_same]

theorem attachFresh_sole (s : State α) (h : Nat) (l : List α) (sz : Nat) : Sole (attachFresh s h l sz) h :=
  Or.inr ⟨s.cnext, by show (upd s.hs h _ h).cnt = _; rw [upd_same], upd_same _ _ _⟩

theorem good_share {s : State α} (I : Inv s) {h g : Nat} (hn : h < s.n) (gn : g < s.n) :
    Good s (attachShare (destroy s h) h g) h := by
  obtain ⟨G, he⟩ := good_destroy I hn
  obtain ⟨A, eh, en, ed, _⟩ := attachShare_inv G.inv (G.lt hn) (G.lt gn) he
  exact G.trans ⟨A, en, fun k hk => by rw [eh, upd_other _ _ _ _ hk], fun _ _ _ _ _ => by rw [ed], mono_attachShare _ _ _⟩

theorem share_handle {s : State α} (I : Inv s) {h g : Nat} (hn : h < s.n) (gn : g < s.n) (ne : h ≠ g) :
    (attachShare (destroy s h) h g).hs h = s.hs g := by
  obtain ⟨G, he⟩ := good_destroy I hn
  rw [(attachShare_inv G.inv (G.lt hn) (G.lt gn) he).2.1, upd_same, G.frame g (fun q => ne q.symm)]

/-- sole owner with room for `sz`: the path without reallocation -/
def Fast (s : State α) (h sz : Nat) : Prop := ∃ c, (s.hs h).cnt = some c ∧ s.cval c = 1 ∧ sz ≤ (s.hs h).psz

theorem good_setSize {s : State α} (I : Inv s) {h sz : Nat} (hn : h < s.n) (F : Fast s h sz) :
    Good s (setH s h { (s.hs h) with size := sz }) h ∧ Sole (setH s h { (s.hs h) with size := sz }) h := by
  obtain ⟨c, hc, one, le⟩ := F
  exact ⟨⟨setSize_inv I hn hc one le, rfl, fun k hk => upd_other _ _ _ _ hk, fun _ _ _ _ _ => rfl, mono_setH _ _ _⟩,
    Or.inr ⟨c, by show (upd s.hs h _ h).cnt = _; rw [upd_same]; exact hc, one⟩⟩

theorem good_setData {s : State α} (I : Inv s) {h b : Nat} (hn : h < s.n) (so : Sole s h) (hb : (s.hs h).d = some b)
    (l : List α) (hl : l.length = (s.ddata b).length) : Good s ({ s with ddata := upd s.ddata b l } : State α) h :=
  ⟨setData_inv I b l hl, rfl, fun _ _ => rfl, fun k ne kn x hx =>
    upd_other _ _ _ _ (fun q => sole_excl I hn so hb k ne kn (by rw [hx, q])), mono_setData s b l hl⟩

theorem contents_of_d {s : State α} {h b : Nat} (hd : (s.hs h).d = some b) :
    contents s h = (s.ddata b).take (s.hs h).size := by
  unfold contents; rw [hd]

theorem contents_others {s s' : State α} {h : Nat} (G : Good s s' h) {k : Nat} (ne : k ≠ h) (kn : k < s.n) :
    contents s' k = contents s k := by
  unfold contents
  rw [G.frame k ne]
  cases hd : (s.hs k).d with
  | none => rfl
  | some b => dsimp only; rw [G.dpres k ne kn b hd]

theorem contents_eq_of_wf {s : State α} (I : Inv s) {h : Nat} (hn : h < s.n) :
    (s.hs h).size = 0 ∧ contents s h = [] ∨
    ∃ b, (s.hs h).d = some b ∧ s.dlive b = true ∧ (s.hs h).size ≤ (s.ddata b).length ∧ contents s h = (s.ddata b).take (s.hs h).size := by
  by_cases hp : (s.hs h).psz = 0
  · left
    have e := (I.wf h hn).1 hp
    unfold contents; rw [e]; exact ⟨rfl, rfl⟩
  · right
    obtain ⟨c, b, h1, h2, h3, h4, h5, h6⟩ := (I.wf h hn).2 hp
    exact ⟨b, h2, h4, by omega, contents_of_d h2⟩

theorem contents_length {s : State α} (I : Inv s) {h : Nat} (hn : h < s.n) : (contents s h).length = (s.hs h).size := by
  rcases contents_eq_of_wf I hn with ⟨a, b⟩ | ⟨b, _, _, h3, h4⟩
  · rw [b, a]; rfl
  · rw [h4, List.length_take]; omega

theorem readCells_contents {s : State α} (I : Inv s) {h : Nat} (hn : h < s.n) {k : Nat} (hk : k ≤ (s.hs h).size) :
    readCells s (s.hs h).d k = some ((contents s h).take k) := by
  by_cases k0 : k = 0
  · subst k0
    unfold readCells; split <;> simp
  · rcases contents_eq_of_wf I hn with ⟨a, _⟩ | ⟨b, h1, h2, h3, h4⟩
    · omega
    · rw [h4, h1]; unfold readCells
      simp only [k0, ↓reduceIte, h2, true_and]
      rw [if_pos (by omega), List.take_take, Nat.min_eq_left hk]

theorem readCells_all {s : State α} (I : Inv s) {h : Nat} (hn : h < s.n) :
    readCells s (s.hs h).d (s.hs h).size = some (contents s h) := by
  rw [readCells_contents I hn (Nat.le_refl _), ← contents_length I hn, List.take_length]

theorem attachFresh_contents (s : State α) (h : Nat) (l : List α) (sz : Nat) :
    contents (attachFresh s h l sz) h = l.take sz := by
  unfold contents attachFresh
  dsimp only
  rw [upd_same]; dsimp only; rw [upd_same]

theorem after_destroy {s : State α} (I : Inv s) {h : Nat} (hn : h < s.n) :
    (destroy s h).fault = false ∧ ∀ H, H = Handle.empty → setH (destroy s h) h H = destroy s h := by
  obtain ⟨G, he⟩ := good_destroy I hn
  exact ⟨G.inv.nofault, fun H e => setH_self _ _ _ (he.trans e.symm)⟩

theorem ctorBuild_eq {s : State α} (I : Inv s) {h : Nat} (hn : h < s.n) (sz : Nat) (t : α) :
    ctorBuild s h sz t = if sz ≠ 0 then attachFresh (destroy s h) h (List.replicate sz t) sz else destroy s h := by
  obtain ⟨nf, same⟩ := after_destroy I hn
  unfold ctorBuild
  simp only [nf, Bool.false_eq_true, ↓reduceIte]
  rw [same ⟨none, 0, 0, none⟩ rfl]

/-- one body in the model: the `noCopy` cases use the `logcopy` lemmas -/
theorem ctorNoCopy_eq_logcopy (s : State α) (h g : Nat) : ctorNoCopy s h g = logcopy s h g := rfl

theorem logcopy_eq {s : State α} (I : Inv s) {h g : Nat} (hn : h < s.n) (ne : h ≠ g) :
    logcopy s h g = attachShare (destroy s h) h g := by
  unfold logcopy
  simp only [ne, (after_destroy I hn).1, Bool.false_eq_true, ↓reduceIte]

theorem ctorWithCopy_eq {s : State α} (I : Inv s) {h g : Nat} (hn : h < s.n) (gn : g < s.n) (ne : h ≠ g) :
    ctorWithCopy s h g =
      if (s.hs g).size ≠ 0 then attachFresh (destroy s h) h (contents s g) (s.hs g).size else destroy s h := by
  obtain ⟨nf, same⟩ := after_destroy I hn
  obtain ⟨G, _⟩ := good_destroy I hn
  have ng : g ≠ h := fun q => ne q.symm
  unfold ctorWithCopy
  simp only [ne, nf, Bool.false_eq_true, ↓reduceIte]
  rw [readCells_all G.inv (G.lt gn), contents_others G ng gn, G.frame g ng, same ⟨none, 0, 0, none⟩ rfl]

theorem soleWithRoom_fast {s : State α} (I : Inv s) {h sz : Nat} (hn : h < s.n) (F : Fast s h sz) :
    soleWithRoom s (s.hs h) sz = some true := by
  obtain ⟨c, hc, one, le⟩ := F
  obtain ⟨_, _, hl, _⟩ := owner_of_cnt I hn hc
  unfold soleWithRoom
  simp [hc, hl, one, le]

theorem soleWithRoom_slow {s : State α} (I : Inv s) {h sz : Nat} (hn : h < s.n) (nF : ¬ Fast s h sz) :
    soleWithRoom s (s.hs h) sz = some false := by
  unfold soleWithRoom
  cases hc : (s.hs h).cnt with
  | none => rfl
  | some c =>
    obtain ⟨_, _, hl, _⟩ := owner_of_cnt I hn hc
    simp only [hl, Bool.true_eq_false, ↓reduceIte, Option.some.injEq, decide_eq_false_iff_not]
    exact fun q => nF ⟨c, hc, q.1, q.2⟩

theorem destroy_if_counted {s : State α} (I : Inv s) {h : Nat} (hn : h < s.n) :
    (if (s.hs h).cnt.isSome then destroy s h else s) = destroy s h := by
  cases hc : (s.hs h).cnt with
  | some c => rfl
  | none => exact (destroy_empty I hn (empty_of_cnt_none I hn hc)).symm

theorem allocate_fast [Inhabited α] {s : State α} (I : Inv s) {h sz : Nat} (hn : h < s.n) (F : Fast s h sz) :
    allocate s h sz = setH s h { (s.hs h) with size := sz } := by
  unfold allocate; dsimp only
  rw [soleWithRoom_fast I hn F]

theorem allocate_slow [Inhabited α] {s : State α} (I : Inv s) {h sz : Nat} (hn : h < s.n) (nF : ¬ Fast s h sz) :
    allocate s h sz = if sz > 0 then attachFresh (destroy s h) h (List.replicate sz default) sz else destroy s h := by
  obtain ⟨nf, same⟩ := after_destroy I hn
  obtain ⟨_, he⟩ := good_destroy I hn
  unfold allocate; dsimp only
  rw [soleWithRoom_slow I hn nF]; dsimp only
  rw [destroy_if_counted I hn]
  simp only [nf, Bool.false_eq_true, ↓reduceIte]
  rw [same _ (by rw [he]; rfl)]

theorem reallocate_fast [Inhabited α] {s : State α} (I : Inv s) {h sz : Nat} (hn : h < s.n) (F : Fast s h sz) :
    reallocate s h sz = setH s h { (s.hs h) with size := sz } := by
  unfold reallocate; dsimp only
  rw [soleWithRoom_fast I hn F]

theorem reallocate_slow [Inhabited α] {s : State α} (I : Inv s) {h sz : Nat} (hn : h < s.n) (nF : ¬ Fast s h sz) :
    reallocate s h sz =
      if sz > 0 then
        attachFresh (destroy s h) h ((contents s h).take (if (s.hs h).size < sz then (s.hs h).size else sz) ++
          List.replicate (sz - (if (s.hs h).size < sz then (s.hs h).size else sz)) default) sz
      else destroy s h := by
  unfold reallocate; dsimp only
  rw [soleWithRoom_slow I hn nF]; dsimp only
  split
  · rename_i pos
    cases hc : (s.hs h).cnt with
    | none =>
      have he := empty_of_cnt_none I hn hc
      have k0 : (if (s.hs h).size < sz then (s.hs h).size else sz) = 0 := by
        have : (s.hs h).size = 0 := by rw [he]; rfl
        rw [this, if_pos pos]
      simp only [Option.isSome_none, Bool.false_eq_true, ↓reduceIte, k0, ne_eq, not_true_eq_false, List.take_zero,
        List.nil_append, Nat.sub_zero]
      rw [destroy_empty I hn he]
    | some c =>
      have kle : (if (s.hs h).size < sz then (s.hs h).size else sz) ≤ (s.hs h).size := by split <;> omega
      simp only [Option.isSome_some, ↓reduceIte, readCells_contents I hn kle, (after_destroy I hn).1, Bool.false_eq_true]
  · rfl

theorem writeCell_eq {s : State α} (I : Inv s) {h : Nat} (hn : h < s.n) {i : Nat} (hi : i < (s.hs h).size) (v : α) :
    ∃ b, (s.hs h).d = some b ∧ i < (s.ddata b).length ∧
      writeCell s (s.hs h).d i v = ({ s with ddata := upd s.ddata b ((s.ddata b).set i v) } : State α) := by
  obtain ⟨c, b, h1, h2, h3, h4, h5, h6⟩ := (I.wf h hn).2 (size_pos_psz I hn (by omega))
  refine ⟨b, h2, by omega, ?_⟩
  rw [h2]; unfold writeCell
  simp only [h4, true_and]
  rw [if_pos (by omega)]

theorem pushBack_eq [Inhabited α] {s : State α} {h : Nat} (v : α) (nf : (reallocate s h ((s.hs h).size + 1)).fault = false)
    (hs : ((reallocate s h ((s.hs h).size + 1)).hs h).size = (s.hs h).size + 1) :
    pushBack s h v = writeCell (reallocate s h ((s.hs h).size + 1)) ((reallocate s h ((s.hs h).size + 1)).hs h).d (s.hs h).size v := by
  unfold pushBack
  simp only [nf, Bool.false_eq_true, ↓reduceIte, hs, Nat.add_one_ne_zero, Nat.add_sub_cancel]

theorem ctorBuild_good {s : State α} (I : Inv s) {h : Nat} (hn : h < s.n) (sz : Nat) (t : α) :
    Good s (ctorBuild s h sz t) h ∧ ((ctorBuild s h sz t).hs h).size = sz := by
  rw [ctorBuild_eq I hn]
  split
  · rename_i hz
    exact ⟨good_refresh I hn (by simpa using hz) (by simp), attachFresh_size _ _ _ _⟩
  · rename_i hz
    obtain ⟨G, he⟩ := good_destroy I hn
    exact ⟨G, by rw [he]; show 0 = sz; omega⟩

theorem logcopy_good {s : State α} (I : Inv s) {h g : Nat} (hn : h < s.n) (gn : g < s.n) :
    Good s (logcopy s h g) h := by
  by_cases e : h = g
  · have : logcopy s h g = s := by unfold logcopy; rw [if_pos e]
    rw [this]; exact Good.refl I h
  · rw [logcopy_eq I hn e]; exact good_share I hn gn

theorem ctorWithCopy_good {s : State α} (I : Inv s) {h g : Nat} (hn : h < s.n) (gn : g < s.n) :
    Good s (ctorWithCopy s h g) h ∧ (h ≠ g → Sole (ctorWithCopy s h g) h) := by
  by_cases e : h = g
  · have : ctorWithCopy s h g = s := by unfold ctorWithCopy; rw [if_pos e]
    rw [this]; exact ⟨Good.refl I h, fun ne => absurd e ne⟩
  · rw [ctorWithCopy_eq I hn gn e]
    have len := contents_length I gn
    split
    · rename_i hz
      exact ⟨good_refresh I hn (by rw [len]; exact hz) (by omega), fun _ => attachFresh_sole _ _ _ _⟩
    · obtain ⟨G, he⟩ := good_destroy I hn
      exact ⟨G, fun _ => Or.inl he⟩

theorem allocate_good [Inhabited α] {s : State α} (I : Inv s) {h : Nat} (hn : h < s.n) (sz : Nat) :
    Good s (allocate s h sz) h ∧ ((allocate s h sz).hs h).size = sz := by
  by_cases F : Fast s h sz
  · rw [allocate_fast I hn F]
    exact ⟨(good_setSize I hn F).1, by show (upd s.hs h _ h).size = sz; rw [upd_same]⟩
  · rw [allocate_slow I hn F]
    split
    · rename_i pos
      exact ⟨good_refresh I hn (by simp; omega) (by simp), attachFresh_size _ _ _ _⟩
    · obtain ⟨G, he⟩ := good_destroy I hn
      exact ⟨G, by rw [he]; show 0 = sz; omega⟩

theorem reallocate_good [Inhabited α] {s : State α} (I : Inv s) {h : Nat} (hn : h < s.n) (sz : Nat) :
    Good s (reallocate s h sz) h ∧ ((reallocate s h sz).hs h).size = sz ∧ Sole (reallocate s h sz) h := by
  by_cases F : Fast s h sz
  · rw [reallocate_fast I hn F]
    obtain ⟨G, so⟩ := good_setSize I hn F
    exact ⟨G, by show (upd s.hs h _ h).size = sz; rw [upd_same], so⟩
  · rw [reallocate_slow I hn F]
    split
    · rename_i pos
      have len : ((contents s h).take (if (s.hs h).size < sz then (s.hs h).size else sz) ++
          List.replicate (sz - (if (s.hs h).size < sz then (s.hs h).size else sz)) (default : α)).length = sz := by
        simp only [List.length_append, List.length_replicate, List.length_take, contents_length I hn]
        split <;> omega
      exact ⟨good_refresh I hn (by rw [len]; omega) (Nat.le_of_eq len.symm), attachFresh_size _ _ _ _, attachFresh_sole _ _ _ _⟩
    · obtain ⟨G, he⟩ := good_destroy I hn
      exact ⟨G, by rw [he]; show 0 = sz; omega, Or.inl he⟩

theorem writeCell_good {s : State α} (I : Inv s) {h : Nat} (hn : h < s.n) (so : Sole s h) {i : Nat} (hi : i < (s.hs h).size) (v : α) :
    Good s (writeCell s (s.hs h).d i v) h := by
  obtain ⟨b, hb, _, e⟩ := writeCell_eq I hn hi v
  rw [e]; exact good_setData I hn so hb _ (List.length_set ..)

theorem write_inv {s : State α} (I : Inv s) {h : Nat} (hn : h < s.n) (i : Nat) (v : α) :
    Inv (write s h i v) ∧ (write s h i v).n = s.n ∧ Mono s (write s h i v) := by
  unfold write; dsimp only
  split
  · rename_i hi
    obtain ⟨b, _, _, e⟩ := writeCell_eq I hn hi v
    rw [e]; exact ⟨setData_inv I b _ (List.length_set ..), rfl, mono_setData s b _ (List.length_set ..)⟩
  · exact ⟨I, rfl, Mono.refl s⟩

theorem pushBack_good [Inhabited α] {s : State α} (I : Inv s) {h : Nat} (hn : h < s.n) (v : α) : Good s (pushBack s h v) h := by
  obtain ⟨G, hs, so⟩ := reallocate_good I hn ((s.hs h).size + 1)
  rw [pushBack_eq v G.inv.nofault hs]
  exact G.trans (writeCell_good G.inv (G.lt hn) so (by rw [hs]; omega) v)

theorem pushBackSelf_eq [Inhabited α] {s : State α} (I : Inv s) {h : Nat} (hn : h < s.n) {i : Nat} (hi : i < (s.hs h).size) :
    ∃ v, (contents s h)[i]? = some v ∧ pushBackSelf s h i = pushBack s h v := by
  have lt : i < (contents s h).length := by rw [contents_length I hn]; exact hi
  refine ⟨(contents s h)[i], List.getElem?_eq_getElem lt, ?_⟩
  unfold pushBackSelf; dsimp only
  rw [if_pos hi, readCells_contents I hn (Nat.succ_le_of_lt hi)]
  dsimp only
  rw [List.getElem?_take_of_lt (Nat.lt_succ_self i), List.getElem?_eq_getElem lt]

theorem pushBackSelf_good [Inhabited α] {s : State α} (I : Inv s) {h : Nat} (hn : h < s.n) (i : Nat) :
    Good s (pushBackSelf s h i) h := by
  by_cases hi : i < (s.hs h).size
  · obtain ⟨v, _, e⟩ := pushBackSelf_eq I hn hi
    rw [e]; exact pushBack_good I hn v
  · have : pushBackSelf s h i = s := by unfold pushBackSelf; dsimp only; rw [if_neg hi]
    rw [this]; exact Good.refl I h

theorem reserve_eq [Inhabited α] {s : State α} (I : Inv s) {h : Nat} (hn : h < s.n) (sz : Nat) :
    reserve s h sz = reallocate (reallocate s h sz) h 0 := by
  unfold reserve
  simp only [(reallocate_good I hn sz).1.inv.nofault, Bool.false_eq_true, ↓reduceIte]

theorem reserve_good [Inhabited α] {s : State α} (I : Inv s) {h : Nat} (hn : h < s.n) (sz : Nat) :
    Good s (reserve s h sz) h ∧ ((reserve s h sz).hs h).size = 0 := by
  rw [reserve_eq I hn]
  obtain ⟨G, _⟩ := reallocate_good I hn sz
  have R := reallocate_good G.inv (G.lt hn) 0
  exact ⟨G.trans R.1, R.2.1⟩

theorem copy_eq [Inhabited α] {s : State α} (I : Inv s) {h g : Nat} (hn : h < s.n) (gn : g < s.n)
    (dne : (s.hs g).d ≠ (s.hs h).d) :
    copy s h g = writeCells (reallocate s h (s.hs g).size) ((reallocate s h (s.hs g).size).hs h).d (contents s g) := by
  have ne : g ≠ h := fun q => dne (by rw [q])
  obtain ⟨G, hs, _⟩ := reallocate_good I hn (s.hs g).size
  unfold copy
  simp only [dne, G.inv.nofault, Bool.false_eq_true, ↓reduceIte]
  generalize reallocate s h (s.hs g).size = s1 at *
  rw [hs, ← G.frame g ne, readCells_all G.inv (G.lt gn), contents_others G ne gn]

section
open Givaro.Spec.Array0Spec

/-- for the empty list nothing happens on either side: the handle may have no block at all -/
theorem writeCells_spec {s : State α} (I : Inv s) {h : Nat} (hn : h < s.n) (so : Sole s h) (l : List α)
    (hl : l.length = (s.hs h).size) :
    Good s (writeCells s (s.hs h).d l) h ∧ contents (writeCells s (s.hs h).d l) h = l ∧
    abs (writeCells s (s.hs h).d l) = (match (s.hs h).d with
      | some gh => if l.isEmpty then abs s else vsetCells (abs s) gh (l ++ (s.ddata gh).drop l.length)
      | none => abs s) := by
  by_cases l0 : l = []
  · subst l0
    have e : writeCells s (s.hs h).d [] = s := by unfold writeCells; split <;> simp
    rw [e]
    exact ⟨Good.refl I h, List.length_eq_zero_iff.mp (by rw [contents_length I hn, ← hl]; rfl), by cases (s.hs h).d <;> rfl⟩
  · have lpos : l.length ≠ 0 := fun q => l0 (List.length_eq_zero_iff.mp q)
    obtain ⟨c, b, h1, h2, h3, h4, h5, h6⟩ := (I.wf h hn).2 (size_pos_psz I hn (by omega))
    have le : l.length ≤ (s.ddata b).length := by omega
    have e : writeCells s (s.hs h).d l = ({ s with ddata := upd s.ddata b (l ++ (s.ddata b).drop l.length) } : State α) := by
      rw [h2]; unfold writeCells
      simp only [List.isEmpty_iff, l0, ↓reduceIte, h4, true_and, le]
    rw [e]
    refine ⟨good_setData I hn so h2 _ (by simp; omega), ?_, ?_⟩
    · show (match (s.hs h).d with | none => [] | some b' => (upd s.ddata b _ b').take (s.hs h).size) = l
      rw [h2]; dsimp only
      rw [upd_same, ← hl, List.take_left' rfl]
    · rw [h2]; dsimp only
      rw [if_neg (by simpa using l0)]; rfl

end

theorem copy_good [Inhabited α] {s : State α} (I : Inv s) {h g : Nat} (hn : h < s.n) (gn : g < s.n) : Good s (copy s h g) h := by
  by_cases de : (s.hs g).d = (s.hs h).d
  · have : copy s h g = s := by unfold copy; rw [if_pos de]
    rw [this]; exact Good.refl I h
  · rw [copy_eq I hn gn de]
    obtain ⟨G, hs, so⟩ := reallocate_good I hn (s.hs g).size
    exact G.trans (writeCells_spec G.inv (G.lt hn) so _ (by rw [hs, contents_length I gn])).1

theorem any_out_of_range {l : List Nat} {n : Nat} : l.any (fun h => decide (n ≤ h)) = true ↔ ¬ ∀ k, k ∈ l → k < n := by
  rw [List.any_eq_true]
  constructor
  · intro ⟨k, hk, hq⟩ hb
    have := hb k hk
    simp at hq; omega
  · intro hb
    apply Classical.byContradiction; intro q
    apply hb; intro k hk
    apply Classical.byContradiction; intro q2
    exact q ⟨k, hk, by simp; omega⟩

theorem step_eq_core [Inhabited α] {s : State α} (I : Inv s) (op : Op α) (hb : ∀ k, k ∈ op.handles → k < s.n) :
    step s op = stepCore s op := by
  unfold step
  rw [if_neg (by simp [I.nofault]), if_neg (fun q => any_out_of_range.mp q hb)]

theorem step_out_of_range [Inhabited α] {s : State α} (I : Inv s) (op : Op α) (hb : ¬ ∀ k, k ∈ op.handles → k < s.n) :
    step s op = s := by
  unfold step
  rw [if_neg (by simp [I.nofault]), if_pos (any_out_of_range.mpr hb)]

theorem first_lt {h n : Nat} {l : List Nat} (hb : ∀ k, k ∈ h :: l → k < n) : h < n := hb h List.mem_cons_self
theorem second_lt {h g n : Nat} {l : List Nat} (hb : ∀ k, k ∈ h :: g :: l → k < n) : g < n :=
  hb g (List.mem_cons_of_mem _ List.mem_cons_self)

theorem lt_of_mem_one {h n : Nat} (hn : h < n) : ∀ k, k ∈ [h] → k < n :=
  fun k hk => by rw [List.mem_singleton.mp hk]; exact hn

theorem lt_of_mem_two {h g n : Nat} (hn : h < n) (gn : g < n) : ∀ k, k ∈ [h, g] → k < n := fun k hk => by
  rcases List.mem_cons.mp hk with q | q
  · rw [q]; exact hn
  · exact lt_of_mem_one gn k q

theorem stepCore_good [Inhabited α] {s : State α} (I : Inv s) (op : Op α) (hb : ∀ k, k ∈ op.handles → k < s.n)
    (nw : op.isWrite = false) : Good s (stepCore s op) op.target := by
  cases op with
  | build h sz t => exact (ctorBuild_good I (first_lt hb) sz t).1
  | noCopy h g =>
    rw [show stepCore s (.noCopy h g) = logcopy s h g from ctorNoCopy_eq_logcopy s h g]
    exact logcopy_good I (first_lt hb) (second_lt hb)
  | withCopy h g => exact (ctorWithCopy_good I (first_lt hb) (second_lt hb)).1
  | destroy h => exact (good_destroy I (first_lt hb)).1
  | allocate h sz => exact (allocate_good I (first_lt hb) sz).1
  | resize h sz => exact (reallocate_good I (first_lt hb) sz).1
  | reserve h sz => exact (reserve_good I (first_lt hb) sz).1
  | pushBack h v => exact pushBack_good I (first_lt hb) v
  | pushBackSelf h i => exact pushBackSelf_good I (first_lt hb) i
  | write h i v => cases nw
  | copy h g => exact copy_good I (first_lt hb) (second_lt hb)
  | logcopy h g => exact logcopy_good I (first_lt hb) (second_lt hb)
  | assign h g => exact copy_good I (first_lt hb) (second_lt hb)

theorem stepCore_inv [Inhabited α] {s : State α} (I : Inv s) (op : Op α) (hb : ∀ k, k ∈ op.handles → k < s.n) :
    Inv (stepCore s op) ∧ (stepCore s op).n = s.n ∧ Mono s (stepCore s op) := by
  cases op with
  | write h i v => exact write_inv I (first_lt hb) i v
  | _ =>
    have G := stepCore_good I _ hb rfl
    exact ⟨G.inv, G.n, G.mono⟩

theorem step_inv [Inhabited α] {s : State α} (I : Inv s) (op : Op α) :
    Inv (step s op) ∧ (step s op).n = s.n ∧ Mono s (step s op) := by
  by_cases hb : ∀ k, k ∈ op.handles → k < s.n
  · rw [step_eq_core I op hb]; exact stepCore_inv I op hb
  · rw [step_out_of_range I op hb]; exact ⟨I, rfl, Mono.refl s⟩

theorem run_inv [Inhabited α] (ops : List (Op α)) :
    ∀ {s : State α}, Inv s → Inv (run s ops) ∧ (run s ops).n = s.n ∧ Mono s (run s ops) := by
  induction ops with
  | nil => intro s I; exact ⟨I, rfl, Mono.refl s⟩
  | cons op rest ih =>
    intro s I
    have ⟨I1, n1, m1⟩ := step_inv I op
    have ⟨I2, n2, m2⟩ := ih I1
    exact ⟨I2, n2.trans n1, m1.trans m2⟩

theorem step_reserve [Inhabited α] {s : State α} (I : Inv s) (h sz : Nat) :
    step s (.reserve h sz) = step (step s (.resize h sz)) (.resize h 0) := by
  have I1 := step_inv I (.resize h sz)
  by_cases hb : ∀ k, k ∈ [h] → k < s.n
  · rw [step_eq_core I (.reserve h sz) hb, step_eq_core I1.1 (.resize h 0) (by rw [I1.2.1]; exact hb), step_eq_core I (.resize h sz) hb]
    exact reserve_eq I (first_lt hb) sz
  · rw [step_out_of_range I (.reserve h sz) hb, step_out_of_range I (.resize h sz) hb, step_out_of_range I (.resize h 0) hb]

theorem destroyAll_empty [Inhabited α] : ∀ (k : Nat) {s : State α}, Inv s → k ≤ s.n →
    Inv (run s ((List.range k).map Op.destroy)) ∧ (run s ((List.range k).map Op.destroy)).n = s.n ∧
    (∀ h, h < k → (run s ((List.range k).map Op.destroy)).hs h = Handle.empty) ∧
    (run s ((List.range k).map Op.destroy)).dnext = s.dnext ∧ (run s ((List.range k).map Op.destroy)).ddata = s.ddata := by
  intro k
  induction k with
  | zero => intro s I _; exact ⟨I, rfl, fun h hh => by omega, rfl, rfl⟩
  | succ k ih =>
    intro s I hk
    obtain ⟨I1, n1, e1, x1, d1⟩ := ih I (by omega)
    have kn : k < (run s ((List.range k).map Op.destroy)).n := by rw [n1]; omega
    have e : run s ((List.range (k + 1)).map Op.destroy) = destroy (run s ((List.range k).map Op.destroy)) k := by
      rw [List.range_succ, List.map_append, run, List.foldl_append]
      exact step_eq_core I1 (.destroy k) (lt_of_mem_one kn)
    rw [e]
    obtain ⟨D, eh, en, ed, ex⟩ := destroy_inv I1 kn
    refine ⟨D, en.trans n1, ?_, ex.trans x1, ed.trans d1⟩
    intro h hh
    rw [eh]
    by_cases e : h = k
    · rw [e, upd_same]
    · rw [upd_other _ _ _ _ e]; exact e1 h (by omega)

end Givaro.Model.Array0
