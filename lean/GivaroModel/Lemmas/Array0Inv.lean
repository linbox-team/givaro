/-
C17 — the representation invariant of the Array0 model and its preservation by the state changes the operations are made
of: the release by `destroy`, a fresh block, a shared block, a new logical size, overwritten cells.
-/
import GivaroModel.Model.Array0
namespace Givaro.Model.Array0
variable {α : Type}

theorem countBelow_congr {p q : Nat → Bool} : ∀ n, (∀ k, k < n → p k = q k) → countBelow p n = countBelow q n
  | 0, _ => rfl
  | n + 1, h => by
    simp only [countBelow]
    rw [countBelow_congr n (fun k hk => h k (by omega)), h n (by omega)]

theorem countBelow_update {p q : Nat → Bool} (h : Nat) : ∀ n, h < n → (∀ k, k ≠ h → q k = p k) →
    countBelow q n + (if p h then 1 else 0) = countBelow p n + (if q h then 1 else 0)
  | 0, hn, _ => by omega
  | n + 1, hn, hq => by
    simp only [countBelow]
    by_cases e : h = n
    · subst e
      have := countBelow_congr (p := q) (q := p) h (fun k hk => hq k (by omega))
      rw [this]; omega
    · have ih := countBelow_update h n (by omega) hq
      rw [hq n (fun x => e x.symm)]; omega

theorem countBelow_pos {p : Nat → Bool} : ∀ n, 0 < countBelow p n → ∃ k, k < n ∧ p k = true
  | 0, h => by simp [countBelow] at h
  | n + 1, h => by
    simp only [countBelow] at h
    by_cases e : p n = true
    · exact ⟨n, by omega, e⟩
    · simp only [e] at h
      obtain ⟨k, hk, hp⟩ := countBelow_pos n (by simpa using h)
      exact ⟨k, by omega, hp⟩

theorem countBelow_zero {p : Nat → Bool} {n : Nat} (h : ∀ k, k < n → p k = false) : countBelow p n = 0 := by
  apply Classical.byContradiction; intro ne
  obtain ⟨k, hk, pk⟩ := countBelow_pos (p := p) n (by omega)
  rw [h k hk] at pk; exact Bool.noConfusion pk

def offAt (p : Nat → Bool) (h : Nat) : Nat → Bool := fun k => if k = h then false else p k

theorem countBelow_offAt {p : Nat → Bool} {n h : Nat} (hn : h < n) (hp : p h = true) :
    countBelow (offAt p h) n + 1 = countBelow p n := by
  have := countBelow_update (p := p) (q := offAt p h) h n hn (fun k hk => by simp [offAt, hk])
  have e : offAt p h h = false := by simp [offAt]
  rw [hp, e] at this
  simpa using this

theorem countBelow_other {p : Nat → Bool} {n h : Nat} (hn : h < n) (hp : p h = true) (h2 : 2 ≤ countBelow p n) :
    ∃ g, g < n ∧ g ≠ h ∧ p g = true := by
  have := countBelow_offAt hn hp
  obtain ⟨g, hg, hq⟩ := countBelow_pos (p := offAt p h) n (by omega)
  by_cases e : g = h
  · simp [offAt, e] at hq
  · simp [offAt, e] at hq; exact ⟨g, hg, e, hq⟩

theorem countBelow_unique {p : Nat → Bool} {n h g : Nat} (hn : h < n) (gn : g < n) (hp : p h = true) (gp : p g = true)
    (h1 : countBelow p n = 1) : g = h := by
  apply Classical.byContradiction; intro ne
  have := countBelow_offAt hn hp
  have := countBelow_offAt (p := offAt p h) gn (by simp [offAt, ne, gp])
  omega

/-- a handle is either completely empty or refers to a live counter cell and a live data block of `_psz` cells -/
def WFH (s : State α) (H : Handle) : Prop :=
  (H.psz = 0 → H = Handle.empty) ∧
  (H.psz ≠ 0 → ∃ c b, H.cnt = some c ∧ H.d = some b ∧ s.clive c = true ∧ s.dlive b = true ∧
      H.size ≤ H.psz ∧ (s.ddata b).length = H.psz)

structure Inv (s : State α) : Prop where
  nofault : s.fault = false
  wf : ∀ h, h < s.n → WFH s (s.hs h)
  /-- handles share the counter exactly when they share the block, and then agree on sizes -/
  pair : ∀ h g, h < s.n → g < s.n → (s.hs h).psz ≠ 0 → (s.hs g).psz ≠ 0 →
    (((s.hs h).cnt = (s.hs g).cnt ↔ (s.hs h).d = (s.hs g).d) ∧
     ((s.hs h).d = (s.hs g).d → (s.hs h).size = (s.hs g).size ∧ (s.hs h).psz = (s.hs g).psz))
  /-- every live counter holds the number of handles that point to it, and that number is not zero -/
  rc : ∀ c, s.clive c = true → s.cval c = (sharers s c : Int) ∧ 1 ≤ sharers s c
  /-- every live data block is referred to by a handle -/
  down : ∀ b, s.dlive b = true → ∃ h, h < s.n ∧ (s.hs h).d = some b ∧ (s.hs h).psz ≠ 0
  cbound : ∀ c, s.clive c = true → c < s.cnext
  dbound : ∀ b, s.dlive b = true → b < s.dnext

theorem wfh_empty (s : State α) : WFH s Handle.empty := ⟨fun _ => rfl, fun h => absurd rfl h⟩

theorem inv_init (n : Nat) : Inv (init α n) where
  nofault := rfl
  wf := fun _ _ => wfh_empty _
  pair := fun _ _ _ _ h => absurd rfl h
  rc := fun _ h => by simp [init] at h
  down := fun _ h => by simp [init] at h
  cbound := fun _ h => by simp [init] at h
  dbound := fun _ h => by simp [init] at h

theorem sharers_replace {s s' : State α} {h : Nat} {H : Handle} (en : s'.n = s.n) (ehs : s'.hs = upd s.hs h H) (hn : h < s.n)
    (x : Nat) : sharers s' x + (if (s.hs h).cnt = some x then 1 else 0) = sharers s x + (if H.cnt = some x then 1 else 0) := by
  unfold sharers
  rw [en, ehs]
  have := countBelow_update (p := fun k => (s.hs k).cnt == some x) (q := fun k => (upd s.hs h H k).cnt == some x) h s.n hn
    (fun k hk => by rw [upd_other _ _ _ _ hk])
  simpa using this

theorem cnt_some_psz {s : State α} (I : Inv s) {h c : Nat} (hn : h < s.n) (hc : (s.hs h).cnt = some c) : (s.hs h).psz ≠ 0 :=
  fun h0 => by rw [(I.wf h hn).1 h0] at hc; cases hc

theorem d_some_psz {s : State α} (I : Inv s) {h b : Nat} (hn : h < s.n) (hd : (s.hs h).d = some b) : (s.hs h).psz ≠ 0 :=
  fun h0 => by rw [(I.wf h hn).1 h0] at hd; cases hd

theorem size_pos_psz {s : State α} (I : Inv s) {h : Nat} (hn : h < s.n) (hs : (s.hs h).size ≠ 0) : (s.hs h).psz ≠ 0 :=
  fun h0 => by rw [(I.wf h hn).1 h0] at hs; exact hs rfl

theorem empty_of_cnt_none {s : State α} (I : Inv s) {h : Nat} (hn : h < s.n) (hc : (s.hs h).cnt = none) :
    s.hs h = Handle.empty := by
  apply (I.wf h hn).1
  apply Classical.byContradiction; intro hp
  obtain ⟨c, b, h1, _⟩ := (I.wf h hn).2 hp
  rw [hc] at h1; cases h1

theorem upd_self {β : Type} {f : Nat → β} {i : Nat} {v : β} (e : f i = v) : upd f i v = f := by
  funext j; unfold upd; split
  · rename_i q; rw [q, e]
  · rfl

theorem setH_self (s : State α) (h : Nat) (H : Handle) (e : s.hs h = H) : setH s h H = s := by
  cases s with
  | mk n hs dlive ddata dnext clive cval cnext fault =>
    simp only [setH] at *
    rw [upd_self e]

theorem owner_of_cnt {s : State α} (I : Inv s) {h c : Nat} (hn : h < s.n) (hc : (s.hs h).cnt = some c) :
    ∃ b, (s.hs h).d = some b ∧ s.clive c = true ∧ s.dlive b = true ∧ (s.hs h).size ≤ (s.hs h).psz ∧
      (s.ddata b).length = (s.hs h).psz := by
  obtain ⟨c', b, h1, h2, h3, h4, h5, h6⟩ := (I.wf h hn).2 (cnt_some_psz I hn hc)
  rw [hc] at h1; cases h1
  exact ⟨b, h2, h3, h4, h5, h6⟩

theorem cnt_lt_cnext {s : State α} (I : Inv s) {h c : Nat} (hn : h < s.n) (hc : (s.hs h).cnt = some c) : c < s.cnext := by
  obtain ⟨_, _, h3, _⟩ := owner_of_cnt I hn hc
  exact I.cbound c h3

theorem d_lt_dnext {s : State α} (I : Inv s) {h b : Nat} (hn : h < s.n) (hd : (s.hs h).d = some b) : b < s.dnext := by
  obtain ⟨_, b', _, h2, _, h4, _⟩ := (I.wf h hn).2 (d_some_psz I hn hd)
  rw [hd] at h2; cases h2
  exact I.dbound b h4

theorem same_cnt_same_d {s : State α} (I : Inv s) {h g c : Nat} (hn : h < s.n) (gn : g < s.n)
    (hc : (s.hs h).cnt = some c) (gc : (s.hs g).cnt = some c) : (s.hs g).d = (s.hs h).d := by
  have := (I.pair g h gn hn (cnt_some_psz I gn gc) (cnt_some_psz I hn hc)).1
  exact this.1 (by rw [hc, gc])

theorem same_d_same_cnt {s : State α} (I : Inv s) {h g b : Nat} (hn : h < s.n) (gn : g < s.n)
    (hc : (s.hs h).d = some b) (gc : (s.hs g).d = some b) : (s.hs g).cnt = (s.hs h).cnt := by
  have := (I.pair g h gn hn (d_some_psz I gn gc) (d_some_psz I hn hc)).1
  exact this.2 (by rw [hc, gc])

theorem sole_of_one {s : State α} (I : Inv s) {h g c : Nat} (hn : h < s.n) (gn : g < s.n)
    (hc : (s.hs h).cnt = some c) (gc : (s.hs g).cnt = some c) (hl : s.clive c = true) (one : s.cval c = 1) : g = h := by
  have e := (I.rc c hl).1
  have : sharers s c = 1 := by omega
  exact countBelow_unique (p := fun k => (s.hs k).cnt == some c) hn gn (by simp [hc]) (by simp [gc]) this

theorem counter_has_sharer {s : State α} (I : Inv s) {c : Nat} (hl : s.clive c = true) : ∃ h, h < s.n ∧ (s.hs h).cnt = some c := by
  have := (I.rc c hl).2
  obtain ⟨h, hn, hp⟩ := countBelow_pos (p := fun k => (s.hs k).cnt == some c) s.n (by unfold sharers at this; omega)
  exact ⟨h, hn, by simpa using hp⟩

theorem all_empty_dead {s : State α} (I : Inv s) (emp : ∀ h, h < s.n → s.hs h = Handle.empty) (x : Nat) :
    s.dlive x = false ∧ s.clive x = false := by
  constructor
  · cases hl : s.dlive x
    · rfl
    · obtain ⟨h, hn, hd, _⟩ := I.down x hl
      rw [emp h hn] at hd; cases hd
  · cases hl : s.clive x
    · rfl
    · obtain ⟨h, hn, hc⟩ := counter_has_sharer I hl
      rw [emp h hn] at hc; cases hc

/-- what `Inv.pair` asks of two handles with storage -/
def Agree (H G : Handle) : Prop :=
  (H.cnt = G.cnt ↔ H.d = G.d) ∧ (H.d = G.d → H.size = G.size ∧ H.psz = G.psz)

theorem Agree.refl (H : Handle) : Agree H H := ⟨⟨fun _ => rfl, fun _ => rfl⟩, fun _ => ⟨rfl, rfl⟩⟩

theorem Agree.symm {H G : Handle} (a : Agree H G) : Agree G H :=
  ⟨⟨fun q => (a.1.1 q.symm).symm, fun q => (a.1.2 q.symm).symm⟩, fun q => ⟨(a.2 q.symm).1.symm, (a.2 q.symm).2.symm⟩⟩

theorem WFH.transfer {s s' : State α} {G : Handle} (w : WFH s G)
    (keep : ∀ c b, G.cnt = some c → G.d = some b → s.clive c = true → s.dlive b = true →
      s'.clive c = true ∧ s'.dlive b = true ∧ (s'.ddata b).length = (s.ddata b).length) : WFH s' G :=
  ⟨w.1, fun gp => by
    obtain ⟨c, b, h1, h2, h3, h4, h5, h6⟩ := w.2 gp
    obtain ⟨k1, k2, k3⟩ := keep c b h1 h2 h3 h4
    exact ⟨c, b, h1, h2, k1, k2, h5, k3.trans h6⟩⟩

/-- Every state change replaces the handle of one slot: `Inv s'` reduces to the new handle being well formed and agreeing
    with the others, and the counts shifting by one at its old and its new counter (`rc` is handed the new number of sharers as a variable `k`
    tied to `sharers s x` by the equation of `sharers_replace`, so that no client unfolds `sharers s'`). -/
theorem inv_replace {s s' : State α} (I : Inv s) {h : Nat} {H : Handle} (hn : h < s.n)
    (en : s'.n = s.n) (ehs : s'.hs = upd s.hs h H) (ef : s'.fault = false)
    (wfH : WFH s' H) (wfo : ∀ g, g < s.n → g ≠ h → WFH s' (s.hs g))
    (agree : ∀ g, g < s.n → g ≠ h → H.psz ≠ 0 → (s.hs g).psz ≠ 0 → Agree H (s.hs g))
    (rc : ∀ x, s'.clive x = true → ∀ k, k + (if (s.hs h).cnt = some x then 1 else 0) =
      sharers s x + (if H.cnt = some x then 1 else 0) → s'.cval x = (k : Int) ∧ 1 ≤ k)
    (down : ∀ b, s'.dlive b = true →
      (H.d = some b ∧ H.psz ≠ 0) ∨ ∃ g, g < s.n ∧ g ≠ h ∧ (s.hs g).d = some b ∧ (s.hs g).psz ≠ 0)
    (cb : ∀ c, s'.clive c = true → c < s'.cnext) (db : ∀ b, s'.dlive b = true → b < s'.dnext) : Inv s' where
  nofault := ef
  wf := by
    intro g gn
    rw [en] at gn; rw [ehs]
    by_cases e : g = h
    · rw [e, upd_same]; exact wfH
    · rw [upd_other _ _ _ _ e]; exact wfo g gn e
  pair := by
    intro g1 g2 n1 n2
    rw [en] at n1 n2; rw [ehs]
    by_cases e1 : g1 = h
    · by_cases e2 : g2 = h
      · rw [e1, e2]; intro _ _; exact Agree.refl _
      · rw [e1, upd_same, upd_other _ _ _ _ e2]; exact agree g2 n2 e2
    · by_cases e2 : g2 = h
      · rw [e2, upd_same, upd_other _ _ _ _ e1]; intro p1 p2; exact (agree g1 n1 e1 p2 p1).symm
      · rw [upd_other _ _ _ _ e1, upd_other _ _ _ _ e2]; exact I.pair g1 g2 n1 n2
  rc := fun x xl => rc x xl (sharers s' x) (sharers_replace en ehs hn x)
  down := by
    intro b bl
    rw [en, ehs]
    rcases down b bl with ⟨hd, hp⟩ | ⟨g, gn, ne, gd, gp⟩
    · exact ⟨h, hn, by rw [upd_same]; exact hd, by rw [upd_same]; exact hp⟩
    · exact ⟨g, gn, by rw [upd_other _ _ _ _ ne]; exact gd, by rw [upd_other _ _ _ _ ne]; exact gp⟩
  cbound := cb
  dbound := db

theorem destroy_dec_inv {s : State α} (I : Inv s) {h c : Nat} (hn : h < s.n) (hc : (s.hs h).cnt = some c)
    (hv : s.cval c - 1 ≠ 0) :
    Inv ({ s with cval := upd s.cval c (s.cval c - 1), hs := upd s.hs h Handle.empty } : State α) := by
  obtain ⟨b, hd, hl, _⟩ := owner_of_cnt I hn hc
  have rcc := I.rc c hl
  refine inv_replace I hn rfl rfl I.nofault (wfh_empty _) (fun g gn _ => I.wf g gn) (fun _ _ _ p => absurd rfl p) ?_ ?_
    I.cbound I.dbound
  · intro x xl k hx
    have ⟨r1, r2⟩ := I.rc x xl
    show upd s.cval c (s.cval c - 1) x = _ ∧ _
    simp only [hc, Handle.empty, Option.some.injEq, reduceCtorEq, ↓reduceIte] at hx
    by_cases e : c = x
    · subst e; rw [upd_same]; rw [if_pos rfl] at hx; omega
    · rw [upd_other _ _ _ _ (fun q => e q.symm)]; rw [if_neg e] at hx; omega
  · intro b' bl
    obtain ⟨g, gn, gd, gp⟩ := I.down b' bl
    by_cases e : g = h
    · -- the block of `h` itself: another handle shares it, since the counter was at least 2
      subst e
      obtain ⟨g', gn', ne, gc'⟩ := countBelow_other (p := fun k => (s.hs k).cnt == some c) gn (by simp [hc])
        (by have := rcc.1; unfold sharers at this; omega)
      have gc'' : (s.hs g').cnt = some c := by simpa using gc'
      exact Or.inr ⟨g', gn', ne, by rw [same_cnt_same_d I gn gn' hc gc'', gd], cnt_some_psz I gn' gc''⟩
    · exact Or.inr ⟨g, gn, e, gd, gp⟩

theorem destroy_rel_inv {s : State α} (I : Inv s) {h c b : Nat} (hn : h < s.n) (hc : (s.hs h).cnt = some c)
    (hd : (s.hs h).d = some b) (hl : s.clive c = true) (one : s.cval c = 1) :
    Inv ({ s with cval := upd s.cval c 0, clive := upd s.clive c false, dlive := upd s.dlive b false,
                  hs := upd s.hs h Handle.empty } : State α) := by
  have other_c : ∀ g, g < s.n → g ≠ h → (s.hs g).cnt ≠ some c := fun g gn ne gc => ne (sole_of_one I hn gn hc gc hl one)
  have other_d : ∀ g, g < s.n → g ≠ h → (s.hs g).d ≠ some b := fun g gn ne gd =>
    other_c g gn ne (by rw [same_d_same_cnt I hn gn hd gd, hc])
  refine inv_replace I hn rfl rfl I.nofault (wfh_empty _) ?_ (fun _ _ _ p => absurd rfl p) ?_ ?_
    (fun x xl => I.cbound x (upd_false_true xl).2) (fun x xl => I.dbound x (upd_false_true xl).2)
  · intro g gn ne
    refine (I.wf g gn).transfer (fun c' b' h1 h2 h3 h4 => ⟨?_, ?_, rfl⟩)
    · show upd s.clive c false c' = true
      rw [upd_other _ _ _ _ (fun q => other_c g gn ne (by rw [h1, q]))]; exact h3
    · show upd s.dlive b false b' = true
      rw [upd_other _ _ _ _ (fun q => other_d g gn ne (by rw [h2, q]))]; exact h4
  · intro x xl k hx
    obtain ⟨e, xl'⟩ := upd_false_true xl
    have ⟨r1, r2⟩ := I.rc x xl'
    show upd s.cval c 0 x = _ ∧ _
    rw [upd_other _ _ _ _ e]
    simp only [hc, Handle.empty, Option.some.injEq, reduceCtorEq, ↓reduceIte] at hx
    rw [if_neg (fun q => e q.symm)] at hx; omega
  · intro b' bl
    obtain ⟨e, bl'⟩ := upd_false_true bl
    obtain ⟨g, gn, gd, gp⟩ := I.down b' bl'
    exact Or.inr ⟨g, gn, fun q => e (by rw [q, hd] at gd; exact (Option.some.inj gd).symm), gd, gp⟩

theorem destroy_cases {s : State α} (I : Inv s) {h : Nat} (hn : h < s.n) :
    ((s.hs h).psz = 0 ∧ destroy s h = s) ∨
    (∃ c b, (s.hs h).cnt = some c ∧ (s.hs h).d = some b ∧ s.clive c = true ∧ s.cval c = 1 ∧
      destroy s h = ({ s with cval := upd s.cval c 0, clive := upd s.clive c false, dlive := upd s.dlive b false,
                              hs := upd s.hs h Handle.empty } : State α)) ∨
    (∃ c b, (s.hs h).cnt = some c ∧ (s.hs h).d = some b ∧ s.cval c - 1 ≠ 0 ∧
      destroy s h = ({ s with cval := upd s.cval c (s.cval c - 1), hs := upd s.hs h Handle.empty } : State α)) := by
  by_cases hp : (s.hs h).psz = 0
  · left
    refine ⟨hp, ?_⟩
    unfold destroy; simp only [hp, ↓reduceIte]; exact setH_self s h _ ((I.wf h hn).1 hp)
  · right
    obtain ⟨c, b, h1, h2, h3, h4, _⟩ := (I.wf h hn).2 hp
    by_cases hv : s.cval c - 1 = 0
    · left; refine ⟨c, b, h1, h2, h3, by omega, ?_⟩
      unfold destroy; simp [hp, h1, h2, h3, h4, hv]
    · right; refine ⟨c, b, h1, h2, hv, ?_⟩
      unfold destroy; simp [hp, h1, h3, hv]

/-- the `if s.cval c - 1 = 0` shape is that of `RefPtr.release` -/
theorem destroy_owner {s : State α} (I : Inv s) {h c b : Nat} (hn : h < s.n) (hc : (s.hs h).cnt = some c)
    (hd : (s.hs h).d = some b) :
    destroy s h = ({ s with cval := upd s.cval c (s.cval c - 1),
                            clive := if s.cval c - 1 = 0 then upd s.clive c false else s.clive,
                            dlive := if s.cval c - 1 = 0 then upd s.dlive b false else s.dlive,
                            hs := upd s.hs h Handle.empty } : State α) := by
  rcases destroy_cases I hn with ⟨hp, _⟩ | ⟨c', b', h1, h2, _, one, e⟩ | ⟨c', b', h1, _, hv, e⟩
  · exact absurd hp (cnt_some_psz I hn hc)
  · rw [hc] at h1; rw [hd] at h2; cases h1; cases h2
    have z : s.cval c - 1 = 0 := by omega
    rw [e, z, if_pos rfl, if_pos rfl]
  · rw [hc] at h1; cases h1
    rw [e, if_neg hv, if_neg hv]

theorem destroy_inv {s : State α} (I : Inv s) {h : Nat} (hn : h < s.n) :
    Inv (destroy s h) ∧ (destroy s h).hs = upd s.hs h Handle.empty ∧ (destroy s h).n = s.n ∧
      (destroy s h).ddata = s.ddata ∧ (destroy s h).dnext = s.dnext := by
  rcases destroy_cases I hn with ⟨hp, e⟩ | ⟨c, b, h1, h2, h3, one, e⟩ | ⟨c, b, h1, _, hv, e⟩
  · rw [e]
    exact ⟨I, (upd_self ((I.wf h hn).1 hp)).symm, rfl, rfl, rfl⟩
  · rw [e]; exact ⟨destroy_rel_inv I hn h1 h2 h3 one, rfl, rfl, rfl, rfl⟩
  · rw [e]; exact ⟨destroy_dec_inv I hn h1 hv, rfl, rfl, rfl, rfl⟩

theorem destroy_empty {s : State α} (I : Inv s) {h : Nat} (hn : h < s.n) (he : s.hs h = Handle.empty) : destroy s h = s := by
  rcases destroy_cases I hn with ⟨_, e⟩ | ⟨c, b, h1, _⟩ | ⟨c, b, h1, _⟩
  · exact e
  · rw [he] at h1; cases h1
  · rw [he] at h1; cases h1

theorem attachFresh_inv {s : State α} (I : Inv s) {h : Nat} (hn : h < s.n) (he : s.hs h = Handle.empty)
    {l : List α} {sz : Nat} (hl : l.length ≠ 0) (hsz : sz ≤ l.length) : Inv (attachFresh s h l sz) := by
  have fresh_c : ∀ g, g < s.n → (s.hs g).cnt ≠ some s.cnext := fun g gn gc => Nat.lt_irrefl _ (cnt_lt_cnext I gn gc)
  have fresh_d : ∀ g, g < s.n → (s.hs g).d ≠ some s.dnext := fun g gn gd => Nat.lt_irrefl _ (d_lt_dnext I gn gd)
  refine inv_replace I hn rfl rfl I.nofault ?_ ?_ ?_ ?_ ?_ ?_ ?_
  · exact ⟨fun x => absurd x hl, fun _ => ⟨s.cnext, s.dnext, rfl, rfl, upd_same _ _ _, upd_same _ _ _, hsz,
      congrArg List.length (upd_same s.ddata s.dnext l)⟩⟩
  · intro g gn _
    refine (I.wf g gn).transfer (fun c' b' _ _ h3 h4 => ?_)
    have nc : c' ≠ s.cnext := by have := I.cbound c' h3; omega
    have nb : b' ≠ s.dnext := by have := I.dbound b' h4; omega
    exact ⟨(upd_other _ _ _ _ nc).trans h3, (upd_other _ _ _ _ nb).trans h4, congrArg List.length (upd_other s.ddata _ _ l nb)⟩
  · intro g gn _ _ _
    have a := fresh_c g gn; have b := fresh_d g gn
    exact ⟨⟨fun q => absurd q.symm a, fun q => absurd q.symm b⟩, fun q => absurd q.symm b⟩
  · intro x xl k hx
    simp only [he, Handle.empty, Option.some.injEq, reduceCtorEq, ↓reduceIte] at hx
    show upd s.cval s.cnext 1 x = _ ∧ _
    rcases upd_true_true xl with e | ⟨e, xl'⟩
    · rw [e] at hx ⊢; rw [upd_same]
      have z : sharers s s.cnext = 0 := countBelow_zero (fun k hk => by simpa using fresh_c k hk)
      rw [if_pos rfl, z] at hx; omega
    · rw [upd_other _ _ _ _ e]
      have ⟨r1, r2⟩ := I.rc x xl'
      rw [if_neg (fun q => e q.symm)] at hx; omega
  · intro b' bl
    rcases upd_true_true bl with e | ⟨_, bl'⟩
    · exact Or.inl ⟨by rw [e], hl⟩
    · obtain ⟨g, gn, gd, gp⟩ := I.down b' bl'
      exact Or.inr ⟨g, gn, fun q => (by rw [q, he] at gd; cases gd), gd, gp⟩
  · intro x xl
    show x < s.cnext + 1
    rcases upd_true_true xl with e | ⟨_, xl'⟩
    · omega
    · have := I.cbound x xl'; omega
  · intro x xl
    show x < s.dnext + 1
    rcases upd_true_true xl with e | ⟨_, xl'⟩
    · omega
    · have := I.dbound x xl'; omega

theorem attachShare_cases {s : State α} (I : Inv s) (h : Nat) {g : Nat} (gn : g < s.n) :
    ((s.hs g).psz = 0 ∧ attachShare s h g = setH s h Handle.empty) ∨
    ∃ c, (s.hs g).cnt = some c ∧
      attachShare s h g = ({ s with cval := upd s.cval c (s.cval c + 1), hs := upd s.hs h (s.hs g) } : State α) := by
  by_cases gp : (s.hs g).psz = 0
  · left
    refine ⟨gp, ?_⟩
    unfold attachShare; simp only [gp, ne_eq, not_true_eq_false, ↓reduceIte]
    rw [(I.wf g gn).1 gp]; rfl
  · right
    obtain ⟨c, b, h1, _, h3, _⟩ := (I.wf g gn).2 gp
    refine ⟨c, h1, ?_⟩
    unfold attachShare; simp only [gp, ne_eq, not_false_eq_true, ↓reduceIte, h1, h3, Bool.true_eq_false]
    rw [← h1]

theorem attachShare_inv {s : State α} (I : Inv s) {h g : Nat} (hn : h < s.n) (gn : g < s.n) (he : s.hs h = Handle.empty) :
    Inv (attachShare s h g) ∧ (attachShare s h g).hs = upd s.hs h (s.hs g) ∧ (attachShare s h g).n = s.n ∧
      (attachShare s h g).ddata = s.ddata ∧ (attachShare s h g).dnext = s.dnext := by
  rcases attachShare_cases I h gn with ⟨gp, e⟩ | ⟨c, hc, e⟩
  · rw [e, setH_self s h _ he]
    rw [(I.wf g gn).1 gp]
    exact ⟨I, (upd_self he).symm, rfl, rfl, rfl⟩
  · rw [e]
    refine ⟨?_, rfl, rfl, rfl, rfl⟩
    obtain ⟨b, h2, h3, h4, h5, h6⟩ := owner_of_cnt I gn hc
    have gp := cnt_some_psz I gn hc
    refine inv_replace I hn rfl rfl I.nofault ⟨fun x => absurd x gp, fun _ => ⟨c, b, hc, h2, h3, h4, h5, h6⟩⟩
      (fun k kn _ => I.wf k kn) (fun k kn _ _ kp => I.pair g k gn kn gp kp) ?_ ?_ I.cbound I.dbound
    · intro x xl k hx
      have ⟨r1, r2⟩ := I.rc x xl
      simp only [he, hc, Handle.empty, Option.some.injEq, reduceCtorEq, ↓reduceIte] at hx
      show upd s.cval c (s.cval c + 1) x = _ ∧ _
      by_cases e : c = x
      · subst e; rw [upd_same]; rw [if_pos rfl] at hx; omega
      · rw [upd_other _ _ _ _ (fun q => e q.symm)]; rw [if_neg e] at hx; omega
    · intro b' bl
      obtain ⟨k, kn, kd, kp⟩ := I.down b' bl
      exact Or.inr ⟨k, kn, fun q => (by rw [q, he] at kd; cases kd), kd, kp⟩

theorem excl_of_one {s : State α} (I : Inv s) {h c : Nat} (hn : h < s.n) (hc : (s.hs h).cnt = some c) (one : s.cval c = 1) :
    ∀ k, k ≠ h → k < s.n → (s.hs k).d ≠ (s.hs h).d := by
  intro k ne kn q
  obtain ⟨b, h2, h3, _⟩ := owner_of_cnt I hn hc
  have kc := same_d_same_cnt I hn kn h2 (by rw [q, h2])
  exact ne (sole_of_one I hn kn hc (by rw [kc, hc]) h3 one)

theorem setSize_inv {s : State α} (I : Inv s) {h c sz : Nat} (hn : h < s.n) (hc : (s.hs h).cnt = some c)
    (one : s.cval c = 1) (hsz : sz ≤ (s.hs h).psz) :
    Inv (setH s h { (s.hs h) with size := sz }) := by
  obtain ⟨b, h2, h3, h4, _, h6⟩ := owner_of_cnt I hn hc
  have hp := cnt_some_psz I hn hc
  refine inv_replace I hn rfl rfl I.nofault ⟨fun x => absurd x hp, fun _ => ⟨c, b, hc, h2, h3, h4, hsz, h6⟩⟩
    (fun k kn _ => I.wf k kn) ?_ ?_ ?_ I.cbound I.dbound
  · intro k kn ne _ kp
    refine ⟨(I.pair h k hn kn hp kp).1, fun q => absurd q.symm (excl_of_one I hn hc one k ne kn)⟩
  · intro x xl k hx
    rw [Nat.add_right_cancel hx]; exact I.rc x xl
  · intro b' bl
    obtain ⟨k, kn, kd, kp⟩ := I.down b' bl
    by_cases e : k = h
    · rw [e] at kd kp; exact Or.inl ⟨kd, kp⟩
    · exact Or.inr ⟨k, kn, e, kd, kp⟩

theorem setData_inv {s : State α} (I : Inv s) (b : Nat) (l : List α) (hl : l.length = (s.ddata b).length) :
    Inv ({ s with ddata := upd s.ddata b l } : State α) := by
  refine ⟨I.nofault, fun k kn => (I.wf k kn).transfer (fun _ b' _ _ h3 h4 => ⟨h3, h4, ?_⟩), I.pair, I.rc, I.down, I.cbound, I.dbound⟩
  show (upd s.ddata b l b').length = _
  by_cases e : b' = b
  · rw [e, upd_same, hl]
  · rw [upd_other _ _ _ _ e]

end Givaro.Model.Array0
