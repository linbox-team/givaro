/-
C10 — helper lemmas for Props/C10State.lean: threading the mode through a history of calls; the result of a call as a `Val`.
-/
import GivaroModel.Model.RationalState
import GivaroModel.Lemmas.RationalValue
namespace Givaro.Lemmas.Rational
open Givaro Givaro.Model.Rational

theorem lastSet_cons (m : Bool) (op : Op) (ops : List Op) (c : Int → Int → Int) :
    lastSet m (op :: ops) = lastSet (step c m op).1 ops := by
  cases op <;> rfl

/-- the mode a call leaves behind is a function of the call alone -/
theorem step_mode (c : Int → Int → Int) (m : Bool) (op : Op) : (step c m op).1 = lastSet m [op] :=
  (lastSet_cons m op [] c).symm

theorem lastSet_of_no_set (m : Bool) (ops : List Op) (h : ∀ op ∈ ops, op.isSet = false) : lastSet m ops = m := by
  induction ops with
  | nil => rfl
  | cons op ops ih =>
    have h1 := h op (List.mem_cons_self ..)
    have := ih fun o ho => h o (List.mem_cons_of_mem _ ho)
    cases op <;> first | exact this | cases h1

theorem runOps_append (c : Int → Int → Int) (m : Bool) (xs ys : List Op) :
    runOps c m (xs ++ ys) = ((runOps c (runOps c m xs).1 ys).1, (runOps c m xs).2 ++ (runOps c (runOps c m xs).1 ys).2) := by
  induction xs generalizing m with
  | nil => simp [runOps]
  | cons x xs ih =>
    simp only [List.cons_append, runOps]
    rw [ih]

theorem qv_exact {f : Option QRep} {k : Bool} {q : ℚ} (h : ∃ r, f = some r ∧ Valid k r ∧ val r = q) :
    ∃ r, qv f = .q r ∧ Valid k r ∧ val r = q := by
  obtain ⟨r, rfl, h⟩ := h
  exact ⟨r, rfl, h⟩

end Givaro.Lemmas.Rational
