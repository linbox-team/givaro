/-
C08 — univariate polynomial arithmetic satisfies its defining identities everywhere.

The theorems are over an arbitrary field `K` with decidable equality and quantify over all coefficient lists
(every degree, every shape, normalised or not); the two counterexamples are over `ℚ`, the `padic_*` theorems over digit
lists in `ℕ`.  `toPoly l = Σ lᵢ Xⁱ` is the polynomial a stored vector denotes.
Theorems about `Givaro.Model.Poly.*` speak about the model of the code (as repaired by fixes/C08_1, _2, _3, _4, _6, _7: `Model/Poly.lean` says where); the certificate
theorems justify the checks the driver applies to the implementation's output for division, gcd and inverse.
-/
import GivaroModel.Lemmas.PolyLemmas
import GivaroModel.Lemmas.PolyKara
import GivaroModel.Lemmas.PolyMisc
import GivaroModel.Lemmas.PolyDiv
import GivaroModel.Lemmas.PolyEuclid
import GivaroModel.Lemmas.PolyMid
import GivaroModel.Lemmas.PolyMidKara
import GivaroModel.Lemmas.PadicLemmas
import GivaroModel.Lemmas.PolyInterp
import GivaroModel.Lemmas.PolyMore
import GivaroModel.Lemmas.PolyCRT

open Polynomial
set_option linter.unusedSectionVars false

namespace Givaro.Props.C08
open Givaro.Model.Poly Givaro.Lemmas.Poly Givaro.Spec.Poly

variable {K : Type} [Field K] [DecidableEq K]

/-! ### normalisation -/

theorem setdegree_normal (P : List K) : Normal (setdegree P) ∧ toPoly (setdegree P) = toPoly P :=
  ⟨Givaro.Lemmas.Poly.setdegree_normal P, toPoly_setdegree P⟩

/-- the zero polynomial is recognised whatever its storage: `isZero` answers for the denoted polynomial -/
theorem isZero_correct (P : List K) : isZero P = true ↔ toPoly P = 0 := isZero_iff P

/-- observers see the normal form: `areEqual` decides equality of the denoted polynomials, for every storage -/
theorem observers_see_normal_form (P Q : List K) : areEqual P Q = true ↔ toPoly P = toPoly Q := by
  unfold areEqual
  rw [decide_eq_true_eq]
  exact setdegree_eq_iff P Q

theorem degree_well_defined (P Q : List K) (h : toPoly P = toPoly Q) : Model.Poly.degree P = Model.Poly.degree Q := by
  unfold Model.Poly.degree
  rw [(setdegree_eq_iff P Q).mpr h]

/-! ### addition, subtraction, scalar forms: coefficient-exact for all inputs -/

theorem add_sub_exact (P Q : List K) :
    toPoly (add P Q) = toPoly P + toPoly Q ∧ toPoly (sub P Q) = toPoly P - toPoly Q ∧
    toPoly (neg P) = - toPoly P ∧
    toPoly (addin P Q) = toPoly P + toPoly Q ∧ toPoly (subin P Q) = toPoly P - toPoly Q :=
  ⟨toPoly_add P Q, toPoly_sub P Q, toPoly_neg P, toPoly_addin P Q, toPoly_subin P Q⟩

theorem scalar_ops_exact (P : List K) (v : K) :
    toPoly (addVal P v) = toPoly P + C v ∧ toPoly (valAdd v P) = C v + toPoly P ∧
    toPoly (subVal P v) = toPoly P - C v ∧ toPoly (valSub v P) = C v - toPoly P ∧
    toPoly (addinVal P v) = toPoly P + C v ∧ toPoly (subinVal P v) = toPoly P - C v ∧
    toPoly (mulVal P v) = toPoly P * C v ∧ toPoly (divVal P v) = toPoly P * C v⁻¹ :=
  ⟨toPoly_addVal P v, toPoly_valAdd v P, toPoly_subVal P v, toPoly_valSub v P,
   toPoly_addinVal P v, toPoly_subinVal P v, toPoly_mulVal P v, toPoly_divVal P v⟩

/-- known defect of the unchanged tree (repaired by fixes/C08_1): `sub(R, Val, P)` is not `Val - P` -/
theorem valSub_unrepaired_counterexample :
    ¬ ∀ (v : ℚ) (P : List ℚ), toPoly (valSub_unrepaired v P) = C v - toPoly P := by
  intro h
  have := h 1 []
  simp [valSub_unrepaired] at this
  have h2 := congrArg (fun p => p.coeff 0) this
  simp at h2
  norm_num at h2

/-! ### evaluation and derivative agree with their definitions -/

theorem eval_exact (P : List K) (v : K) : Model.Poly.eval P v = (toPoly P).eval v := eval_eq P v

theorem diff_exact (P : List K) : toPoly (diff P) = derivative (toPoly P) := toPoly_diff P

/-! ### results of the operations that end in `setdegree` are normalised -/

theorem results_normal (thr : Nat) (P Q : List K) (u : K) :
    Normal (mul thr P Q) ∧ Normal (stdmul P Q) ∧ Normal (karamul thr P Q) ∧ Normal (divVal P u) ∧
    Normal (reverse P) ∧ Normal (modpowx P thr) ∧ Normal (powerCompose P thr) := by
  have n0 : Normal ([] : List K) := by simp [Normal]
  have nite : ∀ (c : Prop) [Decidable c] (L : List K), Normal (if c then [] else setdegree L) := by
    intro c _ L; split
    · exact n0
    · exact Givaro.Lemmas.Poly.setdegree_normal L
  refine ⟨nite _ _, nite _ _, nite _ _, Givaro.Lemmas.Poly.setdegree_normal _, Givaro.Lemmas.Poly.setdegree_normal _,
          Givaro.Lemmas.Poly.setdegree_normal _, ?_⟩
  unfold powerCompose; split
  · exact n0
  · split
    · unfold assignC; split
      · exact n0
      · next hc => simp only [Normal, List.getLast?_singleton, ne_eq, Option.some.injEq]; exact hc
    · exact Givaro.Lemmas.Poly.setdegree_normal _

/-! ### products -/

/-- range form `stdmul(R,Rbeg,Rend,P,Pbeg,Pend,Q,Qbeg,Qend)`, every range length `n`, including
    truncation: the R range keeps its length and receives the coefficients `0 … n-1` of `P·Q`, i.e. `P·Q mod X^n` -/
theorem stdmul_exact (n : Nat) (P Q : List K) (hn : 0 < n) (hP : P ≠ []) :
    (stdmulR n P Q).length = n ∧ ∀ k, k < n → (stdmulR n P Q).getD k 0 = (toPoly P * toPoly Q).coeff k :=
  stdmulR_exact n P Q hn hP

example : ∃ (n : Nat) (P : List ℚ), 0 < n ∧ P ≠ [] := ⟨1, [1], by decide, by simp⟩

/-- the public `stdmul(R,P,Q)` is the exact product for all operands (empty, un-normalised, any degree) -/
theorem stdmul_public_exact (P Q : List K) : toPoly (stdmul P Q) = toPoly P * toPoly Q := toPoly_stdmul P Q

/-- the generic range product `mul(R,Rbeg,Rend,P,Pbeg,Pend,Q,Qbeg,Qend)` on every range shape, every recursion budget: an R
    range of any length `n` (truncated or over-long), any P and Q ranges.  It writes at most `n` coefficients and they are the
    coefficients `0 … n-1` of `P·Q`.  Hypothesis: `KARA_THRESHOLD ≥ 1` (with threshold 0 the C++ recursion does not
    terminate) — or, for threshold 0, a full-length range. -/
theorem mulR_exact (thr fuel n : Nat) (P Q : List K) (h : 1 ≤ thr ∨ P.length + Q.length ≤ n + 1) :
    (mulR thr fuel n P Q).length ≤ n ∧
    ∀ k, k < n → (mulR thr fuel n P Q).getD k 0 = (toPoly P * toPoly Q).coeff k :=
  mulR_spec thr fuel n P Q h

example : ∃ (thr n : Nat) (P Q : List ℚ), 1 ≤ thr ∨ P.length + Q.length ≤ n + 1 := ⟨50, 3, [1], [2], Or.inl (by decide)⟩

/-- one Karatsuba level on every range shape, given an exact multiplier for the three recursive calls -/
theorem karaStep_exact (thr : Nat) (mul : Nat → List K → List K → List K)
    (hmul : ∀ m A B, Adm thr m A B → MulSpec mul m A B) (n : Nat) (P Q : List K) (hadm : Adm thr n P Q)
    (hcase : 1 ≤ min (P.length / 2) (Q.length / 2) ∨ P.length + Q.length ≤ n + 1) :
    (karaStep mul n P Q).length = n ∧
    ∀ k, k < n → (karaStep mul n P Q).getD k 0 = (toPoly P * toPoly Q).coeff k :=
  Givaro.Lemmas.Poly.karaStep_exact thr mul hmul n P Q hadm hcase

example : ∃ (n : Nat) (P Q : List ℚ), Adm 50 n P Q ∧ (1 ≤ min (P.length / 2) (Q.length / 2) ∨ P.length + Q.length ≤ n + 1) :=
  ⟨3, [1, 2], [3, 4], Or.inl (by decide), Or.inl (by decide)⟩

/-- the generic `mul(R,P,Q)` is the exact product — every threshold, every fuel the model uses, every operand
    (empty, un-normalised, any degree, balanced or not) -/
theorem mul_exact (thr : Nat) (P Q : List K) : toPoly (mul thr P Q) = toPoly P * toPoly Q := toPoly_mul thr P Q

/-- forcing the first Karatsuba level gives the same polynomial as the schoolbook
    product, for every threshold and all operands (including operands of one coefficient, where `half = 0`) -/
theorem karamul_full_eq_stdmul (thr : Nat) (P Q : List K) : toPoly (karamul thr P Q) = toPoly (stdmul P Q) := by
  rw [toPoly_karamul, toPoly_stdmul]

theorem karamul_exact (thr : Nat) (P Q : List K) : toPoly (karamul thr P Q) = toPoly P * toPoly Q :=
  toPoly_karamul thr P Q

/-- the dedicated squaring `sqr(R,P)` (`stdsqr`, `sqrrec`, the `SQR_THRESHOLD` dispatch, every recursion budget) is the exact
    square, for every operand.  Hypothesis: the threshold is at least 1 (with 0 the C++ forms an iterator before `Rbeg`). -/
theorem sqr_exact (thr : Nat) (hthr : 1 ≤ thr) (P : List K) : toPoly (sqr thr P) = toPoly P * toPoly P :=
  toPoly_sqr thr hthr P

example : ∃ thr : Nat, 1 ≤ thr := ⟨50, by decide⟩

theorem stdsqr_exact (P : List K) : toPoly (stdsqr (1 + 1) P) = toPoly P * toPoly P := toPoly_stdsqr P

/-- the truncated product `mul(R,P,Q,Val,deg)` holds exactly the coefficients `Val … deg` of `P·Q` (and nothing else):
    every operand, every window (also empty and beyond the degree of the product) -/
theorem multr_exact (P Q : List K) (val deg i : Nat) :
    (toPoly (mulWindow P Q val deg)).coeff i
      = if i + val ≤ deg then (toPoly P * toPoly Q).coeff (i + val) else 0 :=
  coeff_mulWindow P Q val deg i

/-- `stdmidmul` on ranges: for every R range length, every `P` range and every non-empty `Q` range the entry `i` is the
    coefficient `i + |Q| - 1` of `P·Q` — the middle product -/
theorem stdmidmul_exact (r : Nat) (P Q : List K) (hr : 0 < r) (hQ : Q ≠ []) :
    (stdmidmulR r P Q).length = r ∧
    ∀ i, i < r → (stdmidmulR r P Q).getD i 0 = (toPoly P * toPoly Q).coeff (i + Q.length - 1) :=
  stdmidmulR_exact r P Q hr hQ

example : ∃ (r : Nat) (Q : List ℚ), 0 < r ∧ Q ≠ [] := ⟨1, [1], by decide, by simp⟩

/-- the public `stdmidmul(R,P,Q)` holds exactly the coefficients `|Q|-1 … |P|-1` of `P·Q` -/
theorem stdmidmul_public_exact (P Q : List K) (hQ : Q ≠ []) (i : Nat) :
    (toPoly (stdmidmul P Q)).coeff i
      = if i < P.length - Q.length + 1 then (toPoly P * toPoly Q).coeff (i + Q.length - 1) else 0 :=
  coeff_of_stdmid P Q hQ i

/-- the operands on which the generic `midmul` selects the schoolbook middle product (`min(m,n) <= KARA_THRESHOLD`,
    `m = |P|-|Q|+1`, `n = |Q|`, or `|P| < |Q|`) -/
theorem midmul_small_exact (thr : Nat) (P Q : List K) (hQ : Q ≠ [])
    (h : P.length + 1 ≤ Q.length ∨ min (P.length + 1 - Q.length) Q.length ≤ thr) (i : Nat) :
    (toPoly (midmul thr P Q)).coeff i
      = if i < P.length - Q.length + 1 then (toPoly P * toPoly Q).coeff (i + Q.length - 1) else 0 := by
  unfold midmul
  split
  · next he =>
    have hp : P = [] := by
      rcases he with he | he
      · simpa using he
      · exact absurd (by simpa using he) hQ
    subst hp
    simp
  · rw [midR_of_small thr _ _ P Q h]
    exact coeff_of_stdmid P Q hQ i

example : ∃ (thr : Nat) (P Q : List ℚ), Q ≠ [] ∧
    (P.length + 1 ≤ Q.length ∨ min (P.length + 1 - Q.length) Q.length ≤ thr) :=
  ⟨50, [1, 2, 3], [1, 2], by simp, Or.inr (by decide)⟩

/-- one level of `karamidmul(R,Rbeg,Rend,P,Pbeg,Pend,Q,Qbeg,Qend)` on a balanced shape (`|P| = 2|Q|-1`, R range of `|Q|`
    places), given recursive calls that are exact on well-formed shapes: the R range keeps its length and entry `i` is the
    coefficient `i + |Q| - 1` of `P·Q` -/
theorem karamidStep_exact (mid : Nat → List K → List K → List K) (hmid : MidOK mid) (P Q : List K) (hQ : Q ≠ [])
    (hP : P.length + 1 = 2 * Q.length) :
    (karamidStep mid Q.length P Q).length = Q.length ∧
    ∀ i, i < Q.length → (karamidStep mid Q.length P Q).getD i 0 = (toPoly P * toPoly Q).coeff (i + Q.length - 1) := by
  obtain ⟨h1, h2⟩ := Givaro.Lemmas.Poly.karamidStep_exact mid hmid P Q hQ hP
  exact ⟨h1, fun i hi => by rw [h2 i hi, cs_eq_coeff]⟩

example : ∃ (mid : Nat → List ℚ → List ℚ → List ℚ) (P Q : List ℚ), MidOK mid ∧ Q ≠ [] ∧ P.length + 1 = 2 * Q.length :=
  ⟨midR 50 0, [1, 2, 3], [1, 2], midR_spec 50 0, by simp, by simp⟩

/-- the generic `midmul(R,Rbeg,Rend,P,Pbeg,Pend,Q,Qbeg,Qend)` (all four branches of its dispatch) on every well-formed range
    shape (`|R| = |P| - |Q| + 1`, `1 <= |Q| <= |P|`, balanced or not), every threshold (0 included) and every recursion budget:
    entry `i` of the R range is the coefficient `i + |Q| - 1` of `P·Q` -/
theorem midR_exact (thr fuel : Nat) (P Q : List K) (hQ : Q ≠ []) (hPQ : Q.length ≤ P.length) (i : Nat)
    (hi : i < P.length + 1 - Q.length) :
    (midR thr fuel (P.length + 1 - Q.length) P Q).getD i 0 = (toPoly P * toPoly Q).coeff (i + Q.length - 1) := by
  rw [midR_spec thr fuel P Q hQ hPQ i hi, cs_eq_coeff]

example : ∃ (P Q : List ℚ) (i : Nat), Q ≠ [] ∧ Q.length ≤ P.length ∧ i < P.length + 1 - Q.length :=
  ⟨[1, 2, 3], [1, 2], 0, by simp, by simp, by simp⟩

/-- the public `midmul(R,P,Q)` holds exactly the coefficients `|Q|-1 … |P|-1` of `P·Q`, for every threshold, every `P` and every
    non-empty `Q` (balanced or not, below and above the threshold, any storage) -/
theorem midmul_exact (thr : Nat) (P Q : List K) (hQ : Q ≠ []) (i : Nat) :
    (toPoly (midmul thr P Q)).coeff i
      = if i < P.length - Q.length + 1 then (toPoly P * toPoly Q).coeff (i + Q.length - 1) else 0 := by
  by_cases h : P.length + 1 ≤ Q.length
  · exact midmul_small_exact thr P Q hQ (Or.inl h) i
  · have hn : 0 < Q.length := List.length_pos_iff.mpr hQ
    have hP : P ≠ [] := by intro e; subst e; exact h (by show 0 + 1 ≤ Q.length; omega)
    unfold midmul
    rw [if_neg (by simp [hP, hQ])]
    have e : P.length - Q.length + 1 = P.length + 1 - Q.length := by omega
    rw [e, toPoly_setdegree, coeff_toPoly, getD_pad]
    split
    · next hi => rw [midR_spec thr _ P Q hQ (by omega) i hi, cs_eq_coeff]
    · rfl

example : ∃ Q : List ℚ, Q ≠ [] := ⟨[1], by simp⟩

/-- the public `karamidmul(R,P,Q)` (first Karatsuba level forced, documented precondition `|P| = 2|Q|-1`): exactly the
    coefficients `|Q|-1 … 2|Q|-2` of `P·Q`, for every threshold -/
theorem karamidmul_exact (thr : Nat) (P Q : List K) (hQ : Q ≠ []) (hP : P.length + 1 = 2 * Q.length) (i : Nat) :
    (toPoly (karamidmul thr P Q)).coeff i
      = if i < Q.length then (toPoly P * toPoly Q).coeff (i + Q.length - 1) else 0 := by
  have hn : 0 < Q.length := List.length_pos_iff.mpr hQ
  unfold karamidmul
  have e : P.length - Q.length + 1 = Q.length := by omega
  rw [e, toPoly_setdegree, coeff_toPoly, getD_pad]
  split
  · next hi => rw [(Givaro.Lemmas.Poly.karamidStep_exact _ (midR_spec thr _) P Q hQ hP).2 i hi, cs_eq_coeff]
  · rfl

example : ∃ (P Q : List ℚ), Q ≠ [] ∧ P.length + 1 = 2 * Q.length := ⟨[1, 2, 3], [1, 2], by simp, by simp⟩

/-- the fused forms are exact (they are compositions of `mul`, `addin`, `subin`, `sub`, `neg`) -/
theorem fused_exact (thr : Nat) (R A X' Y : List K) (c : K) :
    toPoly (axpy thr A X' Y) = toPoly A * toPoly X' + toPoly Y ∧
    toPoly (axmy thr A X' Y) = toPoly A * toPoly X' - toPoly Y ∧
    toPoly (maxpy thr A X' Y) = toPoly Y - toPoly A * toPoly X' ∧
    toPoly (axpyin thr R A X') = toPoly R + toPoly A * toPoly X' ∧
    toPoly (maxpyin thr R A X') = toPoly R - toPoly A * toPoly X' ∧
    toPoly (axmyin thr R A X') = toPoly A * toPoly X' - toPoly R ∧
    toPoly (axmyVal c X' Y) = C c * toPoly X' - toPoly Y ∧
    toPoly (maxpyinVal R c X') = toPoly R - C c * toPoly X' ∧
    toPoly (axmyinVal R c X') = C c * toPoly X' - toPoly R ∧
    toPoly (mulin thr A X') = toPoly A * toPoly X' := by
  refine ⟨?_, ?_, ?_, ?_, ?_, ?_, ?_, ?_, ?_, ?_⟩
  · unfold axpy; rw [toPoly_addin, toPoly_mul]
  · unfold axmy; rw [toPoly_subin, toPoly_mul]
  · unfold maxpy; rw [toPoly_sub, toPoly_mul]
  · unfold axpyin axpy; rw [toPoly_addin, toPoly_mul, toPoly_assign]; ring
  · unfold maxpyin; rw [toPoly_subin, toPoly_mul]
  · unfold axmyin negin maxpyin; rw [toPoly_neg, toPoly_subin, toPoly_mul]; ring
  · unfold axmyVal; rw [toPoly_subin, toPoly_mulVal]; ring
  · unfold maxpyinVal; rw [toPoly_subin, toPoly_mulVal]; ring
  · unfold axmyinVal negin maxpyinVal; rw [toPoly_neg, toPoly_subin, toPoly_mulVal]; ring
  · exact toPoly_mulin thr A X'

/-- `divmod(Q,R,A,B) = div(Q,A,B); maxpy(R,Q,B,A)`: whatever quotient `div` produced, the remainder the implementation
    returns satisfies `A = B·Q + R` exactly (the degree bound is the part that depends on `div`) -/
theorem divmod_identity (thr : Nat) (A B Qd : List K) :
    toPoly A = toPoly B * toPoly Qd + toPoly (maxpy thr Qd B A) := by
  unfold maxpy; rw [toPoly_sub, toPoly_mul]; ring

/-! ### division by the implementation's own algorithm -/

/-- `invmodpowx(G,A,l)` returns `G` with `G·A ≡ 1 (mod X^l)`, for every `l`, every `A` whose constant coefficient is invertible,
    every threshold ≥ 1 (the truncated generic product inside needs it, see `mulR_exact`) -/
theorem newton_inv_exact (thr : Nat) (hthr : 1 ≤ thr) (A : List K) (l : Nat) (h0 : A.getD 0 0 ≠ 0) :
    X ^ l ∣ toPoly (invmodpowx thr A l) * toPoly A - 1 :=
  invmodpowx_spec thr hthr A l h0

example : ∃ (thr : Nat) (A : List ℚ), 1 ≤ thr ∧ A.getD 0 0 ≠ 0 := ⟨50, [1], by decide, by simp⟩

/-- `div(Q,A,B)` returns the Euclidean quotient: every `A`, every non-zero `B` (any storage), every threshold ≥ 1 -/
theorem div_exact (thr : Nat) (hthr : 1 ≤ thr) (A B : List K) (hb : toPoly B ≠ 0) :
    toPoly (Model.Poly.div thr A B) = toPoly A / toPoly B :=
  toPoly_div thr hthr A B hb

/-- `divmod(Q,R,A,B)` returns the quotient and the remainder: `A = B·Q + R` and `deg R < deg B` -/
theorem divmod_exact (thr : Nat) (hthr : 1 ≤ thr) (A B : List K) (hb : toPoly B ≠ 0) :
    toPoly (Model.Poly.divmod thr A B).1 = toPoly A / toPoly B ∧
    toPoly (Model.Poly.divmod thr A B).2 = toPoly A % toPoly B ∧
    toPoly A = toPoly B * toPoly (Model.Poly.divmod thr A B).1 + toPoly (Model.Poly.divmod thr A B).2 ∧
    (toPoly (Model.Poly.divmod thr A B).2).degree < (toPoly B).degree := by
  obtain ⟨h1, h2⟩ := toPoly_divmod thr hthr A B hb
  refine ⟨h1, h2, ?_, ?_⟩
  · rw [h1, h2]; exact (EuclideanDomain.div_add_mod _ _).symm
  · rw [h2]; exact degree_mod_lt _ hb

theorem mod_exact (thr : Nat) (hthr : 1 ≤ thr) (A B : List K) (hb : toPoly B ≠ 0) :
    toPoly (Model.Poly.mod thr A B) = toPoly A % toPoly B :=
  toPoly_mod thr hthr A B hb

example : ∃ (thr : Nat) (B : List ℚ), 1 ≤ thr ∧ toPoly B ≠ 0 := ⟨50, [1], by decide, by simp⟩

/-- `modin(A,B)`, the in-place long division on reverse iterators, leaves `A mod B` in `A`: every `A`, every non-zero `B`, any
    storage of both -/
theorem modin_exact (A B : List K) (hb : toPoly B ≠ 0) : toPoly (modin A B) = toPoly A % toPoly B :=
  toPoly_modin A B hb

/-- `powmod(W,P,n,U)` is `P^n mod U` for every exponent `n ≥ 0` of any size, every `P`, every non-zero `U` -/
theorem powmod_exact (thr : Nat) (hthr : 1 ≤ thr) (P : List K) (n : Nat) (U : List K) (hu : toPoly U ≠ 0) :
    toPoly (Model.Poly.powmod thr P n U) = (toPoly P ^ n) % toPoly U :=
  toPoly_powmod thr hthr P n U hu

/-- pseudo-division `pdivmod(Q,R,m,A,B)`: for every `A` and every non-zero `B`, `m·A = Q·B + R`, `deg R < deg B` and `m ≠ 0`
    (`m = lc(B)^(deg A - deg B + 1)` in the main branch: `pdivmodLoop_spec`) -/
theorem pdivmod_exact (A B : List K) (hb : toPoly B ≠ 0) :
    C (pdivmod A B).2.2 * toPoly A = toPoly (pdivmod A B).1 * toPoly B + toPoly (pdivmod A B).2.1 ∧
    (toPoly (pdivmod A B).2.1).degree < (toPoly B).degree ∧ (pdivmod A B).2.2 ≠ 0 :=
  pdivmod_spec A B hb

/-- `pmod(R,m,A,B)`: `m·A ≡ R (mod B)`, `deg R < deg B`, `m ≠ 0`, for every `A` and every non-zero `B` -/
theorem pmod_exact (A B : List K) (hb : toPoly B ≠ 0) :
    toPoly B ∣ C (pmod A B).2 * toPoly A - toPoly (pmod A B).1 ∧
    (toPoly (pmod A B).1).degree < (toPoly B).degree ∧ (pmod A B).2 ≠ 0 :=
  pmod_spec A B hb

/-! ### extended gcd, gcd, modular inverses, lcm, pow -/

/-- `gcd(F,S0,T0,A,B)` run with any function in place of `div`.  Whenever the loop finishes (`some`), the result divides both
    operands and the cofactors satisfy the Bezout identity, so `F` is a greatest common divisor of `A` and `B`.
    Not covered here: that the loop does finish, which needs `deg (F - div(F,G)·G) < deg G`; for the implementation's own
    `div` this is `gcdext_exact`. -/
theorem gcdext_loop_sound (thr : Nat) (divf : List K → List K → List K) (fuel : Nat) (A B F' S' T' : List K)
    (h : gcdext thr divf fuel A B = some (F', S', T')) :
    toPoly S' * toPoly A + toPoly T' * toPoly B = toPoly F' ∧ toPoly F' ∣ toPoly A ∧ toPoly F' ∣ toPoly B ∧
    ∀ E : K[X], E ∣ toPoly A → E ∣ toPoly B → E ∣ toPoly F' :=
  gcdext_sound thr divf fuel A B F' S' T' h

example : ∃ (A B F' S' T' : List ℚ), gcdext 50 (fun _ _ => []) 5 A B = some (F', S', T') :=
  ⟨[], [1], _, _, _, rfl⟩

/-- `gcd(F,S0,T0,A,B)` with the implementation's own `div`.  For every `A`, `B` (zero,
    constant, any storage) and every threshold ≥ 1 the loop finishes within `size(B)+1` rounds, and the result divides both
    operands, satisfies the Bezout identity `S0·A + T0·B = F`, and is divisible by every common divisor. -/
theorem gcdext_exact (thr : Nat) (hthr : 1 ≤ thr) (fuel : Nat) (A B : List K) (hf : B.length + 1 ≤ fuel) :
    ∃ F' S' T', gcdext thr (Model.Poly.div thr) fuel A B = some (F', S', T') ∧
      toPoly S' * toPoly A + toPoly T' * toPoly B = toPoly F' ∧ toPoly F' ∣ toPoly A ∧ toPoly F' ∣ toPoly B ∧
      ∀ E : K[X], E ∣ toPoly A → E ∣ toPoly B → E ∣ toPoly F' :=
  gcdext_total thr hthr fuel A B hf

example : ∃ (thr fuel : Nat) (B : List ℚ), 1 ≤ thr ∧ B.length + 1 ≤ fuel := ⟨50, 2, [1], by decide, by decide⟩

/-- plain `gcd(G,P,Q)`: it finishes within `size(P)+size(Q)+1` rounds and the result divides `P` and `Q` and is divisible by
    every common divisor — all operands (zero, constant, any storage), threshold ≥ 1 -/
theorem gcd_exact (thr : Nat) (hthr : 1 ≤ thr) (fuel : Nat) (P Q : List K) (hf : P.length + Q.length + 1 ≤ fuel) :
    ∃ D, Model.Poly.gcd thr fuel P Q = some D ∧ toPoly D ∣ toPoly P ∧ toPoly D ∣ toPoly Q ∧
      ∀ E : K[X], E ∣ toPoly P → E ∣ toPoly Q → E ∣ toPoly D :=
  gcd_spec thr hthr fuel P Q hf

example : ∃ (thr fuel : Nat) (P Q : List ℚ), 1 ≤ thr ∧ P.length + Q.length + 1 ≤ fuel :=
  ⟨50, 3, [1], [2], by decide, by decide⟩

/-- `invmod(S0,A,B)`: for every non-zero modulus `B` and every `A` coprime to it the loop finishes within `size(B)+1` rounds
    and the result `U` satisfies `U·A ≡ 1 (mod B)` -/
theorem invmod_exact (thr : Nat) (hthr : 1 ≤ thr) (fuel : Nat) (A B : List K) (hf : B.length + 1 ≤ fuel)
    (hb : toPoly B ≠ 0) (hcop : ∀ E : K[X], E ∣ toPoly A → E ∣ toPoly B → E ∣ 1) :
    ∃ U, Model.Poly.invmod thr fuel A B = some U ∧ toPoly B ∣ toPoly U * toPoly A - 1 :=
  invmod_spec thr hthr fuel A B hf hb hcop

example : ∃ (A B : List ℚ), toPoly B ≠ 0 ∧ ∀ E : ℚ[X], E ∣ toPoly A → E ∣ toPoly B → E ∣ 1 :=
  ⟨[1], [1], by simp, fun E h _ => by simpa using h⟩

/-- `lcm(F,A,B)`: it finishes within `size(A)+size(B)+1` rounds and returns a least common multiple — `A ∣ L`, `B ∣ L`, and `L`
    divides every common multiple (for a zero operand `L = 0`).  All operands, threshold ≥ 1. -/
theorem lcm_exact (thr : Nat) (hthr : 1 ≤ thr) (fuel : Nat) (A B : List K) (hf : A.length + B.length + 1 ≤ fuel) :
    ∃ L, Model.Poly.lcm thr fuel A B = some L ∧ toPoly A ∣ toPoly L ∧ toPoly B ∣ toPoly L ∧
      ∀ M : K[X], toPoly A ∣ M → toPoly B ∣ M → toPoly L ∣ M :=
  lcm_spec thr hthr fuel A B hf

example : ∃ (thr fuel : Nat) (A B : List ℚ), 1 ≤ thr ∧ A.length + B.length + 1 ≤ fuel :=
  ⟨50, 3, [1], [2], by decide, by decide⟩

/-- `invmodunit(S0,A,B)`: for a non-zero modulus and
    coprime operands it finishes within `size(B)+1` rounds and `U·A ≡ e (mod B)` with `e` a non-zero constant -/
theorem invmodunit_exact (thr : Nat) (hthr : 1 ≤ thr) (fuel : Nat) (A B : List K) (hf : B.length + 1 ≤ fuel)
    (hb : toPoly B ≠ 0) (hcop : ∀ E : K[X], E ∣ toPoly A → E ∣ toPoly B → E ∣ 1) :
    ∃ (Us : List K) (e : K), Model.Poly.invmodunit thr fuel A B = some Us ∧ e ≠ 0 ∧
      toPoly B ∣ toPoly Us * toPoly A - C e :=
  invmodunit_spec thr hthr fuel A B hf hb hcop

/-- `pow(W,P,n)` is `P^n`: every `n`, every threshold -/
theorem pow_exact (thr : Nat) (P : List K) (n : Nat) : toPoly (Model.Poly.pow thr P n) = toPoly P ^ n :=
  toPoly_pow thr P n

/-! ### reversal and composition with X^b -/

/-- `reverse` / `reversein` reflect the denoted polynomial with respect to the stored size (`X^(size-1)·P(1/X)`) -/
theorem reverse_exact (Q : List K) : toPoly (Model.Poly.reverse Q) = (toPoly Q).reflect (Q.length - 1) :=
  toPoly_reverse Q

theorem reverse_exact_normal (Q : List K) (hn : Normal Q) : toPoly (Model.Poly.reverse Q) = (toPoly Q).reverse :=
  toPoly_reverse_of_normal Q hn

example : ∃ Q : List ℚ, Normal Q := ⟨[1, 2], by simp [Normal]⟩

/-- `power_compose(W,P,b)` is `P(X^b)` for every `b ≥ 0` and every storage of `P`; for `b = 0` this is the constant `P(1)` -/
theorem compose_exact (P : List K) (b : Nat) : toPoly (powerCompose P b) = (toPoly P).comp (X ^ b) :=
  toPoly_powerCompose P b

theorem compose_zero_exact (P : List K) : toPoly (powerCompose P 0) = C ((toPoly P).eval 1) := by
  rw [toPoly_powerCompose, pow_zero, ← C_1, comp_C]

/-- known defect of the tree before fixes/C08_6: `power_compose(W,P,0)` is not `P(1)` -/
theorem compose_zero_unrepaired_counterexample :
    ¬ ∀ P : List ℚ, toPoly (powerCompose0_unrepaired P) = (toPoly P).comp (X ^ 0) := by
  intro h
  have h1 := h [1, 2, 3]
  have e : powerCompose0_unrepaired ([1, 2, 3] : List ℚ) = [2] := by
    simp [powerCompose0_unrepaired, setdegree]
  rw [e] at h1
  have h2 := congrArg (fun p => p.eval 0) h1
  simp at h2
  norm_num at h2

/-! ### certificates: what the driver checks on the implementation's output determines what the property asks -/

/-- division: any `(Q, R)` with `A = B Q + R`, `deg R < deg B` is the quotient and remainder -/
theorem divmod_unique (A B Q R : K[X]) (hB : B ≠ 0) (h : A = B * Q + R) (hd : R.degree < B.degree) :
    Q = A / B ∧ R = A % B := by
  have hR : R = A % B := mod_unique A B R hB ⟨Q, by rw [h]; ring⟩ hd
  refine ⟨mul_left_cancel₀ hB ?_, hR⟩
  have := EuclideanDomain.div_add_mod A B
  rw [← hR] at this
  linear_combination (-1 : K[X]) * this - h

/-- extended gcd: divisibility and the Bezout identity make `D` a greatest common divisor -/
theorem gcd_certificate (P Q D U V : K[X]) (hP : D ∣ P) (hQ : D ∣ Q) (hB : D = P * U + Q * V) :
    ∀ E, E ∣ P → E ∣ Q → E ∣ D := by
  intro E hEP hEQ
  rw [hB]
  exact dvd_add (dvd_mul_of_dvd_left hEP U) (dvd_mul_of_dvd_left hEQ V)

/-- modular inverse: `Q ∣ U P - 1` is `U P ≡ 1 (mod Q)`, and then `P` is invertible modulo `Q` with inverse `U` only -/
theorem invmod_certificate (P Q U U' : K[X]) (h : Q ∣ U * P - 1) (h' : Q ∣ U' * P - 1) : Q ∣ U - U' := by
  have e : U - U' = U' * (U * P - 1) - U * (U' * P - 1) := by ring
  rw [e]
  exact dvd_sub (dvd_mul_of_dvd_right h U') (dvd_mul_of_dvd_right h' U)

/-- lcm: a common multiple `L` with `L G = P Q` for a gcd `G = P U + Q V` divides every common multiple -/
theorem lcm_certificate (P Q G U V L : K[X]) (hG : G = P * U + Q * V) (hL : L * G = P * Q) (hG0 : G ≠ 0) :
    ∀ M, P ∣ M → Q ∣ M → L ∣ M := by
  intro M ⟨a, ha⟩ ⟨b, hb⟩
  -- M G = M P U + M Q V = Q b P U + P a Q V = P Q (b U + a V) = L G (b U + a V)
  have : M * G = L * (b * U + a * V) * G := by
    calc M * G = M * (P * U) + M * (Q * V) := by rw [hG]; ring
      _ = (Q * b) * (P * U) + (P * a) * (Q * V) := by rw [← hb, ← ha]
      _ = (P * Q) * (b * U + a * V) := by ring
      _ = L * (b * U + a * V) * G := by rw [← hL]; ring
  exact ⟨b * U + a * V, mul_right_cancel₀ hG0 this⟩

/-! ### the reference arithmetic used by the driver is the arithmetic of `K[X]` -/

theorem ssub_exact (P Q : List K) : toPoly (ssub P Q) = toPoly P - toPoly Q := by
  unfold ssub
  rw [sadd_exact]
  have : toPoly (sneg Q) = - toPoly Q := toPoly_neg Q
  rw [this]; ring

theorem seval_exact (P : List K) (v : K) : seval P v = (toPoly P).eval v := by
  induction P with
  | nil => simp [seval]
  | cons a P ih =>
    simp only [seval, List.foldr_cons] at ih ⊢
    rw [ih]; simp

/-- soundness of the division check: accepted outputs satisfy `A = B Q + R` in `K[X]` -/
theorem chkDivmod_sound (A B Q R : List K) (h : chkDivmod A B Q R = true) :
    toPoly A = toPoly B * toPoly Q + toPoly R := by
  unfold chkDivmod at h
  rw [Bool.and_eq_true] at h
  have := (eqv_correct _ _).mp h.1
  rw [sadd_exact, smul_exact] at this
  exact this.symm

/-- soundness of the Bezout part of the gcd check -/
theorem chkBezout_sound (P Q D U V : List K) (h : eqv (sadd (smul P U) (smul Q V)) D = true) :
    toPoly D = toPoly P * toPoly U + toPoly Q * toPoly V := by
  have := (eqv_correct _ _).mp h
  rw [sadd_exact, smul_exact, smul_exact] at this
  exact this.symm

example : ∃ (A B Q R : ℚ[X]), B ≠ 0 ∧ A = B * Q + R ∧ R.degree < B.degree :=
  ⟨X, X, 1, 0, X_ne_zero, by ring, by simp⟩
example : ∃ (P Q D U V : ℚ[X]), D ∣ P ∧ D ∣ Q ∧ D = P * U + Q * V :=
  ⟨1, 1, 1, 1, 0, dvd_refl _, dvd_refl _, by ring⟩
example : ∃ (P Q U : ℚ[X]), Q ∣ U * P - 1 := ⟨1, X, 1, by simp⟩
example : ∃ (P Q G U V L : ℚ[X]), G = P * U + Q * V ∧ L * G = P * Q ∧ G ≠ 0 :=
  ⟨1, 1, 1, 1, 0, 1, by ring, by ring, one_ne_zero⟩

/-! ### observers on any storage, `setEntry`, `shiftin`, constructors, mixed scalar forms, `random` -/

/-- `isOne`, `isMOne`, `isUnit`, `areNEqual` answer for the denoted polynomial whatever the storage (leading zeros, `[0]`,
    `[]`): they normalise their `const` argument first -/
theorem observers_any_storage (P Q : List K) :
    (isOne P = true ↔ toPoly P = 1) ∧ (Givaro.Model.PolyMore.isMOne P = true ↔ toPoly P = -1) ∧
    (Givaro.Model.PolyMore.isUnit P = true ↔ IsUnit (toPoly P)) ∧
    (Givaro.Model.PolyMore.areNEqual P Q = true ↔ toPoly P ≠ toPoly Q) := by
  refine ⟨Givaro.Lemmas.PolyMore.isOne_correct P, Givaro.Lemmas.PolyMore.isMOne_correct P,
    Givaro.Lemmas.PolyMore.isUnit_correct P, ?_⟩
  unfold Givaro.Model.PolyMore.areNEqual
  rw [Bool.not_eq_true', decide_eq_false_iff_not, setdegree_eq_iff]

/-- the observers by value on any storage: `degree` (`deginfty = -1` exactly for the zero polynomial, else the degree of the
    denoted polynomial), `leadcoef`, `getEntry`; and `modpowx(R, P, l)` keeps exactly the coefficients below `l` -/
theorem observers_values (P : List K) (i l : Nat) :
    (toPoly P = 0 → Givaro.Model.Poly.degree P = -1) ∧
    (toPoly P ≠ 0 → Givaro.Model.Poly.degree P = ((toPoly P).natDegree : Int)) ∧
    leadcoef P = (toPoly P).leadingCoeff ∧ getEntry i P = (toPoly P).coeff i ∧
    (toPoly (modpowx P l)).coeff i = if i < l then (toPoly P).coeff i else 0 :=
  ⟨(Givaro.Lemmas.PolyMore.degree_value P).1, (Givaro.Lemmas.PolyMore.degree_value P).2, leadcoef_eq_leadingCoeff P,
   Givaro.Lemmas.PolyMore.getEntry_eq i P, Givaro.Lemmas.PolyMore.coeff_modpowx P l i⟩

/-- `isDivisor(P, Q)` decides `Q | P` for all operands (zero `Q` included: `0 | P` iff `P = 0`), any storage -/
theorem isDivisor_exact (thr : Nat) (hthr : 1 ≤ thr) (P Q : List K) :
    Givaro.Model.PolyMore.isDivisor thr P Q = true ↔ toPoly Q ∣ toPoly P :=
  Givaro.Lemmas.PolyMore.isDivisor_correct thr hthr P Q

example : ∃ thr : Nat, 1 ≤ thr := ⟨50, by decide⟩

/-- the in-place division forms `divin(Q, A)` and `divmodin(Q, R, B)` return the Euclidean quotient / remainder -/
theorem division_inplace_exact (thr : Nat) (hthr : 1 ≤ thr) (A B : List K) (hb : toPoly B ≠ 0) :
    toPoly (divin thr A B) = toPoly A / toPoly B ∧
    toPoly (divmodin thr A B).1 = toPoly A / toPoly B ∧ toPoly (divmodin thr A B).2 = toPoly A % toPoly B :=
  ⟨Givaro.Lemmas.PolyMore.toPoly_divin thr hthr A B hb, Givaro.Lemmas.PolyMore.toPoly_divmodin thr hthr A B hb⟩

example : ∃ (thr : Nat) (B : List ℚ), 1 ≤ thr ∧ toPoly B ≠ 0 := ⟨50, [1], by decide, by simp⟩

/-- `val(d, P)` is the valuation: `deginfty` exactly for the zero polynomial (stored as `[]`, `[0]`, `[0,0]`, …), else the
    index of the lowest non-zero coefficient -/
theorem val_exact (P : List K) :
    (Givaro.Model.PolyMore.val P = -1 ↔ toPoly P = 0) ∧
    (toPoly P ≠ 0 → ∃ k : Nat, Givaro.Model.PolyMore.val P = (k : Int) ∧ (toPoly P).coeff k ≠ 0 ∧
      ∀ j, j < k → (toPoly P).coeff j = 0) :=
  Givaro.Lemmas.PolyMore.val_spec P

/-- `setEntry(P, c, i)` (all four branches: nothing happens / degree is killed / element is killed / `resize`): the
    coefficient of degree `i` becomes `c`, every other coefficient of the denoted polynomial is kept — any storage, any `i` -/
theorem setEntry_exact (P : List K) (c : K) (i j : Nat) :
    (toPoly (Givaro.Model.PolyMore.setEntry P c i)).coeff j = if j = i then c else (toPoly P).coeff j :=
  Givaro.Lemmas.PolyMore.setEntry_coeff P c i j

/-- `shiftin(R, s)` multiplies by `X^s` (un-normalised input included) -/
theorem shiftin_exact (R : List K) (s : Nat) : toPoly (Givaro.Model.PolyMore.shiftin R s) = X ^ s * toPoly R :=
  Givaro.Lemmas.PolyMore.toPoly_shiftin R s

/-- constructors and assignments of givpoly1cstor.inl: `init(P)`, `init(P, v)`, `init(P, Degree d)`, `init(P, d, v)` /
    `assign(P, d, v)` (normalised also for `v = 0`), `assign(P, v)`, `assign(P, Q)` (normal form of `Q`), and the polynomial →
    scalar forms `assign(v, P)` / `convert(v, P)` (constant coefficient of the storage as it is) -/
theorem cstor_exact (d : Nat) (v : K) (Q : List K) :
    toPoly (Givaro.Model.PolyMore.init0 : List K) = 0 ∧ toPoly (Givaro.Model.PolyMore.initVal v) = C v ∧
    toPoly (Givaro.Model.PolyMore.initDeg d : List K) = X ^ d ∧
    toPoly (Givaro.Model.PolyMore.initDegVal d v) = C v * X ^ d ∧ Normal (Givaro.Model.PolyMore.initDegVal d v) ∧
    toPoly (Givaro.Model.PolyMore.assignVal v) = C v ∧
    toPoly (assign Q) = toPoly Q ∧ Normal (assign Q) ∧
    Givaro.Model.PolyMore.toScalar Q = (toPoly Q).coeff 0 := by
  refine ⟨rfl, by simp [Givaro.Model.PolyMore.initVal], Givaro.Lemmas.PolyMore.toPoly_initDeg d,
    Givaro.Lemmas.PolyMore.toPoly_initDegVal d v, Givaro.Lemmas.PolyMore.normal_initDegVal d v, ?_,
    toPoly_setdegree Q, Givaro.Lemmas.Poly.setdegree_normal Q, Givaro.Lemmas.PolyMore.toScalar_eq Q⟩
  unfold Givaro.Model.PolyMore.assignVal
  rw [Givaro.Lemmas.PolyMore.toPoly_initDegVal]; simp

/-- the scalar / polynomial mixed quotient and remainder: `div(R, u, P) = u / P`, `mod(R, u, P) = u mod P` for every
    non-zero `P` (any storage, constant or not), `mod(R, P, u) = modin(R, u) = P mod u` for every non-zero `u` -/
theorem scalar_poly_mixed_exact (u : K) (P : List K) :
    (toPoly P ≠ 0 → toPoly (Givaro.Model.PolyMore.valDiv u P) = C u / toPoly P) ∧
    (toPoly P ≠ 0 → toPoly (Givaro.Model.PolyMore.valMod u P) = C u % toPoly P) ∧
    (u ≠ 0 → toPoly (Givaro.Model.PolyMore.modVal P u) = toPoly P % C u) :=
  ⟨Givaro.Lemmas.PolyMore.toPoly_valDiv u P, Givaro.Lemmas.PolyMore.toPoly_valMod u P,
   Givaro.Lemmas.PolyMore.toPoly_modVal P u⟩

example : ∃ (u : ℚ) (P : List ℚ), toPoly P ≠ 0 ∧ u ≠ 0 := ⟨1, [1], by simp, one_ne_zero⟩

/-- `inv(R, P) = div(R, one, P)` (and `invin`): the Euclidean quotient `1 / P`, i.e. `1/c` for a non-zero constant `c` and
    `0` for `deg P >= 1` -/
theorem inv_exact (thr : Nat) (hthr : 1 ≤ thr) (P : List K) (hP : toPoly P ≠ 0) :
    toPoly (Givaro.Model.PolyMore.inv thr P) = 1 / toPoly P :=
  Givaro.Lemmas.PolyMore.toPoly_inv thr hthr P hP

example : ∃ (thr : Nat) (P : List ℚ), 1 ≤ thr ∧ toPoly P ≠ 0 := ⟨50, [1], by decide, by simp⟩

/-- `random(g, r, Degree d)` (and through it every `random` / `nonzerorandom` overload: `randomTarget`): whatever is drawn,
    provided the leading draw is non-zero as `nonzerorandom` of the field promises, the result has exactly `d+1` coefficients,
    is normalised and has degree `d`; `deginfty` gives the empty vector -/
theorem random_shape (d : Int) (lead : K) (draws : List K) (hl : lead ≠ 0) :
    (Givaro.Model.PolyMore.randomDeg d lead draws).length = (if d < 0 then 0 else d.toNat + 1) ∧
    Normal (Givaro.Model.PolyMore.randomDeg d lead draws) ∧
    Givaro.Model.Poly.degree (Givaro.Model.PolyMore.randomDeg d lead draws) = (if d < 0 then -1 else d) :=
  Givaro.Lemmas.PolyMore.randomDeg_shape d lead draws hl

example : ∃ lead : ℚ, lead ≠ 0 := ⟨1, one_ne_zero⟩

/-! ### interpolation (givinterp.h) -/

/-- `Interpolation<Domain>`: `operator()(x, f)` called for `(x_0,f_0), (x_1,f_1), …`, then `interpolator()`.  For every number of
    points and all pairwise distinct abscissae the result takes the value `f_i` at `x_i` for every `i`, and has degree below the
    number of points (the zero polynomial for no point). -/
theorem interp_exact (pts : List (K × K)) (hd : (pts.map Prod.fst).Nodup) :
    (∀ p ∈ pts, (toPoly (Givaro.Model.PolyInterp.interpolator pts)).eval p.1 = p.2) ∧
    (toPoly (Givaro.Model.PolyInterp.interpolator pts)).degree < (pts.length : WithBot ℕ) :=
  Givaro.Lemmas.PolyInterp.interpolator_spec pts hd

example : ∃ pts : List (ℚ × ℚ), (pts.map Prod.fst).Nodup := ⟨[(0, 1), (1, 2)], by simp⟩

/-- certificate used by the driver for the interpolation classes: values at the points and the degree bound determine the
    polynomial, so an output accepted by the check is the interpolant (hence equal to the model's) -/
theorem interp_unique (pts : List (K × K)) (hd : (pts.map Prod.fst).Nodup) (F G : K[X])
    (hF : ∀ p ∈ pts, F.eval p.1 = p.2) (hG : ∀ p ∈ pts, G.eval p.1 = p.2)
    (dF : F.degree < (pts.length : WithBot ℕ)) (dG : G.degree < (pts.length : WithBot ℕ)) : F = G :=
  Givaro.Lemmas.PolyInterp.interp_unique pts hd F G hF hG dF dG

example : ∃ (pts : List (ℚ × ℚ)) (F G : ℚ[X]), (pts.map Prod.fst).Nodup ∧ (∀ p ∈ pts, F.eval p.1 = p.2) ∧
    (∀ p ∈ pts, G.eval p.1 = p.2) ∧ F.degree < (pts.length : WithBot ℕ) ∧ G.degree < (pts.length : WithBot ℕ) :=
  ⟨[(0, 1)], 1, 1, by simp, by simp, by simp, by simp, by simp⟩

/-! ### the scalar fused forms -/

/-- the scalar fused forms `axpy(r, a, x, y)` and `axpyin(r, a, x)`: exact for all operands of any sizes -/
theorem fused_scalar_exact (c : K) (R X' Y : List K) :
    toPoly (axpyVal c X' Y) = C c * toPoly X' + toPoly Y ∧ toPoly (axpyinVal c R X') = toPoly R + C c * toPoly X' :=
  ⟨toPoly_axpyVal c X' Y, toPoly_axpyinVal c R X'⟩

/-! ### polynomial CRT (givpoly1crt.h) -/

/-- `Poly1CRT::RnsToRing`: for every number of pairwise distinct points and as many residues the result takes the residue
    `rns[i]` at `primes[i]` for every `i` and has degree below the number of points — the CRT lift modulo `Π (X - primes[i])`.
    Every threshold; and `RingToRns` is evaluation at the points. -/
theorem crt_exact (thr : Nat) (primes rns : List K) (hne : primes ≠ []) (hlen : rns.length = primes.length)
    (hnd : primes.Nodup) :
    (∀ q ∈ primes.zip rns, (toPoly (Givaro.Model.PolyCRT.rnsToRing thr primes rns)).eval q.1 = q.2) ∧
    (toPoly (Givaro.Model.PolyCRT.rnsToRing thr primes rns)).degree < (primes.length : WithBot ℕ) ∧
    ∀ a : List K, Givaro.Model.PolyCRT.ringToRns primes a = primes.map (fun p => (toPoly a).eval p) := by
  obtain ⟨h1, h2⟩ := Givaro.Lemmas.PolyCRT.rnsToRing_spec thr primes rns hne hlen hnd
  refine ⟨h1, h2, fun a => ?_⟩
  unfold Givaro.Model.PolyCRT.ringToRns
  apply List.map_congr_left
  intro p _
  exact eval_eq a p

example : ∃ (primes rns : List ℚ), primes ≠ [] ∧ rns.length = primes.length ∧ primes.Nodup :=
  ⟨[0, 1], [1, 2], by simp, by simp, by simp⟩

/-! ### p-adic conversion (givpoly1padic.h) -/

/-- `eval (radix E) = E` for every integer `E ≥ 0` and every `p ≥ 2`; the digits produced are canonical residues and the polynomial is normalised -/
theorem padic_eval_radix (p : Nat) (hp : 2 ≤ p) (E : Nat) :
    Givaro.Model.Padic.eval p (Givaro.Model.Padic.radix p E) = E ∧
    (∀ d ∈ Givaro.Model.Padic.radix p E, d < p) ∧ (Givaro.Model.Padic.radix p E).getLast? ≠ some 0 :=
  Givaro.Lemmas.Padic.eval_radix p hp E

/-- `radix (eval P) = P` for every normalised polynomial with coefficients `< p`, of any size (the empty one included) -/
theorem padic_radix_eval (p : Nat) (hp : 2 ≤ p) (P : List Nat) (hd : ∀ d ∈ P, d < p) (hn : P.getLast? ≠ some 0) :
    Givaro.Model.Padic.radix p (Givaro.Model.Padic.eval p P) = P :=
  Givaro.Lemmas.Padic.radix_eval p hp P hd hn

example : ∃ (p : Nat) (P : List Nat), 2 ≤ p ∧ (∀ d ∈ P, d < p) ∧ P.getLast? ≠ some 0 := ⟨2, [1], by decide, by simp, by simp⟩

/-- the direct conversions: `radixdirect(P, E, n)` (integral `E`) writes exactly `n` canonical digits whose value is
    `E mod p^n` (so `E` itself when `E < p^n`), and `evaldirect` is the Horner value — every `p ≥ 1`, `n`, `E`, every vector -/
theorem padic_direct_exact (p : Nat) (hp : 1 ≤ p) (n E : Nat) (P : List Nat) :
    (Givaro.Model.Padic.radixDirect p n E).length = n ∧ (∀ d ∈ Givaro.Model.Padic.radixDirect p n E, d < p) ∧
    Givaro.Model.Padic.eval p (Givaro.Model.Padic.radixDirect p n E) = E % p ^ n ∧
    Givaro.Model.Padic.evalDirect p P = Givaro.Model.Padic.eval p P :=
  ⟨(Givaro.Lemmas.Padic.radixDirect_spec p hp n E).1, (Givaro.Lemmas.Padic.radixDirect_spec p hp n E).2.1,
   (Givaro.Lemmas.Padic.radixDirect_spec p hp n E).2.2, Givaro.Lemmas.Padic.evalDirect_eq p P⟩

example : ∃ p : Nat, 1 ≤ p := ⟨2, by decide⟩

end Givaro.Props.C08
