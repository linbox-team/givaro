/-
C05 — GFqKronecker: the shift/mask state machine keeps its invariant under every sequence of `setShift` / `setMaxn`, and
under the invariant Kronecker substitution commutes with products and dot products of at most `maxn` terms.
The packing is the digit code of `GFqDecoding` in base `2^shift`: `convert` is `undigits` (`convert_eq`), `init` reads `digits`
(`unpack_eq_digits`), so that unpacking an accumulated sum is `ev_digits_undigits` once its coefficients are known to be below the base.
-/
import GivaroModel.Model.GFqKron
import GivaroModel.Lemmas.GFqDecoding
import Mathlib.Tactic.Ring
import Mathlib.Tactic.Linarith
namespace Givaro.Lemmas.GFqKron
open Givaro.Model.GFqKron

/-- the invariant of the shift/mask state: the mask is `2^shift - 1` and `maxn` accumulated products keep every coefficient
    strictly below the digit base -/
structure Inv (s : KState) : Prop where
  base_eq : s.base = 2 ^ s.shift
  mask_eq : s.mask = 2 ^ s.shift - 1
  room : s.maxn * epmunsq s.p s.k < 2 ^ s.shift

theorem inv_setShift (s : KState) (i : Nat) : Inv (setShift s i) := by
  unfold setShift
  simp only [Nat.shiftLeft_eq, one_mul]
  refine ⟨rfl, rfl, ?_⟩
  have hpos : 0 < 2 ^ i := Nat.pow_pos (by norm_num)
  show (2 ^ i - 1) / epmunsq s.p s.k * epmunsq s.p s.k < 2 ^ i
  have := Nat.div_mul_le_self (2 ^ i - 1) (epmunsq s.p s.k)
  omega

theorem growBase_spec (m : Nat) : ∀ fuel sh b, b = 2 ^ sh → (b ≤ m → m + 1 - b ≤ fuel) →
    (growBase m fuel sh b).2 = 2 ^ (growBase m fuel sh b).1 ∧ m < (growBase m fuel sh b).2 := by
  intro fuel
  induction fuel with
  | zero =>
    intro sh b hb hf
    simp only [growBase]
    refine ⟨hb, ?_⟩
    by_contra h
    have := hf (by omega)
    have : 0 < b := by rw [hb]; exact Nat.pow_pos (by norm_num)
    omega
  | succ fuel ih =>
    intro sh b hb hf
    simp only [growBase]
    split
    · rename_i hle
      have hbpos : 0 < b := by rw [hb]; exact Nat.pow_pos (by norm_num)
      apply ih
      · rw [Nat.shiftLeft_eq, hb]; ring
      · intro h2
        rw [Nat.shiftLeft_eq] at h2 ⊢
        have := hf hle
        omega
    · rename_i hgt
      exact ⟨hb, by omega⟩

theorem inv_setMaxn (s : KState) (n : Nat) : Inv (setMaxn s n) :=
  have h := growBase_spec (n * epmunsq s.p s.k) (n * epmunsq s.p s.k + 1) 0 1 (by simp) (by intro _; omega)
  ⟨h.1, congrArg (· - 1) h.1, h.1 ▸ h.2⟩

open Givaro.Spec.GFq (undigits) in
theorem convert_eq (s : KState) : ∀ cs, convert s cs = undigits (2 ^ s.shift) cs
  | [] => rfl
  | c :: cs => by simp only [convert, undigits, Nat.shiftLeft_eq, convert_eq s cs, Nat.mul_comm]

def ladd : List Nat → List Nat → List Nat
  | a :: as, b :: bs => (a + b) :: ladd as bs
  | as, [] => as
  | [], bs => bs

def lscale (c : Nat) (l : List Nat) : List Nat := l.map (fun x => c * x)

/-- product of two coefficient lists over ℕ (no reduction) -/
def lmul : List Nat → List Nat → List Nat
  | [], _ => []
  | a :: as, b => ladd (lscale a b) (0 :: lmul as b)

section
open Givaro.Spec.GFq (undigits)

theorem undigits_ladd (B : Nat) : ∀ a b, undigits B (ladd a b) = undigits B a + undigits B b
  | [], [] => rfl
  | [], _ :: _ => (Nat.zero_add _).symm
  | _ :: _, [] => rfl
  | a :: as, b :: bs => by simp only [ladd, undigits, undigits_ladd B as bs]; ring

theorem undigits_lscale (B c : Nat) : ∀ l, undigits B (lscale c l) = c * undigits B l
  | [] => rfl
  | a :: as => by
    have ih := undigits_lscale B c as
    simp only [lscale, List.map_cons, undigits] at ih ⊢
    rw [ih]; ring

theorem undigits_lmul (B : Nat) : ∀ a b, undigits B (lmul a b) = undigits B a * undigits B b
  | [], _ => (Nat.zero_mul _).symm
  | a :: as, b => by
    simp only [lmul, undigits_ladd, undigits_lscale, undigits, undigits_lmul B as b]; ring

end

section ring
variable {K : Type*} [CommRing K] (x : K)
open Givaro.Lemmas.GFqZech

theorem ev_ladd : ∀ a b, ev x (ladd a b) = ev x a + ev x b
  | [], [] => (add_zero _).symm
  | [], _ :: _ => (zero_add _).symm
  | _ :: _, [] => (add_zero _).symm
  | a :: as, b :: bs => by simp only [ladd, ev, ev_ladd as bs]; push_cast; ring

theorem ev_lscale (c : Nat) : ∀ l, ev x (lscale c l) = (c : K) * ev x l
  | [] => (mul_zero _).symm
  | a :: as => by
    have ih := ev_lscale c as
    simp only [lscale, List.map_cons, ev] at ih ⊢
    rw [ih]; push_cast; ring

theorem ev_lmul : ∀ a b, ev x (lmul a b) = ev x a * ev x b
  | [], _ => (zero_mul _).symm
  | a :: as, b => by
    simp only [lmul, ev_ladd, ev_lscale, ev, ev_lmul as b]; push_cast; ring
end ring

def Bnd (l : List Nat) (m : Nat) : Prop := ∀ c ∈ l, c ≤ m

theorem bnd_ladd : ∀ (a b : List Nat) (ma mb : Nat), Bnd a ma → Bnd b mb → Bnd (ladd a b) (ma + mb)
  | [], [], _, _, _, _ => by intro c hc; simp [ladd] at hc
  | [], b :: bs, ma, mb, _, hb => fun c hc => Nat.le_trans (hb c hc) (Nat.le_add_left mb ma)
  | a :: as, [], ma, mb, ha, _ => fun c hc => Nat.le_trans (ha c hc) (Nat.le_add_right ma mb)
  | a :: as, b :: bs, ma, mb, ha, hb => by
    intro c hc
    simp only [ladd, List.mem_cons] at hc
    rcases hc with rfl | hc
    · have := ha a (List.mem_cons_self ..); have := hb b (List.mem_cons_self ..); omega
    · exact bnd_ladd as bs ma mb (fun d hd => ha d (List.mem_cons_of_mem _ hd))
        (fun d hd => hb d (List.mem_cons_of_mem _ hd)) c hc

theorem bnd_lmul (M : Nat) : ∀ (a b : List Nat), Bnd a M → Bnd b M → Bnd (lmul a b) (a.length * (M * M))
  | [], _, _, _ => by intro c hc; simp [lmul] at hc
  | a :: as, b, ha, hb => by
    have h1 : Bnd (lscale a b) (M * M) := by
      intro c hc
      simp only [lscale, List.mem_map] at hc
      obtain ⟨y, hy, rfl⟩ := hc
      exact Nat.mul_le_mul (ha a (List.mem_cons_self ..)) (hb y hy)
    have h2 : Bnd (0 :: lmul as b) (as.length * (M * M)) := by
      intro c hc
      simp only [List.mem_cons] at hc
      rcases hc with rfl | hc
      · exact Nat.zero_le _
      · exact bnd_lmul M as b (fun d hd => ha d (List.mem_cons_of_mem _ hd)) hb c hc
    have := bnd_ladd _ _ _ _ h1 h2
    simp only [lmul, List.length_cons]
    intro c hc
    have := this c hc
    calc c ≤ M * M + as.length * (M * M) := this
      _ = (as.length + 1) * (M * M) := by ring

theorem len_ladd : ∀ a b : List Nat, (ladd a b).length = max a.length b.length
  | [], [] => rfl
  | [], _ :: _ => (Nat.zero_max _).symm
  | _ :: _, [] => (Nat.max_zero _).symm
  | a :: as, b :: bs => by simp only [ladd, List.length_cons, len_ladd as bs]; omega

theorem len_lmul_le (b : List Nat) (hb : b ≠ []) : ∀ a : List Nat, (lmul a b).length ≤ a.length + b.length - 1
  | [] => Nat.zero_le _
  | a :: as => by
    have ih := len_lmul_le b hb as
    have : 0 < b.length := List.length_pos_of_ne_nil hb
    simp only [lmul, len_ladd, lscale, List.length_map, List.length_cons]
    omega

/-- the accumulated sum of products `Σ_t a_t * b_t` over ℕ, coefficientwise -/
def accPoly : List (List Nat × List Nat) → List Nat
  | [] => []
  | (a, b) :: rest => ladd (lmul a b) (accPoly rest)

/-- the integer the application accumulates: `Σ_t convert(a_t) * convert(b_t)` -/
def accInt (s : KState) : List (List Nat × List Nat) → Nat
  | [] => 0
  | (a, b) :: rest => convert s a * convert s b + accInt s rest

open Givaro.Spec.GFq (undigits) in
theorem accInt_eq (s : KState) : ∀ ts, accInt s ts = undigits (2 ^ s.shift) (accPoly ts)
  | [] => rfl
  | (a, b) :: rest => by
    simp only [accInt, accPoly, undigits_ladd, undigits_lmul, convert_eq, accInt_eq s rest]

theorem bnd_accPoly (k M : Nat) : ∀ ts : List (List Nat × List Nat),
    (∀ t ∈ ts, t.1.length = k ∧ t.2.length = k ∧ Bnd t.1 M ∧ Bnd t.2 M) → Bnd (accPoly ts) (ts.length * (k * (M * M)))
  | [], _ => by intro c hc; simp [accPoly] at hc
  | (a, b) :: rest, h => by
    obtain ⟨ha, hb, ba, bb⟩ := h (a, b) (List.mem_cons_self ..)
    have h1 := bnd_lmul M a b ba bb
    rw [show a.length = k from ha] at h1
    have h2 := bnd_accPoly k M rest (fun t ht => h t (List.mem_cons_of_mem _ ht))
    have := bnd_ladd _ _ _ _ h1 h2
    intro c hc
    have := this c hc
    simp only [List.length_cons]
    calc c ≤ k * (M * M) + rest.length * (k * (M * M)) := this
      _ = (rest.length + 1) * (k * (M * M)) := by ring

theorem len_accPoly (k : Nat) (hk : 1 ≤ k) : ∀ ts : List (List Nat × List Nat),
    (∀ t ∈ ts, t.1.length = k ∧ t.2.length = k) → (accPoly ts).length ≤ 2 * k - 1
  | [], _ => by simp [accPoly]
  | (a, b) :: rest, h => by
    obtain ⟨ha, hb⟩ := h (a, b) (List.mem_cons_self ..)
    have ih := len_accPoly k hk rest (fun t ht => h t (List.mem_cons_of_mem _ ht))
    have hbne : b ≠ [] := by
      intro e
      rw [e, List.length_nil] at hb
      omega
    have := len_lmul_le b hbne a
    rw [accPoly, len_ladd, Nat.max_le]
    have ha' : a.length = k := ha
    have hb' : b.length = k := hb
    omega

theorem accPoly_lt (s : KState) (hI : Inv s) (ts : List (List Nat × List Nat))
    (hts : ∀ t ∈ ts, t.1.length = s.k ∧ t.2.length = s.k ∧ Bnd t.1 (s.p - 1) ∧ Bnd t.2 (s.p - 1))
    (hn : ts.length ≤ s.maxn) : ∀ c ∈ accPoly ts, c < 2 ^ s.shift := by
  intro c hc
  have hb := bnd_accPoly s.k (s.p - 1) ts hts c hc
  have hroom := hI.room
  have : ts.length * (s.k * ((s.p - 1) * (s.p - 1))) ≤ s.maxn * epmunsq s.p s.k := by
    unfold epmunsq
    calc ts.length * (s.k * ((s.p - 1) * (s.p - 1))) ≤ s.maxn * (s.k * ((s.p - 1) * (s.p - 1))) :=
          Nat.mul_le_mul_right _ hn
      _ = s.maxn * (s.k * (s.p - 1) * (s.p - 1)) := by ring
  omega

open Givaro.Spec.GFq (digits) in
open Givaro.Lemmas.GFqZech in
/-- `init` reads the digits of `r` in base `2^shift` (shift and mask for quotient and remainder), reduced modulo `p` -/
theorem unpack_eq_digits (s : KState) (hm : s.mask = 2 ^ s.shift - 1) (r : Nat) :
    unpack s r = (digits (2 ^ s.shift) (2 * s.k - 1) r).map (· % s.p) := by
  unfold unpack
  rw [digits_eq_map_range, List.map_map, hm]
  refine List.map_congr_left fun j _ => ?_
  rw [Function.comp, Nat.and_two_pow_sub_one_eq_mod, Nat.shiftRight_eq_div_pow, pow_mul]

section ring
variable {K : Type*} [CommRing K] (x : K)
open Givaro.Lemmas.GFqZech

/-- the dot product of the field, on decoded polynomials -/
def dotK : List (List Nat × List Nat) → K
  | [] => 0
  | (a, b) :: rest => ev x a * ev x b + dotK rest

theorem ev_accPoly : ∀ ts, ev x (accPoly ts) = dotK x ts
  | [] => by simp [accPoly, dotK, ev]
  | (a, b) :: rest => by simp only [accPoly, dotK, ev_ladd, ev_lmul, ev_accPoly rest]

/-- Kronecker substitution commutes with the dot product, in every state with `Inv`: what `kronecker_substitution_exact` and
    `qadic_transform_exact` are instances of -/
theorem kronecker_dot (s : KState) (hI : Inv s) (hk : 1 ≤ s.k) (hp0 : ((s.p : Nat) : K) = 0)
    (ts : List (List Nat × List Nat))
    (hts : ∀ t ∈ ts, t.1.length = s.k ∧ t.2.length = s.k ∧ Bnd t.1 (s.p - 1) ∧ Bnd t.2 (s.p - 1))
    (hn : ts.length ≤ s.maxn) :
    ev x (unpack s (accInt s ts)) = dotK x ts := by
  rw [unpack_eq_digits s hI.mask_eq, ev_map_mod x hp0, accInt_eq,
    ev_digits_undigits x (Nat.pow_pos (by norm_num)) _ _ (len_accPoly s.k hk ts fun t ht => ⟨(hts t ht).1, (hts t ht).2.1⟩)
      (accPoly_lt s hI ts hts hn),
    ev_accPoly]
end ring

end Givaro.Lemmas.GFqKron
