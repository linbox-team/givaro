/-
C11 — lemmas about the model of Rational::ratrecon (Model/RatRecon.lean): `Cof`, the rows of the extended Euclidean
scheme (`Euclid.Rows` of Lemmas/EuclidRows.lean) with the cofactors of the modulus as ghosts (over any commutative ring,
shared with the polynomial variant), the invariant of the integer loop, its termination (fuel), and what the invariant
gives in the state the loop stops in.
-/
import GivaroModel.Model.RatRecon
import GivaroModel.Lemmas.EuclidRows
import Mathlib.Data.Nat.Sqrt
import Mathlib.Algebra.Group.Int.Units
namespace Givaro.Lemmas.RatRecon
open Givaro.Model.RatRecon

section rows
open Givaro.Lemmas.Euclid
variable {R : Type} [CommRing R] {m p sg sgi a ta b tb : R}

/-- `(a, ta)`, `(b, tb)` are two consecutive rows of the scheme for `(m, p)` (`Euclid.Rows`) whose cofactors of `m` are
    ghosts: the code computes one cofactor column only.  `sg` is the determinant. -/
def Cof (m p sg a ta b tb : R) : Prop := ∃ sa sb : R, Rows m p a b sa ta sb tb sg

theorem Cof.init (m p : R) : Cof m p 1 m 0 p 1 := ⟨1, 0, Rows.init m p⟩

theorem Cof.step (h : Cof m p sg a ta b tb) {q r : R} (hdiv : a = q * b + r) : Cof m p (-sg) b tb r (ta - q * tb) := by
  obtain ⟨sa, sb, h⟩ := h
  have := h.step q 1
  rw [show a - q * b = r by rw [hdiv]; ring] at this
  simp only [mul_one] at this
  exact ⟨sb, _, this⟩

theorem Cof.row (h : Cof m p sg a ta b tb) : ∃ S, b = tb * p + S * m := by
  obtain ⟨_, sb, h⟩ := h
  exact ⟨sb, by rw [← h.row1]; ring⟩

/-- the two rows are a basis of the solutions of `n ≡ d·p (mod m)`; the cross product in the last clause is where the
    polynomial minimality argument starts (`polyFull_minimal`; the integer classification reads the basis only) -/
theorem Cof.span (h : Cof m p sg a ta b tb) (hsg : sg * sgi = 1) (n d : R) (hn : m ∣ n - d * p) :
    ∃ α β : R, n = α * a + β * b ∧ d = α * ta + β * tb ∧ n * tb - d * b = α * (sg * m) := by
  obtain ⟨S, hS⟩ := hn
  obtain ⟨sa, sb, ea, eb, hd⟩ := h
  refine ⟨sgi * (S * tb - sb * d), sgi * (sa * d - S * ta), ?_, ?_, ?_⟩
  · rw [← ea, ← eb]; linear_combination hS + (-(S * m + d * p)) * hsg + (-(sgi * (S * m + d * p))) * hd
  · linear_combination (-d) * hsg + (-(sgi * d)) * hd
  · rw [← eb]; linear_combination tb * hS + (-(m * (S * tb - sb * d))) * hsg

theorem Cof.unit_row (h : Cof m p sg a ta b 0) (hsg : sg * sgi = 1) : ∃ u v : R, u * v = 1 ∧ b = u * m := by
  obtain ⟨sa, sb, _, eb, hd⟩ := h
  exact ⟨sb, -(sgi * ta), by linear_combination sgi * hd + hsg, by rw [← eb]; ring⟩

theorem Cof.smul_row (h : Cof m p sg a ta b tb) (c : R) : Cof m p (c * sg) a ta (c * b) (c * tb) := by
  obtain ⟨sa, sb, ea, eb, hd⟩ := h
  exact ⟨sa, c * sb, ea, by rw [← eb]; ring, by rw [← hd]; ring⟩

end rows

/-! ### truncated division and remainder on the operands the code sees -/

theorem tdiv_tmod_facts (a b : Int) (ha : 0 ≤ a) (hb : 0 < b) :
    0 ≤ Int.tdiv a b ∧ 0 ≤ a - Int.tdiv a b * b ∧ a - Int.tdiv a b * b < b := by
  have h := Int.tmod_add_tdiv_mul a b
  have h1 := Int.tmod_nonneg b ha
  have h2 := Int.tmod_lt_of_pos a hb
  exact ⟨Int.tdiv_nonneg ha (by omega), by omega, by omega⟩

theorem tdiv_unique (a b q : Int) (ha : 0 ≤ a) (hb : 0 < b) (h0 : 0 ≤ a - q * b) (h1 : a - q * b < b) :
    Int.tdiv a b = q := by
  rw [Int.tdiv_eq_ediv_of_nonneg ha]
  have := Int.mul_comm q b
  exact ((Int.ediv_emod_unique hb).mpr ⟨by omega, h0, h1⟩).1

/-- `mpz_tdiv_r` by a positive modulus -/
theorem tmod_facts (g m : Int) (hm : 0 < m) :
    m ∣ (Int.tmod g m - g) ∧ -m < Int.tmod g m ∧ Int.tmod g m < m ∧
      (0 ≤ g → 0 ≤ Int.tmod g m) ∧ (g ≤ 0 → Int.tmod g m ≤ 0) := by
  refine ⟨⟨-Int.tdiv g m, ?_⟩, Int.lt_tmod_of_pos g hm, Int.tmod_lt_of_pos g hm, Int.tmod_nonneg m, fun h => ?_⟩
  · have := Int.tmod_add_mul_tdiv g m
    rw [Int.mul_neg]; omega
  · have := Int.tmod_nonneg m (by omega : 0 ≤ -g)
    rw [Int.neg_tmod] at this; omega

theorem startR1_facts (f m : Int) (hm : 0 < m) :
    0 ≤ startR1 f m ∧ m ∣ (startR1 f m - f) ∧ (f < 0 → startR1 f m < m) := by
  obtain ⟨⟨c, hc⟩, hlo, _, _, hneg⟩ := tmod_facts f m hm
  unfold startR1
  split
  · simp only []
    split
    · exact ⟨by omega, ⟨c + 1, by rw [Int.mul_add]; omega⟩, fun _ => by omega⟩
    · exact ⟨by omega, ⟨c, hc⟩, fun _ => by omega⟩
  · exact ⟨by omega, ⟨0, by omega⟩, by omega⟩

theorem dvd_congr {m x f : Int} (hx : m ∣ (x - f)) (n d : Int) (h : m ∣ (n - d * x)) : m ∣ (n - d * f) := by
  have e : n - d * f = (n - d * x) + d * (x - f) := by ring
  rw [e]; exact Int.dvd_add h (Int.dvd_mul_of_dvd_right hx)

theorem sign_sq {sg : Int} (h : sg = 1 ∨ sg = -1) : sg * sg = 1 := by
  rcases h with rfl | rfl <;> rfl


/-! ### the loop invariant and the fuel -/

/-- a division step with an arbitrary quotient: the loop takes `tdiv r0 r1`, step (ii) of `finish` a smaller one -/
def stepQ (q : Int) (s : LoopSt) : LoopSt := ⟨s.r1, s.t1, s.r0 - q * s.r1, s.t0 - q * s.t1⟩

theorem step_eq_stepQ (s : LoopSt) : step s = stepQ (Int.tdiv s.r0 s.r1) s := by
  simp only [step, stepQ, Int.mul_comm]

/-- `fp` is the start residue `startR1 f m`.  `sg = ±1` alternates; the signs of the cofactors are taken out:
    `t1 = sg·T1`, `t0 = −sg·T0` with `T0, T1 ≥ 0`, so that the determinant of the two rows reads
    `m = r0·T1 + r1·T0` (`LRows.det`).  Nothing here mentions the bound `k`. -/
structure LRows (fp m : Int) (s : LoopSt) (sg T0 T1 : Int) : Prop where
  sgu : sg = 1 ∨ sg = -1
  t0 : s.t0 = -(sg * T0)
  t1 : s.t1 = sg * T1
  T0nn : 0 ≤ T0
  T1nn : 0 ≤ T1
  r1nn : 0 ≤ s.r1
  cof : Cof m fp sg s.r0 s.t0 s.r1 s.t1

/-- the invariant of the loop: the upper remainder has not yet come below `k` -/
structure LInv (fp m k : Int) (s : LoopSt) (sg T0 T1 : Int) : Prop extends LRows fp m s sg T0 T1 where
  r0k : k ≤ s.r0

variable {fp m k sg T0 T1 : Int} {s : LoopSt}

theorem linv_init (fp m k : Int) (hk : k ≤ m) (hfp : 0 ≤ fp) : LInv fp m k ⟨m, 0, fp, 1⟩ 1 0 1 where
  sgu := Or.inl rfl
  t0 := rfl
  t1 := rfl
  T0nn := Int.le_refl 0
  T1nn := Int.one_nonneg
  r1nn := hfp
  r0k := hk
  cof := Cof.init m fp

theorem LRows.step (h : LRows fp m s sg T0 T1) {q : Int} (hq : 0 ≤ q) (hr : 0 ≤ s.r0 - q * s.r1) :
    LRows fp m (stepQ q s) (-sg) T1 (T0 + q * T1) := by
  obtain ⟨sgu, t0, t1, T0nn, T1nn, r1nn, cof⟩ := h
  have hqT : 0 ≤ q * T1 := Int.mul_nonneg hq T1nn
  refine ⟨by omega, ?_, ?_, T1nn, by omega, hr, cof.step (q := q) (r := s.r0 - q * s.r1) (by ring)⟩
  · show s.t1 = -(-sg * T1)
    rw [t1]; ring
  · show s.t0 - q * s.t1 = -sg * (T0 + q * T1)
    rw [t0, t1]; ring

theorem linv_step (hk : 1 ≤ k) (h : LInv fp m k s sg T0 T1) (hc : s.r1 ≥ k) :
    LInv fp m k (step s) (-sg) T1 (T0 + Int.tdiv s.r0 s.r1 * T1) ∧ (step s).r1 < s.r1 := by
  have hr0 := h.r0k
  obtain ⟨q0, qlo, qhi⟩ := tdiv_tmod_facts s.r0 s.r1 (by omega) (by omega)
  rw [step_eq_stepQ]
  exact ⟨⟨h.toLRows.step q0 qlo, hc⟩, qhi⟩

theorem loop_exit (fp m k : Int) (hk : 1 ≤ k) : ∀ (fuel : Nat) (s : LoopSt) (sg T0 T1 : Int),
    LInv fp m k s sg T0 T1 → s.r1.toNat < fuel →
    (loop k fuel s).r1 < k ∧ ∃ sg' T0' T1', LInv fp m k (loop k fuel s) sg' T0' T1' := by
  intro fuel
  induction fuel with
  | zero => intro s _ _ _ _ hf; omega
  | succ n ih =>
    intro s sg T0 T1 h hf
    unfold loop
    split
    · rename_i hc
      obtain ⟨hs, hlt⟩ := linv_step hk h hc
      have := hs.r1nn
      exact ih _ _ _ _ hs (by omega)
    · exact ⟨by omega, sg, T0, T1, h⟩

theorem loop_of_lt (k : Int) (j : Nat) (s : LoopSt) (h : s.r1 < k) : loop k j s = s := by
  cases j with
  | zero => rfl
  | succ j => unfold loop; rw [if_neg (by omega)]

theorem loop_add (k : Int) (j : Nat) : ∀ (n : Nat) (s : LoopSt), loop k (n + j) s = loop k j (loop k n s) := by
  intro n
  induction n with
  | zero => intro s; rw [Nat.zero_add]; rfl
  | succ n ih =>
    intro s
    rw [Nat.add_right_comm]
    simp only [loop]
    split
    · exact ih _
    · rw [loop_of_lt k j s (by omega)]

def exitSt (f m k : Int) : LoopSt := loop k (fuelFor f m) ⟨m, 0, startR1 f m, 1⟩

theorem exitSt_facts (f m k : Int) (hm : 0 < m) (hk : 1 ≤ k) (hkm : k ≤ m) :
    (exitSt f m k).r1 < k ∧ ∃ sg T0 T1, LInv (startR1 f m) m k (exitSt f m k) sg T0 T1 :=
  loop_exit _ m k hk _ _ _ _ _ (linv_init _ m k hkm (startR1_facts f m hm).1) (by unfold fuelFor; simp only []; omega)

/-! ### what the rows give -/

section exit
variable (h : LRows fp m s sg T0 T1)
include h

/-- `T1` vanishes only while the lower row is still `(m, 0)` (after the first step when `fp > m`): a row `(r1, 0)`
    has `r1 = ±m` by the cofactor determinant -/
theorem LRows.T1pos (hx : s.r1 < m) : 0 < T1 := by
  have hT := h.T1nn
  have hr1 := h.r1nn
  by_contra h0
  have hcof := h.cof
  rw [h.t1, (by omega : T1 = 0), Int.mul_zero] at hcof
  obtain ⟨u, v, huv, e⟩ := hcof.unit_row (sign_sq h.sgu)
  rcases Int.eq_one_or_neg_one_of_mul_eq_one huv with rfl | rfl <;> omega

/-- `Euclid.Rows.mul_a` with the signs taken out -/
theorem LRows.det : m = s.r0 * T1 + s.r1 * T0 := by
  obtain ⟨sa, sb, hr⟩ := h.cof
  have e := hr.mul_a
  rw [h.t0, h.t1] at e
  linear_combination sg * e - (m - s.r0 * T1 - s.r1 * T0) * sign_sq h.sgu

theorem LRows.mem1 : m ∣ (sg * s.r1 - T1 * fp) := by
  obtain ⟨sa, sb, _, eb, _⟩ := h.cof
  rw [h.t1] at eb
  exact ⟨sg * sb, by linear_combination (T1 * fp) * sign_sq h.sgu - sg * eb⟩

theorem LRows.span (n d : Int) (hsol : m ∣ (n - d * fp)) :
    ∃ a b, sg * n = b * s.r1 - a * s.r0 ∧ d = a * T0 + b * T1 := by
  obtain ⟨α, β, hn, hd, _⟩ := h.cof.span (sign_sq h.sgu) n d hsol
  exact ⟨-(sg * α), sg * β, by rw [hn]; ring, by rw [hd, h.t0, h.t1]; ring⟩

end exit

end Givaro.Lemmas.RatRecon
