/-
C06 — fixed-precision recursive integers compute exactly modulo 2^(2^K).

Property theorems about the model `Model/RecInt.lean` (a transcription of src/kernel/recint/ru*.h with the generic
recursive template and the `__RECINT_LIMB_SIZE`, `__RECINT_LIMB_SIZE+1` specialisations).  `RU n` is `ruint<6+n>`,
`Bn n = 2^(2^(6+n))`, `val` the represented number, `WF` "every limb is below 2^64".  Every theorem is for every
level `n` (no bound on K) and all well-formed operands; carries and borrows are exact (`c2n` reads a `bool` as 0/1).
`Spec/RecIntSpec.lean` is the driver's specification; the theorems here are stated on `val`, `Bn`, `sval`, `swrap` and do not mention it.
-/
import GivaroModel.Lemmas.RecIntConv
import GivaroModel.Lemmas.RecIntArazi
import GivaroModel.Lemmas.RecIntMixed
import GivaroModel.Lemmas.RecIntSignedLemmas
import GivaroModel.Lemmas.RecIntWords
import GivaroModel.Lemmas.RecIntSignedMod
namespace Givaro.Props.C06
open Givaro.Model.RecInt

/-! ### representation -/
/-- the driver's embedding `ofNat` is the reduction modulo `2^(2^K)` and produces well-formed values
    (so the theorems below apply to every line the correspondence evaluates) -/
theorem ofNat_exact : ∀ (n v : Nat), WF (ofNat n v) ∧ val (ofNat n v) = v % Bn n :=
  ofNat_ok

theorem val_bound {n : Nat} (x : RU n) (h : WF x) : val x < Bn n := val_lt x h

/-! ### ruadd.h -/
/-- `add(r, a, b, c)`: `a = (b + c) mod 2^bits`, `r` is the exact carry -/
theorem add_exact {n : Nat} (b c : RU n) (hb : WF b) (hc : WF c) :
    WF (add b c).1 ∧ val (add b c).1 = (val b + val c) % Bn n ∧ c2n (add b c).2 = (val b + val c) / Bn n :=
  ⟨(add_ok b c hb hc).1, (add_ok b c hb hc).exact⟩

/-- `add_wc(r, a, b, c, cy)`: value and carry of `b + c + cy` -/
theorem add_wc_exact {n : Nat} (b c : RU n) (cy : Bool) (hb : WF b) (hc : WF c) :
    WF (add_wc b c cy).1 ∧ val (add_wc b c cy).1 = (val b + val c + c2n cy) % Bn n ∧
    c2n (add_wc b c cy).2 = (val b + val c + c2n cy) / Bn n :=
  ⟨(add_wc_ok b c cy hb hc).1, (add_wc_ok b c cy hb hc).exact⟩

/-- `add_1(r, a, b)` / `add_1(r, a)` / `++a` -/
theorem add_1_exact {n : Nat} (b : RU n) (hb : WF b) :
    WF (add_1 b).1 ∧ val (add_1 b).1 = (val b + 1) % Bn n ∧ c2n (add_1 b).2 = (val b + 1) / Bn n :=
  ⟨(add_1_ok b hb).1, (add_1_ok b hb).exact⟩

/-- `add(r, a, b, const T& c)` with an unsigned word `c` (also the `bool` carry the recursive templates pass on) -/
theorem add_limb_exact {n : Nat} (b : RU n) (c : Nat) (hb : WF b) (hc : c < B64) :
    WF (add_l b c).1 ∧ val (add_l b c).1 = (val b + c) % Bn n ∧ c2n (add_l b c).2 = (val b + c) / Bn n :=
  ⟨(add_l_ok b c hb hc).1, (add_l_ok b c hb hc).exact⟩

/-- the carry-less overloads `add(a, b, c)`, `a += c`, `b + c` -/
theorem addNC_exact {n : Nat} (b c : RU n) (hb : WF b) (hc : WF c) :
    WF (addNC b c) ∧ val (addNC b c) = (val b + val c) % Bn n := by
  rw [addNC_eq b c]; exact ⟨(add_exact b c hb hc).1, (add_exact b c hb hc).2.1⟩

theorem add_wcNC_exact {n : Nat} (b c : RU n) (cy : Bool) (hb : WF b) (hc : WF c) :
    WF (add_wcNC b c cy) ∧ val (add_wcNC b c cy) = (val b + val c + c2n cy) % Bn n := by
  rw [add_wcNC_eq b c cy]; exact ⟨(add_wc_exact b c cy hb hc).1, (add_wc_exact b c cy hb hc).2.1⟩

/-! ### rusub.h -/
/-- `sub(r, a, b, c)`: `a = (b - c) mod 2^bits`, `r` is the exact borrow -/
theorem sub_exact {n : Nat} (b c : RU n) (hb : WF b) (hc : WF c) :
    WF (sub b c).1 ∧ val (sub b c).1 = (val b + Bn n - val c) % Bn n ∧ ((sub b c).2 = true ↔ val b < val c) :=
  ⟨(sub_ok b c hb hc).1, (sub_ok b c hb hc).exact (Nat.le_of_lt (val_lt c hc))⟩

/-- `sub_wc(r, a, b, c, cy)`: value and borrow of `b - c - cy` -/
theorem sub_wc_exact {n : Nat} (b c : RU n) (cy : Bool) (hb : WF b) (hc : WF c) :
    WF (sub_wc b c cy).1 ∧ val (sub_wc b c cy).1 = (val b + Bn n - (val c + c2n cy)) % Bn n ∧
    ((sub_wc b c cy).2 = true ↔ val b < val c + c2n cy) := by
  have h := val_lt c hc
  have := c2n_le cy
  exact ⟨(sub_wc_ok b c cy hb hc).1, (sub_wc_ok b c cy hb hc).exact (by omega)⟩

/-- `sub_1(r, a, b)` / `sub_1(r, a)` / `--a` -/
theorem sub_1_exact {n : Nat} (b : RU n) (hb : WF b) :
    WF (sub_1 b).1 ∧ val (sub_1 b).1 = (val b + Bn n - 1) % Bn n ∧ ((sub_1 b).2 = true ↔ val b < 1) :=
  ⟨(sub_1_ok b hb).1, (sub_1_ok b hb).exact (Bn_pos n)⟩

/-- `sub(r, a, b, const T& c)` with an unsigned word `c` -/
theorem sub_limb_exact {n : Nat} (b : RU n) (c : Nat) (hb : WF b) (hc : c < B64) :
    WF (sub_l b c).1 ∧ val (sub_l b c).1 = (val b + Bn n - c) % Bn n ∧ ((sub_l b c).2 = true ↔ val b < c) := by
  have hB := B64_le_Bn n
  exact ⟨(sub_l_ok b c hb hc).1, (sub_l_ok b c hb hc).exact (by omega)⟩

/-- the borrow-less overloads `sub(a, b, c)`, `a -= c`, `b - c` -/
theorem subNC_exact {n : Nat} (b c : RU n) (hb : WF b) (hc : WF c) :
    WF (subNC b c) ∧ val (subNC b c) = (val b + Bn n - val c) % Bn n := by
  rw [subNC_eq b c]; exact ⟨(sub_exact b c hb hc).1, (sub_exact b c hb hc).2.1⟩

theorem sub_wcNC_exact {n : Nat} (b c : RU n) (cy : Bool) (hb : WF b) (hc : WF c) :
    WF (sub_wcNC b c cy) ∧ val (sub_wcNC b c cy) = (val b + Bn n - (val c + c2n cy)) % Bn n := by
  rw [sub_wcNC_eq b c cy]; exact ⟨(sub_wc_exact b c cy hb hc).1, (sub_wc_exact b c cy hb hc).2.1⟩

/-! ### rucmp.h -/
/-- `cmp(a, b)` returns exactly -1, 0, +1 according to the order of the values (so `<, <=, ==, …` are exact) -/
theorem cmp_exact {n : Nat} (a b : RU n) (ha : WF a) (hb : WF b) :
    (cmp a b = -1 ∧ val a < val b) ∨ (cmp a b = 0 ∧ val a = val b) ∨ (cmp a b = 1 ∧ val a > val b) :=
  cmp_spec a b ha hb

/-- `cmp(a, const T& c)` for an unsigned word: the sign test used by the limb-carry specialisations -/
theorem cmp_limb_lt_exact {n : Nat} (a : RU n) (c : Nat) (ha : WF a) (hc : c < B64) : cmp_l a c < 0 ↔ val a < c :=
  cmp_l_lt a c ha hc

/-- `a == 0` / `a != 0` -/
theorem isZero_exact {n : Nat} (a : RU n) : isZero a = true ↔ val a = 0 := isZero_iff a

/-! ### rumul.h: multiplication by a word -/
/-- `lmul(limb& ret, a, b, const T& c)`: `ret·2^bits + a = b·c` exactly and `ret` is a word (the carry added to the
    high word never wraps) -/
theorem lmul_limb_exact {n : Nat} (b : RU n) (c : Nat) (hb : WF b) (hc : c < B64) :
    WF (lmul_l b c).1 ∧ (lmul_l b c).2 < B64 ∧ val (lmul_l b c).1 + Bn n * (lmul_l b c).2 = val b * c :=
  lmul_l_ok b c hb hc

/-- `mul(a, b, const T& c)`, `a *= c`: the product modulo `2^bits` -/
theorem mul_limb_exact {n : Nat} (b : RU n) (c : Nat) (hb : WF b) (hc : c < B64) :
    WF (mul_l b c) ∧ val (mul_l b c) = (val b * c) % Bn n := mul_l_ok b c hb hc

/-! ### rushift.h: single-bit shifts -/
/-- `left_shift_1(z, b, a)`: `b = 2a mod 2^bits`, `z` is the bit shifted out -/
theorem shift1_left_exact {n : Nat} (a : RU n) (ha : WF a) :
    WF (left_shift_1 a).1 ∧ val (left_shift_1 a).1 + c2n (left_shift_1 a).2 * Bn n = 2 * val a :=
  left_shift_1_ok a ha

/-- `right_shift_1(z, b, a)`: `b = ⌊a/2⌋`, `z` is the bit shifted out -/
theorem shift1_right_exact {n : Nat} (a : RU n) (ha : WF a) :
    WF (right_shift_1 a).1 ∧ val (right_shift_1 a).1 = val a / 2 ∧ c2n (right_shift_1 a).2 = val a % 2 := by
  have h := right_shift_1_ok a ha
  have := c2n_le (right_shift_1 a).2
  exact ⟨h.1, by omega, by omega⟩

-- the high word of `lmul(limb&, …)` and the bits shifted out by the one-bit shifts do occur (on a well-formed operand)
example : ∃ (b : RU 2) (c : Nat), WF b ∧ c < B64 ∧ (lmul_l b c).2 ≠ 0 := ⟨ones 2, 3, by simp [ones, WF, B64], by decide, by decide⟩
example : ∃ a : RU 2, WF a ∧ (left_shift_1 a).2 = true ∧ (right_shift_1 a).2 = true := ⟨ones 2, by simp [ones, WF, B64], by decide, by decide⟩

/-! ### rufiddling.h: complement and negation -/
/-- `~a` -/
theorem not_exact {n : Nat} (a : RU n) (ha : WF a) : WF (not_ a) ∧ val (not_ a) = Bn n - 1 - val a := by
  have h := not_ok a ha
  exact ⟨h.1, by omega⟩

/-- `neg(r, a)`, `-a`: `(2^bits - a) mod 2^bits` -/
theorem neg_exact {n : Nat} (a : RU n) (ha : WF a) : WF (neg a) ∧ val (neg a) = (Bn n - val a) % Bn n := neg_ok a ha

-- a well-formed operand with a non-zero negation exists
example : ∃ a : RU 2, WF a ∧ val (neg a) ≠ 0 := ⟨ones 2, by simp [ones, WF, B64], by decide⟩

/-! ### rumul.h, ruaddmul.h: the full multiplication family, for any value `t` of `__RECINT_THRESHOLD_KARA` -/
/-- `lmul_naive(ah, al, b, c)`: `ah·2^bits + al = b·c` exactly (the model returns the pair as `node al ah`) -/
theorem lmul_naive_exact (t : Nat) {n : Nat} (b c : RU n) (hb : WF b) (hc : WF c) :
    WF (lmul_naive t b c) ∧ val (hi (lmul_naive t b c)) * Bn n + val (lo (lmul_naive t b c)) = val b * val c := by
  have h := (mul_family t n).1 b c hb hc
  exact ⟨h.1, by linear_combination h.digits.2.2⟩

/-- `lmul_kara(ah, al, b, c)`: exact; this includes the obligation that the middle-term correction
    `r = (rb&rc)+rt1+rt2-rt3-rt4`, which the code stores in a `bool`, is 0 or 1 (`lmul_kara_correction_exact`) and that none of
    the final carry propagations into `ah` wraps -/
theorem lmul_kara_exact (t : Nat) {n : Nat} (b c : RU n) (hb : WF b) (hc : WF c) :
    WF (lmul_kara t b c) ∧ val (hi (lmul_kara t b c)) * Bn n + val (lo (lmul_kara t b c)) = val b * val c := by
  have h := (mul_family t n).2.1 b c hb hc
  exact ⟨h.1, by linear_combination h.digits.2.2⟩

/-- the content of storing `(rb&rc)+rt1+rt2-rt3-rt4` in a `bool`: whenever the five flags satisfy the bookkeeping equation of
    Karatsuba's middle term (`D4 < 2^bits` the reduced middle word, `mid < 2·2^bits` the true middle term), the integer is 0 or 1
    and the bool read back as a number is that integer -/
theorem lmul_kara_correction_exact (B2 D4 mid : Nat) (rbc rt1 rt2 rt3 rt4 : Bool) (hD : D4 < B2) (hm : mid < 2 * B2)
    (E : D4 + (c2n rbc + c2n rt1 + c2n rt2) * B2 = mid + (c2n rt3 + c2n rt4) * B2) :
    ((c2n rbc + c2n rt1 + c2n rt2 : Nat) : Int) - (c2n rt3 + c2n rt4 : Nat) ∈ [0, 1] ∧
    D4 + c2n (decide (((if rbc = true then 1 else 0) + (if rt1 = true then 1 else 0) + (if rt2 = true then 1 else 0)
          - (if rt3 = true then 1 else 0) - (if rt4 = true then 1 else 0) : Int) ≠ 0)) * B2 = mid := by
  obtain ⟨h1, h2⟩ := kara_flags hD hm E
  refine ⟨?_, kara_r B2 D4 mid rbc rt1 rt2 rt3 rt4 hD hm E⟩
  rw [List.mem_cons, List.mem_singleton]
  omega

/-- `lmul(ah, al, b, c)` (dispatch on the threshold): exact for every threshold -/
theorem lmul_exact (t : Nat) {n : Nat} (b c : RU n) (hb : WF b) (hc : WF c) :
    WF (lmul t b c) ∧ val (hi (lmul t b c)) * Bn n + val (lo (lmul t b c)) = val b * val c := by
  have h := lmul_ok t b c hb hc
  exact ⟨h.1, by linear_combination h.digits.2.2⟩

/-- `laddmul(r, ah, al, b, c, d)` with `d : ruint<K>`: `(ah|al) + r·2^(2·bits) = b·c + d` (so `r` is never set) -/
theorem laddmul_exact (t : Nat) {n : Nat} (b c d : RU n) (hb : WF b) (hc : WF c) (hd : WF d) :
    WF (laddmul1 t b c d).1 ∧ val (laddmul1 t b c d).1 + c2n (laddmul1 t b c d).2 * Bn (n+1) = val b * val c + val d ∧
    (laddmul1 t b c d).2 = false := by
  have h := (mul_family t n).2.2.2.1 b c d hb hc hd
  refine ⟨h.1, h.2, ?_⟩
  have hlt : val b * val c + val d < Bn (n+1) := by rw [Bn_succ]; exact mul_add_lt_sq (val_lt b hb) (val_lt c hc) (val_lt d hd)
  have := (no_carry h.2 hlt).2
  cases hr : (laddmul1 t b c d).2
  · rfl
  · rw [hr] at this; simp at this

/-- `laddmul(ah, al, b, c, d)` with `d : ruint<K>`, the carry-less overload: `(ah|al) = b·c + d` -/
theorem laddmulNC_exact (t : Nat) {n : Nat} (b c d : RU n) (hb : WF b) (hc : WF c) (hd : WF d) :
    WF (laddmul1NC t b c d) ∧ val (laddmul1NC t b c d) = val b * val c + val d :=
  (mul_family t n).2.2.2.2.1 b c d hb hc hd

/-- `laddmul(r, ah, al, b, c, d)` with `d : ruint<K+1>`: value and the exact carry -/
theorem laddmul3_exact (t : Nat) {n : Nat} (b c : RU n) (d : RU (n+1)) (hb : WF b) (hc : WF c) (hd : WF d) :
    WF (laddmul3 t b c d).1 ∧ val (laddmul3 t b c d).1 = (val b * val c + val d) % Bn (n+1) ∧
    c2n (laddmul3 t b c d).2 = (val b * val c + val d) / Bn (n+1) := by
  have h := (mul_family t n).2.2.2.2.2 b c d hb hc hd
  exact ⟨h.1, h.exact⟩

/-- `mul(a, b, c)`, `a *= c`, `b * c`: the product modulo `2^bits` -/
theorem mul_low_exact (t : Nat) {n : Nat} (b c : RU n) (hb : WF b) (hc : WF c) :
    WF (mul t b c) ∧ val (mul t b c) = (val b * val c) % Bn n := mul_ok t b c hb hc

/-- `addmul(a, b, c)`: `a = (a + b·c) mod 2^bits` -/
theorem addmul_exact (t : Nat) {n : Nat} (a b c : RU n) (ha : WF a) (hb : WF b) (hc : WF c) :
    WF (addmul t a b c) ∧ val (addmul t a b c) = (val a + val b * val c) % Bn n := addmul_ok t a b c ha hb hc

/-- `lsquare(a, b)`: the full double-width square -/
theorem lsquare_exact (t : Nat) {n : Nat} (b : RU n) (hb : WF b) :
    WF (lsquare t b) ∧ val (lsquare t b) = val b * val b := lsquare_ok t b hb

/-- `square(a, b)`: the square modulo `2^bits` -/
theorem square_exact (t : Nat) {n : Nat} (b : RU n) (hb : WF b) :
    WF (square t b) ∧ val (square t b) = (val b * val b) % Bn n := square_ok t b hb

-- non-vacuity of the hypotheses of the multiplication theorems (the model functions are defined by well-founded recursion
-- and do not reduce in the kernel, so the witnesses are only shown to be well-formed; the driver executes them)
example : ∃ (b c : RU 2) (d : RU 3), WF b ∧ WF c ∧ WF d :=
  ⟨ones 2, ones 2, ones 3, by simp [ones, WF, B64], by simp [ones, WF, B64], by simp [ones, WF, B64]⟩

/-! ### rudiv.h: division -/
/-- `div_3_2` at level `m+1`, given `div_2_1` at that level (`div_3_2_of_div_2_1` there): quotient estimate too large by
    0, 1 or 2, both corrections (the second decided by the carry of the add-back), `a = q·b + r ∧ r < b` -/
theorem div_3_2_generic_exact (t m : Nat)
    (IH21 : ∀ ah al b : RU (m+1), WF ah → WF al → WF b → Bn (m+1) ≤ 2 * val b → val ah < val b → Div21Ok (div_2_1 t ah al b) ah al b)
    (a2 a1 a0 b1 b0 : RU (m+1)) (ha2 : WF a2) (ha1 : WF a1) (ha0 : WF a0) (hb1 : WF b1) (hb0 : WF b0)
    (hn : Bn (m+1) ≤ 2 * val b1) (hlt : val a2 * Bn (m+1) + val a1 < val b1 * Bn (m+1) + val b0) :
    Div32Ok (div_3_2 t a2 a1 a0 b1 b0) a2 a1 a0 b1 b0 :=
  div_3_2_of_div_2_1 t (m+1) IH21 a2 a1 a0 b1 b0 ha2 ha1 ha0 hb1 hb0 hn hlt

/-- `div_2_1` at the limb level (`recint_udiv_qrnnd` contract) -/
theorem div_2_1_limb_exact (t : Nat) (ah al b : RU 0) (hah : WF ah) (hal : WF al) (hb : WF b) (hlt : val ah < val b) :
    Div21Ok (div_2_1 t ah al b) ah al b := div_2_1_zero t ah al b hah hal hb hlt

/-- the `__RECINT_LIMB_SIZE` specialisation of `div_3_2`: the generic template at level 0 (`div_3_2_eq`), so `div_3_2_of_div_2_1` there -/
theorem div_3_2_limb_exact (t : Nat) (a2 a1 a0 b1 b0 : RU 0) (ha2 : WF a2) (ha1 : WF a1) (ha0 : WF a0) (hb1 : WF b1) (hb0 : WF b0)
    (hn : Bn 0 ≤ 2 * val b1) (hlt : val a2 * Bn 0 + val a1 < val b1 * Bn 0 + val b0) :
    Div32Ok (div_3_2 t a2 a1 a0 b1 b0) a2 a1 a0 b1 b0 :=
  div_3_2_of_div_2_1 t 0 (fun ah al b => div_2_1_ok t ah al b) a2 a1 a0 b1 b0 ha2 ha1 ha0 hb1 hb0 hn hlt

/-- `div_3_2(q, r1, r0, a2, a1, a0, b1, b0)` at every level (`div_3_2_of_div_2_1` with `div_2_1_ok`): for a normalised `b1` and
    `(a2,a1) < (b1,b0)`, `(a2|a1|a0) = q·(b1|b0) + (r1|r0)` and `(r1|r0) < (b1|b0)` -/
theorem div_3_2_exact (t : Nat) {n : Nat} (a2 a1 a0 b1 b0 : RU n)
    (ha2 : WF a2) (ha1 : WF a1) (ha0 : WF a0) (hb1 : WF b1) (hb0 : WF b0)
    (hn : Bn n ≤ 2 * val b1) (hlt : val a2 * Bn n + val a1 < val b1 * Bn n + val b0) :
    WF (div_3_2 t a2 a1 a0 b1 b0).1 ∧ WF (div_3_2 t a2 a1 a0 b1 b0).2.1 ∧ WF (div_3_2 t a2 a1 a0 b1 b0).2.2 ∧
    (val a2 * Bn n + val a1) * Bn n + val a0
      = val (div_3_2 t a2 a1 a0 b1 b0).1 * (val b1 * Bn n + val b0)
        + (val (div_3_2 t a2 a1 a0 b1 b0).2.1 * Bn n + val (div_3_2 t a2 a1 a0 b1 b0).2.2) ∧
    val (div_3_2 t a2 a1 a0 b1 b0).2.1 * Bn n + val (div_3_2 t a2 a1 a0 b1 b0).2.2 < val b1 * Bn n + val b0 :=
  div_3_2_of_div_2_1 t n (fun ah al b => div_2_1_ok t ah al b) a2 a1 a0 b1 b0 ha2 ha1 ha0 hb1 hb0 hn hlt

/-- `div_2_1(q, r, ah, al, b)` at every level: for a normalised `b` and `ah < b`, `(ah|al) = q·b + r ∧ r < b` -/
theorem div_2_1_exact (t : Nat) {n : Nat} (ah al b : RU n) (hah : WF ah) (hal : WF al) (hb : WF b)
    (hn : Bn n ≤ 2 * val b) (hlt : val ah < val b) :
    WF (div_2_1 t ah al b).1 ∧ WF (div_2_1 t ah al b).2 ∧
    val ah * Bn n + val al = val (div_2_1 t ah al b).1 * val b + val (div_2_1 t ah al b).2 ∧ val (div_2_1 t ah al b).2 < val b :=
  div_2_1_ok t ah al b hah hal hb hn hlt

/-- `normalization(d, b)` for `b ≠ 0`: the shift count that brings the highest set bit to the top -/
theorem normalization_exact {n : Nat} (b : RU n) (hb : WF b) (hne : val b ≠ 0) :
    normalization b < bits n ∧ Bn n ≤ 2 * (val b * 2 ^ normalization b) ∧ val b * 2 ^ normalization b < Bn n :=
  normalization_ok b hb hne

/-- `div(q, r, a, b)`, `/`, `%`, `div_q`, `div_r` for every divisor `b ≠ 0` at every level: `a = q·b + r`, `0 ≤ r < b` -/
theorem div_exact (t : Nat) {n : Nat} (a b : RU n) (ha : WF a) (hb : WF b) (hne : val b ≠ 0) :
    WF (div t a b).1 ∧ WF (div t a b).2 ∧ val a = val (div t a b).1 * val b + val (div t a b).2 ∧ val (div t a b).2 < val b :=
  div_ok t a b ha hb hne

/-- hence the quotient and remainder are GMP's: `q = ⌊a/b⌋`, `r = a mod b` -/
theorem div_exact_values (t : Nat) {n : Nat} (a b : RU n) (ha : WF a) (hb : WF b) (hne : val b ≠ 0) :
    val (div t a b).1 = val a / val b ∧ val (div t a b).2 = val a % val b := by
  obtain ⟨-, -, hq, hr⟩ := div_vals t a b ha hb hne
  exact ⟨hq, hr⟩

/-- `mod_n(a, const ruint<K+1>& b, n)` (the reduction used by `exp_mod`, `inv_mod`, `bezout_mod`): `b mod n` for every `n ≠ 0` -/
theorem mod_n_exact (t : Nat) {n : Nat} (b : RU (n+1)) (m : RU n) (hb : WF b) (hm : WF m) (hne : val m ≠ 0) :
    WF (mod_n2 t b m) ∧ val (mod_n2 t b m) = val b % val m := mod_n2_ok t b m hb hm hne

/-! ### rushift.h: shifts by every count -/
/-- `left_shift(b, a, d)`, `a << d`, `a <<= d` for every count `d`: `b = a·2^d mod 2^bits` -/
theorem left_shift_exact {n : Nat} (a : RU n) (d : Nat) (ha : WF a) :
    WF (left_shift a d) ∧ val (left_shift a d) = (val a * 2 ^ d) % Bn n := (shift_ok n a d ha).1

/-- `right_shift(b, a, d)`, `a >> d`, `a >>= d`, `right_shift(r, r, d)` for every count: `b = ⌊a / 2^d⌋` -/
theorem right_shift_exact {n : Nat} (a : RU n) (d : Nat) (ha : WF a) :
    WF (right_shift a d) ∧ val (right_shift a d) = val a / 2 ^ d := (shift_ok n a d ha).2

/-- `left_shift(ruint<K+1>& b, const ruint<K>& a, d)`: the widening shift -/
theorem left_shift_wide_exact {n : Nat} (a : RU n) (d : Nat) (ha : WF a) :
    WF (left_shift_x a d) ∧ val (left_shift_x a d) = (val a * 2 ^ d) % Bn (n+1) := left_shift_x_ok a d ha

/-- `|`, `|=`: bitwise or of the values -/
theorem or_exact {n : Nat} (x y : RU n) (hx : WF x) (hy : WF y) : WF (lor x y) ∧ val (lor x y) = val x ||| val y := lor_ok x y hx hy

/-- `&`, `&=`: bitwise and of the values (limb-wise code, every size) -/
theorem and_exact {n : Nat} (x y : RU n) (hx : WF x) (hy : WF y) : WF (land x y) ∧ val (land x y) = val x &&& val y := land_ok x y hx hy

/-- `^`, `^=`: bitwise exclusive or of the values -/
theorem xor_exact {n : Nat} (x y : RU n) (hx : WF x) (hy : WF y) : WF (lxor x y) ∧ val (lxor x y) = val x ^^^ val y := lxor_ok x y hx hy

-- well-formed operands with non-trivial `&`, `^` exist; the hypotheses of `div_2_1_exact` (normalised divisor, `ah < b`) can be met
example : ∃ x y : RU 1, WF x ∧ WF y ∧ val (land x y) ≠ 0 ∧ val (lxor x (zero 1)) ≠ 0 :=
  ⟨ones 1, ones 1, by simp [ones, WF, B64], by simp [ones, WF, B64], by decide, by decide⟩

example : ∃ (ah al b : RU 1), WF ah ∧ WF al ∧ WF b ∧ Bn 1 ≤ 2 * val b ∧ val ah < val b :=
  ⟨zero 1, zero 1, ones 1, by simp [zero, WF, B64], by simp [zero, WF, B64], by simp [ones, WF, B64],
   by simp [ones, val, Bn, bits, B64], by simp [ones, zero, val, Bn, bits, B64]⟩

/-! ### ruconvert.h / rconvert.h: conversion to and from big integers is lossless -/
/-- ruint: `ruint_to_mpz(mpz_to_ruint(z)) = z mod 2^bits` for every integer `z` (a negative `z` is stored as its two's
    complement: the code accepts it) -/
theorem convert_roundtrip (n : Nat) (z : Int) :
    WF (mpz_to_ruint n z) ∧ ruint_to_mpz (mpz_to_ruint n z) = z % (Bn n : Int) := by
  have h := mpz_to_ruint_ok n z
  exact ⟨h.1, by rw [ruint_to_mpz_ok, h.2]⟩

/-- ruint: lossless on the type's range -/
theorem convert_roundtrip_in_range (n : Nat) (z : Int) (h0 : 0 ≤ z) (h1 : z < Bn n) :
    ruint_to_mpz (mpz_to_ruint n z) = z := by
  rw [(convert_roundtrip n z).2, Int.emod_eq_of_lt h0 h1]

/-- ruint, the other direction: every well-formed value survives the trip through a big integer -/
theorem convert_back_roundtrip {n : Nat} (b : RU n) (hb : WF b) : val (mpz_to_ruint n (ruint_to_mpz b)) = val b := by
  rw [ruint_to_mpz_ok]
  have h := (mpz_to_ruint_ok n (val b : Int)).2
  rw [Int.emod_eq_of_lt (by omega) (by exact_mod_cast val_lt b hb)] at h
  exact_mod_cast h

/-- rint: `rint_to_mpz(mpz_to_rint(z))` is the two's-complement reading of `z mod 2^bits`, for every integer `z` -/
theorem convert_roundtrip_signed (n : Nat) (z : Int) :
    rint_to_mpz (mpz_to_rint n z) =
      if 2 * (z % (Bn n : Int)) < Bn n then z % (Bn n : Int) else z % (Bn n : Int) - Bn n := by
  have h := mpz_to_rint_ok n z
  rw [rint_to_mpz_ok _ h.1]
  exact h.sval

/-- rint: lossless on the type's range `[-2^(bits-1), 2^(bits-1))` -/
theorem convert_roundtrip_signed_in_range (n : Nat) (z : Int) (h0 : -(Bn n : Int) ≤ 2 * z) (h1 : 2 * z < Bn n) :
    rint_to_mpz (mpz_to_rint n z) = z := by
  rw [convert_roundtrip_signed]
  exact swrap_id n z h0 h1

-- the signed range contains negative integers
example : ∃ z : Int, -(Bn 2 : Int) ≤ 2 * z ∧ 2 * z < Bn 2 ∧ z < 0 := ⟨-1, by simp [Bn, bits], by simp [Bn, bits], by decide⟩

/-! ### rugcd.h, ruinvmod.h, ruexp.h, rmgmodule.h -/
/-- `gcd(a, b, c)`: Euclid's loop returns `gcd(b, c)` -/
theorem gcd_exact (t : Nat) {n : Nat} (a b : RU n) (ha : WF a) (hb : WF b) :
    WF (gcd t a b) ∧ val (gcd t a b) = Nat.gcd (val a) (val b) := gcd_ok t a b ha hb

/-- `inv_mod(a, b, c)` for every modulus `c ≠ 0` and every `b` coprime to `c`: `0 ≤ a < c` and `a·b ≡ 1 (mod c)`, i.e. the value
    `mpz_invert` returns (cofactor updates with negation, carry and conditional subtraction; non-invertible `b` is outside the contract) -/
theorem inv_mod_exact (t : Nat) {n : Nat} (b c : RU n) (hb : WF b) (hc : WF c) (hne : val c ≠ 0) (hcop : Nat.gcd (val b) (val c) = 1) :
    WF (inv_mod t b c) ∧ val (inv_mod t b c) < val c ∧ (val (inv_mod t b c) * val b) % val c = 1 % val c :=
  inv_mod_ok t b c hb hc hne hcop

/-- `exp_mod(a, b, c, n)` with a `ruint` exponent: `b^c mod n` for every modulus `n ≠ 0` (including `n = 1` and `c = 0`) -/
theorem exp_mod_exact (t : Nat) {n : Nat} (b c m : RU n) (hb : WF b) (hc : WF c) (hm : WF m) (hne : val m ≠ 0) :
    WF (exp_mod t b c m) ∧ val (exp_mod t b c m) = val b ^ val c % val m := exp_mod_ok t b c m hb hc hm hne

/-- `exp_mod(a, b, const T& c, n)` with an unsigned word exponent -/
theorem exp_mod_word_exact (t : Nat) {n : Nat} (b : RU n) (c : Nat) (m : RU n) (hb : WF b) (hc : c < B64) (hm : WF m) (hne : val m ≠ 0) :
    WF (exp_mod_l t b c m) ∧ val (exp_mod_l t b c m) = val b ^ c % val m := exp_mod_l_ok t b c m hb hc hm hne

/-- `arazi_qi(u, a)` for odd `a`: `u·a ≡ 1 (mod 2^bits)` (the code defines `u = inv(a)`; `init_module` passes `-p` to obtain `-inv(p)`) -/
theorem arazi_qi_exact (t : Nat) {n : Nat} (a : RU n) (ha : WF a) (hodd : val a % 2 = 1) :
    WF (arazi_qi t a) ∧ (val (arazi_qi t a) * val a) % Bn n = 1 := arazi_qi_ok t a ha hodd

/-- `bezout_mod(x, y, c, d)` (ruinvmod.h) for all non-zero `c`, `d`, coprime or not: the two cofactor tracks, reduced modulo `d`
    resp. `c` at every step, satisfy `x·c ≡ gcd(c, d) (mod d)` and `y·d ≡ gcd(c, d) (mod c)` with `0 ≤ x < d`, `0 ≤ y ≤ c`
    (`y = c` only when `c = d = 1`, where the code returns `y = 1`).  The code does not compute an identity modulo `2^(2^K)`:
    it computes the two modular inverses-up-to-the-gcd the header documents; `c = 0` with `d ≠ 0` divides by zero (outside the contract). -/
theorem bezout_mod_exact (t : Nat) {n : Nat} (c d : RU n) (hc : WF c) (hd : WF d) (hcne : val c ≠ 0) (hdne : val d ≠ 0) :
    WF (bezout_mod t c d).1 ∧ WF (bezout_mod t c d).2 ∧ val (bezout_mod t c d).1 < val d ∧ val (bezout_mod t c d).2 ≤ val c ∧
    (val (bezout_mod t c d).1 * val c) % val d = Nat.gcd (val c) (val d) % val d ∧
    (val (bezout_mod t c d).2 * val d) % val c = Nat.gcd (val c) (val d) % val c :=
  bezout_mod_ok t c d hc hd hcne hdne

/-- the documented case: for relatively prime `c`, `d`: `x·c = 1 mod d` and `y·d = 1 mod c` -/
theorem bezout_mod_coprime (t : Nat) {n : Nat} (c d : RU n) (hc : WF c) (hd : WF d) (hcne : val c ≠ 0) (hdne : val d ≠ 0)
    (hcop : Nat.gcd (val c) (val d) = 1) :
    (val (bezout_mod t c d).1 * val c) % val d = 1 % val d ∧ (val (bezout_mod t c d).2 * val d) % val c = 1 % val c := by
  have h := bezout_mod_ok t c d hc hd hcne hdne
  rw [hcop] at h
  exact ⟨h.2.2.2.2.1, h.2.2.2.2.2⟩

-- the hypotheses of `bezout_mod_coprime`, and of `inv_mod_exact` / `arazi_qi_exact`, can be met
example : ∃ (c d : RU 1), WF c ∧ WF d ∧ val c ≠ 0 ∧ val d ≠ 0 ∧ Nat.gcd (val c) (val d) = 1 :=
  ⟨ofLimb 1 1, ones 1, by simp [ofLimb, zero, WF, B64], by simp [ones, WF, B64], by decide, by decide, by decide⟩

example : ∃ (b c : RU 1), WF b ∧ WF c ∧ val c ≠ 0 ∧ Nat.gcd (val b) (val c) = 1 ∧ val c % 2 = 1 :=
  ⟨zero 1, ofLimb 1 1, by simp [zero, WF, B64], by simp [ofLimb, zero, WF, B64], by simp [ofLimb, zero, val],
   by simp [ofLimb, zero, val], by simp [ofLimb, zero, val]⟩

/-! ### `rint<K>` (radd.h, rsub.h, rmul.h, rdiv.h, rcmp.h, rfiddling.h, rrint.h): the signed wrappers
    A `rint<K>` is its field `Value : ruint<K>`; `sval` is the two's-complement reading of the image (what `rint_to_mpz` returns,
    `convert_roundtrip_signed`), `swrap n v` the representative of `v` modulo `2^bits` in `[-2^(bits-1), 2^(bits-1))`.
    Every theorem is for every size and all operands. -/
/-- `swrap` is the two's-complement wrap -/
theorem swrap_exact (n : Nat) (v : Int) :
    swrap n v % (Bn n : Int) = v % Bn n ∧ -(Bn n : Int) ≤ 2 * swrap n v ∧ 2 * swrap n v < Bn n ∧
    (-(Bn n : Int) ≤ 2 * v → 2 * v < Bn n → swrap n v = v) := swrap_spec n v

/-- `add`, `+`, `+=`; `sub`, `-`, `-=`; `mul`, `*`, `*=`; `addmul`; unary `-`, `neg`: the signed operation on the values, wrapped -/
theorem rint_ring_ops_exact (t : Nat) {n : Nat} (a b c : RU n) (ha : WF a) (hb : WF b) (hc : WF c) :
    sval (s_add b c) = swrap n (sval b + sval c) ∧ sval (s_sub b c) = swrap n (sval b - sval c) ∧
    sval (s_mul t b c) = swrap n (sval b * sval c) ∧ sval (s_addmul t a b c) = swrap n (sval a + sval b * sval c) ∧
    sval (s_neg c) = swrap n (-sval c) ∧
    WF (s_add b c) ∧ WF (s_sub b c) ∧ WF (s_mul t b c) ∧ WF (s_addmul t a b c) ∧ WF (s_neg c) :=
  ⟨(s_add_ok b c hb hc).2, (s_sub_ok b c hb hc).2, (s_mul_ok t b c hb hc).2, (s_addmul_ok t a b c ha hb hc).2, (s_neg_ok c hc).2,
   (s_add_ok b c hb hc).1, (s_sub_ok b c hb hc).1, (s_mul_ok t b c hb hc).1, (s_addmul_ok t a b c ha hb hc).1, (s_neg_ok c hc).1⟩

/-- `~c` on `rint`: `-c - 1` exactly (never wraps) -/
theorem rint_not_exact {n : Nat} (c : RU n) (hc : WF c) : WF (s_not c) ∧ sval (s_not c) = -sval c - 1 := s_not_ok c hc

/-- `cmp(a, b)` on `rint` (sign test first, then the unsigned comparison of the images) is exactly -1, 0, +1 by the order of the
    signed values, so `<, <=, >, >=, ==, !=` are exact -/
theorem rint_cmp_exact {n : Nat} (a b : RU n) (ha : WF a) (hb : WF b) :
    (s_cmp a b = -1 ∧ sval a < sval b) ∨ (s_cmp a b = 0 ∧ sval a = sval b) ∨ (s_cmp a b = 1 ∧ sval a > sval b) := s_cmp_ok a b ha hb

/-- `lmul(rint<K+1>&, b, c)` (four sign branches on the magnitudes, `MIN` included): the exact product, no wrap -/
theorem rint_lmul_exact (t : Nat) {n : Nat} (b c : RU n) (hb : WF b) (hc : WF c) :
    WF (s_lmul t b c) ∧ sval (s_lmul t b c) = sval b * sval c := s_lmul_ok t b c hb hc

/-- `lsquare(rint<K+1>&, b)`: the exact square -/
theorem rint_lsquare_exact (t : Nat) {n : Nat} (b : RU n) (hb : WF b) :
    WF (s_lsquare t b) ∧ sval (s_lsquare t b) = sval b * sval b := s_lsquare_ok t b hb

/-- the widening constructor `rint<K+1>(const rint<K>&)` is sign extension: the value is unchanged -/
theorem rint_extend_exact {n : Nat} (a : RU n) (ha : WF a) : WF (s_ext a) ∧ sval (s_ext a) = sval a := s_ext_ok a ha

/-- `div_q`, `/`, `/=` on `rint` for every divisor `b ≠ 0`: the code's convention is the quotient truncated towards zero
    (C++ `/`, `mpz_tdiv_q`) of the signed values; the result is wrapped, which matters only for `MIN / -1` (= `MIN`) -/
theorem rint_divq_exact (t : Nat) {n : Nat} (a b : RU n) (ha : WF a) (hb : WF b) (hne : sval b ≠ 0) :
    WF (s_divq t a b) ∧ sval (s_divq t a b) = swrap n (Int.tdiv (sval a) (sval b)) := s_divq_ok t a b ha hb hne

/-- `div_r`, `%`, `%=` on `rint` for a positive divisor (the code asserts `b > 1`; a negative divisor is outside its contract: its
    image is used as an unsigned number): the remainder of the truncated division (sign of the dividend, `mpz_tdiv_r`), never wrapped -/
theorem rint_divr_exact (t : Nat) {n : Nat} (a b : RU n) (ha : WF a) (hb : WF b) (hpos : 0 < sval b) :
    WF (s_divr t a b) ∧ sval (s_divr t a b) = Int.tmod (sval a) (sval b) := s_divr_ok t a b ha hb hpos

/-- hence for a positive divisor `a = (a / b)·b + a % b` on the signed values (quotient wrapped only in the excluded `MIN / -1`) -/
theorem rint_div_identity (t : Nat) {n : Nat} (a b : RU n) (ha : WF a) (hb : WF b) (hpos : 0 < sval b) :
    sval a = Int.tdiv (sval a) (sval b) * sval b + sval (s_divr t a b) := by
  rw [(s_divr_ok t a b ha hb hpos).2, Int.mul_comm]; exact (Int.mul_tdiv_add_tmod _ _).symm

/-- `<<`, `<<=` on `rint` for every count: `b·2^c` wrapped -/
theorem rint_shl_exact {n : Nat} (b : RU n) (d : Nat) (hb : WF b) : WF (s_shl b d) ∧ sval (s_shl b d) = swrap n (sval b * 2 ^ d) :=
  s_shl_ok b d hb

/-- `>>`, `>>=` on `rint` for every count: the arithmetic shift `⌊b / 2^c⌋` (floor, also for negative `b`: `~(~b >> c)`) -/
theorem rint_shr_exact {n : Nat} (b : RU n) (d : Nat) (hb : WF b) : WF (s_shr b d) ∧ sval (s_shr b d) = sval b / 2 ^ d :=
  s_shr_ok b d hb

-- non-vacuity: negative and positive well-formed operands exist (−1 and 1 at 128 bits)
example : ∃ a b : RU 1, WF a ∧ WF b ∧ sval a < 0 ∧ 0 < sval b ∧ sval b ≠ 0 :=
  ⟨ones 1, ofLimb 1 1, by simp [ones, WF, B64], by simp [ofLimb, zero, WF, B64], by decide, by decide, by decide⟩

/-- `mod_n(rint& a, const rint& n)` for a positive modulus: the non-negative residue `a mod n` (floor convention, `mpz_mod`), also for
    negative `a` (`n - ((-a) mod n)`, or 0) -/
theorem rint_modn_exact (t : Nat) {n : Nat} (a m : RU n) (ha : WF a) (hm : WF m) (hpos : 0 < sval m) :
    WF (s_modn t a m) ∧ sval (s_modn t a m) = sval a % sval m := s_modn_ok t a m ha hm hpos

/-- `mod_n(rint<K>& a, const rint<K+1>& b, const rint<K>& c)` (double-width argument) for a positive modulus: `b mod c ≥ 0` -/
theorem rint_modn_wide_exact (t : Nat) {n : Nat} (b : RU (n+1)) (c : RU n) (hb : WF b) (hc : WF c) (hpos : 0 < sval c) :
    WF (s_modn2 t b c) ∧ sval (s_modn2 t b c) = sval b % sval c := s_modn2_ok t b c hb hc hpos

/-- `inv_mod(rint& a, b, c)` for a positive modulus `c` and every `b`, negative ones included (reduced to `c - ((-b) mod c)` first), that is
    coprime to `c`: `0 ≤ a < c` and `c ∣ a·b - 1` -/
theorem rint_invmod_exact (t : Nat) {n : Nat} (b c : RU n) (hb : WF b) (hc : WF c) (hpos : 0 < sval c)
    (hcop : Nat.gcd (sval b).natAbs (sval c).natAbs = 1) :
    WF (s_invmod t b c) ∧ 0 ≤ sval (s_invmod t b c) ∧ sval (s_invmod t b c) < sval c ∧
    (sval c : Int) ∣ sval (s_invmod t b c) * sval b - 1 := s_invmod_ok t b c hb hc hpos hcop

-- the hypotheses of `rint_invmod_exact` can be met with a negative `b`
example : ∃ b c : RU 1, WF b ∧ WF c ∧ 0 < sval c ∧ sval b < 0 ∧ Nat.gcd (sval b).natAbs (sval c).natAbs = 1 :=
  ⟨ones 1, ofLimb 1 1, by simp [ones, WF, B64], by simp [ofLimb, zero, WF, B64], by decide, by decide, by decide⟩

/-! ### conversions between `ruint<K>` / `rint<K>` and the built-in types (ruruint.h constructors and casts, rrint.h) -/
/-- `ruint<K>(T b)` for every value of every signed built-in type (`Low(b < 0 ? -(b+1) : b)`, complemented when `b < 0`): the image
    `b mod 2^bits`; hence `rint<K>(T b)` (`Value(b)`) has the value `b` exactly -/
theorem from_signed_word_exact (n : Nat) (w : Int) (h0 : -(2 : Int) ^ 63 ≤ w) (h1 : w < (2 : Int) ^ 63) :
    WF (u_of_signed n w) ∧ (val (u_of_signed n w) : Int) = w % Bn n ∧ sval (u_of_signed n w) = w := by
  obtain ⟨hw, he⟩ := u_of_signed_ok n w (by simp only [B64]; omega) (by simp only [B64]; omega)
  refine ⟨hw, he, ?_⟩
  have hle : (B64 : Int) ≤ Bn n := by exact_mod_cast B64_le_Bn n
  rw [sval_eq_swrap _ _ he]
  exact swrap_id n w (by simp only [B64] at hle; omega) (by simp only [B64] at hle; omega)

/-- `ruint<K>(T b)` for every value of every unsigned built-in type (`Low(b)`, the rest zero): the value `b` -/
theorem from_unsigned_word_exact (n : Nat) (w : Nat) (h : w < B64) : WF (ofLimb n w) ∧ val (ofLimb n w) = w := ofLimb_ok n w h

/-- the casts `(uint64_t)a`, `(int64_t)a`, `(uint32_t)a`, `(int32_t)a`, `(bool)a` (every `operator T()` returns `T(Low)` … `T(Value)`):
    the value reduced modulo `2^64` resp. `2^32`, read in two's complement for the signed types; `bool` is `a ≠ 0` -/
theorem to_word_exact {n : Nat} (a : RU n) (ha : WF a) :
    to_u64 a = val a % 2 ^ 64 ∧
    to_s64 a = (if val a % 2 ^ 64 < 2 ^ 63 then ((val a % 2 ^ 64 : Nat) : Int) else ((val a % 2 ^ 64 : Nat) : Int) - 2 ^ 64) ∧
    to_u32 a = val a % 2 ^ 32 ∧
    to_s32 a = (if val a % 2 ^ 32 < 2 ^ 31 then ((val a % 2 ^ 32 : Nat) : Int) else ((val a % 2 ^ 32 : Nat) : Int) - 2 ^ 32) ∧
    (to_bool a = true ↔ val a ≠ 0) := by
  have hl := ls_limb_ok a ha
  have e32 : val a % B64 % 4294967296 = val a % 4294967296 := Nat.mod_mod_of_dvd _ (by simp only [B64]; decide)
  refine ⟨?_, ?_, ?_, ?_, to_bool_ok a⟩
  · unfold to_u64; rw [hl]; rfl
  · unfold to_s64; rw [hl]; rfl
  · unfold to_u32; rw [hl, e32]; rfl
  · unfold to_s32; rw [hl, e32]; rfl

/-- word round trip: a signed 64-bit value survives `rint<K>(w)` / `ruint<K>(w)` followed by `(int64_t)` at every size -/
theorem word_roundtrip (n : Nat) (w : Int) (h0 : -(2 : Int) ^ 63 ≤ w) (h1 : w < (2 : Int) ^ 63) : to_s64 (u_of_signed n w) = w :=
  to_s64_of_signed n w h0 h1

/-- `ruint<K>(double b)` for an integer-valued `b` with `|b| < 2^64` (magnitude truncated into the low limb, negated for `b < 0`;
    at the limb level `static_cast<limb>(b)`, which C++ defines only for `b ≥ 0`): the image `b mod 2^bits` (the signed reading
    of that image is not stated here) -/
theorem from_double_exact (n : Nat) (d : Int) (h0 : -(2 : Int) ^ 64 < d) (h1 : d < (2 : Int) ^ 64) :
    WF (u_of_double n d) ∧ (val (u_of_double n d) : Int) = d % Bn n :=
  u_of_double_ok n d (by simp only [B64]; omega) (by simp only [B64]; omega)

/-- `(double)a`: the code converts only the least significant limb (`(double)(Low)` recursively), with the hardware rounding of
    `uint64_t → double` (nearest, ties to even — `dbl_of_u64_rounding`); it is exact whenever `a < 2^53`, and for `rint` whenever `|a| < 2^53`.
    For `a ≥ 2^64` the result is the double of `a mod 2^64`, not of `a` (stated, not hidden: `to_double_is_low_limb`). -/
theorem to_double_exact {n : Nat} (a : RU n) (ha : WF a) :
    (val a < 2 ^ 53 → u_to_double a = val a) ∧ (-(2 : Int) ^ 53 < sval a → sval a < (2 : Int) ^ 53 → s_to_double a = sval a) :=
  ⟨fun h => u_to_double_exact a ha (by omega), fun h0 h1 => s_to_double_exact a ha (by omega) (by omega)⟩

theorem to_double_is_low_limb {n : Nat} (a : RU n) (ha : WF a) : u_to_double a = dbl_of_u64 (val a % 2 ^ 64) := u_to_double_ok a ha

/-- the rounding of `(double)(uint64_t v)` for `v ≥ 2^53`: with `p = 2^(⌊log2 v⌋ - 52)` the spacing of doubles at `v`, the result is a
    multiple of `p` within `p/2` of `v`, and in a tie the even multiple -/
theorem dbl_of_u64_rounding (v : Nat) (h : 2 ^ 53 ≤ v) :
    dbl_of_u64 v % 2 ^ (Nat.log2 v - 52) = 0 ∧ 2 * dbl_of_u64 v ≤ 2 * v + 2 ^ (Nat.log2 v - 52) ∧
    2 * v ≤ 2 * dbl_of_u64 v + 2 ^ (Nat.log2 v - 52) ∧
    ((2 * dbl_of_u64 v = 2 * v + 2 ^ (Nat.log2 v - 52) ∨ 2 * v = 2 * dbl_of_u64 v + 2 ^ (Nat.log2 v - 52)) →
      (dbl_of_u64 v / 2 ^ (Nat.log2 v - 52)) % 2 = 0) := dbl_of_u64_rne v (by omega)

-- the word range contains negative values; a value outside `[0, 2^53)` as `ruint` can be inside `(-2^53, 2^53)` as `rint`; the rounding is not the identity
example : ∃ w : Int, -(2 : Int) ^ 63 ≤ w ∧ w < (2 : Int) ^ 63 ∧ w < 0 := ⟨-9223372036854775808, by decide, by decide, by decide⟩
example : ∃ a : RU 1, WF a ∧ ¬ val a < 2 ^ 53 ∧ -(2 : Int) ^ 53 < sval a ∧ sval a < (2 : Int) ^ 53 := ⟨ones 1, by simp [ones, WF, B64], by decide, by decide, by decide⟩
example : ∃ v : Nat, 2 ^ 53 ≤ v ∧ dbl_of_u64 v ≠ v := ⟨2 ^ 53 + 1, by decide, by decide⟩

/-! ### mixed operands: recursive integer ⊗ built-in scalar -/
/-- For every size, every well-formed `a` and every value `w` of every built-in integral type (`|w| < 2^64` covers u8 … s64 and
    bool), the mixed operators and named forms of `ruint<K>` — `a + w`, `w + a`, `a += w`, `add(r, a, w)`; `a - w`, `a -= w`, `sub`;
    `w - a`; `a * w`, `w * a`, `a *= w`, `mul`; `cmp(a, w)` (hence the six relations); `a / w`, `a /= w`, `div_q`; `a % w`, `a %= w`,
    `div_r`; `a << w`, `a >> w` — compute: convert the scalar to ℤ by its C++ value, operate in ℤ (truncated division), reduce modulo
    `2^(2^K)`. -/
theorem mixed_ops_exact (t : Nat) {n : Nat} (a : RU n) (w : Int) (ha : WF a) (h1 : -(2 : Int) ^ 64 < w) (h2 : w < (2 : Int) ^ 64) :
    (WF (add_s a w) ∧ (val (add_s a w) : Int) = ((val a : Int) + w) % Bn n) ∧
    (WF (sub_s a w) ∧ (val (sub_s a w) : Int) = ((val a : Int) - w) % Bn n) ∧
    (WF (rsub_s a w) ∧ (val (rsub_s a w) : Int) = (w - (val a : Int)) % Bn n) ∧
    (WF (mul_s a w) ∧ (val (mul_s a w) : Int) = ((val a : Int) * w) % Bn n) ∧
    ((cmp_s a w = -1 ∧ (val a : Int) < w) ∨ (cmp_s a w = 0 ∧ (val a : Int) = w) ∨ (cmp_s a w = 1 ∧ (val a : Int) > w)) ∧
    (w ≠ 0 → (WF (divq_s t a w) ∧ (val (divq_s t a w) : Int) = (Int.tdiv (val a) w) % Bn n) ∧
             (WF (mod_s t a w) ∧ (val (mod_s t a w) : Int) = Int.tmod (val a) w)) ∧
    (0 ≤ w → (WF (left_shift a w.toNat) ∧ val (left_shift a w.toNat) = (val a * 2 ^ w.toNat) % Bn n) ∧
             (WF (right_shift a w.toNat) ∧ val (right_shift a w.toNat) = val a / 2 ^ w.toNat)) :=
  ⟨(Img.of_val ha).addS w h1 h2, (Img.of_val ha).subS w h1 h2, (Img.of_val ha).rsubS w h1 h2, (Img.of_val ha).mulS w h1 h2, cmp_s_ok a w ha h2,
   fun h0 => ⟨divq_s_ok t a w ha h1 h2 h0, mod_s_ok t a w ha h1 h2 h0⟩,
   fun _ => ⟨(shift_ok n a w.toNat ha).1, (shift_ok n a w.toNat ha).2⟩⟩

/-- `rint<K>` stores the two's-complement image and forwards `+ − *` with a scalar to the same functions: on the signed readings
    `sval`, the result is the two's-complement wrap of the exact integer result, for every scalar value of every built-in type -/
theorem mixed_ops_exact_signed {n : Nat} (a : RU n) (w : Int) (ha : WF a) (h1 : -(2 : Int) ^ 64 < w) (h2 : w < (2 : Int) ^ 64) :
    let wrap (v : Int) : Int := if 2 * (v % (Bn n : Int)) < Bn n then v % (Bn n : Int) else v % (Bn n : Int) - Bn n
    sval (add_s a w) = wrap (sval a + w) ∧ sval (sub_s a w) = wrap (sval a - w) ∧ sval (rsub_s a w) = wrap (w - sval a) ∧
    sval (mul_s a w) = wrap (sval a * w) := by
  intro wrap
  exact ⟨((Img.of_sval ha).addS w h1 h2).sval, ((Img.of_sval ha).subS w h1 h2).sval, ((Img.of_sval ha).rsubS w h1 h2).sval,
    ((Img.of_sval ha).mulS w h1 h2).sval⟩

-- the scalar range of the mixed operations contains negative non-zero values
example : ∃ w : Int, -(2 : Int) ^ 64 < w ∧ w < (2 : Int) ^ 64 ∧ w < 0 ∧ w ≠ 0 := ⟨-2147483648, by decide, by decide, by decide, by decide⟩

-- non-vacuity: well-formed operands exist at a recursive level, and the carries really occur
example : ∃ b c : RU 2, WF b ∧ WF c ∧ (add b c).2 = true :=
  ⟨ones 2, ones 2, by simp [ones, WF, B64], by simp [ones, WF, B64], by decide⟩
example : ∃ b c : RU 2, WF b ∧ WF c ∧ (sub b c).2 = true :=
  ⟨zero 2, ones 2, by simp [zero, WF, B64], by simp [ones, WF, B64], by decide⟩
example : ∃ b : RU 2, WF b ∧ (add_1 b).2 = true ∧ (sub_1 (zero 2)).2 = true := ⟨ones 2, by simp [ones, WF, B64], by decide, by decide⟩
example : ∃ (b : RU 2) (c : Nat), WF b ∧ c < B64 ∧ (add_l b c).2 = true ∧ (sub_l (zero 2) c).2 = true :=
  ⟨ones 2, 1, by simp [ones, WF, B64], by decide, by decide, by decide⟩
example : ∃ a b : RU 1, WF a ∧ WF b ∧ cmp a b = -1 :=
  ⟨zero 1, ones 1, by simp [zero, WF, B64], by simp [ones, WF, B64], by decide⟩

end Givaro.Props.C06
