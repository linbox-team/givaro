/-
C08 — the schoolbook middle product (`givpoly1midmul.inl`) of `Model/Poly.lean` against `Polynomial K`: the entry `cs` of a
middle product and its algebra (splitting of `Q`, windows of `P`, bilinearity), then `stdmidmul` row by row.
-/
import GivaroModel.Lemmas.PolyLemmas
import Mathlib.Algebra.BigOperators.Intervals

open Polynomial
set_option linter.unusedSectionVars false

namespace Givaro.Lemmas.Poly
open Givaro.Model.Poly

variable {K : Type} [Field K] [DecidableEq K]

/-! ### middle products -/

/-- entry `i` of the middle product of `P` by `Q`: `Σ_s P[s+i]·Q[|Q|-1-s]` -/
def cs (P Q : List K) (i : Nat) : K :=
  ∑ s ∈ Finset.range Q.length, P.getD (s + i) 0 * Q.getD (Q.length - 1 - s) 0

theorem cs_nil (P : List K) (i : Nat) : cs P [] i = 0 := by simp [cs]

theorem cs_congr (P P' Q : List K) (i i' : Nat) (h : ∀ s, s < Q.length → P.getD (s + i) 0 = P'.getD (s + i') 0) :
    cs P Q i = cs P' Q i' := by
  unfold cs
  apply Finset.sum_congr rfl
  intro s hs
  rw [h s (Finset.mem_range.mp hs)]

theorem cs_append (P Q0 Q1 : List K) (i : Nat) :
    cs P (Q0 ++ Q1) i = cs P Q1 i + cs P Q0 (i + Q1.length) := by
  unfold cs
  rw [List.length_append, Nat.add_comm Q0.length Q1.length, Finset.sum_range_add]
  congr 1
  · apply Finset.sum_congr rfl
    intro s hs
    have hs' := Finset.mem_range.mp hs
    rw [getD_append, if_neg (by omega)]
    congr 2; omega
  · apply Finset.sum_congr rfl
    intro s hs
    have hs' := Finset.mem_range.mp hs
    rw [getD_append, if_pos (by omega)]
    congr 2 <;> omega

theorem cs_concat (P Q : List K) (b : K) (i : Nat) : cs P (Q ++ [b]) i = P.getD i 0 * b + cs P Q (i + 1) := by
  rw [cs_append, List.length_singleton]
  congr 1
  simp only [cs, List.length_singleton, Finset.sum_range_one, Nat.zero_add, Nat.sub_self, List.getD_cons_zero]

theorem cs_tail (a : K) (P Q : List K) (i : Nat) : cs (a :: P) Q (i + 1) = cs P Q i :=
  cs_congr _ _ _ _ _ fun s _ => by rw [← Nat.add_assoc, List.getD_cons_succ]

theorem cs_eq_coeff (P Q : List K) (i : Nat) : cs P Q i = (toPoly P * toPoly Q).coeff (i + Q.length - 1) := by
  induction Q using List.reverseRecOn generalizing i with
  | nil => simp [cs]
  | append_singleton Q b ih =>
    rw [cs_concat, ih (i + 1), toPoly_append, List.length_append, List.length_singleton]
    simp only [toPoly_cons, toPoly_nil, mul_zero, add_zero]
    have e : toPoly P * (toPoly Q + X ^ Q.length * C b)
        = toPoly P * toPoly Q + X ^ Q.length * (toPoly P * C b) := by ring
    rw [e, coeff_add, coeff_X_pow_mul', if_pos (by omega), coeff_mul_C, coeff_toPoly, add_comm,
      show i + 1 + Q.length - 1 = i + (Q.length + 1) - 1 by omega, show i + (Q.length + 1) - 1 - Q.length = i by omega]

/-! entry `i` reads `P` only on the window `i … i+|Q|-1`, so it commutes with `drop`, `take` and `pad` of a range that is wide enough -/

theorem cs_drop (P Q : List K) (d i : Nat) : cs (P.drop d) Q i = cs P Q (i + d) :=
  cs_congr _ _ _ _ _ fun s _ => by rw [getD_drop]; congr 1; omega

theorem cs_take (P Q : List K) (t i : Nat) (h : i + Q.length ≤ t) : cs (P.take t) Q i = cs P Q i :=
  cs_congr _ _ _ _ _ fun s hs => by rw [getD_take, if_pos (by omega)]

theorem cs_pad (P Q : List K) (t i : Nat) (h : i + Q.length ≤ t) : cs (pad t P) Q i = cs P Q i :=
  cs_congr _ _ _ _ _ fun s hs => by rw [getD_pad, if_pos (by omega)]

theorem cs_window (P Q : List K) (a b i : Nat) (h : i + b + Q.length ≤ a) :
    cs ((P.take a).drop b) Q i = cs P Q (i + b) := by
  rw [cs_drop, cs_take _ _ _ _ h]

/-! `cs` is bilinear, being a coefficient of the product -/

theorem cs_add (A B Q : List K) (i : Nat) : cs (add A B) Q i = cs A Q i + cs B Q i := by
  rw [cs_eq_coeff, cs_eq_coeff, cs_eq_coeff, toPoly_add, add_mul, coeff_add]

/-- subtraction in the second operand, the shorter `Q0` aligned with the top of `Q1` -/
theorem cs_sub_top (A T Q1 Q0 : List K) (i d : Nat) (hT : T.length = Q1.length) (hd : Q1.length = Q0.length + d)
    (h0 : 1 ≤ Q0.length) (ht : toPoly T = toPoly Q1 - X ^ d * toPoly Q0) : cs A T i = cs A Q1 i - cs A Q0 i := by
  rw [cs_eq_coeff, cs_eq_coeff, cs_eq_coeff, ht, hT, mul_sub, coeff_sub, mul_left_comm, coeff_X_pow_mul', if_pos (by omega)]
  congr 2; omega

/-! the first row and the inner loop of `stdmidmul` are those of `stdmul`, with the product written the other way round -/

theorem midRow0_eq_row0 (b : K) : ∀ (n : Nat) (P : List K), midRow0 b n P = row0 b n P
  | 0, _ => rfl
  | n + 1, [] => by rw [midRow0, row0, midRow0_eq_row0 b n []]
  | n + 1, a :: P => by rw [midRow0, row0, midRow0_eq_row0 b n P, mul_comm]

theorem zipAxpyR_eq_zipAxpy (b : K) : ∀ (R A : List K), zipAxpyR b R A = zipAxpy b R A
  | r :: R, a :: A => by rw [zipAxpyR, zipAxpy, zipAxpyR_eq_zipAxpy b R A, mul_comm]
  | [], _ => by simp [zipAxpyR, zipAxpy]
  | _ :: _, [] => by simp [zipAxpyR, zipAxpy]

theorem midRows_length (P Qr R : List K) : (midRows P Qr R).length = R.length := by
  induction Qr generalizing P R with
  | nil => cases P <;> simp [midRows]
  | cons b Qr ih =>
    cases P with
    | nil => simp [midRows]
    | cons a P =>
      simp only [midRows]
      rw [ih]
      split
      · rfl
      · rw [zipAxpyR_eq_zipAxpy]; exact (zipAxpy_spec _ _ _).1

/-- the rows `t ≥ 1` add to `R[i]` the entry `i+1` against the rest of `Q` (`Qr` is that rest, reversed) -/
theorem midRows_getD (P Qr R : List K) (i : Nat) (hi : i < R.length) :
    (midRows P Qr R).getD i 0 = R.getD i 0 + cs P Qr.reverse (i + 1) := by
  induction Qr generalizing P R with
  | nil => cases P <;> simp [midRows, cs]
  | cons b Qr ih =>
    cases P with
    | nil => simp [midRows, cs]
    | cons a P =>
      simp only [midRows]
      rw [List.reverse_cons, cs_concat, cs_tail, List.getD_cons_succ]
      by_cases hb : b = 0
      · rw [if_pos hb, ih P R hi, hb]; ring
      · rw [if_neg hb, zipAxpyR_eq_zipAxpy, ih P _ (by rw [(zipAxpy_spec _ _ _).1]; exact hi), (zipAxpy_spec _ _ _).2,
          if_pos hi]
        ring

theorem stdmidmulR_exact (r : Nat) (P Q : List K) (hr : 0 < r) (hQ : Q ≠ []) :
    (stdmidmulR r P Q).length = r ∧
    ∀ i, i < r → (stdmidmulR r P Q).getD i 0 = (toPoly P * toPoly Q).coeff (i + Q.length - 1) := by
  unfold stdmidmulR
  rw [if_neg (by omega)]
  have hrev : Q.reverse ≠ [] := by simpa using hQ
  cases hq : Q.reverse with
  | nil => exact absurd hq hrev
  | cons bl Qr =>
    simp only
    rw [midRow0_eq_row0]
    refine ⟨by rw [midRows_length, row0_length], ?_⟩
    intro i hi
    rw [midRows_getD _ _ _ _ (by rw [row0_length]; exact hi), row0_getD _ _ _ _ hi]
    rw [← cs_eq_coeff, ← List.reverse_reverse Q, hq, List.reverse_cons, cs_concat, mul_comm]

theorem midR_of_small (thr fuel r : Nat) (P Q : List K)
    (h : P.length + 1 ≤ Q.length ∨ min (P.length + 1 - Q.length) Q.length ≤ thr) :
    midR thr fuel r P Q = stdmidmulR r P Q := by
  cases fuel with
  | zero => rfl
  | succ f => simp only [midR]; rw [if_pos h]

theorem coeff_of_stdmid (P Q : List K) (hQ : Q ≠ []) (i : Nat) :
    (toPoly (setdegree (pad (P.length - Q.length + 1) (stdmidmulR (P.length - Q.length + 1) P Q)))).coeff i
      = if i < P.length - Q.length + 1 then (toPoly P * toPoly Q).coeff (i + Q.length - 1) else 0 := by
  obtain ⟨_, hc⟩ := stdmidmulR_exact (P.length - Q.length + 1) P Q (by omega) hQ
  rw [toPoly_setdegree, coeff_toPoly, getD_pad]
  split
  · next h => exact hc i h
  · rfl

end Givaro.Lemmas.Poly
