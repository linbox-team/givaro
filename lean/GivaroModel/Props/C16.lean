/-
C16 — domain objects are self-contained: results do not depend on history; destroying one copy never invalidates another.

Part A is about the one place of the library where copies of a domain object share heap storage: the reference-counted
tables of `Modular<Log16>` (modular-log16.inl, copy constructor / operator= / destructor), modelled by `Share`/`sstep` in
`Model/Domain.lean`.  The theorems hold for any number of slots and any legal history (induction over the operation list):
the counter of a block is the number of live objects sharing it, a block is freed exactly when nobody shares it, hence a
live object never points to freed tables and destroying one copy leaves all the others intact.  The machine without the
self-assignment test (`sstepNoGuard`, the code before the repair) breaks this after two operations.

Part B is the value-semantics machine the histories of harness/h_history.cpp are judged against (`hstep`/`hrun`/`expected`):
what a probe of a slot must return is a function of the slot and of the parameter set it holds, and of nothing else.
-/
import GivaroModel.Model.Domain
import GivaroModel.Lemmas.DomainLemmas

namespace Givaro.Props.C16
open Givaro.Model.Domain Givaro.Lemmas.Domain

/-! ## A. reference counting -/

/-! ### what the invariant gives in one state

`SInv` is kept by each of the three member functions (`sinv_new`, `sinv_copy`, `sinv_destroy`, from `sinv_init`:
Lemmas/DomainLemmas.lean; the examples below run them on small states). -/

example : sstep (sstep initShare (.new 0)) (.destroy 0) = { blocks := [⟨0, true⟩], slots := [none, none, none] } :=
  (destroy_eq (b0 := 0) (by decide)).trans (by decide)

example : sstep (sstep initShare (.new 0)) (.copy 2 0) = { blocks := [⟨2, false⟩], slots := [some 0, none, some 0] } :=
  (copy_eq (b0 := 0) 2 (by decide)).trans (by decide)

example : SInv (sstep initShare (.new 1)) := sinv_new sinv_init (by decide) (by decide)

theorem live_block_exists {s : Share} {k b : Nat} (h : SInv s) (hs : s.slot k = some b) : b < s.blocks.length :=
  h.2 k b hs

example : 0 < (sstep initShare (.new 1)).blocks.length :=
  live_block_exists (k := 1) (sinv_new sinv_init (by decide) (by decide)) (by decide)

theorem sharers_pos {s : Share} {k b : Nat} (hs : s.slot k = some b) : 0 < sharers s b :=
  count_pos_of_getD hs

example : 0 < sharers (sstep initShare (.new 1)) 0 := sharers_pos (k := 1) (by decide)

theorem sinv_noDangling {s : Share} (h : SInv s) : noDangling s :=
  fun k b hs => BlockOk.not_freed (h.1 b (h.2 k b hs)) (sharers_pos hs)

example : noDangling (sstep initShare (.new 1)) := sinv_noDangling (sinv_new sinv_init (by decide) (by decide))
example : ((sstep initShare (.new 1)).block 0).freed = false :=
  sinv_noDangling (sinv_new sinv_init (by decide) (by decide)) 1 0 (by decide)

example : SInv (sstep (sstep initShare (.new 0)) (.copy 1 0)) :=
  sinv_copy (b0 := 0) (sinv_new sinv_init (by decide) (by decide)) (by decide) (by decide) (by decide)

example : SInv (sstep (sstep initShare (.new 0)) (.destroy 0)) :=
  sinv_destroy (b0 := 0) (sinv_new sinv_init (by decide) (by decide)) (by decide)

example : sstep (srun sstep initShare [.new 0, .new 1]) (.assign 0 1)
    = sstep (sstep (srun sstep initShare [.new 0, .new 1]) (.destroy 0)) (.copy 0 1) :=
  assign_eq_destroy_then_copy (bk := 0) (bj := 1) (by decide) (by decide) (by decide)

/-! ### one step -/

theorem sstep_inv {s : Share} {op : SOp} (h : SInv s) (hl : legal s op) : SInv (sstep s op) := by
  cases op with
  | new k => exact sinv_new h hl.1 hl.2
  | copy k j =>
    obtain ⟨hk, hn, hj⟩ := hl
    obtain ⟨b, hb⟩ := Option.isSome_iff_exists.mp hj
    exact sinv_copy h hk hn hb
  | destroy k =>
    obtain ⟨_, hk⟩ := hl
    obtain ⟨b, hb⟩ := Option.isSome_iff_exists.mp hk
    exact sinv_destroy h hb
  | assign k j =>
    obtain ⟨hk, hsk, hsj⟩ := hl
    by_cases hkj : k = j
    · simp only [sstep, if_pos hkj]; exact h
    · obtain ⟨bk, hbk⟩ := Option.isSome_iff_exists.mp hsk
      obtain ⟨bj, hbj⟩ := Option.isSome_iff_exists.mp hsj
      rw [assign_eq_destroy_then_copy hkj hbk hbj]
      have hd := sinv_destroy h hbk
      rw [destroy_eq hbk] at hd ⊢
      refine sinv_copy (b0 := bj) hd ?_ ?_ ?_
      · simpa using hk
      · simp only [Share.slot]; rw [getD_set_self _ _ _ hk]
      · simp only [Share.slot]; rw [getD_set_ne _ _ _ hkj]; exact hbj

example : SInv (sstep (sstep initShare (.new 0)) (.copy 2 0)) :=
  sstep_inv (sstep_inv sinv_init (by decide)) (by decide)

/-! ### whole histories -/

theorem srun_inv {s : Share} {ops : List SOp} (h : SInv s) (hl : legalRun s ops) : SInv (srun sstep s ops) := by
  induction ops generalizing s with
  | nil => exact h
  | cons op rest ih =>
    obtain ⟨h1, h2⟩ := hl
    exact ih (sstep_inv h h1) h2

example : SInv (srun sstep (sstep initShare (.new 0)) [.copy 1 0, .destroy 0, .assign 1 1]) :=
  srun_inv (sinv_new sinv_init (by decide) (by decide)) (by decide)

theorem srun_inv_init {ops : List SOp} (hl : legalRun initShare ops) : SInv (srun sstep initShare ops) :=
  srun_inv sinv_init hl

/-- a history touching all three member functions, sharing, re-targeting and freeing -/
def demoHistory : List SOp :=
  [.new 0, .copy 1 0, .copy 2 0, .assign 1 2, .destroy 0, .new 0, .assign 2 0, .assign 1 1, .destroy 1, .destroy 2]

example : legalRun initShare demoHistory := by decide
example : SInv (srun sstep initShare demoHistory) := srun_inv_init (by decide)
example : srun sstep initShare demoHistory
    = { blocks := [⟨0, true⟩, ⟨1, false⟩], slots := [some 1, none, none] } := by decide

/-- the states a legal history can reach from the empty heap -/
def Reachable (s : Share) : Prop := ∃ ops, legalRun initShare ops ∧ s = srun sstep initShare ops

theorem Reachable.inv {s : Share} (h : Reachable s) : SInv s := by
  obtain ⟨ops, hl, rfl⟩ := h
  exact srun_inv_init hl

example : Reachable (srun sstep initShare demoHistory) := ⟨demoHistory, by decide, rfl⟩

/-! ### consequences in every reachable state -/

/-- in every state reached by a legal history the counter of each block equals the number of live objects sharing it,
    and the block is freed exactly when that number is 0 -/
theorem refcount_eq_sharers {ops : List SOp} (hl : legalRun initShare ops) (b : Nat)
    (hb : b < (srun sstep initShare ops).blocks.length) :
    ((srun sstep initShare ops).block b).refs = sharers (srun sstep initShare ops) b
    ∧ (((srun sstep initShare ops).block b).freed = true ↔ sharers (srun sstep initShare ops) b = 0) :=
  (srun_inv_init hl).1 b hb

example : ((srun sstep initShare [.new 0, .copy 1 0, .copy 2 0]).block 0).refs = 3 :=
  (refcount_eq_sharers (ops := [.new 0, .copy 1 0, .copy 2 0]) (by decide) 0 (by decide)).1.trans (by decide)

/-- in every such state a live object never points to a freed block (and the block exists) -/
theorem no_use_after_free {ops : List SOp} (hl : legalRun initShare ops) {k b : Nat}
    (hs : (srun sstep initShare ops).slot k = some b) :
    b < (srun sstep initShare ops).blocks.length ∧ ((srun sstep initShare ops).block b).freed = false :=
  ⟨(srun_inv_init hl).2 k b hs, sinv_noDangling (srun_inv_init hl) k b hs⟩

example : ((srun sstep initShare [.new 0, .copy 1 0, .destroy 0]).block 0).freed = false :=
  (no_use_after_free (ops := [.new 0, .copy 1 0, .destroy 0]) (k := 1) (by decide) (by decide)).2

/-- one step, any state satisfying the invariant: destroying object k leaves every other live object on its block, still existing, not freed -/
theorem destroy_one_keeps_others_step {s : Share} {k j b : Nat} (h : SInv s) (hl : legal s (.destroy k))
    (hjk : j ≠ k) (hj : s.slot j = some b) :
    (sstep s (.destroy k)).slot j = some b
    ∧ b < (sstep s (.destroy k)).blocks.length
    ∧ ((sstep s (.destroy k)).block b).freed = false := by
  have hinv : SInv (sstep s (.destroy k)) := sstep_inv h hl
  have hslot : (sstep s (.destroy k)).slot j = some b := by
    obtain ⟨bk, hbk⟩ := Option.isSome_iff_exists.mp hl.2
    rw [destroy_eq hbk]
    simp only [Share.slot]; rw [getD_set_ne _ _ _ (Ne.symm hjk)]; exact hj
  exact ⟨hslot, hinv.2 j b hslot, sinv_noDangling hinv j b hslot⟩

example : (sstep (sstep (sstep initShare (.new 0)) (.copy 1 0)) (.destroy 0)).slot 1 = some 0
    ∧ 0 < (sstep (sstep (sstep initShare (.new 0)) (.copy 1 0)) (.destroy 0)).blocks.length
    ∧ ((sstep (sstep (sstep initShare (.new 0)) (.copy 1 0)) (.destroy 0)).block 0).freed = false :=
  destroy_one_keeps_others_step (sstep_inv (sstep_inv sinv_init (by decide)) (by decide)) (by decide) (by decide) (by decide)

/-- the same after any legal history -/
theorem destroy_one_keeps_others {ops : List SOp} (hl : legalRun initShare ops) {k j b : Nat}
    (hd : legal (srun sstep initShare ops) (.destroy k)) (hjk : j ≠ k)
    (hj : (srun sstep initShare ops).slot j = some b) :
    (sstep (srun sstep initShare ops) (.destroy k)).slot j = some b
    ∧ b < (sstep (srun sstep initShare ops) (.destroy k)).blocks.length
    ∧ ((sstep (srun sstep initShare ops) (.destroy k)).block b).freed = false :=
  destroy_one_keeps_others_step (srun_inv_init hl) hd hjk hj

example : (sstep (srun sstep initShare [.new 0, .copy 1 0, .copy 2 0]) (.destroy 0)).slot 2 = some 0
    ∧ 0 < (sstep (srun sstep initShare [.new 0, .copy 1 0, .copy 2 0]) (.destroy 0)).blocks.length
    ∧ ((sstep (srun sstep initShare [.new 0, .copy 1 0, .copy 2 0]) (.destroy 0)).block 0).freed = false :=
  destroy_one_keeps_others (ops := [.new 0, .copy 1 0, .copy 2 0]) (by decide) (by decide) (by decide) (by decide)

/-- the other half: the destroyed object is the only one that disappears: the sharers of every block other objects use
    drop by exactly the destroyed object -/
theorem destroy_sharers {s : Share} {k bk : Nat} (hk : s.slot k = some bk) (b : Nat) :
    sharers (sstep s (.destroy k)) b = sharers s b - (if bk = b then 1 else 0) := by
  rw [destroy_eq hk]
  exact count_set_none hk b

example : sharers (sstep (srun sstep initShare [.new 0, .copy 1 0]) (.destroy 0)) 0 = 1 := by
  rw [destroy_sharers (bk := 0) (by decide)]; decide

/-! ### the self-assignment the repair guards against -/

/-- without the `this == &F` test, `F = F` on a sole owner frees the tables it keeps using -/
theorem self_assign_unguarded_counterexample :
    (srun sstepNoGuard initShare [.new 0, .assign 0 0]).slot 0 = some 0
    ∧ ((srun sstepNoGuard initShare [.new 0, .assign 0 0]).block 0).freed = true := by decide

/-- hence the unguarded machine leaves the invariant (although the history is legal) -/
theorem self_assign_unguarded_breaks_inv :
    legalRun initShare [.new 0, .assign 0 0]
    ∧ ¬ noDangling (srun sstepNoGuard initShare [.new 0, .assign 0 0])
    ∧ ¬ SInv (srun sstepNoGuard initShare [.new 0, .assign 0 0]) := by
  have hnd : ¬ noDangling (srun sstepNoGuard initShare [.new 0, .assign 0 0]) := by
    intro h
    have := h 0 0 self_assign_unguarded_counterexample.1
    rw [self_assign_unguarded_counterexample.2] at this
    cases this
  exact ⟨by decide, hnd, fun h => hnd (sinv_noDangling h)⟩

/-- with the guard (`sstep`) the same history leaves slot 0 on a block that is alive with counter 1 -/
theorem self_assign_guarded_ok :
    (srun sstep initShare [.new 0, .assign 0 0]).slot 0 = some 0
    ∧ (srun sstep initShare [.new 0, .assign 0 0]).block 0 = ⟨1, false⟩
    ∧ SInv (srun sstep initShare [.new 0, .assign 0 0]) :=
  ⟨by decide, by decide, srun_inv_init (by decide)⟩

theorem self_assign_noop (s : Share) (k : Nat) : sstep s (.assign k k) = s := by
  simp [sstep]

/-- the two machines agree on every operation except the self-assignment -/
theorem sstepNoGuard_eq {s : Share} {op : SOp} (h : ∀ k, op ≠ .assign k k) : sstepNoGuard s op = sstep s op := by
  cases op with
  | assign k j =>
    have hkj : k ≠ j := fun e => h k (by rw [e])
    simp only [sstepNoGuard, sstep, if_neg hkj]
  | new k => rfl
  | copy k j => rfl
  | destroy k => rfl

example : sstepNoGuard (srun sstep initShare [.new 0, .new 1]) (.assign 0 1)
    = sstep (srun sstep initShare [.new 0, .new 1]) (.assign 0 1) :=
  sstepNoGuard_eq (by intro k h; cases h)

/-! ### assignment between two objects that already share a block -/

/-- assigning between two distinct objects that already share one block (the `--` then `++` path on the same counter)
    leaves the whole state (every counter, every flag, every slot) exactly as it was: the counter is at least 2, so the
    block is not freed in between -/
theorem assign_between_sharers_noop {s : Share} {k j b : Nat} (h : SInv s) (hkj : k ≠ j)
    (hk : s.slot k = some b) (hj : s.slot j = some b) :
    sstep s (.assign k j) = s := by
  have hb : b < s.blocks.length := h.2 k b hk
  have hstep : sstep s (.assign k j)
      = { blocks := acquire (release s.blocks b) b, slots := s.slots.set k (some b) } := by
    simp only [sstep, if_neg hkj, hk, hj]
  rw [hstep, set_getD_self _ (getD_some_lt hk) hk,
    acquire_release_self _ hb ((h.1 b hb).1 ▸ one_lt_count hkj hk hj) (sinv_noDangling h k b hk)]

theorem assign_between_sharers_ok {s : Share} {k j b : Nat} (h : SInv s) (hkj : k ≠ j)
    (hk : s.slot k = some b) (hj : s.slot j = some b) :
    SInv (sstep s (.assign k j))
    ∧ (sstep s (.assign k j)).slot k = some b
    ∧ ((sstep s (.assign k j)).block b).freed = false := by
  rw [assign_between_sharers_noop h hkj hk hj]
  exact ⟨h, hk, sinv_noDangling h k b hk⟩

example : SInv (sstep (srun sstep initShare [.new 0, .copy 1 0]) (.assign 1 0))
    ∧ (sstep (srun sstep initShare [.new 0, .copy 1 0]) (.assign 1 0)).slot 1 = some 0
    ∧ ((sstep (srun sstep initShare [.new 0, .copy 1 0]) (.assign 1 0)).block 0).freed = false :=
  assign_between_sharers_ok (srun_inv_init (by decide)) (by decide) (by decide) (by decide)

example : sstep (srun sstep initShare [.new 0, .copy 1 0]) (.assign 1 0) = srun sstep initShare [.new 0, .copy 1 0] :=
  assign_between_sharers_noop (b := 0) (srun_inv_init (by decide)) (by decide) (by decide) (by decide)

/-! ## B. value semantics of histories -/

/-! ### one step -/

/-- after `slot k := copy-construct(slot j)` slot k holds the parameter set of slot j (nothing is emitted) -/
theorem copy_holds_source_params (s : Slots) {k : Nat} (j : Nat) (hk : k < s.length) :
    (hstep s (.copy k j)).1.get k = s.get j ∧ (hstep s (.copy k j)).2 = none := by
  refine ⟨?_, rfl⟩
  simp only [hstep, Slots.get, Slots.set]
  rw [getD_set_self _ _ _ hk]

example : (hstep [some 1, none, none] (.copy 2 0)).1.get 2 = some 1 :=
  (copy_holds_source_params [some 1, none, none] 0 (by decide)).1

/-- after `slot k = slot j` (both live) slot k holds the parameter set of slot j -/
theorem assign_holds_source_params {s : Slots} {k j pk pj : Nat} (hk : s.get k = some pk) (hj : s.get j = some pj) :
    (hstep s (.assign k j)).1.get k = some pj ∧ (hstep s (.assign k j)).2 = none := by
  have hlen : k < s.length := getD_some_lt hk
  refine ⟨?_, rfl⟩
  simp only [hstep, hk, hj, Slots.set]
  simp only [Slots.get]
  rw [getD_set_self _ _ _ hlen]

example : (hstep [some 1, some 0, none] (.assign 1 0)).1.get 1 = some 1 :=
  (assign_holds_source_params (s := [some 1, some 0, none]) (pk := 0) (by decide) (by decide)).1

/-- self-assignment (`S<k>`, and `A<k><k>` alike) changes nothing and emits nothing -/
theorem selfassign_noop (s : Slots) (k : Nat) :
    hstep s (.selfassign k) = (s, none) ∧ hstep s (.assign k k) = (s, none) := by
  refine ⟨rfl, ?_⟩
  simp only [hstep]
  cases hk : s.get k with
  | none => rfl
  | some p =>
    simp only [Slots.set]
    rw [set_getD_self (d := none) _ (getD_some_lt hk) hk]

/-- destroying slot k leaves every other slot as it was (and empties k) -/
theorem destroy_keeps_others (s : Slots) {k j : Nat} (hjk : j ≠ k) :
    (hstep s (.destroy k)).1.get j = s.get j ∧ (hstep s (.destroy k)).2 = none := by
  refine ⟨?_, rfl⟩
  simp only [hstep, Slots.get, Slots.set]
  rw [getD_set_ne _ _ _ (Ne.symm hjk)]

example : (hstep [some 1, some 1, none] (.destroy 0)).1.get 1 = some 1 :=
  (destroy_keeps_others [some 1, some 1, none] (by decide)).1

theorem probe_does_not_change_state (s : Slots) (k : Nat) : (hstep s (.probe k)).1 = s := rfl

/-- what a probe of slot k must look like in state s: an isolated object `(k, p)` when the slot holds p, nothing when empty -/
def probeOf (s : Slots) (k : Nat) : Option (Nat × Nat) := (s.get k).map (fun p => (k, p))

/-- a probe in the middle of a history emits `probeOf` of the current state, i.e. a function of (k, parameters held) only -/
theorem probe_emits (s : Slots) (k : Nat) : (hstep s (.probe k)).2 = probeOf s k := rfl

/-- frame property: an operation whose target is not slot j leaves slot j as it was -/
theorem hstep_frame (s : Slots) (op : HOp) (j : Nat)
    (h : match op with
      | .new k _ | .copy k _ | .assign k _ | .destroy k => j ≠ k
      | .selfassign _ | .probe _ => True) :
    (hstep s op).1.get j = s.get j := by
  cases op with
  | new k p => simp only [hstep, Slots.get, Slots.set]; rw [getD_set_ne _ _ _ (Ne.symm h)]
  | copy k i => simp only [hstep, Slots.get, Slots.set]; rw [getD_set_ne _ _ _ (Ne.symm h)]
  | assign k i =>
    simp only [hstep]
    split
    · simp only [Slots.get, Slots.set]; rw [getD_set_ne _ _ _ (Ne.symm h)]
    · rfl
  | selfassign k => rfl
  | destroy k => simp only [hstep, Slots.get, Slots.set]; rw [getD_set_ne _ _ _ (Ne.symm h)]
  | probe k => rfl

example : (hstep [some 1, some 0, none] (.assign 1 0)).1.get 0 = some 1 :=
  hstep_frame [some 1, some 0, none] (.assign 1 0) 0 (by decide)

/-! ### whole histories -/

theorem hrun_nil (s : Slots) : hrun s [] = (s, []) := rfl

theorem probeOf_filter (s : Slots) (x k : Nat) :
    (probeOf s x).filter (fun o => o.1 == k) = if x = k then probeOf s k else none := by
  unfold probeOf
  by_cases h : x = k
  · subst h; cases s.get x <;> simp
  · cases s.get x <;> simp [h]

theorem final_section_of_slot (s : Slots) {k : Nat} (hk : k < 3) :
    ([0, 1, 2].filterMap (probeOf s)).filter (fun o => o.1 == k) = (probeOf s k).toList := by
  simp only [List.filter_filterMap, probeOf_filter]
  have h3 : k = 0 ∨ k = 1 ∨ k = 2 := by omega
  rcases h3 with rfl | rfl | rfl
  · cases probeOf s 0 <;> rfl
  · cases probeOf s 1 <;> rfl
  · cases probeOf s 2 <;> rfl

example : ([0, 1, 2].filterMap (probeOf [some 1, none, some 0])).filter (fun o => o.1 == 2) = [(2, 0)] :=
  final_section_of_slot [some 1, none, some 0] (by decide)

theorem final_probe_of_slot (h : List HOp) (k p : Nat) (e : (hrun initSlots h).1.get k = some p) :
    ([0, 1, 2].filterMap (probeOf (hrun initSlots h).1)).filter (fun o => o.1 == k) = [(k, p)] ∧ (k, p) ∈ expected h := by
  have hk : k < 3 := by
    have := getD_some_lt e
    rwa [hrun_length] at this
  have key : ([0, 1, 2].filterMap (probeOf (hrun initSlots h).1)).filter (fun o => o.1 == k) = [(k, p)] := by
    rw [final_section_of_slot _ hk]
    simp [probeOf, e]
  refine ⟨key, ?_⟩
  have : (k, p) ∈ ([0, 1, 2].filterMap (probeOf (hrun initSlots h).1)).filter (fun o => o.1 == k) := by
    rw [key]
    exact List.mem_singleton.mpr rfl
  exact List.mem_append_right _ (List.mem_filter.mp this).1

/-- `expected` is the probes met on the way followed by one probe per live slot, and for each of two histories separately: a slot
    that ends its history holding parameter set `p` contributes exactly `(k, p)` to that final section (`final_probe_of_slot` for
    `(h1, k1)` and for `(h2, k2)`) — the observation is `p` whatever copies, assignments, destructions and probes came before. -/
theorem expected_depends_only_on_params (h1 h2 : List HOp) (k1 k2 p : Nat)
    (e1 : (hrun initSlots h1).1.get k1 = some p) (e2 : (hrun initSlots h2).1.get k2 = some p) :
    expected h1 = (hrun initSlots h1).2 ++ [0, 1, 2].filterMap (probeOf (hrun initSlots h1).1)
    ∧ expected h2 = (hrun initSlots h2).2 ++ [0, 1, 2].filterMap (probeOf (hrun initSlots h2).1)
    ∧ ([0, 1, 2].filterMap (probeOf (hrun initSlots h1).1)).filter (fun o => o.1 == k1) = [(k1, p)]
    ∧ ([0, 1, 2].filterMap (probeOf (hrun initSlots h2).1)).filter (fun o => o.1 == k2) = [(k2, p)]
    ∧ (k1, p) ∈ expected h1 ∧ (k2, p) ∈ expected h2 := by
  exact ⟨rfl, rfl, (final_probe_of_slot h1 k1 p e1).1, (final_probe_of_slot h2 k2 p e2).1,
    (final_probe_of_slot h1 k1 p e1).2, (final_probe_of_slot h2 k2 p e2).2⟩

/-- two very different histories ending with slot 2 resp. slot 0 holding parameter set 1 -/
example : (1, 1) ∈ expected [.new 0 1, .copy 1 0, .destroy 0, .new 0 0, .assign 0 1, .probe 0]
    ∧ (0, 1) ∈ expected [.new 0 1] :=
  let r := expected_depends_only_on_params
    [.new 0 1, .copy 1 0, .destroy 0, .new 0 0, .assign 0 1, .probe 0] [.new 0 1] 1 0 1 (by decide) (by decide)
  ⟨r.2.2.2.2.1, r.2.2.2.2.2⟩

/-- copies and assignments only move construction parameters around: whatever a slot holds was put there by a constructor of the
    history, or was there at the start -/
theorem params_come_from_construction (s : Slots) (ops : List HOp) {k p : Nat}
    (h : (hrun s ops).1.get k = some p) :
    (∃ k', s.get k' = some p) ∨ (∃ k', HOp.new k' p ∈ ops) := by
  induction ops generalizing s k with
  | nil => exact Or.inl ⟨k, h⟩
  | cons op rest ih =>
    rw [hrun_cons] at h
    rcases ih _ h with ⟨k', hk'⟩ | ⟨k', hk'⟩
    · -- slot k' of the state after `op` holds p: look at where `op` took it from
      rcases hstep_state s op with h | ⟨i, v, h, hv⟩
      · rw [h] at hk'; exact Or.inl ⟨k', hk'⟩
      · rw [h] at hk'
        simp only [Slots.get, Slots.set] at hk'
        rw [getD_set] at hk'
        split at hk'
        · subst hk'
          rcases hv with hv | ⟨j, hv⟩ | ⟨q, rfl, hv⟩
          · cases hv
          · exact Or.inl ⟨j, hv.symm⟩
          · cases hv; exact Or.inr ⟨i, List.mem_cons_self⟩
        · exact Or.inl ⟨k', hk'⟩
    · exact Or.inr ⟨k', List.mem_cons_of_mem _ hk'⟩

example : (∃ k', Slots.get [some 5, none, none] k' = some 5) ∨ (∃ k', HOp.new k' 5 ∈ [HOp.copy 1 0, .destroy 0]) :=
  params_come_from_construction [some 5, none, none] [.copy 1 0, .destroy 0] (k := 1) (by decide)

/-- from the empty start: whatever a slot holds at the end was the argument of some constructor call of the history -/
theorem final_params_were_constructed (ops : List HOp) {k p : Nat} (h : (hrun initSlots ops).1.get k = some p) :
    ∃ k', HOp.new k' p ∈ ops := by
  rcases params_come_from_construction initSlots ops h with ⟨k', hk'⟩ | h
  · have := mem_of_getD_some hk'
    simp [initSlots] at this
  · exact h

example : ∃ k', HOp.new k' 1 ∈ [HOp.new 0 1, .copy 1 0, .destroy 0] :=
  final_params_were_constructed [.new 0 1, .copy 1 0, .destroy 0] (k := 1) (by decide)

end Givaro.Props.C16
