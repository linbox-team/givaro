/-
C20 — lemmas about Model/RandomRings.lean for Props/C20Rings.lean: the loops of the ring classes and of GF2 as `untilNonzero`, the
draw value 1 in the floating and balanced classes, the degree `Extension` asks of `Poly1Dom::random`, the in-place coefficient loop,
and the positive denominator of QField's bound (`qfBound_den_pos`, from `mk3_red_spec` of Lemmas/RationalLemmas.lean).
-/
import GivaroModel.Model.RandomRings
import GivaroModel.Lemmas.RandomDestLemmas
import GivaroModel.Lemmas.RationalLemmas
namespace Givaro.Lemmas.Random
open Givaro Givaro.Model.Random Givaro.Model.RandomRings

/-! ### the ring classes and GF2 -/

theorem rNonzeroD_loop (R : RingDraw) : ∀ fuel old g, rNonzeroD R fuel old g = untilNonzero (rRandomD R 0) fuel g :=
  untilNonzero_eq_dest _ (rRandomD R) (fun _ _ => rfl) (rNonzeroD R) (fun _ _ => rfl) (fun _ _ _ => rfl)
theorem gf2NzLoopD_loop : ∀ fuel old g, gf2NzLoopD fuel old g = untilNonzero (gf2RandomD 0) fuel g :=
  untilNonzero_eq_dest _ gf2RandomD (fun _ _ => rfl) gf2NzLoopD (fun _ _ => rfl) (fun _ _ _ => rfl)

theorem wrapS32_small (p : Int) (hfit : p ≤ 2147483647) (x : Int) (h0 : -p ≤ x) (h1 : x ≤ p) : wrapS32 x = x :=
  wrapS32_id (x := x) (by unfold InS32; omega)
theorem wrapS64_small (p : Int) (hfit : p ≤ 9223372036854775807) (x : Int) (h0 : -p ≤ x) (h1 : x ≤ p) : wrapS64 x = x :=
  wrapS64_id (x := x) (by unfold InS64; omega)

theorem flt_init_one (p : Int) (hp : 2 ≤ p) : (fltRing p).init 1 ≠ 0 := by
  simp only [fltRing]; rw [Int.emod_eq_of_lt (by omega) (by omega)]; omega

theorem bal_init_one (wr : Int → Int) (p : Int) (hp : 2 ≤ p) (hwr : ∀ x : Int, -p ≤ x → x ≤ p → wr x = x) : (balRing wr p).init 1 ≠ 0 := by
  simp only [balRing]
  rw [Int.emod_eq_of_lt (by omega) (by omega), hwr 1 (by omega) (by omega)]
  split
  · rw [hwr _ (by omega) (by omega)]; omega
  · omega

/-! ### Extension: the degree asked of `Poly1Dom::random` -/

theorem degOfSize_range (s e : Int) (h0 : -9223372036854775808 < s) (hs : s ≤ e) (he0 : 0 ≤ e) (he : e < 9223372036854775808) :
    -1 ≤ degOfSize s ∧ degOfSize s < e := by
  -- the conversions compose modulo 2^64, and `s - 1` is an `int64_t`
  have a : wrapU64 (wrapU64 s - 1) = wrapU64 (s - 1) := by
    unfold wrapU64; rw [Int.sub_emod, Int.emod_emod, ← Int.sub_emod]
  have b : wrapS64 (wrapU64 (s - 1)) = wrapS64 (s - 1) := by
    unfold wrapS64 wrapU64; rw [Int.add_emod, Int.emod_emod, ← Int.add_emod]
  unfold degOfSize
  rw [a, b, wrapS64_id (by unfold InS64; omega)]
  split <;> omega

/-- `h1`: the requested size is any `int64_t` above `-2^63`; `h2`: `b` is an element of the field (`b.size() ≤ e`) -/
theorem extDegree_lt (e : Int) (he1 : 1 ≤ e) (he : e < 4294967296) (kind : Nat) (arg : Int)
    (h1 : kind % 3 = 1 → -9223372036854775808 < arg ∧ arg < 9223372036854775808)
    (h2 : kind % 3 = 2 → 0 ≤ arg ∧ arg ≤ e) : -1 ≤ extDegree e kind arg ∧ extDegree e kind arg < e := by
  unfold extDegree
  split
  · split <;> omega
  · split
    · rename_i hk
      have := h1 hk
      rw [show wrapU32 (e - 1) = e - 1 from Int.emod_eq_of_lt (by omega) (by omega)]
      exact degOfSize_range _ e (by split <;> omega) (by split <;> omega) (by omega) (by omega)
    · have := h2 (by omega)
      exact degOfSize_range arg e (by omega) this.2 (by omega) (by omega)

/-! ### `Poly1Dom::random` over any coefficient domain: the in-place loop -/

theorem polyFillG_spec (D : CoefDraw) (C : Int → Prop) (hr : ∀ old g, C (D.randomD old g).1) (i : Nat) :
    ∀ (r : List Int) (g : Int), i ≤ r.length →
      ∃ low : List Int, (polyFillG D i r g).1 = low ++ r.drop i ∧ low.length = i ∧ ∀ c ∈ low, C c := by
  induction i with
  | zero => intro r g _; exact ⟨[], by simp [polyFillG], rfl, by simp⟩
  | succ i ih =>
    intro r g h
    obtain ⟨low, h1, h2, h3⟩ := ih (r.set i (D.randomD (r.getD i 0) g).1) (D.randomD (r.getD i 0) g).2 (by simp only [List.length_set]; omega)
    refine ⟨low ++ [(D.randomD (r.getD i 0) g).1], ?_, by simp [h2], ?_⟩
    · simp only [polyFillG]
      rw [h1, drop_set_self r i _ (by omega)]
      simp [List.append_assoc]
    · intro c hc
      simp only [List.mem_append, List.mem_cons, List.not_mem_nil, or_false] at hc
      rcases hc with hc | rfl
      · exact h3 c hc
      · exact hr _ _

/-- the in-place loop only reads the positions it is about to overwrite -/
theorem polyFillG_congr (D : CoefDraw) (hr : ∀ old old' g, D.randomD old g = D.randomD old' g) (i : Nat) :
    ∀ (r r' : List Int) (g : Int), i ≤ r.length → r.length = r'.length → r.drop i = r'.drop i → polyFillG D i r g = polyFillG D i r' g := by
  induction i with
  | zero => intro r r' g _ _ h; simp only [List.drop_zero] at h; rw [h]
  | succ i ih =>
    intro r r' g h hl hd
    simp only [polyFillG]
    rw [hr (r.getD i 0) (r'.getD i 0) g]
    apply ih
    · simp only [List.length_set]; omega
    · simp only [List.length_set]; exact hl
    · rw [drop_set_self r i _ (by omega), drop_set_self r' i _ (by omega), hd]

open Givaro.Model.Rational Givaro.Lemmas.Rational in
/-- `b = 0`: the model's default ⟨0, 1⟩ -/
theorem qfBound_den_pos (a b : Int) : 0 < (qfBound a b).den := by
  unfold qfBound
  by_cases hb : b = 0
  · rw [hb, mk3_zero]; decide
  · obtain ⟨r, hr, hc, _⟩ := mk3_red_spec a b hb
    rw [hr]; exact hc.1

end Givaro.Lemmas.Random
