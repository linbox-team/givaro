/-
C04 — `GFqDom<int32_t|int64_t>::init` from every integer / floating / `Integer` source and `convert`, for every
exponent `k ≥ 1`, on any tables the verified checker `Tables.tablesValid` accepts (C05 ties the constructors to it).

Model: `Model/GFqInitInt.lean` (one function per overload; the tree with fixes/C04_10.patch, see there).  The library's convention (documented in gfq.inl, DESIGN §C04): the
source is reduced modulo the cardinality `q = p^k` and the result decoded p-adically; so `convert(init(z)) = z mod q ∈ [0, q)`,
which is `z mod p` for `k = 1` and congruent to `z` modulo `p` for every `k`.
-/
import GivaroModel.Lemmas.GFqInitInt
import GivaroModel.Lemmas.GFqTables
namespace Givaro.Props.C04GFq
open Givaro Givaro.Spec.GFq Givaro.Model.GFqInitInt Givaro.Lemmas.GFqInitInt Givaro.Lemmas.GFqZech
open Givaro.Model.MontInit (Src)

/-- every overload looks the code `a mod q` up in `_pol2log` (the `zero` shortcut agrees: `_pol2log[0] = 0`) -/
theorem initG_eq {T : Tables} (V : Valid T) (W : Nat) (hW : W = 32 ∨ W = 64) (hqm : (T.q : Int) ≤ maxQ W)
    (s : Src) (a : Int) (ha : s.holds a) : initG T W s a = T.p2l (a % (T.q : Int)).toNat := by
  have hq2 := V.q_ge
  unfold initG
  rw [code_spec W hW (T.q : Int) (by omega) hqm s a ha]
  unfold want
  by_cases h : a < 0 ∧ a % (T.q : Int) = 0
  · rw [if_pos h, h.2]
    have := V.p2l_l2p 0 (by omega)
    rwa [V.l2p_zero, eq_comm] at this
  · rw [if_neg h]

/-- `init` is the canonical map (both storage types at once): for every accepted table set with `q = p^k ≤ maxCardinality()`,
    every source type and every value of it, the element `init` returns is inside the tables, `convert` returns `a mod q ∈ [0, q)`,
    and that lift is congruent to `a` modulo the characteristic. -/
theorem gfq_init_canonical (T : Tables) (hv : T.tablesValid = true) (W : Nat) (hW : W = 32 ∨ W = 64) (hqm : (T.q : Int) ≤ maxQ W)
    (s : Src) (a : Int) (ha : s.holds a) :
    initG T W s a < T.q ∧ ((convertG T (initG T W s a) : Nat) : Int) = a % (T.q : Int) ∧
    (a % (T.q : Int)) % (T.F.p : Int) = a % (T.F.p : Int) := by
  have V := Valid.of_check hv
  have hq2 := V.q_ge
  have m0 := Int.emod_nonneg a (show (T.q : Int) ≠ 0 by omega)
  have m1 := Int.emod_lt_of_pos a (show (0 : Int) < T.q by omega)
  have hdvd : (T.F.p : Int) ∣ (T.q : Int) := Int.natCast_dvd_natCast.mpr (p_dvd_q T.F V.k_pos)
  obtain ⟨r0, r1⟩ := V.p2l_right (a % (T.q : Int)).toNat (by omega)
  rw [initG_eq V W hW hqm s a ha]
  refine ⟨r0, ?_, Int.emod_emod_of_dvd a hdvd⟩
  unfold convertG
  rw [r1]
  exact Int.toNat_of_nonneg m0

/-- `GFqDom<int32_t>`: every source type, every value (`int8_t … uint64_t` incl. minima/maxima and
    values ≥ 2^63, `Integer` of any size and sign, every finite integer-valued `float`/`double`), every `q = p^k ≤ 65536`. -/
theorem gfq32_init_canonical (T : Tables) (hv : T.tablesValid = true) (hqm : (T.q : Int) ≤ 65536)
    (s : Src) (a : Int) (ha : s.holds a) :
    initG T 32 s a < T.q ∧ ((convertG T (initG T 32 s a) : Nat) : Int) = a % (T.q : Int) ∧
    (a % (T.q : Int)) % (T.F.p : Int) = a % (T.F.p : Int) :=
  gfq_init_canonical T hv 32 (Or.inl rfl) (by rw [maxQ, if_pos rfl]; exact hqm) s a ha

/-- the tables of `GFqDom(3, 1)` (generator 2) -/
def t3 : Tables := { F := ⟨3, 1, 0⟩, mOne := 1, log2pol := #[0, 2, 1], pol2log := #[0, 2, 1], plus1 := #[0, 0, -1] }
example : t3.tablesValid = true := by decide +kernel
example : ((convertG t3 (initG t3 32 .s64 (-9223372036854775808)) : Nat) : Int) = (-9223372036854775808) % 3 := by decide
example : ((convertG t3 (initG t3 32 .u64 18446744073709551615) : Nat) : Int) = 18446744073709551615 % 3 := by decide

/-- `GFqDom<int64_t>`: every source type, every value, every `q = p^k ≤ 2^32` — including the
    floating sources of magnitude exactly `2^64` that the unrepaired comparison sent through `(uint64_t)tr`. -/
theorem gfq64_init_canonical (T : Tables) (hv : T.tablesValid = true) (hqm : (T.q : Int) ≤ 4294967296)
    (s : Src) (a : Int) (ha : s.holds a) :
    initG T 64 s a < T.q ∧ ((convertG T (initG T 64 s a) : Nat) : Int) = a % (T.q : Int) ∧
    (a % (T.q : Int)) % (T.F.p : Int) = a % (T.F.p : Int) :=
  gfq_init_canonical T hv 64 (Or.inr rfl) (by rw [maxQ, if_neg (by decide)]; exact hqm) s a ha
example : Src.f64.holds 18446744073709551616 ∧ ((convertG t3 (initG t3 64 .f64 18446744073709551616) : Nat) : Int) = 1 := by
  unfold Src.holds; decide
example : ((convertG t3 (initG t3 64 .f32 (-18446744073709551616)) : Nat) : Int) = 2 := by decide

/-- `init ∘ convert = id` on every element of the field (both storage types), for every source type that holds the lift -/
theorem gfq_init_convert (T : Tables) (hv : T.tablesValid = true) (W : Nat) (hW : W = 32 ∨ W = 64) (hqm : (T.q : Int) ≤ maxQ W)
    (s : Src) (e : Nat) (he : e < T.q) (hs : s.holds (convertG T e : Nat)) : initG T W s (convertG T e : Nat) = e := by
  have V := Valid.of_check hv
  have l1 := V.l2p_lt e he
  rw [initG_eq V W hW hqm s _ hs, Int.emod_eq_of_lt (by omega) (by unfold convertG; omega), Int.toNat_natCast]
  exact V.p2l_l2p e he
example : initG t3 64 .u8 (convertG t3 2 : Nat) = 2 := by decide

/-- `init()` / `zero`, `one`, `mOne` are the images of 0, 1, −1: `init(0)` is the element 0 (`zero`), `init(1)` the element
    `q − 1` (`one`: `γ^(q-1) = 1`), and for a prime field `init(−1)` is the element the object calls `mOne`; for every exponent
    `mOne` converts to `p − 1` (the constant polynomial `−1`). -/
theorem gfq_constants_are_images (T : Tables) (hv : T.tablesValid = true) (W : Nat) (hW : W = 32 ∨ W = 64) (hqm : (T.q : Int) ≤ maxQ W) :
    initG T W .s32 0 = 0 ∧ convertG T 0 = 0 ∧ convertG T (initG T W .s32 1) = 1 ∧
    convertG T T.mOne.toNat = T.F.p - 1 ∧ (T.F.k = 1 → initG T W .s32 (-1) = T.mOne.toNat) := by
  have V := Valid.of_check hv
  have hq2 := V.q_ge
  have hm1 := V.mo_lo
  have hm2 := V.mo_hi
  have I := fun a ha => initG_eq V W hW hqm .s32 a ha
  -- mOne: csucc (l2p mOne) = 0 forces l2p mOne = p - 1
  have hmOne : T.l2p T.mOne.toNat = T.F.p - 1 := by
    have hmo := V.mOne
    have hp2 := V.prime.two_le
    unfold Field.csucc at hmo
    split at hmo
    · have : T.l2p T.mOne.toNat % T.F.p ≤ T.l2p T.mOne.toNat := Nat.mod_le _ _
      omega
    · omega
  have h0 := V.p2l_l2p 0 (by omega)
  rw [V.l2p_zero] at h0
  refine ⟨?_, V.l2p_zero, ?_, hmOne, fun hk1 => ?_⟩
  · rw [I 0 (by unfold Src.holds; omega), Int.zero_emod]; exact h0
  · rw [I 1 (by unfold Src.holds; omega), Int.emod_eq_of_lt (by omega) (by omega)]
    exact (V.p2l_right 1 (by omega)).2
  · have hqp : T.q = T.F.p := q_of_k1 T.F hk1
    rw [I (-1) (by unfold Src.holds; omega), Int.neg_emod_eq_sub_emod, Int.emod_eq_of_lt (by omega) (by omega),
      show ((T.q : Int) - 1).toNat = T.F.p - 1 by omega, ← hmOne]
    exact V.p2l_l2p _ (by omega)
example : t3.tablesValid = true ∧ initG t3 32 .s32 (-1) = 1 := by decide +kernel

end Givaro.Props.C04GFq
