/- C12 — `isprime` on the tabulated range [0, 2^16): from the walks of the two tables (`Lemmas/PrimesTabIP.lean`, `PrimesTabIP2.lean`,
   one module each so that the two evaluations build side by side), `walk_sound` and the primes of `primes16` (`Lemmas/Primes16All.lean`). -/
import GivaroModel.Lemmas.PrimesTabIP
import GivaroModel.Lemmas.PrimesTabIP2
import GivaroModel.Lemmas.Primes16All
namespace Givaro.Lemmas.PrimesTab
open Givaro Givaro.Model.Primes

theorem toInt32_small {n : Int} (h0 : 0 ≤ n) (h1 : n < 2147483648) : toInt32 n = n := by
  unfold toInt32 mpz_get_si wrapS32; split <;> omega

/-- **the table branch of `isprime`**: whatever the oracle, 1 exactly on the primes below 2^16 -/
theorem isprime_small (oracle : Int → Int) (n : Nat) (h : n < 65536) :
    isprime oracle (n : Int) = some (if n.Prime then 1 else 0) := by
  unfold isprime
  by_cases h2 : n < 2
  · rw [if_pos (by omega), if_neg (fun hp : n.Prime => by have := hp.two_le; omega)]
  rw [if_neg (by omega), toInt32_small (by omega) (by omega)]
  have hmem : ∀ Q : Nat → Bool, ((n : Int) ∈ (primes16.filter Q).map fun p : Nat => (p : Int)) ↔ n.Prime ∧ Q n = true := by
    intro Q
    simp only [List.mem_map, List.mem_filter, Primes16.mem_primes16, Int.natCast_inj]
    exact ⟨fun ⟨p, ⟨⟨hp, _⟩, hq⟩, e⟩ => e ▸ ⟨hp, hq⟩, fun ⟨hp, hq⟩ => ⟨n, ⟨⟨hp, h⟩, hq⟩, rfl⟩⟩
  by_cases h3 : n < 32768
  · rw [if_pos (by simp only [BOUNDARY_isprime]; omega), isprime_Tabule,
      walk_sound ipAt ipSize n 32 _ _ _ 1 32768 _ (by omega) (by omega) (by omega) (by omega) ip_walk]
    simp only [hmem, decide_eq_true_eq, h3, and_true]
  · rw [if_neg (by simp only [BOUNDARY_isprime]; omega), if_pos (by simp only [BOUNDARY_2_isprime]; omega), isprime_Tabule2,
      walk_sound ip2At ip2Size n 32 _ _ _ 32767 65536 _ (by omega) (by omega) (by omega) (by omega) ip2_walk]
    simp only [hmem, decide_eq_true_eq, show 32768 ≤ n by omega, and_true]

end Givaro.Lemmas.PrimesTab
