/-
C12 — the sieve variant `IntFactorDom::Erathostene(Lf, p)` (givintfactor.inl; model: Model/PrimesErat.lean, the marking loop,
the divisibility test "the last multiple marked is n", the walk over the unmarked odd numbers, transcribed loop by loop).
For every p (no bound on its size in the model; the C++ counters are `int`, so the model is the code for n + 2√n < 2^31, and the
documentation says "valid for p < BOUNDARY_factor"): the list pushed is exactly the set of primes dividing n = |p| mod 2^64, in
strictly increasing order.
-/
import GivaroModel.Lemmas.PrimesErat
import Mathlib.Data.Nat.PrimeFin
namespace Givaro.Props.C12Erat
open Givaro Givaro.Model.Primes Givaro.Lemmas.Primes

/-- the sieve returns exactly the prime divisors, increasing (n = `(uint64_t)p` ≠ 0) -/
theorem erathostene_exact (p : Int) (h0 : p.natAbs % 18446744073709551616 ≠ 0) :
    (∀ q, q ∈ erathostene p ↔ Nat.Prime q ∧ q ∣ p.natAbs % 18446744073709551616) ∧ (erathostene p).Pairwise (· < ·) := by
  unfold erathostene
  simp only [h0, ↓reduceIte]
  generalize p.natAbs % 18446744073709551616 = N at *
  have hinit : ∀ st, (if N % 2 = 0 then ([2], eratStrip2 N N) else (([] : List Nat), N)) = st →
      EInv N 3 st.2 (Array.replicate (st.2 + 1) false) st.1 := by
    intro st hst
    split at hst <;> subst hst
    · next he =>
      have h2 : 2 ∣ N := Nat.dvd_of_mod_eq_zero he
      obtain ⟨s1, s2, k, s3⟩ := eratStrip_spec (le_refl 2) (by omega) h2
      show EInv N 3 (eratStrip 2 N N) (Array.replicate (eratStrip 2 N N + 1) false) [2]
      exact .start _ s1 (by omega) (fun q hq => by rw [erat_prime_dvd_strip Nat.prime_two hq s3 h2, List.mem_singleton])
        (Or.inl rfl)
    · exact .start _ (by omega) (by omega) (fun q hq => by simp) (Or.inr rfl)
  generalize (if N % 2 = 0 then ([2], eratStrip2 N N) else (([] : List Nat), N)) = st at hinit ⊢
  obtain ⟨i', inv', hgt⟩ := eratLoop_spec N (st.2 + 1) 3 st.2 (Array.replicate (st.2 + 1) false) st.1 (hinit st rfl) (by omega)
  exact erat_final inv' hgt

-- non-vacuity
example : (360 : Int).natAbs % 18446744073709551616 ≠ 0 := by decide

/-- for an argument that fits `uint64_t`: the primes dividing p itself -/
theorem erathostene_exact_word (p : Int) (h0 : p ≠ 0) (hw : p.natAbs < 18446744073709551616) :
    ∀ q, q ∈ erathostene p ↔ Nat.Prime q ∧ (q : Int) ∣ p := by
  intro q
  have hm : p.natAbs % 18446744073709551616 = p.natAbs := Nat.mod_eq_of_lt hw
  have h1 := (erathostene_exact p (by rw [hm]; omega)).1 q
  rw [hm] at h1
  rw [h1, Int.natCast_dvd]

example : (-360 : Int) ≠ 0 ∧ (-360 : Int).natAbs < 18446744073709551616 := ⟨by decide, by decide⟩

theorem erathostene_nodup (p : Int) (h0 : p.natAbs % 18446744073709551616 ≠ 0) : (erathostene p).Nodup := by
  have := (erathostene_exact p h0).2
  exact this.imp (fun h => Nat.ne_of_lt h)

example : (7 : Int).natAbs % 18446744073709551616 ≠ 0 := by decide

theorem erathostene_eq_primeFactors (p : Int) (h0 : p.natAbs % 18446744073709551616 ≠ 0) :
    (erathostene p).toFinset = (p.natAbs % 18446744073709551616).primeFactors := by
  ext q
  rw [List.mem_toFinset, (erathostene_exact p h0).1 q, Nat.mem_primeFactors]
  constructor
  · rintro ⟨a, b⟩; exact ⟨a, b, h0⟩
  · rintro ⟨a, b, _⟩; exact ⟨a, b⟩

example : (1 : Int).natAbs % 18446744073709551616 ≠ 0 := by decide

/-- `if (n == 0) return;` — nothing is pushed for 0 (and for the multiples of 2^64, which `(uint64_t)p` maps to 0) -/
theorem erathostene_zero (p : Int) (h0 : p.natAbs % 18446744073709551616 = 0) : erathostene p = [] := by
  unfold erathostene
  simp [h0]

example : (0 : Int).natAbs % 18446744073709551616 = 0 := by decide

end Givaro.Props.C12Erat
