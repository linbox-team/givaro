/-
Facts about the executable GMP contracts of `Prim/Gmp.lean` that the generated theorems use:
the square-and-multiply `mpz_powm` is `b^e mod m`, the extended Euclid behind `mpz_gcdext`
returns Bezout cofactors, `mpz_invert` returns a modular inverse.
-/
import GivaroModel.Prim.Gmp
import GivaroModel.Spec.IntegerSpec
import GivaroModel.Lemmas.Loops
import Mathlib.Tactic.Ring
import Mathlib.Tactic.Linarith
import Mathlib.Tactic.LinearCombination
import Mathlib.Data.Int.GCD
import Mathlib.Data.Nat.GCD.Basic
import Mathlib.Data.Int.ModEq
namespace Givaro

theorem powModNat_spec (b e m : Nat) (hm : m ≠ 0) : powModNat b e m = (b ^ e) % m := by
  induction e using Nat.strong_induction_on with
  | _ e ih =>
    unfold powModNat
    simp only [hm, ↓reduceIte]
    split
    · next h => subst h; simp
    · next h =>
      -- the exponent's low bit and its half: `b ^ e = b ^ (e % 2) * (b ^ (e / 2)) ^ 2`
      rw [ih (e / 2) (by omega), Loops.pow_bit b e, mul_pow]
      split
      · next h1 =>
        rw [h1, pow_one]
        simp [Nat.mul_mod, Nat.mul_comm]
      · next h1 =>
        rw [show e % 2 = 0 by omega, pow_zero, one_mul]
        simp [Nat.mul_mod]

theorem mpz_powm_spec (b e m : Int) (hm : m ≠ 0) : mpz_powm b e m = Spec.powmod b e m := by
  unfold mpz_powm Spec.powmod
  have hm' : m.natAbs ≠ 0 := by omega
  rw [powModNat_spec _ _ _ hm']
  have hb : 0 ≤ b % m := Int.emod_nonneg b hm
  push_cast
  rw [Int.toNat_of_nonneg hb, Int.emod_abs]
  exact (Int.ModEq.pow e.toNat (Int.mod_modEq b m))

theorem xgcdAux_spec (a b : Int) : ∀ (fuel r : Nat) (s t : Int) (r' : Nat) (s' t' : Int),
    (r : Int) = s * a + t * b → (r' : Int) = s' * a + t' * b → r < fuel →
    ((xgcdAux r s t r' s' t' fuel).1 : Int) = (xgcdAux r s t r' s' t' fuel).2.1 * a + (xgcdAux r s t r' s' t' fuel).2.2 * b
    ∧ (xgcdAux r s t r' s' t' fuel).1 = Nat.gcd r r' := by
  intro fuel
  induction fuel with
  | zero => intro r s t r' s' t' _ _ h; omega
  | succ fuel ih =>
    intro r s t r' s' t' h1 h2 hlt
    cases r with
    | zero => simp [xgcdAux, h2]
    | succ r =>
      simp only [xgcdAux]
      have hmod : r' % (r + 1) < fuel := by
        have := Nat.mod_lt r' (show r + 1 > 0 by omega)
        omega
      have hdiv : (r' : Int) = ((r' / (r + 1) : Nat) : Int) * ((r + 1 : Nat) : Int) + ((r' % (r + 1) : Nat) : Int) := by
        have := Nat.div_add_mod r' (r + 1)
        exact_mod_cast (by rw [Nat.mul_comm] at this; exact this.symm)
      have h3 : ((r' % (r + 1) : Nat) : Int) = (s' - ((r' / (r + 1) : Nat) : Int) * s) * a + (t' - ((r' / (r + 1) : Nat) : Int) * t) * b := by
        have e1 : ((r + 1 : Nat) : Int) = s * a + t * b := h1
        linear_combination h2 - hdiv - ((r' / (r + 1) : Nat) : Int) * e1
      obtain ⟨p1, p2⟩ := ih (r' % (r + 1)) _ _ (r + 1) s t h3 h1 hmod
      refine ⟨p1, ?_⟩
      rw [p2]
      exact (Nat.gcd_rec (r + 1) r').symm


theorem xgcd_spec (a b : Nat) :
    ((Nat.gcd a b : Nat) : Int) = (xgcd a b).2.1 * a + (xgcd a b).2.2 * b := by
  unfold xgcd
  obtain ⟨p1, p2⟩ := xgcdAux_spec (a : Int) (b : Int) (a + b + 1) b 0 1 a 1 0 (by ring) (by ring) (by omega)
  rw [← p1, p2, Nat.gcd_comm]

theorem natAbs_signed (a : Int) : ((a.natAbs : Nat) : Int) = (if a < 0 then -1 else 1) * a := by
  split <;> omega

theorem xgcd_signed (a b : Int) :
    ((Int.gcd a b : Nat) : Int) = (xgcd a.natAbs b.natAbs).2.1 * ((if a < 0 then -1 else 1) * a)
      + (xgcd a.natAbs b.natAbs).2.2 * ((if b < 0 then -1 else 1) * b) := by
  have h := xgcd_spec a.natAbs b.natAbs
  rwa [natAbs_signed a, natAbs_signed b] at h

theorem mpz_gcdext_bezout (a b : Int) :
    mpz_gcdext_d1 a b * a + mpz_gcdext_d2 a b * b = mpz_gcdext_d0 a b := by
  unfold mpz_gcdext_d0 mpz_gcdext_d1 mpz_gcdext_d2
  rw [xgcd_signed a b]; ring

theorem mpz_invert_spec (a m : Int) (hc : Int.gcd a m = 1) (hm : m ≠ 0) :
    Spec.isInvMod (mpz_invert_d0 a m) a m = true := by
  unfold Spec.isInvMod mpz_invert_d0 Spec.iabs
  simp only [hc, hm, ne_eq, not_false_eq_true, and_self, ↓reduceIte, decide_eq_true_eq]
  have h := xgcd_signed a m
  rw [hc, Int.natCast_one] at h
  generalize hx : (xgcd a.natAbs m.natAbs).2.1 * (if a < 0 then -1 else 1) = x at *
  refine ⟨Int.emod_nonneg _ hm, ?_, ?_⟩
  · have := Int.emod_lt x hm
    split <;> omega
  · have h1 : x * a = 1 - ((xgcd a.natAbs m.natAbs).2.2 * (if m < 0 then -1 else 1)) * m := by
      rw [← hx]; linear_combination h.symm
    have e1 : (x % m * a) % m = (x * a) % m := by
      rw [Int.mul_emod, Int.emod_emod_of_dvd _ (dvd_refl m), ← Int.mul_emod]
    rw [e1, h1, Int.sub_mul_emod_self_right]

theorem mpz_powm_ui_spec (b e m : Int) (hm : m ≠ 0) : mpz_powm_ui b e m = Spec.powmod b e m := mpz_powm_spec b e m hm

theorem mpz_gcdext_d0_nonneg (a b : Int) : 0 ≤ mpz_gcdext_d0 a b := by unfold mpz_gcdext_d0; omega
theorem mpz_gcd_nonneg (a b : Int) : 0 ≤ mpz_gcd a b := by unfold mpz_gcd; omega
theorem mpz_lcm_nonneg (a b : Int) : 0 ≤ mpz_lcm a b := by unfold mpz_lcm; omega
theorem mpz_invert_ret_coprime (a m : Int) (hc : Int.gcd a m = 1) (hm : m ≠ 0) : mpz_invert_ret a m = 1 := by
  unfold mpz_invert_ret; simp [hc, hm]

end Givaro
