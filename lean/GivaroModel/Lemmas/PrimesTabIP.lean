/- C12 — the walk of `IP` (arguments below 2^15): the search finds exactly the primes of its range. -/
import GivaroModel.Model.PrimesTables
import GivaroModel.Lemmas.PrimesTabWalk
namespace Givaro.Lemmas.PrimesTab
open Givaro Givaro.Model.Primes

theorem ip_walk : walk ipAt ipSize 32 LOGMAX ((LOGMAX / 2 : Nat) : Int) ((LOGMAX / 2 : Nat) : Int) 1 32768 =
    some ((primes16.filter fun p => decide (p < 32768)).map fun p : Nat => (p : Int)) := by
  decide +kernel

end Givaro.Lemmas.PrimesTab
