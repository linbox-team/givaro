/-
C08 — the members of `Model/PolyMore.lean`, and the observers and in-place divisions of `Model/Poly.lean` not treated earlier,
against `Polynomial K`: observers on any storage (`isOne`, `isMOne`, `isUnit`, `val`, `degree`, `getEntry`), `setEntry`,
`shiftin`, constructors / assignments, the scalar / polynomial mixed quotient and remainder, `inv`, `isDivisor`, `modpowx`, the
in-place divisions `divin` / `divmodin`, the shapes of `random`.
-/
import GivaroModel.Lemmas.PolyDiv
import GivaroModel.Model.PolyMore

open Polynomial
set_option linter.unusedSectionVars false

namespace Givaro.Lemmas.PolyMore
open Givaro.Model.Poly Givaro.Model.PolyMore Givaro.Lemmas.Poly

variable {K : Type} [Field K] [DecidableEq K]

theorem isOne_iff (P : List K) : isOne P = true ↔ setdegree P = [1] := by
  unfold isOne; split
  · next a e => rw [e]; simp
  · next h => simp only [Bool.false_eq_true, false_iff]; intro e; exact h 1 e

theorem isMOne_iff (P : List K) : isMOne P = true ↔ setdegree P = [-1] := by
  unfold isMOne; split
  · next a e => rw [e]; simp
  · next h => simp only [Bool.false_eq_true, false_iff]; intro e; exact h (-1) e

theorem isUnit_iff (P : List K) : Givaro.Model.PolyMore.isUnit P = true ↔ ∃ a : K, a ≠ 0 ∧ setdegree P = [a] := by
  unfold Givaro.Model.PolyMore.isUnit; split
  · next a e => rw [e]; simp
  · next h =>
    simp only [Bool.false_eq_true, false_iff]
    rintro ⟨a, _, e⟩; exact h a e

theorem isOne_correct (P : List K) : isOne P = true ↔ toPoly P = 1 := by
  rw [isOne_iff, ← toPoly_eq_C_iff P 1 one_ne_zero, C_1]

theorem isMOne_correct (P : List K) : isMOne P = true ↔ toPoly P = -1 := by
  rw [isMOne_iff, ← toPoly_eq_C_iff P (-1) (neg_ne_zero.mpr one_ne_zero), C_neg, C_1]

theorem isUnit_correct (P : List K) : Givaro.Model.PolyMore.isUnit P = true ↔ IsUnit (toPoly P) := by
  rw [isUnit_iff, Polynomial.isUnit_iff]
  constructor
  · rintro ⟨a, ha, e⟩
    exact ⟨a, isUnit_iff_ne_zero.mpr ha, ((toPoly_eq_C_iff P a ha).mpr e).symm⟩
  · rintro ⟨r, hr, e⟩
    have hr0 : r ≠ 0 := isUnit_iff_ne_zero.mp hr
    exact ⟨r, hr0, (toPoly_eq_C_iff P r hr0).mp e.symm⟩

/-! ### `val` -/

theorem firstNZ_some (L : List K) : ∀ (i k : Nat), firstNZ i L = some k →
    i ≤ k ∧ L.getD (k - i) 0 ≠ 0 ∧ ∀ j, j < k - i → L.getD j 0 = 0 := by
  induction L with
  | nil => intro i k h; simp [firstNZ] at h
  | cons a t ih =>
    intro i k h
    simp only [firstNZ] at h
    by_cases ha : a = 0
    · rw [if_pos ha] at h
      obtain ⟨h1, h2, h3⟩ := ih (i + 1) k h
      refine ⟨by omega, ?_, ?_⟩
      · rw [show k - i = (k - (i + 1)) + 1 by omega, List.getD_cons_succ]; exact h2
      · intro j hj
        cases j with
        | zero => simpa using ha
        | succ j => rw [List.getD_cons_succ]; exact h3 j (by omega)
    · rw [if_neg ha] at h
      have : i = k := by simpa using h
      subst this
      refine ⟨le_refl _, by simpa using ha, ?_⟩
      intro j hj; omega

theorem firstNZ_none (L : List K) : ∀ i, firstNZ i L = none → ∀ j, L.getD j 0 = 0 := by
  induction L with
  | nil => intro i _ j; simp
  | cons a t ih =>
    intro i h j
    simp only [firstNZ] at h
    by_cases ha : a = 0
    · rw [if_pos ha] at h
      cases j with
      | zero => simpa using ha
      | succ j => rw [List.getD_cons_succ]; exact ih (i + 1) h j
    · rw [if_neg ha] at h; simp at h

theorem val_spec (P : List K) :
    (val P = -1 ↔ toPoly P = 0) ∧
    (toPoly P ≠ 0 → ∃ k : Nat, val P = (k : Int) ∧ (toPoly P).coeff k ≠ 0 ∧ ∀ j, j < k → (toPoly P).coeff j = 0) := by
  have hz := setdegree_eq_nil_iff P
  have hcoef : ∀ j, (toPoly P).coeff j = (setdegree P).getD j 0 := by
    intro j; rw [coeff_toPoly, getD_setdegree]
  unfold val
  cases hs : setdegree P with
  | nil =>
    have h0 := hz.mp hs
    exact ⟨by simp [h0], fun h => absurd h0 h⟩
  | cons a t =>
    have hne : toPoly P ≠ 0 := fun h => by rw [hz.mpr h] at hs; simp at hs
    simp only []
    cases hf : firstNZ 0 (a :: t) with
    | none =>
      exfalso
      apply hne
      ext j
      rw [hcoef, hs, firstNZ_none _ 0 hf j]; simp
    | some k =>
      obtain ⟨_, h2, h3⟩ := firstNZ_some _ 0 k hf
      simp only [Option.getD_some, Nat.sub_zero] at h2 h3 ⊢
      refine ⟨⟨fun h => by omega, fun h => absurd h hne⟩, fun _ => ⟨k, rfl, ?_, ?_⟩⟩
      · rw [hcoef, hs]; exact h2
      · intro j hj; rw [hcoef, hs]; exact h3 j hj

/-! ### `setEntry`, `shiftin` -/

theorem getD_set (L : List K) (i j : Nat) (c : K) (h : i < L.length) :
    (L.set i c).getD j 0 = if j = i then c else L.getD j 0 := by
  simp only [List.getD_eq_getElem?_getD, List.getElem?_set]
  by_cases hij : i = j
  · subst hij; simp [h]
  · have hji : ¬ j = i := fun e => hij e.symm
    simp [hij, hji]

theorem setEntry_coeff (P : List K) (c : K) (i j : Nat) :
    (toPoly (setEntry P c i)).coeff j = if j = i then c else (toPoly P).coeff j := by
  rw [coeff_toPoly, coeff_toPoly, ← getD_setdegree P j]
  unfold setEntry
  simp only []
  -- every branch stores `c` at index `i` of the normal form (resized when `i` is beyond it); a zero beyond it is not stored
  split
  · next hc =>
    split
    · next h =>
      by_cases hj : j = i
      · rw [if_pos hj, hj, hc]; exact getD_of_le _ _ (by omega)
      · rw [if_neg hj]
    · split
      · rw [getD_setdegree, getD_set _ _ _ _ (by omega)]
      · rw [getD_set _ _ _ _ (by omega)]
  · split
    · next h =>
      rw [getD_set _ _ _ _ (by rw [length_pad]; omega), getD_pad]
      by_cases hj : j = i
      · rw [if_pos hj, if_pos hj]
      · rw [if_neg hj, if_neg hj]
        split
        · rfl
        · exact (getD_of_le _ _ (by omega)).symm
    · rw [getD_set _ _ _ _ (by omega)]

theorem toPoly_shiftin (R : List K) (s : Nat) : toPoly (Givaro.Model.PolyMore.shiftin R s) = X ^ s * toPoly R := by
  unfold Givaro.Model.PolyMore.shiftin; exact toPoly_zeros_append s R

/-! ### constructors / assignments -/

theorem toPoly_initDeg (d : Nat) : toPoly (initDeg d : List K) = X ^ d := by
  unfold initDeg; rw [toPoly_zeros_append]; simp

theorem toPoly_initDegVal (d : Nat) (v : K) : toPoly (initDegVal d v) = C v * X ^ d := by
  unfold initDegVal
  split
  · next h => rw [h]; simp
  · rw [toPoly_zeros_append]; simp

theorem normal_initDegVal (d : Nat) (v : K) : Normal (initDegVal d v) := by
  unfold initDegVal Normal
  split
  · simp
  · next h => simp [List.getLast?_append]; exact h

theorem toScalar_eq (P : List K) : toScalar P = (toPoly P).coeff 0 := by
  cases P with
  | nil => simp [toScalar]
  | cons a t => simp [toScalar]

/-! ### scalar / polynomial mixed quotient and remainder -/

theorem toPoly_valDiv (u : K) (P : List K) (hP : toPoly P ≠ 0) : toPoly (valDiv u P) = C u / toPoly P := by
  unfold valDiv
  by_cases hu : u = 0
  · rw [if_pos hu, hu]; simp
  · rw [if_neg hu]
    rcases shape_cases P with ⟨_, h0⟩ | ⟨p0, hp0, hs, hc⟩ | ⟨a, b, t, hs, hd⟩
    · exact absurd h0 hP
    · rw [hs, hc]
      simp only [toPoly_setdegree]
      rw [div_C]; simp [div_eq_mul_inv]
    · rw [hs]
      simp only [toPoly_nil]
      symm
      rw [Polynomial.div_eq_zero_iff hP]
      exact lt_of_le_of_lt degree_C_le hd

theorem toPoly_valMod (u : K) (P : List K) (hP : toPoly P ≠ 0) : toPoly (valMod u P) = C u % toPoly P := by
  unfold valMod
  rcases shape_cases P with ⟨_, h0⟩ | ⟨p0, hp0, hs, hc⟩ | ⟨a, b, t, hs, hd⟩
  · exact absurd h0 hP
  · rw [hs, hc]
    simp only [toPoly_nil]
    symm
    rw [EuclideanDomain.mod_eq_zero]
    exact C_dvd_of_ne_zero hp0 _
  · rw [hs]
    simp only [toPoly_cons, toPoly_nil, mul_zero, add_zero]
    symm
    rw [Polynomial.mod_eq_self_iff hP]
    exact lt_of_le_of_lt degree_C_le hd

theorem toPoly_modVal (P : List K) (u : K) (hu : u ≠ 0) : toPoly (modVal P u) = toPoly P % C u := by
  unfold modVal
  simp only [toPoly_nil]
  symm
  rw [EuclideanDomain.mod_eq_zero]
  exact C_dvd_of_ne_zero hu _

theorem toPoly_inv (thr : Nat) (hthr : 1 ≤ thr) (P : List K) (hP : toPoly P ≠ 0) :
    toPoly (Givaro.Model.PolyMore.inv thr P) = 1 / toPoly P := by
  unfold Givaro.Model.PolyMore.inv
  rw [toPoly_div thr hthr [1] P hP]; simp

/-! ### `isDivisor`, observers by value, `modpowx`, in-place division -/

theorem isDivisor_correct (thr : Nat) (hthr : 1 ≤ thr) (P Q : List K) :
    isDivisor thr P Q = true ↔ toPoly Q ∣ toPoly P := by
  unfold isDivisor
  by_cases hq : toPoly Q = 0
  · rw [if_pos ((isZero_iff Q).mpr hq), isZero_iff, hq, zero_dvd_iff]
  · have : ¬ (isZero Q = true) := fun h => hq ((isZero_iff Q).mp h)
    rw [if_neg this, isZero_iff, toPoly_mod thr hthr P Q hq, EuclideanDomain.mod_eq_zero]

theorem degree_value (P : List K) :
    (toPoly P = 0 → Givaro.Model.Poly.degree P = -1) ∧
    (toPoly P ≠ 0 → Givaro.Model.Poly.degree P = ((toPoly P).natDegree : Int)) := by
  constructor
  · intro h
    unfold Givaro.Model.Poly.degree; rw [(setdegree_eq_nil_iff P).mpr h]; simp
  · intro h
    have h1 := natDegree_toPoly P h
    have h2 := length_setdegree_pos P h
    unfold Givaro.Model.Poly.degree
    omega

theorem getEntry_eq (i : Nat) (P : List K) : getEntry i P = (toPoly P).coeff i := by
  unfold getEntry; rw [getD_setdegree, coeff_toPoly]

theorem coeff_modpowx (P : List K) (l i : Nat) :
    (toPoly (modpowx P l)).coeff i = if i < l then (toPoly P).coeff i else 0 := by
  unfold modpowx assign
  rw [toPoly_setdegree, coeff_toPoly, getD_pad, getD_setdegree, coeff_toPoly]

theorem toPoly_divin (thr : Nat) (hthr : 1 ≤ thr) (Q A : List K) (ha : toPoly A ≠ 0) :
    toPoly (divin thr Q A) = toPoly Q / toPoly A := by
  rw [divin, toPoly_assign, toPoly_div thr hthr Q A ha]

theorem toPoly_divmodin (thr : Nat) (hthr : 1 ≤ thr) (R B : List K) (hb : toPoly B ≠ 0) :
    toPoly (divmodin thr R B).1 = toPoly R / toPoly B ∧ toPoly (divmodin thr R B).2 = toPoly R % toPoly B := by
  unfold divmodin maxpyin
  simp only []
  rw [toPoly_subin, toPoly_mul, toPoly_setdegree, toPoly_setdegree, toPoly_div thr hthr R B hb]
  refine ⟨rfl, ?_⟩
  have := EuclideanDomain.div_add_mod (toPoly R) (toPoly B)
  linear_combination (-1 : K[X]) * this

/-! ### shapes of `random` -/

theorem randomDeg_shape (d : Int) (lead : K) (draws : List K) (hl : lead ≠ 0) :
    (randomDeg d lead draws).length = (if d < 0 then 0 else d.toNat + 1) ∧
    Normal (randomDeg d lead draws) ∧
    Givaro.Model.Poly.degree (randomDeg d lead draws) = (if d < 0 then -1 else d) := by
  unfold randomDeg
  split
  · next h => simp [Normal, Givaro.Model.Poly.degree, setdegree]
  · next h =>
    have hn : Normal ((pad d.toNat draws).reverse ++ [lead]) := by
      simp [Normal, List.getLast?_append]; exact hl
    refine ⟨by simp [length_pad], hn, ?_⟩
    unfold Givaro.Model.Poly.degree
    rw [setdegree_of_normal _ hn]
    simp [length_pad]; omega

end Givaro.Lemmas.PolyMore
