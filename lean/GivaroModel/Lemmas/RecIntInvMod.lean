/- C06 helper lemmas: ruinvmod.h — inv_mod and bezout_mod: Euclid's loop on `(a2, b2)` with cofactors kept reduced modulo `c`
   by `negModC` / `addModC`. -/
import GivaroModel.Lemmas.RecIntExpGcd
import GivaroModel.Model.RecIntSigned
import Mathlib.Data.Nat.ModEq
namespace Givaro.Model.RecInt

/-- `if (temp != 0) sub(temp, c, temp)` -/
def negModC {n : Nat} (c t0 : RU n) : RU n := if !(isZero t0) then subNC c t0 else t0
/-- `add(ret, temp, a); if (ret || temp >= c) sub(temp, c)` -/
def addModC {n : Nat} (c t1 a : RU n) : RU n :=
  if (add t1 a).2 || decide (cmp (add t1 a).1 c ≥ 0) then subNC (add t1 a).1 c else (add t1 a).1

theorem negModC_ok {n : Nat} (c t0 : RU n) (hc : WF c) (h0 : WF t0) (hlt : val t0 < val c) :
    WF (negModC c t0) ∧ val (negModC c t0) < val c ∧ (val (negModC c t0) + val t0) % val c = 0 := by
  unfold negModC
  by_cases hz : isZero t0 = true
  · have hv0 : val t0 = 0 := (isZero_iff t0).mp hz
    simp only [hz, Bool.not_true, Bool.false_eq_true, ↓reduceIte]
    exact ⟨h0, hlt, by rw [hv0]; simp⟩
  · have hz' : isZero t0 = false := eq_false_of_ne_true hz
    simp only [hz', Bool.not_false, ↓reduceIte]
    obtain ⟨hsw, hse⟩ := sub_small c t0 hc h0 (Nat.le_of_lt hlt)
    have hv0 : val t0 ≠ 0 := fun h => hz ((isZero_iff t0).mpr h)
    refine ⟨hsw, by rw [hse]; omega, ?_⟩
    rw [hse]
    have : val c - val t0 + val t0 = val c := by omega
    rw [this, Nat.mod_self]

theorem addModC_ok {n : Nat} (c t1 a : RU n) (hc : WF c) (h1 : WF t1) (ha : WF a) (h1lt : val t1 < val c) (hac : val a ≤ val c) :
    WF (addModC c t1 a) ∧ val (addModC c t1 a) < val c ∧ val (addModC c t1 a) ≡ val t1 + val a [MOD val c] := by
  have hvc := val_lt c hc
  obtain ⟨hsw, hse⟩ := add_ok t1 a h1 ha
  have hsv := val_lt _ hsw
  have hge : (cmp (add t1 a).1 c ≥ 0) ↔ val c ≤ val (add t1 a).1 := by
    rw [ge_iff_le, ← not_lt, cmp_lt _ _ hsw hc, not_lt]
  unfold addModC
  generalize add t1 a = s at *
  have hmodc : ∀ v, v + val c = val t1 + val a → v ≡ val t1 + val a [MOD val c] := by
    intro v h
    have : v + val c ≡ v [MOD val c] := Nat.add_mod_right _ _
    exact this.symm.trans (by rw [h])
  cases hcar : s.2
  · rw [hcar] at hse; simp only [c2n_false, Nat.zero_mul, Nat.add_zero] at hse
    by_cases hcmp : val c ≤ val s.1
    · have : decide (cmp s.1 c ≥ 0) = true := by simp [hge.mpr hcmp]
      simp only [this, Bool.or_true, ↓reduceIte]
      obtain ⟨hdw, hde⟩ := sub_small s.1 c hsw hc hcmp
      exact ⟨hdw, by rw [hde]; omega, hmodc _ (by rw [hde]; omega)⟩
    · have : decide (cmp s.1 c ≥ 0) = false := decide_eq_false (fun h => hcmp (hge.mp h))
      simp only [this, Bool.or_false, Bool.false_eq_true, ↓reduceIte]
      exact ⟨hsw, by omega, by rw [hse]⟩
  · rw [hcar] at hse; simp only [c2n_true, Nat.one_mul] at hse
    simp only [Bool.true_or, ↓reduceIte]
    rw [subNC_eq]
    have hde := ((sub_ok s.1 c hsw hc).exact (Nat.le_of_lt hvc)).1
    rw [Nat.mod_eq_of_lt (by omega)] at hde
    exact ⟨(sub_ok s.1 c hsw hc).1, by rw [hde]; omega, hmodc _ (by rw [hde]; omega)⟩

theorem inv_update (t : Nat) {n : Nat} (c a x q : RU n) (hc : WF c) (ha : WF a) (hx : WF x) (hq : WF q)
    (hne : val c ≠ 0) (hac : val a ≤ val c) :
    WF (addModC c (negModC c (mod_n2 t (lmul t q x) c)) a) ∧
    val (addModC c (negModC c (mod_n2 t (lmul t q x) c)) a) < val c ∧
    val (addModC c (negModC c (mod_n2 t (lmul t q x) c)) a) + val q * val x ≡ val a [MOD val c] := by
  obtain ⟨hpw, hpe⟩ := lmul_ok t q x hq hx
  obtain ⟨h0w, h0e⟩ := mod_n2_ok t (lmul t q x) c hpw hc hne
  rw [hpe] at h0e
  have h0lt : val (mod_n2 t (lmul t q x) c) < val c := by rw [h0e]; exact Nat.mod_lt _ (by omega)
  generalize mod_n2 t (lmul t q x) c = temp0 at *
  obtain ⟨h1w, h1lt, h1e⟩ := negModC_ok c temp0 hc h0w h0lt
  generalize negModC c temp0 = temp1 at *
  obtain ⟨h2w, h2lt, k1⟩ := addModC_ok c temp1 a hc h1w ha h1lt hac
  generalize addModC c temp1 a = temp2 at *
  refine ⟨h2w, h2lt, ?_⟩
  have k2 : val temp1 + val temp0 ≡ 0 [MOD val c] := by unfold Nat.ModEq; rw [h1e]; simp
  have k3 : val temp0 ≡ val q * val x [MOD val c] := by rw [h0e]; exact Nat.mod_modEq _ _
  calc val temp2 + val q * val x ≡ (val temp1 + val a) + val temp0 [MOD val c] := Nat.ModEq.add k1 k3.symm
    _ = (val temp1 + val temp0) + val a := by ring
    _ ≡ 0 + val a [MOD val c] := Nat.ModEq.add_right _ k2
    _ = val a := by ring

theorem invLoop_succ (t : Nat) {n : Nat} (c : RU n) (f : Nat) (a x a2 b2 : RU n) :
    invLoop t c (f+1) a x a2 b2 =
      if isZero b2 then a
      else invLoop t c f x (addModC c (negModC c (mod_n2 t (lmul t (div t a2 b2).1 x) c)) a) b2 (div t a2 b2).2 := rfl

/-- one iteration preserves the cofactor invariants `a·b ≡ a2`, `x·b ≡ b2 (mod c)` -/
theorem inv_step (t : Nat) {n : Nat} (c a x a2 b2 : RU n) (vb : Nat) (hc : WF c) (ha : WF a) (hx : WF x) (ha2 : WF a2) (hb2 : WF b2)
    (hne : val c ≠ 0) (hb2ne : val b2 ≠ 0) (hac : val a ≤ val c)
    (I1 : val a * vb ≡ val a2 [MOD val c]) (I2 : val x * vb ≡ val b2 [MOD val c]) :
    WF (addModC c (negModC c (mod_n2 t (lmul t (div t a2 b2).1 x) c)) a) ∧
    val (addModC c (negModC c (mod_n2 t (lmul t (div t a2 b2).1 x) c)) a) < val c ∧
    val (addModC c (negModC c (mod_n2 t (lmul t (div t a2 b2).1 x) c)) a) * vb ≡ val a2 % val b2 [MOD val c] ∧
    WF (div t a2 b2).2 ∧ val (div t a2 b2).2 = val a2 % val b2 := by
  obtain ⟨hqw, hrw, hqe, hre⟩ := div_vals t a2 b2 ha2 hb2 hb2ne
  obtain ⟨huw, hult, hue⟩ := inv_update t c a x (div t a2 b2).1 hc ha hx hqw hne hac
  generalize addModC c (negModC c (mod_n2 t (lmul t (div t a2 b2).1 x) c)) a = x' at *
  refine ⟨huw, hult, ?_, hrw, hre⟩
  generalize (div t a2 b2).1 = q at *
  -- (x' + q·x)·vb ≡ a·vb ≡ a2 = q·b2 + r  and  q·x·vb ≡ q·b2
  have k1 : (val x' + val q * val x) * vb ≡ val a2 [MOD val c] := (Nat.ModEq.mul_right vb hue).trans I1
  have k2 : val q * (val x * vb) ≡ val q * val b2 [MOD val c] := Nat.ModEq.mul_left _ I2
  have k3 : val x' * vb + val q * (val x * vb) ≡ val a2 % val b2 + val q * val b2 [MOD val c] := by
    have e1 : val x' * vb + val q * (val x * vb) = (val x' + val q * val x) * vb := by ring
    have e2 : val a2 % val b2 + val q * val b2 = val a2 := by rw [hqe]; exact Nat.mod_add_div' _ _
    rw [e1, e2]; exact k1
  exact Nat.ModEq.add_right_cancel k2 k3

/-- the loop of `inv_mod` with the weak bounds its two uses in `bezout_mod` start from: `a`, `x ≤ c` (the cofactor `1` against the modulus
    `1`); after the first pass every cofactor is below `c`. The result is the initial `a` (exit at once, `b2 = 0`), the initial `x` (exit
    after one pass) or an output of `addModC`, which is below `c`: hence the two premises of the strict bound. -/
theorem invLoop_ok (t : Nat) {n : Nat} (c : RU n) (vb g : Nat) (hc : WF c) (hne : val c ≠ 0) :
    ∀ (f : Nat) (a x a2 b2 : RU n), WF a → WF x → WF a2 → WF b2 → val a ≤ val c → val x ≤ val c →
      val a * vb ≡ val a2 [MOD val c] → val x * vb ≡ val b2 [MOD val c] →
      Fuel (val a2) (val b2) f → Nat.gcd (val a2) (val b2) = g →
      WF (invLoop t c (f+1) a x a2 b2) ∧ val (invLoop t c (f+1) a x a2 b2) ≤ val c ∧
      ((val b2 = 0 → val a < val c) → val x < val c → val (invLoop t c (f+1) a x a2 b2) < val c) ∧
      val (invLoop t c (f+1) a x a2 b2) * vb ≡ g [MOD val c] := by
  intro f
  induction f using Nat.strong_induction_on with
  | _ f ih =>
    intro a x a2 b2 ha hx ha2 hb2 hac hxc I1 I2 hf hg
    rw [invLoop_succ]
    by_cases hz : isZero b2 = true
    · rw [if_pos hz]
      have h0 : val b2 = 0 := (isZero_iff b2).mp hz
      rw [h0, Nat.gcd_zero_right] at hg
      exact ⟨ha, hac, fun h _ => h h0, by rw [← hg]; exact I1⟩
    · rw [if_neg hz]
      have hb2ne : val b2 ≠ 0 := fun h => hz ((isZero_iff b2).mpr h)
      obtain ⟨huw, hult, hue, hrw, hre⟩ := inv_step t c a x a2 b2 vb hc ha hx ha2 hb2 hne hb2ne hac I1 I2
      obtain ⟨f', rfl, hf'⟩ := hf.step (Nat.pos_of_ne_zero hb2ne)
      rw [← hre] at hf' hue
      obtain ⟨h1, h2, h3, h4⟩ := ih f' (Nat.lt_succ_self _) x _ b2 _ hx huw hb2 hrw hxc (Nat.le_of_lt hult) I2 hue hf'
        (by rw [hre, gcd_mod_step]; exact hg)
      exact ⟨h1, h2, fun _ hxlt => h3 (fun _ => hxlt) hult, h4⟩

theorem inv_mod_ok (t : Nat) {n : Nat} (b c : RU n) (hb : WF b) (hc : WF c) (hne : val c ≠ 0) (hcop : Nat.gcd (val b) (val c) = 1) :
    WF (inv_mod t b c) ∧ val (inv_mod t b c) < val c ∧ (val (inv_mod t b c) * val b) % val c = 1 % val c := by
  obtain ⟨h1w, h1e⟩ := ofLimb_ok n 1 (by decide)
  have hz := val_zero n
  have hc1 : 1 ≤ val c := Nat.one_le_iff_ne_zero.mpr hne
  obtain ⟨h1, -, h3, h4⟩ := invLoop_ok t c (val b) 1 hc hne (2 * bits n + 1) (ofLimb n 1) (zero n) b c h1w hz.1 hb hc
    (by rw [h1e]; exact hc1) (by rw [hz.2]; omega) (by rw [h1e, Nat.one_mul])
    (by rw [hz.2, Nat.zero_mul]; exact (Nat.modEq_zero_iff_dvd.mpr (Nat.dvd_refl _)).symm) (Fuel.init b c hb hc) hcop
  exact ⟨h1, h3 (fun h => absurd h hne) (by rw [hz.2]; exact hc1), h4⟩

/-- `bezout_mod` runs the loop of `inv_mod` twice in lockstep: the `x` track modulo `d`, the `y` track modulo `c` -/
theorem bezLoop_eq (t : Nat) {n : Nat} (c d : RU n) : ∀ (f : Nat) (lastx x lasty y a b : RU n),
    bezLoop t c d f lastx x lasty y a b = (invLoop t d f lastx x a b, invLoop t c f lasty y a b)
  | 0, _, _, _, _, _, _ => rfl
  | f+1, lastx, x, lasty, y, a, b => by
      unfold bezLoop invLoop
      split
      · rfl
      · exact bezLoop_eq t c d f _ _ _ _ _ _

theorem bezout_mod_ok (t : Nat) {n : Nat} (c d : RU n) (hc : WF c) (hd : WF d) (hcne : val c ≠ 0) (hdne : val d ≠ 0) :
    WF (bezout_mod t c d).1 ∧ WF (bezout_mod t c d).2 ∧ val (bezout_mod t c d).1 < val d ∧ val (bezout_mod t c d).2 ≤ val c ∧
    (val (bezout_mod t c d).1 * val c) % val d = Nat.gcd (val c) (val d) % val d ∧
    (val (bezout_mod t c d).2 * val d) % val c = Nat.gcd (val c) (val d) % val c := by
  obtain ⟨h1w, h1e⟩ := ofLimb_ok n 1 (by decide)
  have hz := val_zero n
  have hc1 : 1 ≤ val c := Nat.one_le_iff_ne_zero.mpr hcne
  have hd1 : 1 ≤ val d := Nat.one_le_iff_ne_zero.mpr hdne
  have z (k m : Nat) : 0 * k ≡ m [MOD m] := by rw [Nat.zero_mul]; exact (Nat.modEq_zero_iff_dvd.mpr (Nat.dvd_refl _)).symm
  -- the `x` track starts from the cofactors `(1, 0)` of `c`, the `y` track from `(0, 1)` of `d`
  obtain ⟨x1, -, x3, x4⟩ := invLoop_ok t d (val c) _ hd hdne (2 * bits n + 1) (ofLimb n 1) (zero n) c d h1w hz.1 hc hd
    (by rw [h1e]; exact hd1) (by rw [hz.2]; omega) (by rw [h1e, Nat.one_mul]) (by rw [hz.2]; exact z _ _) (Fuel.init c d hc hd) rfl
  obtain ⟨y1, y2, -, y4⟩ := invLoop_ok t c (val d) _ hc hcne (2 * bits n + 1) (zero n) (ofLimb n 1) c d hz.1 h1w hc hd
    (by rw [hz.2]; omega) (by rw [h1e]; exact hc1) (by rw [hz.2]; exact z _ _) (by rw [h1e, Nat.one_mul]) (Fuel.init c d hc hd) rfl
  unfold bezout_mod
  rw [bezLoop_eq]
  exact ⟨x1, y1, x3 (fun h => absurd h hdne) (by rw [hz.2]; exact hd1), y2, x4, y4⟩

end Givaro.Model.RecInt
