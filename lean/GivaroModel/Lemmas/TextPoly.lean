/-
C19 — the infix text written by `Poly1Dom::write` is parsed back by the reference parser of Spec/TextSpec.lean: prefixes, one
term, and the loop, stated from one coefficient on (`fromText`) so that the constant term is the case "degree 0".
-/
import GivaroModel.Model.Text
import GivaroModel.Spec.TextSpec
import GivaroModel.Lemmas.TextLemmas
namespace Givaro.Lemmas.Text
open Givaro.Model.Text Givaro.Spec.Text

/-- degree-normalised: the last stored coefficient is not zero -/
def Norm : List Int → Prop
  | [] => True
  | [c] => c ≠ 0
  | _ :: d :: ds => Norm (d :: ds)

/-- the text after a term: nothing, or a blank (the separator `" + "`) -/
def sepStart (rest : List Char) : Bool :=
  match rest with
  | [] => true
  | c :: _ => c = ' '

theorem sepStart_facts (rest : List Char) (h : sepStart rest = true) :
    startsWithDigit rest = false ∧ rest.head? ≠ some '^' ∧ rest.head? ≠ some '*' := by
  cases rest with
  | nil => simp [startsWithDigit]
  | cons c t =>
    have hc : c = ' ' := by simpa [sepStart] using h
    subst hc
    refine ⟨by simp [startsWithDigit]; decide, by simp, by simp⟩

/-! ### normalisation -/

theorem polyNorm_Norm (R : List Int) : Norm (polyNorm R) := by
  induction R with
  | nil => simp [polyNorm, Norm]
  | cons c cs ih =>
    simp only [polyNorm]
    split
    · split <;> simp [Norm, *]
    · rename_i d ds h
      rw [h] at ih
      exact ih

theorem polyNorm_of_Norm (P : List Int) (h : Norm P) : polyNorm P = P := by
  induction P with
  | nil => rfl
  | cons c cs ih =>
    cases cs with
    | nil => simp [polyNorm, Norm] at h ⊢; exact h
    | cons d ds =>
      have h' : Norm (d :: ds) := h
      simp only [polyNorm] at ih ⊢
      rw [ih h']

theorem polyNorm_idem (R : List Int) : polyNorm (polyNorm R) = polyNorm R :=
  polyNorm_of_Norm _ (polyNorm_Norm R)

/-! ### prefixes -/

theorem stripPrefix_append (p t : List Char) : stripPrefix p (p ++ t) = some t := by
  induction p with
  | nil => cases t <;> rfl
  | cons a p ih => simpa [stripPrefix] using ih

theorem stripPrefix_head_ne (a b : Char) (p t : List Char) (h : a ≠ b) : stripPrefix (a :: p) (b :: t) = none := by
  simp [stripPrefix, h]

theorem readIntPrefix_numeral {t : List Char} {c : Int} {rest : List Char} (h : Numeral t c rest) :
    readIntPrefix t = some (c, rest) := by
  obtain ⟨neg, a, l, _, rfl, -, hneg, -, hdrop, ⟨d0, ds, rfl⟩, -, htake, hrest, rfl⟩ := h.scan
  simp only [readIntPrefix, List.head?_cons, Option.some.injEq, hneg, List.drop_succ_cons, List.drop_zero,
    hdrop, htake, hrest, digitsValue_eq, List.isEmpty_cons, Bool.false_eq_true, ↓reduceIte]

theorem readIntPrefix_showInt (c : Int) (rest : List Char) (h : startsWithDigit rest = false) :
    readIntPrefix (showInt c ++ rest) = some (c, rest) :=
  readIntPrefix_numeral (numeral_showInt c rest h)

theorem readNatPrefix_decDigits (l : Nat) (rest : List Char) (h : startsWithDigit rest = false) :
    readNatPrefix (decDigits l ++ rest) = some (l, rest) := by
  obtain ⟨hne, hall, hval⟩ := decDigits_spec l
  have htw := takeWhile_digits (decDigits l) rest hall h
  cases hd : decDigits l with
  | nil => exact absurd hd hne
  | cons d0 ds =>
    rw [hd] at htw hval
    simp only [readNatPrefix, htw.1, htw.2, List.isEmpty_cons, Bool.false_eq_true, ↓reduceIte, digitsValue_eq, hval]

/-! ### one term -/

def powText (l : Nat) : List Char := if l ≥ 2 then '^' :: decDigits l else []

theorem degreePart_powText (c : Int) (l : Nat) (hl : 1 ≤ l) (rest : List Char) (h : sepStart rest = true) :
    degreePart c (powText l ++ rest) = some (c, l, rest) := by
  obtain ⟨hsd, hpow, _⟩ := sepStart_facts rest h
  by_cases h2 : l ≥ 2
  · simp only [powText, h2, ↓reduceIte, List.cons_append, degreePart, readNatPrefix_decDigits l rest hsd]
  · have h1 : l = 1 := by omega
    subst h1
    simp only [powText, h2, ↓reduceIte, List.nil_append]
    cases rest with
    | nil => rfl
    | cons a t =>
      have : a ≠ '^' := by simpa using hpow
      simp [degreePart, this]

theorem polyTerm_eq (x : List Char) (c : Int) (l : Nat) :
    polyTerm x c l = (if c ≠ 1 then '(' :: showInt c ++ [')', '*'] else []) ++ x ++ powText l := by
  simp [polyTerm, powText, elemShow]

theorem nameOk_cons (x : List Char) (h : nameOk x = true) :
    ∃ a x', x = a :: x' ∧ isDigit a = false ∧ a ≠ '(' := by
  cases x with
  | nil => simp [nameOk] at h
  | cons a x' =>
    simp only [nameOk, Bool.and_eq_true, Bool.not_eq_true', bne_iff_ne, ne_eq] at h
    exact ⟨a, x', rfl, h.1, h.2⟩

theorem parseTerm_xterm (x : List Char) (hx : nameOk x = true) (c : Int) (l : Nat) (hl : 1 ≤ l)
    (rest : List Char) (h : sepStart rest = true) :
    parseTerm x (polyTerm x c l ++ rest) = some (c, l, rest) := by
  obtain ⟨a, x', rfl, hdig, hpar⟩ := nameOk_cons x hx
  rw [polyTerm_eq]
  by_cases hc : c = 1
  · subst hc
    simp only [ne_eq, not_true_eq_false, ↓reduceIte, List.nil_append, List.cons_append, parseTerm, hpar]
    have := stripPrefix_append (a :: x') (powText l ++ rest)
    simp only [List.cons_append] at this
    rw [List.append_assoc, this]
    exact degreePart_powText 1 l hl rest h
  · have hri := readIntPrefix_showInt c (')' :: '*' :: ((a :: x') ++ powText l ++ rest)) (by simp [startsWithDigit]; decide)
    have hsp := stripPrefix_append (a :: x') (powText l ++ rest)
    simp only [ne_eq, hc, not_false_eq_true, ↓reduceIte, List.cons_append, List.append_assoc, parseTerm] at hri hsp ⊢
    simp only [List.nil_append, hri, not_true_eq_false, ↓reduceIte, hc, hsp, Option.bind_some]
    exact degreePart_powText c l hl rest h

def constText (c0 : Int) : List Char := if c0 = 1 then showInt c0 else '(' :: showInt c0 ++ [')']

theorem parseTerm_const (x : List Char) (hx : nameOk x = true) (c0 : Int) (rest : List Char) (h : sepStart rest = true) :
    parseTerm x (constText c0 ++ rest) = some (c0, 0, rest) := by
  obtain ⟨a, x', rfl, hdig, hpar⟩ := nameOk_cons x hx
  obtain ⟨_, _, hstar⟩ := sepStart_facts rest h
  by_cases hc : c0 = 1
  · subst hc
    have hct : constText 1 = ['1'] := by decide
    have ha1 : a ≠ '1' := by intro e; subst e; revert hdig; decide
    rw [hct]
    simp [parseTerm, stripPrefix_head_ne a '1' x' rest ha1]
  · have hri := readIntPrefix_showInt c0 (')' :: rest) (by simp [startsWithDigit]; decide)
    simp only [constText, hc, ↓reduceIte, List.cons_append, List.append_assoc, List.nil_append, parseTerm, hri, ne_eq,
      not_true_eq_false]
    cases rest with
    | nil => rfl
    | cons d t =>
      have : d ≠ '*' := by simpa using hstar
      simp [this]

/-- the writer's term for `c ≠ 0` at degree `l` -/
def termText (x : List Char) (c : Int) : Nat → List Char
  | 0 => constText c
  | l + 1 => polyTerm x c (l + 1)

theorem parseTerm_termText (x : List Char) (hx : nameOk x = true) (c : Int) (l : Nat) (rest : List Char)
    (h : sepStart rest = true) : parseTerm x (termText x c l ++ rest) = some (c, l, rest) := by
  cases l with
  | zero => exact parseTerm_const x hx c rest h
  | succ l => exact parseTerm_xterm x hx c (l + 1) (by omega) rest h

/-! ### the loop -/

/-- what the writer emits from the coefficient `c` of degree `l` on -/
def fromText (x : List Char) (c : Int) (cs : List Int) (l : Nat) : List Char :=
  (if c ≠ 0 then termText x c l else []) ++ polyTail x cs c (l + 1)

theorem polyShow_cons (x : List Char) (c0 : Int) (cs : List Int) : polyShow x (c0 :: cs) = fromText x c0 cs 0 := by
  simp [polyShow, fromText, termText, constText, elemShow]

theorem fromText_zero (x : List Char) (d : Int) (ds : List Int) (l : Nat) :
    fromText x 0 (d :: ds) l = fromText x d ds (l + 1) := by
  simp [fromText, polyTail, termText]

/-- stated with `++ []` in the form in which `parseTerm_termText` applies -/
theorem fromText_last (x : List Char) (c : Int) (l : Nat) (hc : c ≠ 0) : fromText x c [] l = termText x c l ++ [] := by
  simp [fromText, polyTail, hc]

theorem fromText_sep (x : List Char) (c d : Int) (ds : List Int) (l : Nat) (hc : c ≠ 0) :
    fromText x c (d :: ds) l = termText x c l ++ (' ' :: '+' :: ' ' :: fromText x d ds (l + 1)) := by
  simp [fromText, polyTail, termText, hc]

theorem parseLoop_last {x : List Char} {t : List Char} {c : Int} {l k : Nat} (f : Nat) (acc : List Int)
    (ht : parseTerm x t = some (c, l, [])) (hc : c ≠ 0) (hk : k ≤ l) :
    parseLoop x (f + 1) k acc t = some (acc ++ List.replicate (l - k) 0 ++ [c]) := by
  have hnot : ¬ (c = 0 ∨ l < k) := by omega
  simp only [parseLoop, ht, hnot, ↓reduceIte]

theorem parseLoop_more {x : List Char} {t t' : List Char} {c : Int} {l k : Nat} (f : Nat) (acc : List Int)
    (ht : parseTerm x t = some (c, l, ' ' :: '+' :: ' ' :: t')) (hc : c ≠ 0) (hk : k ≤ l) :
    parseLoop x (f + 1) k acc t = parseLoop x f (l + 1) (acc ++ List.replicate (l - k) 0 ++ [c]) t' := by
  have hnot : ¬ (c = 0 ∨ l < k) := by omega
  simp only [parseLoop, ht, hnot, ↓reduceIte, stripPrefix]

theorem parseLoop_fromText (x : List Char) (hx : nameOk x = true) (cs : List Int) :
    ∀ (c : Int) (l k fuel : Nat) (acc : List Int), Norm (c :: cs) → k ≤ l → (fromText x c cs l).length < fuel →
      parseLoop x fuel k acc (fromText x c cs l) = some (acc ++ List.replicate (l - k) 0 ++ c :: cs) := by
  induction cs with
  | nil =>
    intro c l k fuel acc hN hk hf
    obtain ⟨f, rfl⟩ : ∃ f, fuel = f + 1 := ⟨fuel - 1, by omega⟩
    rw [fromText_last x c l hN, parseLoop_last f acc (parseTerm_termText x hx c l [] rfl) hN hk]
  | cons d ds ih =>
    intro c l k fuel acc hN hk hf
    have hN' : Norm (d :: ds) := hN
    by_cases hc : c = 0
    · subst hc
      rw [fromText_zero] at hf ⊢
      rw [ih d (l + 1) k fuel acc hN' (by omega) hf, show l + 1 - k = (l - k) + 1 by omega, List.replicate_succ']
      simp
    · obtain ⟨f, rfl⟩ : ∃ f, fuel = f + 1 := ⟨fuel - 1, by omega⟩
      rw [fromText_sep x c d ds l hc] at hf ⊢
      have hlen : (fromText x d ds (l + 1)).length < f := by
        simp only [List.length_append, List.length_cons] at hf
        omega
      rw [parseLoop_more f acc (parseTerm_termText x hx c l _ rfl) hc hk, ih d (l + 1) (l + 1) f _ hN' (by omega) hlen]
      simp

theorem parsePoly_polyShow (x : List Char) (hx : nameOk x = true) (P : List Int) (hP : Norm P) :
    parsePoly x (polyShow x P) = some P := by
  cases P with
  | nil =>
    obtain ⟨a, x', rfl, hdig, hpar⟩ := nameOk_cons x hx
    have ha0 : a ≠ '0' := by intro e; subst e; revert hdig; decide
    simp [parsePoly, polyShow, parseLoop, parseTerm, stripPrefix_head_ne a '0' x' [] ha0]
  | cons c0 cs =>
    rw [polyShow_cons, parsePoly, parseLoop_fromText x hx cs c0 0 0 _ [] hP (by omega) (by omega)]
    simp

/-- `Poly1Dom::write` prints the body applied to `setdegree` of the stored vector (`0` for an empty or all-zero one) -/
theorem poly_write_eq (x : List Char) (R : List Int) : polyWrite x R = polyShow x (polyNorm R) := by
  cases R with
  | nil => rfl
  | cons c cs =>
    simp only [polyWrite]
    split
    · rename_i h; rw [h]; rfl
    · rename_i c0 cs0 h; rw [h]

end Givaro.Lemmas.Text
