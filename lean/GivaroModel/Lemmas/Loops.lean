/- A loop shape that several models share: right-to-left binary powering, seen through a representation relation.
   A model loop enters through its two defining equations. -/
import Mathlib.Algebra.Group.Basic
import Mathlib.Tactic.Ring

namespace Givaro.Loops

/-! ### square and multiply, least significant bit first -/

theorem pow_bit {M : Type*} [Monoid M] (x : M) (k : Nat) : x ^ k = x ^ (k % 2) * (x * x) ^ (k / 2) := by
  conv_lhs => rw [← Nat.mod_add_div k 2, pow_add, pow_mul, pow_two]

theorem half_lt {k f : Nat} (h : k < 2 ^ (f + 1)) : k / 2 < 2 ^ f := by
  rw [pow_succ] at h; omega

/-- `loop fuel k a x` is any function with the two equations of `while (k) { if (k & 1) a = a·x; x = x·x; k >>= 1 }`;
    `repA`, `repX` say which element of the monoid `M` an accumulator, a running square stand for.  The squaring `sq` may
    look at `k` (`Poly.pow` skips the last one). -/
theorem sqmul {α β M : Type*} [Monoid M] (repA : α → M → Prop) (repX : β → M → Prop)
    (loop : Nat → Nat → α → β → α) (mul : α → β → α) (sq : Nat → β → β)
    (stop : ∀ f a x, loop f 0 a x = a)
    (step : ∀ f k a x, k ≠ 0 → loop (f + 1) k a x = loop f (k / 2) (if k % 2 = 1 then mul a x else a) (sq k x))
    (hmul : ∀ {a x A X}, repA a A → repX x X → repA (mul a x) (A * X))
    (hsq : ∀ {k x X}, k / 2 ≠ 0 → repX x X → repX (sq k x) (X * X)) :
    ∀ (f k : Nat) (a : α) (x : β) (A X : M), k < 2 ^ f → repA a A → repX x X → repA (loop f k a x) (A * X ^ k) := by
  intro f
  induction f with
  | zero =>
    intro k a x A X hk ha _
    obtain rfl : k = 0 := by simpa using hk
    rwa [stop, pow_zero, mul_one]
  | succ f ih =>
    intro k a x A X hk ha hx
    by_cases hk0 : k = 0
    · subst hk0; rwa [stop, pow_zero, mul_one]
    · have ha' : repA (if k % 2 = 1 then mul a x else a) (A * X ^ (k % 2)) := by
        split
        · next h1 => rw [h1, pow_one]; exact hmul ha hx
        · next h1 => rw [show k % 2 = 0 by omega, pow_zero, mul_one]; exact ha
      rw [step f k a x hk0, pow_bit X k, ← mul_assoc]
      by_cases h2 : k / 2 = 0
      · rwa [h2, stop, pow_zero, mul_one]
      · exact ih _ _ _ _ _ (half_lt hk) ha' (hsq h2 hx)

end Givaro.Loops
