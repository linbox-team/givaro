/-
C11 — rational reconstruction is sound, and complete inside the uniqueness bound.

All theorems speak about the executable model `Model/RatRecon.lean`, which mirrors
givratreconstruct.C / givpoly1ratrecon.inl branch by branch and is tied to the compiled code by the
correspondence run of `checks/c11.py` (every line: model = implementation, implementation accepted by
`soundB`, whose meaning is `soundB_iff`).  Quantifiers: every residue `f : Int` (negative, ≥ m, < -m),
every modulus `m ≥ 2`, every bound `1 ≤ k ≤ m`, both values of `forcereduce`; no bound on sizes.
-/
import GivaroModel.Model.RatRecon
import GivaroModel.Spec.RatReconSpec
import GivaroModel.Lemmas.RatReconLemmas
import GivaroModel.Lemmas.RatReconComplete
import GivaroModel.Lemmas.RatReconPoly
import GivaroModel.Lemmas.RatReconPolyFull
import GivaroModel.Lemmas.RatReconPolyMathlib
namespace Givaro.Props.C11
open Givaro.Model.RatRecon Givaro.Spec.RatRecon Givaro.Lemmas.RatRecon

/-! ### the checkers run by the driver mean what the property says -/

theorem soundB_iff (f m k : Int) (reduce : Bool) (num den : Int) :
    soundB f m k reduce num den = true ↔ Sound f m k reduce num den := by
  unfold soundB Sound
  simp only [Bool.and_eq_true, decide_eq_true_eq, Bool.or_eq_true, Bool.not_eq_true', beq_iff_eq, and_assoc,
    Int.dvd_iff_emod_eq_zero]
  cases reduce with
  | false => simp only [true_or, Bool.false_eq_true, false_imp_iff]
  | true => simp only [Bool.true_eq_false, false_or, true_imp_iff]

theorem envelopeB_iff (a b m : Int) : envelopeB a b m = true ↔ Envelope a b m := by
  simp only [envelopeB, Envelope, Bool.and_eq_true, decide_eq_true_eq, beq_iff_eq, and_assoc]

theorem isResidueOfB_iff (f a b m : Int) : isResidueOfB f a b m = true ↔ IsResidueOf f a b m := by
  simp only [isResidueOfB, IsResidueOf, Bool.and_eq_true, decide_eq_true_eq, and_assoc, Int.dvd_iff_emod_eq_zero]

/-! ### soundness of `Rational::ratrecon` (= `ZRing<Integer>::ratrecon`) -/

/-- Whenever ratrecon reports success for residue f, modulus m ≥ 2 and bound k ∈ [1,m]:
    num ≡ den·f (mod m), |num| < k, den > 0, and gcd(num,den) = 1 when `forcereduce`.  Every `f : Int`. -/
theorem ratrecon_sound (f m k : Int) (fr : Bool) (hm : 2 ≤ m) (hk : 1 ≤ k) (hkm : k ≤ m)
    (hok : (ratrecon f m k fr).ok = true) :
    Sound f m k fr (ratrecon f m k fr).num (ratrecon f m k fr).den :=
  ratrecon_ok_sound f m k fr (by omega) hk (Or.inl hkm) hok

example : (ratrecon 75 250 26 true) = ⟨true, -25, 3⟩ := by decide
example : (ratrecon 75 250 17 true).ok = false := by decide
example : (ratrecon (-100) 7 3 true) = ⟨true, -2, 1⟩ := by decide

/-- the loop terminates within `fuelFor f m = r1.toNat + 1` iterations (the loop condition is false in the state
    the model stops in), and any larger fuel gives the same result: the fuel is not a bound on the inputs. -/
theorem fuel_suffices (f m k : Int) (fr : Bool) (fuel : Nat) (hm : 2 ≤ m) (hk : 1 ≤ k) (hkm : k ≤ m)
    (hfuel : fuelFor f m ≤ fuel) :
    (loop k (fuelFor f m) ⟨m, 0, startR1 f m, 1⟩).r1 < k ∧ ratreconFuel fuel f m k fr = ratrecon f m k fr := by
  have hx : (loop k (fuelFor f m) ⟨m, 0, startR1 f m, 1⟩).r1 < k := (exitSt_facts f m k (by omega) hk hkm).1
  refine ⟨hx, ?_⟩
  obtain ⟨j, rfl⟩ := Nat.exists_eq_add_of_le hfuel
  unfold ratrecon ratreconFuel
  rw [loop_add, loop_of_lt k j _ hx]

example : fuelFor 75 250 ≤ 1000 := by decide

/-! ### the wrappers: soundness -/

/-- 7-argument `RationalReconstruction` without widening: same guarantee for the *un-normalised* residue f -/
theorem rationalReconstruction_sound (f m k : Int) (fr : Bool) (hm : 2 ≤ m) (hk : 1 ≤ k) (hkm : k ≤ m)
    (hok : (rationalReconstruction f m k fr false).ok = true) :
    Sound f m k fr (rationalReconstruction f m k fr false).num (rationalReconstruction f m k fr false).den := by
  obtain ⟨x, xd, _, _, he⟩ := rationalReconstruction_cases f m k fr false (by omega) hk
  rw [he] at hok ⊢
  exact sound_of_congr f x m k fr _ _ xd (ratrecon_sound x m k fr hm hk hkm hok)

example : (rationalReconstruction (-100) 7 3 true false) = ⟨true, -2, 1⟩ := by decide

/-- 7-argument `RationalReconstruction` with widening (`recursive = true`): a reported success is sound for the
    bound that was finally tried, which is `k` itself or lies in `(k, f)`. -/
theorem rationalReconstruction_sound_widen (f m k : Int) (fr rc : Bool) (hm : 2 ≤ m) (hk : 1 ≤ k) (hkm : k ≤ m)
    (hok : (rationalReconstruction f m k fr rc).ok = true) :
    ∃ k', (k' = k ∨ (k < k' ∧ k' < f)) ∧
      Sound f m k' fr (rationalReconstruction f m k fr rc).num (rationalReconstruction f m k fr rc).den := by
  cases rc with
  | false => exact ⟨k, Or.inl rfl, rationalReconstruction_sound f m k fr hm hk hkm hok⟩
  | true =>
    obtain ⟨x, xd, x0, xm, he⟩ := rationalReconstruction_cases f m k fr true (by omega) hk
    rw [he] at hok ⊢
    simp only [if_true] at hok ⊢
    rcases widen_cases x m f fr (widenFuel f) (k + 1) (ratrecon x m k fr) (by omega) with h | ⟨k', h1, h2, h3⟩
    · rw [h] at hok ⊢
      exact ⟨k, Or.inl rfl, sound_of_congr f x m k fr _ _ xd (ratrecon_sound x m k fr hm hk hkm hok)⟩
    · rw [h3] at hok ⊢
      refine ⟨k', Or.inr ⟨by omega, h2⟩, sound_of_congr f x m k' fr _ _ xd ?_⟩
      -- a bound above `m` is also above the residue `x ≤ m`, so that call returns before its loop
      have hx : startR1 x m = x := by unfold startR1; rw [if_neg (by omega)]
      exact ratrecon_ok_sound x m k' fr (by omega) (by omega) (by omega) hok

example : (rationalReconstruction 75 250 17 true true) = ⟨true, -25, 3⟩ := by decide

/-- `mpz_sqrt` is used exactly: `⌊√m⌋² ≤ m < (⌊√m⌋+1)²`; consequently every `d ≤ ⌊√m⌋` satisfies the denominator bound
    `d·k ≤ m` of the default-bound overloads -/
theorem isqrt_exact (m : Int) (hm : 0 ≤ m) :
    0 ≤ isqrt m ∧ isqrt m * isqrt m ≤ m ∧ m < (isqrt m + 1) * (isqrt m + 1) ∧
      ∀ d, 0 ≤ d → d ≤ isqrt m → d * isqrt m ≤ m := by
  unfold isqrt
  have h3 : Nat.sqrt m.toNat * Nat.sqrt m.toNat ≤ m.toNat := Nat.sqrt_le _
  have h4 : m.toNat < (Nat.sqrt m.toNat + 1) * (Nat.sqrt m.toNat + 1) := Nat.lt_succ_sqrt _
  have h3' : ((Nat.sqrt m.toNat * Nat.sqrt m.toNat : Nat) : Int) ≤ (m.toNat : Int) := Int.ofNat_le.mpr h3
  have h4' : ((m.toNat : Nat) : Int) < (((Nat.sqrt m.toNat + 1) * (Nat.sqrt m.toNat + 1) : Nat) : Int) := Int.ofNat_lt.mpr h4
  simp only [Int.ofNat_eq_natCast]
  push_cast at h3' h4'
  have hmm : (m.toNat : Int) = m := Int.toNat_of_nonneg hm
  rw [hmm] at h3' h4'
  refine ⟨by omega, h3', h4', ?_⟩
  intro d hd0 hd
  have : d * (Nat.sqrt m.toNat : Int) ≤ (Nat.sqrt m.toNat : Int) * (Nat.sqrt m.toNat : Int) :=
    Int.mul_le_mul_of_nonneg_right hd (by omega)
  omega

theorem isqrt_facts (m : Int) (hm : 2 ≤ m) : 1 ≤ isqrt m ∧ isqrt m ≤ m ∧ isqrt m * isqrt m ≤ m := by
  obtain ⟨h0, h1, h2, h3⟩ := isqrt_exact m (by omega)
  have hk : 1 ≤ isqrt m := by
    by_contra h
    rw [(by omega : isqrt m = 0)] at h2
    omega
  have := h3 1 (by omega) hk
  exact ⟨hk, by omega, h1⟩

/-- 4-argument `RationalReconstruction` (default bound ⌊√m⌋, reduced fraction requested) -/
theorem rationalReconstructionDefault_sound (f m : Int) (hm : 2 ≤ m)
    (hok : (rationalReconstructionDefault f m).ok = true) :
    Sound f m (isqrt m) true (rationalReconstructionDefault f m).num (rationalReconstructionDefault f m).den := by
  obtain ⟨h1, h2, _⟩ := isqrt_facts m hm
  exact ratrecon_sound f m (isqrt m) true hm h1 h2 hok

example : rationalReconstructionDefault 145 1009 = ⟨true, 6, 7⟩ := by decide +kernel

/-- 6-argument `RationalReconstruction(a,b,x,m,a_bound,b_bound)`: the numerator bound used is `max(a_bound, x / b_bound)` -/
theorem rationalReconstructionBounds_sound (x m ab bb : Int) (hm : 2 ≤ m) (hab : 1 ≤ ab)
    (hkm : (if Int.tdiv x bb > ab then Int.tdiv x bb else ab) ≤ m)
    (hok : (rationalReconstructionBounds x m ab bb).ok = true) :
    Sound x m (if Int.tdiv x bb > ab then Int.tdiv x bb else ab) true
      (rationalReconstructionBounds x m ab bb).num (rationalReconstructionBounds x m ab bb).den ∧
    (rationalReconstructionBounds x m ab bb).den ≤ bb := by
  unfold rationalReconstructionBounds at hok ⊢
  simp only [Bool.and_eq_true, decide_eq_true_eq] at hok ⊢
  exact ⟨ratrecon_sound x m _ true hm (by split <;> omega) hkm hok.1, hok.2⟩

example : (rationalReconstructionBounds 145 1009 10 10) = ⟨true, 6, 7⟩ := by decide

/-! ### polynomials — soundness of `Poly1Dom::ratrecon(N,D,P,M,dk,forcereduce)`

The model of givpoly1ratrecon.inl (loop, early exits, `ratreconcheck`, unit normalisation) is sound for *every* implementation of
the primitives `degree/divmodin/maxpyin/gcd/leadcoef/divin` that satisfies the polynomial-ring laws `LawfulOps`
(no bound on degrees or on the fuel: a fuel too small only makes the model report failure).  That Poly1Dom's
primitives satisfy these laws is property C08; the driver runs the model with list polynomials over Z/p and compares
with the compiled code on every case.  Quantifier: deg M ≥ 1 and 0 ≤ dk < deg M (the analogue of m ≥ 2, 1 ≤ k ≤ m);
every residue P, including deg P ≥ deg M.  "partial" in the name is partial correctness: the statement is complete and holds
for any fuel; that a sufficient fuel ends with `true` is `poly_ratrecon_full`. -/
theorem poly_ratrecon_sound_partial {P : Type} [CommRing P] (O : PolyOps P) (L : LawfulOps O) (fuel : Nat)
    (p m : P) (dk : Int) (fr : Bool) (hdk : 0 ≤ dk) (hdm : dk < O.deg m)
    (hok : (polyRatrecon6Fuel O fuel p m dk fr).ok = true) :
    PolySound O p m dk fr (polyRatrecon6Fuel O fuel p m dk fr).n (polyRatrecon6Fuel O fuel p m dk fr).d := by
  unfold polyRatrecon6Fuel at hok ⊢
  cases fr with
  | false =>
    simp only [Bool.false_eq_true, if_false] at hok ⊢
    obtain ⟨h1, h2, h3⟩ := polyRatreconFuel_sound L fuel p m dk hdk hdm hok
    exact ⟨h1, h2, h3, by intro h; cases h⟩
  | true =>
    simp only [if_true] at hok ⊢
    unfold polyRatreconCheckFuel at hok ⊢
    simp only [] at hok ⊢
    by_cases hg : O.gcdDeg (polyRatreconFuel O fuel p m dk).n (polyRatreconFuel O fuel p m dk).d > 0
    · rw [if_pos hg] at hok; cases hok
    · rw [if_neg hg] at hok ⊢
      by_cases hl : (!O.lcIsOne (polyRatreconFuel O fuel p m dk).d) = true
      · rw [if_pos hl] at hok ⊢
        obtain ⟨⟨S, h1⟩, h2, h3⟩ := polyRatreconFuel_sound L fuel p m dk hdk hdm hok
        obtain ⟨c, ci, hc, hdiv⟩ := L.divLc_eq _ h3
        generalize (polyRatreconFuel O fuel p m dk).n = N at h1 h2 hg ⊢
        generalize (polyRatreconFuel O fuel p m dk).d = D at h1 h3 hg hdiv ⊢
        simp only [hdiv]
        exact ⟨⟨ci * S, by rw [h1]; ring⟩, by rw [deg_unit_mul L c ci N hc]; exact h2, unit_mul_ne_zero hc h3,
          fun _ => by rw [L.gcdDeg_unit c ci N D hc]; omega⟩
      · rw [if_neg hl] at hok ⊢
        obtain ⟨h1, h2, h3⟩ := polyRatreconFuel_sound L fuel p m dk hdk hdm hok
        exact ⟨h1, h2, h3, fun _ => by omega⟩

/-- the executable instance used by the driver, on one input over Z/7 (M = X³+2, P = 4X²+X+3, dk = 1): success, and the
    Bool checker accepts the pair -/
example : (polyRatrecon 7 [3, 1, 4] [2, 0, 0, 1] 1 true).ok = true ∧
    polySoundB 7 [3, 1, 4] [2, 0, 0, 1] 1 true (polyRatrecon 7 [3, 1, 4] [2, 0, 0, 1] 1 true).n
      (polyRatrecon 7 [3, 1, 4] [2, 0, 0, 1] 1 true).d = true := by decide +kernel

/-! ### Completeness and uniqueness for every modulus, residue and bound (MCA Thm 5.26 for the code as written)

`Solution f m k n d`:  n ≡ d·f (mod m), |n| < k, 0 < d, d·k ≤ m (the documented "0 ≤ den ≤ m/k"), gcd(n,d) = 1. -/

theorem solutionB_iff (f m k n d : Int) : solutionB f m k n d = true ↔ Solution f m k n d := by
  simp only [solutionB, Solution, Bool.and_eq_true, decide_eq_true_eq, beq_iff_eq, and_assoc,
    Int.dvd_iff_emod_eq_zero]

/-- If a reduced fraction within the documented bounds exists, `ratrecon` reports success (either flag); the answer is
    that fraction, except possibly when `2·k·d > m`, where the other of the (at most two) candidates may be returned. -/
theorem ratrecon_complete_general (f m k n d : Int) (fr : Bool) (hm : 2 ≤ m) (hk : 1 ≤ k) (hkm : k ≤ m)
    (hs : Solution f m k n d) :
    (ratrecon f m k fr).ok = true ∧ (ratrecon f m k fr = ⟨true, n, d⟩ ∨ m < 2 * k * d) := by
  obtain ⟨h1, h2, h3, h4, h5⟩ := hs
  obtain ⟨hx, sg, T0, T1, hl⟩ := exitSt_facts f m k (by omega) hk hkm
  rw [ratrecon_eq_finish]
  exact hl.finish_general f n d fr hx hkm (startR1_facts f m (by omega)).2.1 h1 h2 h3 h4 h5

example : Solution 145 1009 31 6 7 := (solutionB_iff _ _ _ _ _).mp (by decide)

/-- … hence a reported failure is exact: no reduced fraction within the bounds exists -/
theorem ratrecon_false_no_solution (f m k : Int) (fr : Bool) (hm : 2 ≤ m) (hk : 1 ≤ k) (hkm : k ≤ m)
    (hfalse : (ratrecon f m k fr).ok = false) : ∀ n d, ¬ Solution f m k n d := by
  intro n d hs
  have := (ratrecon_complete_general f m k n d fr hm hk hkm hs).1
  rw [hfalse] at this; cases this

example : (ratrecon 75 250 17 true).ok = false := by decide

/-- uniqueness: inside `2·k·d ≤ m` the answer is exactly the reduced fraction, for both values of `forcereduce` -/
theorem ratrecon_unique (f m k n d : Int) (fr : Bool) (hm : 2 ≤ m) (hk : 1 ≤ k) (hkm : k ≤ m)
    (hs : Solution f m k n d) (h2 : 2 * k * d ≤ m) : ratrecon f m k fr = ⟨true, n, d⟩ := by
  rcases (ratrecon_complete_general f m k n d fr hm hk hkm hs).2 with h | h
  · exact h
  · omega

theorem mul_bound (N D n d : Int) (hn : -N ≤ n ∧ n ≤ N) (hd : 0 < d ∧ d ≤ D) : -(N * D) ≤ n * d ∧ n * d ≤ N * D := by
  have b1 : 0 ≤ (N - n) * d := Int.mul_nonneg (by omega) (by omega)
  have b2 : 0 ≤ (N + n) * d := Int.mul_nonneg (by omega) (by omega)
  have b3 : 0 ≤ N * (D - d) := Int.mul_nonneg (by omega) (by omega)
  have x1 : (N - n) * d = N * d - n * d := by ring
  have x2 : (N + n) * d = N * d + n * d := by ring
  have x3 : N * (D - d) = N * D - N * d := by ring
  constructor <;> omega

/-- Wang's uniqueness lemma (independent of the code): two reduced fractions congruent to `f` modulo `m` with
    `|num| ≤ N`, `0 < den ≤ D` and `2·N·D < m` are equal: `n1 d2 − n2 d1` is a multiple of `m` of absolute value
    `≤ 2·N·D`, hence 0 -/
theorem wang_uniqueness (f m N D n1 d1 n2 d2 : Int) (h1 : m ∣ (n1 - d1 * f)) (h2 : m ∣ (n2 - d2 * f))
    (hn1 : -N ≤ n1 ∧ n1 ≤ N) (hn2 : -N ≤ n2 ∧ n2 ≤ N) (hd1 : 0 < d1 ∧ d1 ≤ D) (hd2 : 0 < d2 ∧ d2 ≤ D)
    (hND : 2 * N * D < m) (hg1 : Int.gcd n1 d1 = 1) (hg2 : Int.gcd n2 d2 = 1) : n1 = n2 ∧ d1 = d2 := by
  obtain ⟨c1, hc1⟩ := h1
  obtain ⟨c2, hc2⟩ := h2
  have hX : m ∣ (n1 * d2 - n2 * d1) := ⟨c1 * d2 - c2 * d1, by linear_combination d2 * hc1 - d1 * hc2⟩
  have b12 := mul_bound N D n1 d2 hn1 hd2
  have b21 := mul_bound N D n2 d1 hn2 hd1
  have x7 : 2 * N * D = 2 * (N * D) := by ring
  have hX0 : n1 * d2 - n2 * d1 = 0 :=
    Int.eq_zero_of_abs_lt_dvd hX (abs_lt.mpr ⟨by omega, by omega⟩)
  have hcross : n1 * d2 = n2 * d1 := by omega
  -- two fractions in lowest terms with equal cross products are equal: Mathlib's uniqueness of the reduced form
  exact Rat.div_int_inj hd1.1 hd2.1 hg1 hg2
    ((div_eq_div_iff (by exact_mod_cast hd1.1.ne') (by exact_mod_cast hd2.1.ne')).mpr (by exact_mod_cast hcross))

/-- `forcereduce = false`: the call always succeeds and returns the first candidate, whose denominator obeys the
    documented bound `0 < den ≤ m/k` (soundness of the pair is `ratrecon_sound`) -/
theorem ratrecon_noreduce_total (f m k : Int) (hm : 2 ≤ m) (hk : 1 ≤ k) (hkm : k ≤ m) :
    (ratrecon f m k false).ok = true ∧ 0 < (ratrecon f m k false).den ∧ (ratrecon f m k false).den * k ≤ m := by
  obtain ⟨hx, sg, T0, T1, hl⟩ := exitSt_facts f m k (by omega) hk hkm
  rw [ratrecon_eq_finish, finish_cand1 _ f m k false (Or.inl rfl)]
  exact ⟨rfl, hl.cand1_bound hx hkm⟩

/-- with `forcereduce = true`, a success whose denominator breaks `den·k ≤ m` can only be the second candidate: the
    code prints a diagnostic but still returns `true`; the property's soundness clauses do not bound `den` -/
example : (ratrecon 3 8 3 true) = ⟨true, 1, 3⟩ ∧ ¬ ((3 : Int) * 3 ≤ 8) := by decide

/-! ### completeness inside the uniqueness envelope -/

/-- For every fraction a/b with gcd(a,b) = gcd(b,m) = 1, 4|a| ≤ ⌊√m⌋, 4b ≤ ⌊√m⌋ and *every* representative f of
    a·b⁻¹ mod m (canonical, negative, ≥ m, < -m), reconstruction with the default bound returns exactly a/b:
    with k = ⌊√m⌋ the envelope lies inside the uniqueness bound, 2·k·b ≤ k² ≤ m. -/
theorem ratrecon_complete (a b m f : Int) (hm : 2 ≤ m) (henv : Envelope a b m) (hf : m ∣ (b * f - a)) :
    rationalReconstructionDefault f m = ⟨true, a, b⟩ := by
  obtain ⟨hb, hab, _, ha4, hb4⟩ := henv
  obtain ⟨k1, k2, k3⟩ := isqrt_facts m hm
  have hbk : 4 * (b * isqrt m) ≤ isqrt m * isqrt m := by
    rw [← Int.mul_assoc]; exact Int.mul_le_mul_of_nonneg_right hb4 (by omega)
  have h2 : 2 * isqrt m * b = 2 * (b * isqrt m) := by ring
  exact ratrecon_unique f m (isqrt m) a b true hm k1 k2 ⟨dvd_sub_comm.mp hf, by omega, hb, by omega, hab⟩ (by omega)

example : Envelope 6 7 1009 ∧ (1009 : Int) ∣ (7 * 145 - 6) :=
  ⟨(envelopeB_iff 6 7 1009).mp (by decide +kernel), ⟨1, by decide⟩⟩

/-- the same through `QField<Rational>::ratrecon(r, f, m, recurs)` (= `Rational(f, m, sqrt(m), recurs)`):
    the first call succeeds, so the widening loop does not run -/
theorem qfield_ratrecon_complete (a b m f : Int) (rc : Bool) (hm : 2 ≤ m) (henv : Envelope a b m) (hf : m ∣ (b * f - a)) :
    (qfieldRatreconDefault f m rc).num = a ∧ (qfieldRatreconDefault f m rc).den = b := by
  have h : ratrecon f m (Int.ofNat (Nat.sqrt m.toNat)) true = ⟨true, a, b⟩ := ratrecon_complete a b m f hm henv hf
  unfold qfieldRatreconDefault
  rw [rationalCtor_of_ok f m _ rc true (by rw [h]), h]
  exact ⟨rfl, rfl⟩

/-! ### the wrappers: completeness and exact failures (residue normalisation, widening (`recurs`), default bound
`⌊√m⌋`, numerator/denominator bounds) -/

/-- 7-argument `RationalReconstruction`, either value of `recursive`: same completeness for the un-normalised residue -/
theorem rationalReconstruction_complete (f m k n d : Int) (fr rc : Bool) (hm : 2 ≤ m) (hk : 1 ≤ k) (hkm : k ≤ m)
    (hs : Solution f m k n d) :
    (rationalReconstruction f m k fr rc).ok = true ∧
      (rationalReconstruction f m k fr rc = ⟨true, n, d⟩ ∨ m < 2 * k * d) := by
  obtain ⟨x, xd, _, _, he⟩ := rationalReconstruction_cases f m k fr rc (by omega) hk
  obtain ⟨g1, g2⟩ := ratrecon_complete_general x m k n d fr hm hk hkm (solution_congr f x m k n d xd hs)
  rw [he, widen_of_ok _ _ _ _ _ _ _ g1, ite_self]
  exact ⟨g1, g2⟩

/-- … and its failures are exact.  Without widening: no reduced fraction within the bound `k`.  With widening
    (`newk = k+1, 2(k+1), 4(k+1), … < f`): none within `k` nor within any of the bounds tried that do not exceed `m`
    (the fuel `widenFuel f` always reaches `newk ≥ f`). -/
theorem rationalReconstruction_false (f m k : Int) (fr rc : Bool) (hm : 2 ≤ m) (hk : 1 ≤ k) (hkm : k ≤ m)
    (hfalse : (rationalReconstruction f m k fr rc).ok = false) :
    (∀ n d, ¬ Solution f m k n d) ∧
    (rc = true → ∀ i : Nat, (k + 1) * 2 ^ i < f → (k + 1) * 2 ^ i ≤ m → ∀ n d, ¬ Solution f m ((k + 1) * 2 ^ i) n d) := by
  constructor
  · intro n d hs
    have := (rationalReconstruction_complete f m k n d fr rc hm hk hkm hs).1
    rw [hfalse] at this; cases this
  · intro hrc i hi him n d hs
    subst hrc
    obtain ⟨x, xd, _, _, he⟩ := rationalReconstruction_cases f m k fr true (by omega) hk
    rw [he] at hfalse
    simp only [if_true] at hfalse
    obtain ⟨_, hall⟩ := widen_fail x m f fr (widenFuel f) (k + 1) _ (by omega) (by unfold widenFuel; omega) hfalse
    have hk' : 1 ≤ (k + 1) * 2 ^ i := by
      have := le_mul_two_pow (by omega : 0 ≤ k + 1) i
      omega
    have := (ratrecon_complete_general x m _ n d fr hm hk' him (solution_congr f x m _ n d xd hs)).1
    rw [hall i hi] at this; cases this

example : (rationalReconstruction 75 250 17 true false).ok = false := by decide

/-- 4-argument `RationalReconstruction` (bound `⌊√m⌋`, reduced, no widening): complete, exact on failure, unique inside `2kd ≤ m` -/
theorem rationalReconstructionDefault_complete (f m n d : Int) (hm : 2 ≤ m) (hs : Solution f m (isqrt m) n d) :
    (rationalReconstructionDefault f m).ok = true ∧
      (rationalReconstructionDefault f m = ⟨true, n, d⟩ ∨ m < 2 * isqrt m * d) := by
  obtain ⟨k1, k2, _⟩ := isqrt_facts m hm
  exact ratrecon_complete_general f m (isqrt m) n d true hm k1 k2 hs

theorem rationalReconstructionDefault_false (f m : Int) (hm : 2 ≤ m)
    (hfalse : (rationalReconstructionDefault f m).ok = false) : ∀ n d, ¬ Solution f m (isqrt m) n d := by
  obtain ⟨k1, k2, _⟩ := isqrt_facts m hm
  exact ratrecon_false_no_solution f m (isqrt m) true hm k1 k2 hfalse

example : Solution 145 1009 (isqrt 1009) 6 7 := (solutionB_iff _ _ _ _ _).mp (by decide +kernel)

/-- 6-argument overload: numerator bound `k' = max(a_bound, x / b_bound)`; inside the uniqueness bound it returns the
    reduced fraction iff its denominator is `≤ b_bound` -/
theorem rationalReconstructionBounds_complete (x m ab bb n d : Int) (hm : 2 ≤ m) (hab : 1 ≤ ab)
    (hkm : (if Int.tdiv x bb > ab then Int.tdiv x bb else ab) ≤ m)
    (hs : Solution x m (if Int.tdiv x bb > ab then Int.tdiv x bb else ab) n d)
    (h2 : 2 * (if Int.tdiv x bb > ab then Int.tdiv x bb else ab) * d ≤ m) :
    rationalReconstructionBounds x m ab bb = ⟨decide (d ≤ bb), n, d⟩ := by
  unfold rationalReconstructionBounds
  simp only []
  rw [ratrecon_unique x m _ n d true hm (by split <;> omega) hkm hs h2]
  simp

/-- `Rational(f,m,k,recurs)` / `QField::ratrecon(r,f,m,k,recurs)` (no success flag): inside the uniqueness bound the
    object holds exactly the reduced fraction (the first call succeeds, so the widening loop does not run) -/
theorem qfield_ratrecon_unique (f m k n d : Int) (rc : Bool) (hm : 2 ≤ m) (hk : 1 ≤ k) (hkm : k ≤ m)
    (hs : Solution f m k n d) (h2 : 2 * k * d ≤ m) :
    (qfieldRatrecon f m k rc).num = n ∧ (qfieldRatrecon f m k rc).den = d := by
  have h := ratrecon_unique f m k n d true hm hk hkm hs h2
  unfold qfieldRatrecon
  rw [rationalCtor_of_ok f m k rc true (by rw [h]), h]
  exact ⟨rfl, rfl⟩

/-! ### Polynomial reconstruction at full strength: the loop of givpoly1ratrecon.inl run on `Polynomial F`

`mathlibOps F` interprets the Poly1Dom primitives called by the code (`degree`, `divmodin`, `maxpyin`, `gcd`,
`leadcoef`, `divin`) by Mathlib's polynomial operations over an arbitrary field `F`; `pdeg` is Givaro's `Degree`
(−1 for 0).  Quantifier: every field, every modulus with `deg M ≥ 1`, every residue `P` (also `deg P ≥ deg M`),
every `0 ≤ dk < deg M`, every fuel `≥ deg P + 2` (the driver uses `|P| + |M| + 2`). -/
section poly
open Polynomial
variable (F : Type) [Field F]

/-- the laws assumed by `poly_ratrecon_sound_partial` and by the generic lemmas are satisfied (non-vacuity) -/
example : EuclidLaws (mathlibOps F) := mathlibOps_laws F
example : (0 : Int) ≤ 1 ∧ (1 : Int) < pdeg (X ^ 2 : F[X]) ∧ ¬ (pdeg (X : F[X]) = 0 ∧ (1 : Int) = 0) := by
  have h : (X ^ 2 : F[X]) ≠ 0 := pow_ne_zero 2 X_ne_zero
  refine ⟨by omega, ?_, by omega⟩
  rw [pdeg_of_ne h, natDegree_X_pow]; norm_num

/-- `Poly1Dom::ratrecon(N,D,P,M,dk)`: the loop terminates, reports success, and returns `N ≡ D·P (mod M)` with
    `deg N ≤ dk`, `D ≠ 0`, `deg D ≤ deg M − dk` and `deg N + deg D < deg M`.
    (`deg N ≤ dk`, not `< dk`: the loop's exit tests are `degN <= dk`; only the early exit uses `degU < dk`.) -/
theorem poly_ratrecon_full (fuel : Nat) (p m : F[X]) (dk : Int) (hdk : 0 ≤ dk) (hdm : dk < pdeg m)
    (hfuel : pdeg p + 2 ≤ fuel) (hcorner : ¬ (pdeg p = 0 ∧ dk = 0)) :
    (polyRatreconFuel (mathlibOps F) fuel p m dk).ok = true ∧
    m ∣ ((polyRatreconFuel (mathlibOps F) fuel p m dk).n - (polyRatreconFuel (mathlibOps F) fuel p m dk).d * p) ∧
    pdeg (polyRatreconFuel (mathlibOps F) fuel p m dk).n ≤ dk ∧
    (polyRatreconFuel (mathlibOps F) fuel p m dk).d ≠ 0 ∧
    pdeg (polyRatreconFuel (mathlibOps F) fuel p m dk).d ≤ pdeg m - dk ∧
    pdeg (polyRatreconFuel (mathlibOps F) fuel p m dk).n + pdeg (polyRatreconFuel (mathlibOps F) fuel p m dk).d < pdeg m := by
  simp only [← mathlibOps_deg] at hdm hfuel hcorner ⊢
  obtain ⟨hok, hfull⟩ := polyRatreconFuel_full (mathlibOps_laws F) fuel p m dk hdk hdm hfuel hcorner
  exact ⟨hok, hfull.dvd, hfull.degN, hfull.dne, hfull.degD, hfull.degSum⟩

/-- the one in-range input class on which the loop version reports failure: a non-zero constant residue with `dk = 0`
    (where `P/1` itself has degree `≤ dk`): `if ((degV < 0) || (degU == 0)) return false` -/
theorem poly_ratrecon_corner (fuel : Nat) (p m : F[X]) (hdm : 0 < pdeg m) (hp : pdeg p = 0) :
    (polyRatreconFuel (mathlibOps F) fuel p m 0).ok = false := by
  simp only [← mathlibOps_deg] at hdm hp
  unfold polyRatreconFuel
  simp only [if_neg (by omega : ¬ ((mathlibOps F).deg p < 0 ∨ (mathlibOps F).deg m = 0)),
    if_pos (Or.inr hp : (mathlibOps F).deg m < 0 ∨ (mathlibOps F).deg p = 0)]

/-- the fuel is not a bound on the input: every sufficient amount gives the same result -/
theorem poly_fuel_suffices (f1 f2 : Nat) (p m : F[X]) (dk : Int) (hdk : 0 ≤ dk) (hdm : dk < pdeg m)
    (h1 : pdeg p + 2 ≤ f1) (h2 : pdeg p + 2 ≤ f2) :
    polyRatreconFuel (mathlibOps F) f1 p m dk = polyRatreconFuel (mathlibOps F) f2 p m dk := by
  simp only [← mathlibOps_deg] at hdm h1 h2
  obtain ⟨r, hr, _⟩ := polyRatreconFuel_deg (mathlibOps_laws F) p m dk hdk hdm
  rw [hr f1 h1, hr f2 h2]

/-- minimality (hence uniqueness up to a common factor): every `(A,B)` with `A ≡ B·P (mod M)`, `deg A ≤ dk`,
    `deg B < deg M − dk` (and `deg A < dk` in the boundary case `deg P = dk`) is `w·(N,D)` for the returned pair;
    in particular `A·D = B·N`. -/
theorem poly_ratrecon_minimal (fuel : Nat) (p m : F[X]) (dk : Int) (hdk : 0 ≤ dk) (hdm : dk < pdeg m)
    (hfuel : pdeg p + 2 ≤ fuel) (hcorner : ¬ (pdeg p = 0 ∧ dk = 0))
    (a b : F[X]) (hab : m ∣ (a - b * p)) (ha : pdeg a ≤ dk) (hb : pdeg b < pdeg m - dk)
    (hst : pdeg a < dk ∨ pdeg p ≠ dk) :
    ∃ w, a = w * (polyRatreconFuel (mathlibOps F) fuel p m dk).n ∧ b = w * (polyRatreconFuel (mathlibOps F) fuel p m dk).d := by
  simp only [← mathlibOps_deg] at hdm hfuel hcorner ha hb hst
  exact polyFull_minimal (mathlibOps_laws F) p m dk _ _ hdk hdm
    (polyRatreconFuel_full (mathlibOps_laws F) fuel p m dk hdk hdm hfuel hcorner).2 a b hab ha hb hst

/-- `Poly1Dom::ratreconcheck` (= `ratrecon(…, forcereduce = true)`) answers exactly:
    * `true` iff the row found by the loop is reduced (gcd(N,D) constant);
    * when `true`, the returned pair satisfies the bounds, is reduced, `gcd(D,M) = 1` (so `N/D ≡ P` is a genuine
      fraction modulo `M`) and `D` is monic;
    * whenever *some* `A/B` with `gcd(B,M) = 1` within the bounds is congruent to `P`, the answer is `true` and
      `(A,B) = w·(N,D)` — so `false` means no such fraction exists. -/
theorem poly_ratreconcheck_exact (fuel : Nat) (p m : F[X]) (dk : Int) (hdk : 0 ≤ dk) (hdm : dk < pdeg m)
    (hfuel : pdeg p + 2 ≤ fuel) (hcorner : ¬ (pdeg p = 0 ∧ dk = 0)) :
    ((polyRatrecon6Fuel (mathlibOps F) fuel p m dk true).ok = true ↔
        IsCoprime (polyRatreconFuel (mathlibOps F) fuel p m dk).n (polyRatreconFuel (mathlibOps F) fuel p m dk).d) ∧
    ((polyRatrecon6Fuel (mathlibOps F) fuel p m dk true).ok = true →
        m ∣ ((polyRatrecon6Fuel (mathlibOps F) fuel p m dk true).n - (polyRatrecon6Fuel (mathlibOps F) fuel p m dk true).d * p) ∧
        pdeg (polyRatrecon6Fuel (mathlibOps F) fuel p m dk true).n ≤ dk ∧
        pdeg (polyRatrecon6Fuel (mathlibOps F) fuel p m dk true).d ≤ pdeg m - dk ∧
        IsCoprime (polyRatrecon6Fuel (mathlibOps F) fuel p m dk true).n (polyRatrecon6Fuel (mathlibOps F) fuel p m dk true).d ∧
        IsCoprime (polyRatrecon6Fuel (mathlibOps F) fuel p m dk true).d m ∧
        (polyRatrecon6Fuel (mathlibOps F) fuel p m dk true).d.Monic) ∧
    (∀ a b : F[X], m ∣ (a - b * p) → pdeg a ≤ dk → pdeg b < pdeg m - dk → (pdeg a < dk ∨ pdeg p ≠ dk) → IsCoprime b m →
        (polyRatrecon6Fuel (mathlibOps F) fuel p m dk true).ok = true ∧
        ∃ w, a = w * (polyRatrecon6Fuel (mathlibOps F) fuel p m dk true).n ∧
             b = w * (polyRatrecon6Fuel (mathlibOps F) fuel p m dk true).d) := by
  simp only [← mathlibOps_deg] at hdm hfuel hcorner ⊢
  obtain ⟨h1, h2, h3⟩ := polyCheck_full (mathlibOps_laws F) fuel p m dk hdk hdm hfuel hcorner
  have he : polyRatrecon6Fuel (mathlibOps F) fuel p m dk true = polyRatreconCheckFuel (mathlibOps F) fuel p m dk := by
    unfold polyRatrecon6Fuel; simp
  rw [he]
  refine ⟨h1, fun hok => ?_, h3⟩
  obtain ⟨hfull, c1, c2, c3⟩ := h2 hok
  refine ⟨hfull.dvd, hfull.degN, hfull.degD, c1, c2, ?_⟩
  classical
  exact of_decide_eq_true c3

end poly

/-- boundary `deg P = dk` (excluded from the minimality/completeness statements above): the early exit tests `degU < dk`
    while the loop exits test `degN <= dk`, so for P = X, M = X², dk = 1 over GF(2) the loop runs on to the row (0, X) and
    `ratreconcheck` answers `false`, although X/1 has degree ≤ dk.  (List-polynomial instance run by the driver; the
    compiled code agrees on this input.) -/
example : (polyRatrecon 2 [0, 1] [0, 0, 1] 1 true).ok = false ∧ (polyRatrecon 2 [0, 1] [0, 0, 1] 1 false).n = [] := by
  decide +kernel

end Givaro.Props.C11
