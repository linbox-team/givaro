/-
C14 — the arithmetic of the conversions, independent of the objects that cache the reciprocals.

The Garner loop is proved once over an interface (`GarnerLoop`) of which `IntRNSsystem` and `RNSsystem<RING,Domain>` are the
instances.  What a run returns is the solution of the system in `[0, ∏p)` (`IsCRT`), as are `a % ∏p` and Mathlib's Chinese remainder;
it is unique, and the round trips follow.  Also here, because CRTDom and CRTFixed rest on them: the extended-Euclid instance of the
cofactor contract and the two-modulus lift.
-/
import GivaroModel.Model.CRT
import GivaroModel.Spec.CRTSpec
import GivaroModel.Lemmas.WordLemmas
import Mathlib.Tactic.Ring
import Mathlib.Tactic.LinearCombination
import Mathlib.Data.Int.ModEq
import Mathlib.Data.Int.GCD
import Mathlib.RingTheory.Coprime.Basic
import Mathlib.RingTheory.Coprime.Lemmas
import Mathlib.Algebra.Order.Group.Abs
import Mathlib.Algebra.Order.BigOperators.GroupWithZero.List
import Mathlib.Data.Nat.ChineseRemainder

namespace Givaro.Lemmas.CRT
open Givaro.Model.CRT
open Givaro.Spec.CRT (prod mrValue)

/-- Contract of the Bezout cofactor (`mpz_gcdext`, `Domain::inv`): whenever `x` is invertible modulo `p`,
    `cof p x` is an inverse of `x` modulo `p`. -/
def CofOK (cof : Int → Int → Int) : Prop :=
  ∀ p x y : Int, 0 < p → 0 ≤ x → (y * x) % p = 1 % p → (cof p x * x) % p = 1 % p

/-- canonical residues: `0 ≤ r_i < p_i` (this also says `0 < p_i`) -/
def Canon (ps rs : List Int) : Prop := List.Forall₂ (fun p r => 0 ≤ r ∧ r < p) ps rs

def PairwiseCoprime (ps : List Int) : Prop := ps.Pairwise (fun a b => Int.gcd a b = 1)

theorem PairwiseCoprime.isCoprime {ps : List Int} (h : PairwiseCoprime ps) : ps.Pairwise IsCoprime :=
  List.Pairwise.imp (fun hab => Int.isCoprime_iff_gcd_eq_one.mpr hab) h

theorem Canon.pos {ps rs : List Int} (h : Canon ps rs) : ∀ p ∈ ps, 0 < p := by
  induction h with
  | nil => exact fun _ h => nomatch h
  | cons h1 _ ih =>
    intro p hp
    rcases List.mem_cons.mp hp with h2 | h2
    · subst h2; exact lt_of_le_of_lt h1.1 h1.2
    · exact ih p h2

theorem canon_ringToRns (ps : List Int) (a : Int) (hpos : ∀ p ∈ ps, 0 < p) : Canon ps (ringToRns ps a) := by
  unfold Canon ringToRns
  rw [List.forall₂_map_right_iff, List.forall₂_same]
  exact fun p hp => emod_canon (hpos p hp) a

theorem getD_ringToRns (ps : List Int) (a : Int) {c : ℕ} (hc : c < ps.length) :
    (ringToRns ps a).getD c 0 = a % ps.getD c 0 := by
  rw [ringToRns, List.getD_eq_getElem?_getD, List.getD_eq_getElem?_getD, List.getElem?_map, List.getElem?_eq_getElem hc]
  rfl

/-! ### products of moduli -/

theorem prod_eq : ∀ ps : List Int, prod ps = ps.prod
  | [] => rfl
  | a :: ps => by rw [prod, prod_eq ps, List.prod_cons]

theorem isCoprime_prod {p : Int} : ∀ ps : List Int, (∀ q ∈ ps, IsCoprime p q) → IsCoprime p (prod ps)
  | [], _ => by simp only [prod]; exact isCoprime_one_right
  | a :: ps, h => by
    simp only [prod]
    exact IsCoprime.mul_right (h a (List.mem_cons_self ..)) (isCoprime_prod ps (fun q hq => h q (List.mem_cons_of_mem _ hq)))

theorem prod_dvd_of_pairwise {d : Int} : ∀ ps : List Int, ps.Pairwise IsCoprime → (∀ p ∈ ps, p ∣ d) → prod ps ∣ d
  | [], _, _ => one_dvd _
  | a :: ps, hpw, h => by
    simp only [prod]
    have hpw' := List.pairwise_cons.mp hpw
    exact IsCoprime.mul_dvd (isCoprime_prod ps hpw'.1) (h a (List.mem_cons_self ..))
      (prod_dvd_of_pairwise ps hpw'.2 (fun q hq => h q (List.mem_cons_of_mem _ hq)))

theorem crt_unique (ps : List Int) (hpw : ps.Pairwise IsCoprime) (x y : Int)
    (hx : 0 ≤ x ∧ x < prod ps) (hy : 0 ≤ y ∧ y < prod ps) (h : ∀ p ∈ ps, x % p = y % p) : x = y := by
  have hd : prod ps ∣ x - y := by
    apply prod_dvd_of_pairwise ps hpw
    intro p hp
    have : y ≡ x [ZMOD p] := (h p hp).symm
    exact this.dvd
  have habs : |x - y| < prod ps := by
    rw [abs_lt]; constructor <;> omega
  have := Int.eq_zero_of_abs_lt_dvd hd habs
  omega

/-! ### the accumulated prefix, most recent first -/

def accP : List (Int × Int) → Int
  | [] => 1
  | pm :: r => pm.1 * accP r

def accV : List (Int × Int) → Int
  | [] => 0
  | pm :: r => accV r + pm.2 * accP r

theorem acc_reverse_append : ∀ (L A : List (Int × Int)),
    accP (L.reverse ++ A) = accP A * prod (L.map Prod.fst) ∧
    accV (L.reverse ++ A) = accV A + accP A * mrValue (L.map Prod.fst) (L.map Prod.snd)
  | [], A => by simp [mrValue, prod]
  | x :: L, A => by
    obtain ⟨h1, h2⟩ := acc_reverse_append L (x :: A)
    simp only [List.reverse_cons, List.append_assoc, List.singleton_append, List.map_cons, mrValue, prod]
    refine ⟨?_, ?_⟩
    · rw [h1]; simp only [accP]; ring
    · rw [h2]; simp only [accV, accP]; ring

theorem accP_eq_prod (acc : List (Int × Int)) : accP acc = prod (acc.reverse.map Prod.fst) := by
  have := (acc_reverse_append acc.reverse []).1
  simpa [accP] using this

theorem accV_eq_mrValue (acc : List (Int × Int)) :
    accV acc = mrValue (acc.reverse.map Prod.fst) (acc.reverse.map Prod.snd) := by
  have := (acc_reverse_append acc.reverse []).2
  simpa [accP, accV] using this

theorem accP_pos : ∀ acc : List (Int × Int), (∀ pm ∈ acc, 0 < pm.1) → 0 < accP acc
  | [], _ => Int.one_pos
  | pm :: r, h => Int.mul_pos (h pm (List.mem_cons_self ..)) (accP_pos r (fun q hq => h q (List.mem_cons_of_mem _ hq)))

theorem accV_range : ∀ acc : List (Int × Int), (∀ pm ∈ acc, 0 ≤ pm.2 ∧ pm.2 < pm.1) →
    0 ≤ accV acc ∧ accV acc < accP acc
  | [], _ => ⟨le_refl 0, Int.one_pos⟩
  | pm :: r, h => by
    have hm := h pm (List.mem_cons_self ..)
    have hr : ∀ q ∈ r, 0 ≤ q.2 ∧ q.2 < q.1 := fun q hq => h q (List.mem_cons_of_mem _ hq)
    have ih := accV_range r hr
    have hP : 0 < accP r := accP_pos r (fun q hq => lt_of_le_of_lt (hr q hq).1 (hr q hq).2)
    simp only [accV, accP]
    refine ⟨add_nonneg ih.1 (mul_nonneg hm.1 hP.le), ?_⟩
    calc accV r + pm.2 * accP r < accP r + pm.2 * accP r := Int.add_lt_add_right ih.2 _
      _ = (pm.2 + 1) * accP r := by rw [add_one_mul, add_comm]
      _ ≤ pm.1 * accP r := Int.mul_le_mul_of_nonneg_right (Int.add_one_le_of_lt hm.2) hP.le

/-! ### the loops of the model: Horner, products -/

/-- the Horner loops of both classes differ in where they reduce: any step that is `t * p + m` up to a multiple of `q` will do -/
theorem horner_fold {q : Int} {f : Int → Int × Int → Int} (hf : ∀ t pm, f t pm ≡ t * pm.1 + pm.2 [ZMOD q]) :
    ∀ (rest : List (Int × Int)) (t : Int), rest.foldl f t ≡ t * accP rest + accV rest [ZMOD q]
  | [], t => by simp [accP, accV]
  | pm :: rest, t => by
    refine (horner_fold hf rest _).trans ((((hf t pm).mul_right (accP rest)).add_right (accV rest)).trans ?_)
    have : (t * pm.1 + pm.2) * accP rest + accV rest = t * accP (pm :: rest) + accV (pm :: rest) := by
      simp only [accP, accV]; ring
    rw [this]

theorem prod_fold {q : Int} {f : Int → Int → Int} (hf : ∀ t a, f t a ≡ t * a [ZMOD q]) :
    ∀ (rest : List Int) (t : Int), rest.foldl f t ≡ t * prod rest [ZMOD q]
  | [], t => by simp [prod]
  | a :: rest, t => by
    refine (prod_fold hf rest _).trans (((hf t a).mul_right _).trans ?_)
    simp only [prod]
    rw [mul_assoc]

/-- the exact loops are the case `q = 0` -/
theorem prodList_eq (ps : List Int) : prodList ps = prod ps := by
  have := Int.modEq_zero_iff.mp (prod_fold (q := 0) (fun t a => Int.ModEq.refl (t * a)) ps 1)
  rwa [one_mul] at this

theorem mixedRadixToRing_acc (acc : List (Int × Int)) :
    mixedRadixToRing (acc.reverse.map Prod.fst) (acc.reverse.map Prod.snd) = accV acc := by
  unfold mixedRadixToRing
  rw [← List.zip_of_prod rfl rfl, List.reverse_reverse]
  cases acc with
  | nil => rfl
  | cons pm rest =>
    have := Int.modEq_zero_iff.mp (horner_fold (q := 0) (fun t pm => Int.ModEq.refl (t * pm.1 + pm.2)) rest pm.2)
    simp only [this, accV]; ring

theorem intHorner_modEq (pi : Int) : ∀ acc : List (Int × Int), intHorner pi acc ≡ accV acc [ZMOD pi]
  | [] => Int.ModEq.refl _
  | (_, m) :: rest => by
    simp only [intHorner, accV]
    rw [add_comm]
    exact horner_fold (fun _ _ => Int.mod_modEq _ _) rest m

theorem rnsHorner_modEq (pi : Int) : ∀ acc : List (Int × Int), rnsHorner pi acc ≡ accV acc [ZMOD pi]
  | [] => Int.ModEq.refl _
  | (_, m) :: rest => by
    simp only [rnsHorner, accV]
    rw [add_comm]
    refine (horner_fold (fun t pm => ?_) rest (m % pi)).trans (((Int.mod_modEq m pi).mul_right _).add_right _)
    exact (Int.mod_modEq _ _).trans (((Int.ModEq.refl t).mul (Int.mod_modEq _ _)).add (Int.mod_modEq _ _))

theorem intProdMod_modEq (pk : Int) : ∀ pre : List Int, intProdMod pk pre ≡ prod pre [ZMOD pk]
  | [] => Int.ModEq.refl _
  | p0 :: rest => prod_fold (fun _ _ => Int.mod_modEq _ _) rest p0

theorem rnsProdMod_modEq (pk : Int) : ∀ pre : List Int, rnsProdMod pk pre ≡ prod pre [ZMOD pk]
  | [] => Int.mod_modEq _ _
  | p0 :: rest =>
    (prod_fold (fun t _ => (Int.mod_modEq _ _).trans ((Int.ModEq.refl t).mul (Int.mod_modEq _ _))) rest (p0 % pk)).trans
      ((Int.mod_modEq p0 pk).mul_right _)

theorem intProdMod_nonneg (pk : Int) (hpk : 0 < pk) : ∀ pre : List Int, (∀ p ∈ pre, 0 < p) → 0 ≤ intProdMod pk pre
  | [], _ => Int.one_nonneg
  | p0 :: rest, h =>
    List.foldlRecOn rest _ (h p0 (List.mem_cons_self ..)).le (fun _ _ _ _ => Int.emod_nonneg _ hpk.ne')

theorem rnsProdMod_nonneg (pk : Int) (hpk : 0 < pk) : ∀ pre : List Int, 0 ≤ rnsProdMod pk pre
  | [] => Int.emod_nonneg _ hpk.ne'
  | p0 :: rest => List.foldlRecOn rest _ (Int.emod_nonneg p0 hpk.ne') (fun _ _ _ _ => Int.emod_nonneg _ hpk.ne')

/-! ### `cofEuclid` satisfies the contract (so the theorems quantified over `CofOK cof` are not vacuous) -/

theorem xgcdAux_spec : ∀ (fuel : Nat) (a b : Int), |b| < (fuel : Int) →
    (xgcdAux fuel a b).2.1 * a + (xgcdAux fuel a b).2.2 * b = (xgcdAux fuel a b).1 ∧
    (xgcdAux fuel a b).1 ∣ a ∧ (xgcdAux fuel a b).1 ∣ b ∧ (0 ≤ a → 0 ≤ b → 0 ≤ (xgcdAux fuel a b).1) := by
  intro fuel
  induction fuel with
  | zero => intro a b h; have := abs_nonneg b; omega
  | succ n ih =>
    intro a b h
    by_cases hb : b = 0
    · simp [xgcdAux, hb]
    · simp only [xgcdAux, hb, ↓reduceIte]
      have h1 : 0 ≤ a % b := Int.emod_nonneg a hb
      have h2 : a % b < |b| := Int.emod_lt_abs a hb
      have h3 : |a % b| < (n : Int) := by
        rw [abs_of_nonneg h1]; push_cast at h; omega
      obtain ⟨hbez, hg1, hg2, hn⟩ := ih b (a % b) h3
      refine ⟨?_, ?_, hg1, fun _ hb0 => hn hb0 h1⟩
      · generalize xgcdAux n b (a % b) = r at hbez ⊢
        rw [Int.emod_def] at hbez
        linear_combination hbez
      · have h4 := (hg1.mul_right (a / b)).add hg2
        rwa [Int.mul_ediv_add_emod] at h4

theorem cofEuclid_ok : CofOK cofEuclid := by
  intro p x y hp hx hy
  unfold cofEuclid xgcd
  have hfuel : |x| < ((x.natAbs + 1 : Nat) : Int) := by
    rw [Int.abs_eq_natAbs]; push_cast; omega
  obtain ⟨hb, hd1, hd2, hn⟩ := xgcdAux_spec (x.natAbs + 1) p x hfuel
  have hn := hn hp.le hx
  generalize xgcdAux (x.natAbs + 1) p x = r at hb hd1 hd2 hn
  obtain ⟨g, u, v⟩ := r
  simp only at hb hd1 hd2 hn ⊢
  -- the gcd divides `1 - y x` (through `p`) and `y x`, so it is 1 and the Bezout relation reads `v x ≡ 1`
  have hy' : y * x ≡ 1 [ZMOD p] := hy
  have hg1 : g ∣ 1 := by
    have := (hd1.trans hy'.dvd).add (hd2.mul_left y)
    rwa [sub_add_cancel] at this
  have hg : g = 1 := Int.eq_one_of_dvd_one hn hg1
  subst hg
  refine Int.ModEq.symm ?_
  rw [Int.modEq_iff_dvd]
  exact ⟨-u, by linear_combination hb⟩

/-! ### inverses from the cofactor contract, the two-modulus lift -/

theorem exists_inv_of_isCoprime {p P : Int} (h : IsCoprime p P) : ∃ y : Int, (y * P) % p = 1 % p := by
  obtain ⟨a, b, hab⟩ := h
  refine ⟨b, Int.ModEq.symm ?_⟩
  rw [Int.modEq_iff_dvd]
  exact ⟨-a, by linear_combination hab⟩

theorem cof_inverts {cof : Int → Int → Int} (hcof : CofOK cof) {p x P : Int} (hp : 0 < p) (hx0 : 0 ≤ x)
    (hx : x ≡ P [ZMOD p]) (hco : IsCoprime p P) : cof p x * x ≡ 1 [ZMOD p] := by
  obtain ⟨y, hy⟩ := exists_inv_of_isCoprime hco
  exact hcof p x y hp hx0 (((Int.ModEq.refl y).mul hx).trans hy)

/-- the recombination of `ChineseRemainder::operator()` and of a node of `RNSsystemFixed`'s tree -/
theorem lift_modEq {c M d A e k : Int} (hc : c ≡ 1 [ZMOD d]) (hM : M ∣ c) (hk : k ≡ e - A [ZMOD d]) :
    k * c + A ≡ A [ZMOD M] ∧ k * c + A ≡ e [ZMOD d] := by
  refine ⟨?_, ?_⟩
  · have := (Int.modEq_zero_iff_dvd.mpr (hM.mul_left k)).add_right A
    rwa [zero_add] at this
  · have := (hk.mul hc).add_right A
    rwa [mul_one, sub_add_cancel] at this

theorem craInit_modEq {cof : Int → Int → Int} (hcof : CofOK cof) {M d : Int} (hd : 0 < d) (hco : IsCoprime d M) :
    craInit cof M d ≡ 1 [ZMOD d] := by
  have hx : M % d ≡ M [ZMOD d] := Int.mod_modEq _ _
  exact ((Int.mod_modEq _ _).mul hx.symm).trans (cof_inverts hcof hd (Int.emod_nonneg M hd.ne') hx hco)

/-! ### the Garner loop -/

theorem garner_step {p r V c P m : Int} (hm : m ≡ (r - V) * c [ZMOD p]) (hc : c * P ≡ 1 [ZMOD p]) :
    V + m * P ≡ r [ZMOD p] := by
  have h1 : m * P ≡ (r - V) * 1 [ZMOD p] := by
    refine (hm.mul_right P).trans ?_
    rw [mul_assoc]
    exact (Int.ModEq.refl (r - V)).mul hc
  have h := h1.add_left V
  rwa [mul_one, add_sub_cancel] at h

/-- the first round of both loops is special: `a` on an empty prefix, `b` afterwards -/
def ifNil {α : Type} (l : List α) (a b : Int) : Int := match l with | [] => a | _ => b

theorem ifNil_of_ne {α : Type} {l : List α} (h : l ≠ []) (a b : Int) : ifNil l a b = b := by
  cases l with
  | nil => exact absurd rfl h
  | cons _ _ => rfl

/-- `K` runs `ComputeCk` with the reciprocal function `g`, `G` runs `RnsToMixedRadix` with the digit function `digit`
    (`acc` = the (modulus, digit) pairs so far, most recent first; `pre` = the moduli so far, in order) -/
structure GarnerLoop (G : List (Int × Int) → List Int → List Int → List Int → List (Int × Int))
    (K : List Int → List Int → List Int) (digit : Int → List (Int × Int) → Int → Int → Int) (g : Int → List Int → Int) :
    Prop where
  step : ∀ acc p ps c cs r rs, G acc (p :: ps) (c :: cs) (r :: rs) = G ((p, ifNil acc r (digit p acc c r)) :: acc) ps cs rs
  stop : ∀ acc, G acc [] [] [] = acc
  ck_step : ∀ pre p ps, K pre (p :: ps) = ifNil pre 0 (g p pre) :: K (pre ++ [p]) ps
  ck_stop : ∀ pre, K pre [] = []
  digit_ok : ∀ p acc c r, 0 < p → digit p acc c r ≡ (r - accV acc) * c [ZMOD p] ∧ 0 ≤ digit p acc c r ∧ digit p acc c r < p
  ck_ok : ∀ p pre, 0 < p → (∀ q ∈ pre, 0 < q) → IsCoprime p (prod pre) → g p pre * prod pre ≡ 1 [ZMOD p]

theorem int_loop {cof : Int → Int → Int} (hcof : CofOK cof) :
    GarnerLoop intGarnerGo (intCkGo cof) (fun p acc c r => ((r - intHorner p acc) * c) % p)
      (fun p pre => cof p (intProdMod p pre)) where
  step acc _ _ _ _ _ _ := by cases acc <;> rfl
  stop _ := rfl
  ck_step pre _ _ := by cases pre <;> rfl
  ck_stop _ := rfl
  digit_ok p acc c r hp :=
    ⟨(Int.mod_modEq _ _).trans (((Int.ModEq.refl r).sub (intHorner_modEq p acc)).mul_right c), emod_canon hp _⟩
  ck_ok p pre hp hpos hco :=
    ((Int.ModEq.refl _).mul (intProdMod_modEq p pre).symm).trans
      (cof_inverts hcof hp (intProdMod_nonneg p hp pre hpos) (intProdMod_modEq p pre) hco)

theorem rns_loop {cof : Int → Int → Int} (hcof : CofOK cof) :
    GarnerLoop rnsGarnerGo (rnsCkGo cof) (fun p acc c r => (((r - rnsHorner p acc) % p) * c) % p)
      (fun p pre => (cof p (rnsProdMod p pre)) % p) where
  step acc _ _ _ _ _ _ := by cases acc <;> rfl
  stop _ := rfl
  ck_step pre _ _ := by cases pre <;> rfl
  ck_stop _ := rfl
  digit_ok p acc c r hp :=
    ⟨(Int.mod_modEq _ _).trans
      (((Int.mod_modEq _ _).trans ((Int.ModEq.refl r).sub (rnsHorner_modEq p acc))).mul_right c), emod_canon hp _⟩
  ck_ok p pre hp _ hco :=
    ((Int.mod_modEq _ _).mul (rnsProdMod_modEq p pre).symm).trans
      (cof_inverts hcof hp (rnsProdMod_nonneg p hp pre) (rnsProdMod_modEq p pre) hco)

/-- `rr` = the residues already processed, most recent first like `acc` -/
structure GInv (acc : List (Int × Int)) (rr : List Int) : Prop where
  cong : List.Forall₂ (fun pm r => pm.1 ∣ accP acc ∧ accV acc % pm.1 = r) acc rr
  dig : ∀ pm ∈ acc, 0 ≤ pm.2 ∧ pm.2 < pm.1

theorem GInv.nil : GInv [] [] := ⟨List.Forall₂.nil, fun _ h => nomatch h⟩

theorem GInv.push {acc : List (Int × Int)} {rr : List Int} (h : GInv acc rr) {p m r : Int}
    (hm : 0 ≤ m ∧ m < p) (hc : accV ((p, m) :: acc) % p = r) : GInv ((p, m) :: acc) (r :: rr) := by
  constructor
  · refine List.Forall₂.cons ⟨dvd_mul_right _ _, hc⟩ (h.cong.imp ?_)
    intro pm r' ⟨hd, hcg⟩
    refine ⟨hd.mul_left _, ?_⟩
    have hz : m * accP acc ≡ 0 [ZMOD pm.1] := Int.modEq_zero_iff_dvd.mpr (hd.mul_left _)
    have := (Int.ModEq.refl (accV acc)).add hz
    rw [add_zero] at this
    exact this.eq.trans hcg
  · intro pm hpm
    rcases List.mem_cons.mp hpm with h1 | h1
    · subst h1; exact hm
    · exact h.dig pm h1

theorem GarnerLoop.round {G K digit g} (L : GarnerLoop G K digit g) {acc : List (Int × Int)} {rr pre : List Int} {p r : Int}
    (hpre : acc.reverse.map Prod.fst = pre) (hinv : GInv acc rr) (hr : 0 ≤ r ∧ r < p) (hco : IsCoprime p (accP acc)) :
    GInv ((p, ifNil acc r (digit p acc (ifNil pre 0 (g p pre)) r)) :: acc) (r :: rr) := by
  have hp : 0 < p := lt_of_le_of_lt hr.1 hr.2
  by_cases hacc : acc = []
  · subst hacc
    exact hinv.push hr (by simp [ifNil, accV, accP, Int.emod_eq_of_lt hr.1 hr.2])
  · have hne : pre ≠ [] := by rw [← hpre]; simpa using hacc
    rw [ifNil_of_ne hacc, ifNil_of_ne hne]
    obtain ⟨h1, h23⟩ := L.digit_ok p acc (g p pre) r hp
    have hpos : ∀ q ∈ pre, 0 < q := by
      intro q hq
      rw [← hpre] at hq
      obtain ⟨pm, hpm, rfl⟩ := List.mem_map.mp hq
      have := hinv.dig pm (List.mem_reverse.mp hpm)
      exact lt_of_le_of_lt this.1 this.2
    have hPP : prod pre = accP acc := by rw [← hpre, ← accP_eq_prod]
    have hinvc := L.ck_ok p pre hp hpos (hPP ▸ hco)
    rw [hPP] at hinvc
    exact hinv.push h23 ((garner_step h1 hinvc).eq.trans (Int.emod_eq_of_lt hr.1 hr.2))

theorem GarnerLoop.spec {G K digit g} (L : GarnerLoop G K digit g) :
    ∀ (ps pre : List Int) (acc : List (Int × Int)) (rs rr : List Int),
      acc.reverse.map Prod.fst = pre → Canon ps rs → GInv acc rr →
      (∀ p ∈ ps, IsCoprime p (accP acc)) → ps.Pairwise IsCoprime →
      GInv (G acc ps (K pre ps) rs) (rs.reverse ++ rr) ∧ (G acc ps (K pre ps) rs).reverse.map Prod.fst = pre ++ ps := by
  intro ps
  induction ps with
  | nil =>
    intro pre acc rs rr hpre hcan hinv _ _
    cases hcan
    simp [L.ck_stop, L.stop, hinv, hpre]
  | cons p ps ih =>
    intro pre acc rs rr hpre hcan hinv hco hpw
    cases hcan with
    | cons hr hcan' =>
    rename_i r rs'
    rw [L.ck_step, L.step]
    have hpw' := List.pairwise_cons.mp hpw
    have := ih (pre ++ [p]) _ rs' (r :: rr) (by simp [hpre]) hcan' (L.round hpre hinv hr (hco p (List.mem_cons_self ..)))
      (fun q hq => IsCoprime.mul_right (hpw'.1 q hq).symm (hco q (List.mem_cons_of_mem _ hq))) hpw'.2
    simpa [List.reverse_cons, List.append_assoc] using this

/-! ### what a Garner run computes -/

structure GarnerResult (ps rs ms : List Int) (x : Int) : Prop where
  digits : Canon ps ms
  value : mrValue ps ms = x
  range : 0 ≤ x ∧ x < prod ps
  residues : List.Forall₂ (fun p r => x % p = r) ps rs

theorem GarnerLoop.result {G K digit g} (L : GarnerLoop G K digit g) (ps rs : List Int)
    (hpw : ps.Pairwise IsCoprime) (hcan : Canon ps rs) :
    GarnerResult ps rs (((G [] ps (K [] ps) rs).reverse).map Prod.snd)
      (mixedRadixToRing ps (((G [] ps (K [] ps) rs).reverse).map Prod.snd)) := by
  obtain ⟨hinv, hps⟩ := L.spec ps [] [] rs [] rfl hcan GInv.nil (fun p _ => isCoprime_one_right) hpw
  generalize G [] ps (K [] ps) rs = acc at hinv hps
  simp only [List.nil_append, List.append_nil] at hinv hps
  subst hps
  rw [mixedRadixToRing_acc]
  refine ⟨?_, (accV_eq_mrValue acc).symm, ?_, ?_⟩
  · unfold Canon
    rw [List.forall₂_map_left_iff, List.forall₂_map_right_iff, List.forall₂_same]
    exact fun pm hpm => hinv.dig pm (List.mem_reverse.mp hpm)
  · rw [← accP_eq_prod]; exact accV_range acc hinv.dig
  · rw [List.forall₂_map_left_iff]
    have := List.forall₂_reverse_iff.mpr hinv.cong
    rw [List.reverse_reverse] at this
    exact this.imp (fun _ _ h => h.2)

theorem int_garner_result {cof : Int → Int → Int} (hcof : CofOK cof) (ps rs : List Int)
    (hpw : ps.Pairwise IsCoprime) (hcan : Canon ps rs) :
    GarnerResult ps rs (intRnsToMixedRadix ps (intComputeCk cof ps) rs)
      (mixedRadixToRing ps (intRnsToMixedRadix ps (intComputeCk cof ps) rs)) :=
  (int_loop hcof).result ps rs hpw hcan

theorem rns_garner_result {cof : Int → Int → Int} (hcof : CofOK cof) (ps rs : List Int)
    (hpw : ps.Pairwise IsCoprime) (hcan : Canon ps rs) :
    GarnerResult ps rs (rnsRnsToMixedRadix ps (rnsComputeCk cof ps) rs)
      (mixedRadixToRing ps (rnsRnsToMixedRadix ps (rnsComputeCk cof ps) rs)) :=
  (rns_loop hcof).result ps rs hpw hcan

/-! ### the solution of a system -/

/-- `x` is the solution in `[0, ∏ p_i)` of the system `x ≡ r_i (mod p_i)` -/
def IsCRT (ps rs : List Int) (x : Int) : Prop :=
  (0 ≤ x ∧ x < prod ps) ∧ List.Forall₂ (fun p r => x % p = r) ps rs

theorem ringToRns_of_residues {ps rs : List Int} {x : Int} (h : List.Forall₂ (fun p r => x % p = r) ps rs) :
    ringToRns ps x = rs := by
  unfold ringToRns
  induction h with
  | nil => rfl
  | cons h1 _ ih => rw [List.map_cons, h1, ih]

theorem IsCRT.toRns {ps rs : List Int} {x : Int} (h : IsCRT ps rs x) : ringToRns ps x = rs := ringToRns_of_residues h.2

theorem IsCRT.unique {ps rs : List Int} {x y : Int} (hpw : ps.Pairwise IsCoprime) (hx : IsCRT ps rs x) (hy : IsCRT ps rs y) :
    x = y :=
  crt_unique ps hpw x y hx.1 hy.1 (List.map_inj_left.mp (hx.toRns.trans hy.toRns.symm))

/-- the form in which the conversions' exactness is stated -/
theorem IsCRT.exact {ps rs : List Int} {x : Int} (hpw : ps.Pairwise IsCoprime) (hx : IsCRT ps rs x) :
    (0 ≤ x ∧ x < prod ps) ∧ List.Forall₂ (fun p r => x % p = r) ps rs ∧
    (∀ y : Int, 0 ≤ y ∧ y < prod ps → (∀ p ∈ ps, y % p = x % p) → y = x) :=
  ⟨hx.1, hx.2, fun y hy h => crt_unique ps hpw y x hy hx.1 h⟩

theorem isCRT_emod {ps : List Int} (hpos : ∀ p ∈ ps, 0 < p) (a : Int) : IsCRT ps (ringToRns ps a) (a % prod ps) := by
  refine ⟨emod_canon (prod_eq ps ▸ List.prod_pos hpos) a, ?_⟩
  unfold ringToRns
  rw [List.forall₂_map_right_iff, List.forall₂_same]
  exact fun p hp => Int.emod_emod_of_dvd a (prod_eq ps ▸ List.dvd_prod hp)

theorem GarnerResult.isCRT {ps rs ms : List Int} {x : Int} (h : GarnerResult ps rs ms x) : IsCRT ps rs x :=
  ⟨h.range, h.residues⟩

/-! ### mixed-radix digits: uniqueness, canonical expansion -/

/-- the mixed-radix expansion of `x` for the radices `ps`: `x mod p_0`, `(x / p_0) mod p_1`, … -/
def mrDigits : List Int → Int → List Int
  | [], _ => []
  | p :: ps, x => (x % p) :: mrDigits ps (x / p)

theorem mr_digits_unique {ps ms ms' : List Int} (h : Canon ps ms) (h' : Canon ps ms')
    (hv : mrValue ps ms = mrValue ps ms') : ms = ms' := by
  induction h generalizing ms' with
  | nil => cases h'; rfl
  | cons hm _ ih =>
    cases h' with
    | cons hm' hrest' =>
      rename_i p m ps ms _ m' ms''
      simp only [mrValue] at hv
      have hp : 0 < p := lt_of_le_of_lt hm.1 hm.2
      -- the first digit is the value mod `p`, the rest is the quotient
      have hmm : m = m' := by
        rw [← Int.emod_eq_of_lt hm.1 hm.2, ← Int.emod_eq_of_lt hm'.1 hm'.2,
          ← Int.add_mul_emod_self_left m p (mrValue ps ms), hv, Int.add_mul_emod_self_left]
      subst hmm
      rw [ih hrest' (Int.eq_of_mul_eq_mul_left hp.ne' (add_left_cancel hv))]

theorem mrDigits_canon : ∀ (ps : List Int) (x : Int), (∀ p ∈ ps, 0 < p) → Canon ps (mrDigits ps x)
  | [], _, _ => List.Forall₂.nil
  | p :: ps, x, h =>
    List.Forall₂.cons (emod_canon (h p (List.mem_cons_self ..)) x)
      (mrDigits_canon ps (x / p) (fun q hq => h q (List.mem_cons_of_mem _ hq)))

theorem mrValue_mrDigits : ∀ (ps : List Int) (x : Int), (∀ p ∈ ps, 0 < p) → 0 ≤ x → x < prod ps →
    mrValue ps (mrDigits ps x) = x
  | [], x, _, h0, h1 => by simp only [prod] at h1; simp only [mrValue]; omega
  | p :: ps, x, h, h0, h1 => by
    have hp := h p (List.mem_cons_self ..)
    simp only [mrDigits, mrValue]
    have hq1 : x / p < prod ps := by
      simp only [prod] at h1
      exact Int.ediv_lt_of_lt_mul hp (by rw [mul_comm]; exact h1)
    rw [mrValue_mrDigits ps (x / p) (fun q hq => h q (List.mem_cons_of_mem _ hq)) (Int.ediv_nonneg h0 hp.le) hq1]
    exact Int.emod_add_mul_ediv x p

theorem GarnerResult.digits_eq {ps rs ms : List Int} {x : Int} (h : GarnerResult ps rs ms x) : ms = mrDigits ps x :=
  mr_digits_unique h.digits (mrDigits_canon ps x h.digits.pos)
    (by rw [h.value, mrValue_mrDigits ps x h.digits.pos h.range.1 h.range.2])

/-! ### the converted value is Mathlib's Chinese remainder -/

/-- the (modulus, residue) pairs as naturals -/
def natPairs (ps rs : List Int) : List (ℕ × ℕ) := (ps.zip rs).map (fun pr => (pr.1.toNat, pr.2.toNat))

theorem natPairs_pairwise {ps rs : List Int} (hpw : PairwiseCoprime ps) (hcan : Canon ps rs) :
    (natPairs ps rs).Pairwise (Function.onFun Nat.Coprime Prod.fst) := by
  unfold natPairs
  rw [List.pairwise_map]
  have hfst : (ps.zip rs).map Prod.fst = ps := List.map_fst_zip (le_of_eq (List.Forall₂.length_eq hcan))
  have h : (ps.zip rs).Pairwise (fun a b => Int.gcd a.1 b.1 = 1) := List.pairwise_map.mp (hfst.symm ▸ hpw)
  refine h.imp_of_mem ?_
  intro a b ha hb hg
  have pa := hcan.pos a.1 (List.of_mem_zip ha).1
  have pb := hcan.pos b.1 (List.of_mem_zip hb).1
  show Nat.gcd a.1.toNat b.1.toNat = 1
  rwa [← Int.toNat_of_nonneg pa.le, ← Int.toNat_of_nonneg pb.le, Int.gcd_natCast_natCast] at hg

theorem natPairs_prod {ps rs : List Int} (hcan : Canon ps rs) :
    (((natPairs ps rs).map Prod.fst).prod : Int) = prod ps := by
  unfold natPairs
  induction hcan with
  | nil => simp [prod]
  | cons h1 hrest ih =>
    rename_i p r ps rs
    have hp : 0 ≤ p := le_of_lt (lt_of_le_of_lt h1.1 h1.2)
    simp only [List.zip_cons_cons, List.map_cons, List.prod_cons, prod, Nat.cast_mul, Int.toNat_of_nonneg hp]
    rw [ih]

/-- existence only: that it is the solution is `IsCRT.unique` -/
theorem isCRT_chineseRemainderOfList {ps rs : List Int} (hcan : Canon ps rs)
    (co : (natPairs ps rs).Pairwise (Function.onFun Nat.Coprime Prod.fst)) :
    IsCRT ps rs ((Nat.chineseRemainderOfList Prod.snd Prod.fst (natPairs ps rs) co : ℕ) : Int) := by
  have hne : ∀ i ∈ natPairs ps rs, Prod.fst i ≠ 0 := by
    intro i hi
    obtain ⟨⟨q, r'⟩, hmem, rfl⟩ := List.mem_map.mp hi
    have hq := Canon.pos hcan q (List.of_mem_zip hmem).1
    show q.toNat ≠ 0
    omega
  have hlt := Nat.chineseRemainderOfList_lt_prod Prod.snd Prod.fst (natPairs ps rs) co hne
  refine ⟨⟨Int.natCast_nonneg _, by rw [← natPairs_prod hcan]; exact_mod_cast hlt⟩, ?_⟩
  rw [List.forall₂_iff_zip]
  refine ⟨List.Forall₂.length_eq hcan, fun {q r} hmem => ?_⟩
  have hc : 0 ≤ r ∧ r < q := (List.forall₂_iff_zip.mp hcan).2 hmem
  have hk : _ % q.toNat = r.toNat % q.toNat :=
    (Nat.chineseRemainderOfList Prod.snd Prod.fst (natPairs ps rs) co).prop _ (List.mem_map_of_mem hmem)
  have := congrArg (Nat.cast (R := Int)) hk
  rwa [Int.natCast_mod, Int.natCast_mod, Int.toNat_of_nonneg (hc.1.trans hc.2.le), Int.toNat_of_nonneg hc.1,
    Int.emod_eq_of_lt hc.1 hc.2] at this

/-- `D` = the digits, `V` = the value of any conversion that is a Garner run on every canonical residue vector -/
theorem conversions_meet_spec {ps : List Int} {D : List Int → List Int} {V : List Int → Int} (hco : PairwiseCoprime ps)
    (hDV : ∀ rs, Canon ps rs → GarnerResult ps rs (D rs) (V rs)) {rs : List Int} (hcan : Canon ps rs) :
    V rs = ((Nat.chineseRemainderOfList Prod.snd Prod.fst (natPairs ps rs) (natPairs_pairwise hco hcan) : ℕ) : Int) ∧
    D rs = mrDigits ps (V rs) ∧ ringToRns ps (V rs) = rs ∧
    (∀ a : Int, V (ringToRns ps a) = a % prod ps) :=
  have r := hDV rs hcan
  ⟨r.isCRT.unique hco.isCoprime (isCRT_chineseRemainderOfList hcan _), r.digits_eq, r.isCRT.toRns,
    fun a => (hDV _ (canon_ringToRns ps a hcan.pos)).isCRT.unique hco.isCoprime (isCRT_emod hcan.pos a)⟩

end Givaro.Lemmas.CRT
