/-
C08 — exactness of the Karatsuba range product (`karaStep`, `mulR`) of `Model/Poly.lean`, for every shape of the
three ranges (full length and truncated).  A range of `m` places is specified coefficient by coefficient (`MulSpec`);
inside the proofs the ranges are composed as congruences `toPoly R ≡ f (mod X^m)`.
-/
import GivaroModel.Lemmas.PolyLemmas

open Polynomial
set_option linter.unusedSectionVars false

namespace Givaro.Lemmas.Poly
open Givaro.Model.Poly

variable {K : Type} [Field K] [DecidableEq K]

/-! ### subtraction on ranges -/

theorem toPoly_subin3 (M L : List K) : toPoly (subin3 M L) = toPoly M - toPoly L := by
  unfold subin3
  split
  · next h => simp [isEmpty_toPoly h]
  · split
    · rw [toPoly_setdegree, toPoly_sub]
    · rw [toPoly_sub]

theorem toPoly_subRow_dvd (M : List K) (off : Nat) (R : List K) :
    X ^ R.length ∣ toPoly (subRow M off R) - (toPoly R - X ^ off * toPoly M) := by
  rw [X_pow_dvd_toPoly_sub_iff]
  intro k hk
  rw [(subRow_spec M off R).2, coeff_sub, coeff_toPoly, coeff_X_pow_mul', coeff_toPoly]
  by_cases h : off ≤ k
  · rw [if_pos ⟨h, hk⟩, if_pos h]
  · rw [if_neg (fun c => h c.1), if_neg h, sub_zero]

/-! ### the Karatsuba step -/

/-- what a range product must deliver on an R range of length `m`: at most `m` coefficients written, and the
    coefficients `0 … m-1` of the product (`A·B mod X^m`) -/
def MulSpec (mul : Nat → List K → List K → List K) (m : Nat) (A B : List K) : Prop :=
  (mul m A B).length ≤ m ∧ ∀ i, i < m → (mul m A B).getD i 0 = (toPoly A * toPoly B).coeff i

section
variable {mul : Nat → List K → List K → List K} {m : Nat} {A B : List K}

theorem MulSpec.toPoly_pad (h : MulSpec mul m A B) : toPoly (pad m (mul m A B)) = toPoly (mul m A B) :=
  toPoly_pad_of_le _ _ h.1

theorem MulSpec.toPoly_eq (h : MulSpec mul m A B) (hm : A.length + B.length ≤ m + 1) :
    toPoly (mul m A B) = toPoly A * toPoly B :=
  toPoly_eq_of_coeff m _ _ h.1 h.2 (fun k hk => coeff_mul_toPoly_of_le A B k (by omega))

theorem MulSpec.dvd (h : MulSpec mul m A B) {m' : Nat} (hm : m' ≤ m ∨ A.length + B.length ≤ m + 1) :
    X ^ m' ∣ toPoly (mul m A B) - toPoly A * toPoly B := by
  rcases hm with hm | hm
  · exact dvd_trans (pow_dvd_pow X hm) ((X_pow_dvd_toPoly_sub_iff _ _ _).mpr h.2)
  · rw [h.toPoly_eq hm, sub_self]; exact dvd_zero _

end

/-- admissible shapes for a multiplier that is only known to be exact on full-length ranges when `thr = 0` -/
def Adm (thr m : Nat) (A B : List K) : Prop := 1 ≤ thr ∨ A.length + B.length ≤ m + 1

theorem karaStep_exact (thr : Nat) (mul : Nat → List K → List K → List K)
    (hmul : ∀ m A B, Adm thr m A B → MulSpec mul m A B)
    (n : Nat) (P Q : List K) (hadm : Adm thr n P Q)
    (hcase0 : 1 ≤ min (P.length / 2) (Q.length / 2) ∨ P.length + Q.length ≤ n + 1) :
    (karaStep mul n P Q).length = n ∧
    ∀ k, k < n → (karaStep mul n P Q).getD k 0 = (toPoly P * toPoly Q).coeff k := by
  rw [← X_pow_dvd_toPoly_sub_iff]
  unfold karaStep
  by_cases hn : n = 0
  · subst hn; simp
  rw [if_neg hn]
  extract_lets halfP halfQ half halfR Pl Ph Ql Qh lo highs rrems midts PHQH hi PHPL QHQL M0 M1 M2
  -- all that is used of `half`: both operands split there, and it is positive unless the range is full-length
  have h2P : 2 * half ≤ P.length := by simp only [half, halfP, halfQ]; omega
  have h2Q : 2 * half ≤ Q.length := by simp only [half, halfP, halfQ]; omega
  have hcase : 1 ≤ half ∨ P.length + Q.length ≤ n + 1 := hcase0
  have ehR : halfR = min (2 * half) n := rfl
  have lPl : Pl.length = half := by simp only [Pl, List.length_take]; omega
  have lQl : Ql.length = half := by simp only [Ql, List.length_take]; omega
  have lPh : Ph.length + half = P.length := by simp only [Ph, List.length_drop]; omega
  have lQh : Qh.length + half = Q.length := by simp only [Qh, List.length_drop]; omega
  have hP : toPoly P = toPoly Pl + X ^ half * toPoly Ph := toPoly_take_drop P half
  have hQ : toPoly Q = toPoly Ql + X ^ half * toPoly Qh := toPoly_take_drop Q half
  -- the low product: `lo ≡ Pl·Ql (mod X^n)`, since `halfR` is `n` or has room for all of `Pl·Ql`
  have slo := hmul halfR Pl Ql (Or.imp_right (fun h => by rw [lPl, lQl]; omega) hadm)
  have llo : lo.length = halfR := length_pad _ _
  have tlo : X ^ n ∣ toPoly lo - toPoly Pl * toPoly Ql := by
    simp only [lo]; rw [slo.toPoly_pad]; exact slo.dvd (by rw [lPl, lQl]; omega)
  split
  · -- the range ends inside the low product
    next hlt =>
    refine ⟨length_pad _ _, ?_⟩
    rw [toPoly_pad_of_le _ _ (by omega)]
    have e : toPoly lo - toPoly P * toPoly Q = (toPoly lo - toPoly Pl * toPoly Ql)
        - X ^ half * (toPoly Pl * toPoly Qh + toPoly Ph * toPoly Ql + X ^ half * (toPoly Ph * toPoly Qh)) := by
      rw [hP, hQ]; ring
    rw [e]
    exact dvd_sub tlo (dvd_mul_of_dvd_left (pow_dvd_pow X (by omega)) _)
  · next hlt =>
    have ehigh : highs = Ph.length + Qh.length - 1 := rfl
    have err : halfR + rrems = n := by simp only [rrems]; omega
    have emid : midts = min highs (n - half) := rfl
    -- the high product: `hi ≡ Ph·Qh (mod X^rrems)`
    have Fhi : hi.length = rrems ∧ X ^ rrems ∣ toPoly hi - toPoly Ph * toPoly Qh := by
      by_cases hA : rrems < midts
      · have s := hmul midts Ph Qh (Or.imp_right (fun h => by omega) hadm)
        simp only [hi, PHQH, if_pos hA]
        refine ⟨by rw [List.length_take, length_pad]; omega, ?_⟩
        have := dvd_add (toPoly_take_dvd rrems (pad midts (mul midts Ph Qh))) (s.dvd (Or.inl hA.le))
        rwa [s.toPoly_pad, sub_add_sub_cancel] at this
      · have s := hmul rrems Ph Qh (Or.imp_right (fun h => by omega) hadm)
        simp only [hi, if_neg hA]
        exact ⟨length_pad _ _, by rw [s.toPoly_pad]; exact s.dvd (Or.inl le_rfl)⟩
    -- the term subtracted for `Ph·Qh` is right modulo `X^(n-half)`
    have FX : X ^ (n - half) ∣ toPoly (if rrems < highs then PHQH else hi) - toPoly Ph * toPoly Qh := by
      by_cases hB : rrems < highs
      · have hA : rrems < midts := by omega
        have s := hmul midts Ph Qh (Or.imp_right (fun h => by omega) hadm)
        simp only [if_pos hB, PHQH, if_pos hA]
        rw [s.toPoly_pad]; exact s.dvd (by omega)
      · rw [if_neg hB, toPoly_eq_of_dvd rrems hi _ Fhi.1.le Fhi.2
          (fun k hk => coeff_mul_toPoly_of_le Ph Qh k (by omega)), sub_self]
        exact dvd_zero _
    have lPHPL : PHPL.length ≤ Ph.length := by
      have := length_setdegree_le (sub Ph Pl)
      rw [length_sub] at this
      simp only [PHPL]
      omega
    have lQHQL : QHQL.length ≤ Qh.length := by
      have := length_setdegree_le (sub Qh Ql)
      rw [length_sub] at this
      simp only [QHQL]
      omega
    have sM := hmul midts PHPL QHQL (Or.imp_right (fun h => by omega) hadm)
    have FM : X ^ (n - half) ∣ toPoly M0 - (toPoly Ph - toPoly Pl) * (toPoly Qh - toPoly Ql) := by
      have := sM.dvd (m' := n - half) (by omega)
      simpa only [M0, PHPL, QHQL, toPoly_setdegree, toPoly_sub] using this
    have tM2 : toPoly M2 = toPoly M0 - toPoly lo - toPoly (if rrems < highs then PHQH else hi) := by
      simp only [M2, M1]
      rw [toPoly_setdegree]
      split
      · rw [toPoly_subin, toPoly_setdegree, toPoly_subin3]
      · rw [toPoly_subin3, toPoly_setdegree, toPoly_subin3]
    -- `R = lo + X^halfR·hi - X^half·M2` modulo `X^n`, and each of the three is right modulo `X^n`
    -- (from here on only the facts above are used: with their values forgotten the ranges are not unfolded again)
    clear_value M2 M1 M0 PHPL QHQL hi PHQH lo
    have lR : (lo ++ hi).length = n := by rw [List.length_append, llo, Fhi.1]; exact err
    refine ⟨by rw [(subRow_spec _ _ _).1, lR], ?_⟩
    have hrow := toPoly_subRow_dvd M2 half (lo ++ hi)
    rw [lR, toPoly_append, llo] at hrow
    have T2 : X ^ n ∣ X ^ halfR * toPoly hi - X ^ (2 * half) * (toPoly Ph * toPoly Qh) := by
      rcases Nat.lt_or_ge n (2 * half) with h | h
      · have : halfR = n := Nat.min_eq_right h.le
        rw [this]; exact dvd_sub (dvd_mul_right _ _) (dvd_mul_of_dvd_left (pow_dvd_pow X h.le) _)
      · have : halfR = 2 * half := Nat.min_eq_left h
        rw [← this, ← mul_sub, ← err, pow_add]; exact mul_dvd_mul_left _ Fhi.2
    have T3 := mul_dvd_mul_left (X ^ half)
      (dvd_sub (dvd_sub FM (dvd_trans (pow_dvd_pow X (Nat.sub_le n half)) tlo)) FX)
    rw [← pow_add, Nat.add_sub_cancel' (Nat.le_of_lt (not_not.mp hlt))] at T3
    convert dvd_sub (dvd_add (dvd_add hrow tlo) T2) T3 using 1
    rw [tM2, hP, hQ]; ring

theorem stdmulR_spec (m : Nat) (A B : List K) : MulSpec stdmulR m A B := by
  by_cases hm : m = 0
  · subst hm; simp [MulSpec, stdmulR]
  · cases A with
    | nil => simp [MulSpec, stdmulR, hm]
    | cons a At =>
      have := stdmulR_exact m (a :: At) B (by omega) (by simp)
      exact ⟨by omega, this.2⟩

theorem mulR_spec (thr fuel : Nat) :
    ∀ (m : Nat) (A B : List K), Adm thr m A B → MulSpec (mulR thr fuel) m A B := by
  induction fuel with
  | zero => intro m A B _; exact stdmulR_spec m A B
  | succ fuel ih =>
    intro m A B hadm
    have e : mulR thr (fuel + 1) m A B
        = if A.length > thr ∧ B.length > thr then karaStep (mulR thr fuel) m A B else stdmulR m A B := rfl
    unfold MulSpec
    rw [e]
    split
    · next hgt =>
      have hc : 1 ≤ min (A.length / 2) (B.length / 2) ∨ A.length + B.length ≤ m + 1 := by
        rcases hadm with h | h
        · left; omega
        · right; exact h
      have := karaStep_exact thr (mulR thr fuel) ih m A B hadm hc
      exact ⟨by omega, this.2⟩
    · exact stdmulR_spec m A B

theorem toPoly_mul (thr : Nat) (P Q : List K) : toPoly (mul thr P Q) = toPoly P * toPoly Q :=
  toPoly_product P Q _ fun hp hq => by
    have s := mulR_spec thr (P.length + Q.length) (P.length + Q.length - 1) P Q (Or.inr (by omega))
    rw [s.toPoly_pad, s.toPoly_eq (by omega)]

theorem toPoly_mulin (thr : Nat) (R P : List K) : toPoly (mulin thr R P) = toPoly R * toPoly P := by
  rw [mulin, toPoly_assign, toPoly_mul]

theorem toPoly_karamul (thr : Nat) (P Q : List K) : toPoly (karamul thr P Q) = toPoly P * toPoly Q :=
  toPoly_product P Q _ fun hp hq => by
    have s := karaStep_exact thr (mulR thr (P.length + Q.length)) (mulR_spec thr _)
      (P.length + Q.length - 1) P Q (Or.inr (by omega)) (Or.inr (by omega))
    exact toPoly_eq_of_coeff _ _ _ s.1.le s.2 (fun k hk => coeff_mul_toPoly_of_le P Q k (by omega))

end Givaro.Lemmas.Poly
