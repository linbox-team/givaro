/-
C11 — the code after the loop of Rational::ratrecon: the two candidates it examines, soundness of what it returns,
and completeness (MCA Thm 5.26 for the code as written): every reduced solution (n, d) of
n ≡ d f (mod m), |n| < k, 0 < d, d·k ≤ m  is one of the two candidates (`LInv.classify`; uniqueness is drawn from it in
Props/C11); the widening loop and the wrappers.
-/
import GivaroModel.Spec.RatReconSpec
import GivaroModel.Lemmas.RatReconLemmas
import Mathlib.Algebra.Ring.Divisibility.Basic
namespace Givaro.Lemmas.RatRecon
open Givaro.Model.RatRecon Givaro.Spec.RatRecon

/-- the arithmetic core: in the basis of the two rows at loop exit (`r1 < k ≤ r0`, `m = r0 T1 + r1 T0`) a solution
    `(±(b r1 − a r0), a T0 + b T1)` within the bounds has `a = 0`, or `a = 1` and `b` is the code's quotient -/
theorem cand_arith (r0 r1 T0 T1 k a b m : Int) (h1 : 0 ≤ r1) (h2 : r1 < k) (h3 : k ≤ r0) (hT0 : 0 ≤ T0) (hT1 : 0 < T1)
    (hm : m = r0 * T1 + r1 * T0) (hn1 : -k < b * r1 - a * r0) (hn2 : b * r1 - a * r0 < k)
    (hd : 0 < a * T0 + b * T1) (hdk : (a * T0 + b * T1) * k ≤ m) :
    (a = 0 ∧ 0 < b) ∨
    (a = 1 ∧ 0 < r1 ∧ 0 < b ∧ k - r1 ≤ r0 - b * r1 ∧ m < 2 * k * (a * T0 + b * T1)) := by
  -- a ≥ 0: otherwise b > 0 (as d > 0), and then b r1 − a r0 ≥ r0 ≥ k
  have ha0 : 0 ≤ a := by
    by_contra hneg
    have e1 : a * T0 ≤ 0 := Int.mul_nonpos_of_nonpos_of_nonneg (by omega) hT0
    have hb : 0 < b := pos_of_mul_pos_left (by omega : 0 < b * T1) (by omega)
    have e2 : 0 ≤ b * r1 := Int.mul_nonneg (by omega) h1
    have e3 : a * r0 ≤ -1 * r0 := Int.mul_le_mul_of_nonneg_right (by omega) (by omega)
    omega
  by_cases haz : a = 0
  · subst haz
    exact Or.inl ⟨rfl, pos_of_mul_pos_left (by omega : 0 < b * T1) (by omega)⟩
  right
  have e5 : 1 * r0 ≤ a * r0 := Int.mul_le_mul_of_nonneg_right (by omega) (by omega)
  have hb : 0 < b := pos_of_mul_pos_left (by omega : 0 < b * r1) h1
  have hr1 : 0 < r1 := pos_of_mul_pos_left (by rw [Int.mul_comm]; omega : 0 < r1 * b) (by omega)
  -- b k ≤ r0, since d k ≤ m = r0 T1 + r1 T0 and a T0 k ≥ T0 r1
  have e6 : 1 * (T0 * k) ≤ a * (T0 * k) := Int.mul_le_mul_of_nonneg_right (by omega) (Int.mul_nonneg hT0 (by omega))
  have e7 : T0 * r1 ≤ T0 * k := Int.mul_le_mul_of_nonneg_left (by omega) hT0
  have e8 : (a * T0 + b * T1) * k = a * (T0 * k) + b * k * T1 := by ring
  have e9 : r1 * T0 = T0 * r1 := Int.mul_comm _ _
  have hbk : b * k ≤ r0 := Int.le_of_mul_le_mul_right (by omega : b * k * T1 ≤ r0 * T1) hT1
  have hbr1 : b * r1 < b * k := Int.mul_lt_mul_of_pos_left h2 hb
  -- a ≤ 1, since a r0 < b r1 + k < 2 r0
  have ha : a = 1 := by
    by_contra hne
    have : 2 * r0 ≤ a * r0 := Int.mul_le_mul_of_nonneg_right (by omega) (by omega)
    omega
  subst ha
  refine ⟨rfl, hr1, hb, ?_, ?_⟩
  · have e11 : (b - 1) * r1 ≤ (b - 1) * k := Int.mul_le_mul_of_nonneg_left (by omega) (by omega)
    have e12 : (b - 1) * r1 = b * r1 - r1 := by ring
    have e13 : (b - 1) * k = b * k - k := by ring
    omega
  · -- 2 k d ≤ m would give 2 b k ≤ r0 as above, but r0 < k + b r1 < 2 b k
    by_contra hcon
    have e14 : 2 * k * (1 * T0 + b * T1) = 2 * (T0 * k) + 2 * (b * k) * T1 := by ring
    have e15 : 0 ≤ T0 * k := Int.mul_nonneg hT0 (by omega)
    have e17 : 2 * (b * k) ≤ r0 := Int.le_of_mul_le_mul_right (by omega : 2 * (b * k) * T1 ≤ r0 * T1) hT1
    have e19 : 1 * k ≤ b * k := Int.mul_le_mul_of_nonneg_right (by omega) (by omega)
    omega


def cand1 (s : LoopSt) : Int × Int := (if s.t1 < 0 then -s.r1 else s.r1, if s.t1 < 0 then -s.t1 else s.t1)

/-- the quotient of step (ii): one row back, as far as `|num| < k` allows -/
def backQ (s : LoopSt) (k : Int) : Int := Int.tdiv (s.r0 + s.r1 - k) s.r1

/-- the second candidate is the first candidate one shortened division step further -/
def cand2 (s : LoopSt) (k : Int) : Int × Int := cand1 (stepQ (backQ s k) s)

theorem out_of_test (p : Prop) [Decidable p] (a b : Int) :
    (if ¬p then (⟨false, a, b⟩ : Out) else ⟨true, a, b⟩) = ⟨decide p, a, b⟩ := by
  by_cases hp : p <;> simp [hp]

theorem finish_cand1 (s : LoopSt) (f m k : Int) (fr : Bool) (hg : fr = false ∨ Int.gcd (cand1 s).1 (cand1 s).2 = 1) :
    finish s f m k fr = ⟨true, (cand1 s).1, (cand1 s).2⟩ := by
  cases fr with
  | false => unfold finish cand1; simp
  | true =>
    have hg := hg.resolve_left (by simp)
    unfold cand1 at hg
    unfold finish cand1
    simp only [] at hg ⊢
    simp only [if_true]
    rw [if_neg (by rw [hg]; simp)]

theorem finish_zero (s : LoopSt) (f m k : Int) (hg1 : Int.gcd (cand1 s).1 (cand1 s).2 ≠ 1) (h0 : (cand1 s).1 = 0) :
    finish s f m k true = ⟨decide (Int.tmod f m = 0), (cand1 s).1, (cand1 s).2⟩ := by
  unfold cand1 at hg1 h0
  unfold finish cand1
  simp only [] at hg1 h0 ⊢
  simp only [if_true]
  rw [if_pos hg1, if_pos h0]
  split <;> simp [*]

theorem finish_cand2 (s : LoopSt) (f m k : Int) (hg1 : Int.gcd (cand1 s).1 (cand1 s).2 ≠ 1) (hn0 : (cand1 s).1 ≠ 0) :
    finish s f m k true = ⟨decide (Int.gcd (cand2 s k).1 (cand2 s k).2 = 1), (cand2 s k).1, (cand2 s k).2⟩ := by
  unfold cand1 at hg1 hn0
  unfold finish cand2 cand1 stepQ backQ
  simp only [] at hg1 hn0 ⊢
  simp only [if_true]
  rw [if_pos hg1, if_neg hn0]
  exact out_of_test _ _ _

theorem backQ_spec {s : LoopSt} {k : Int} (hr1 : 0 < s.r1) (hr0 : k ≤ s.r0) :
    1 ≤ backQ s k ∧ k - s.r1 ≤ s.r0 - backQ s k * s.r1 ∧ s.r0 - backQ s k * s.r1 < k := by
  obtain ⟨q0, qlo, qhi⟩ := tdiv_tmod_facts (s.r0 + s.r1 - k) s.r1 (by omega) hr1
  unfold backQ
  generalize Int.tdiv (s.r0 + s.r1 - k) s.r1 = q at q0 qlo qhi ⊢
  refine ⟨?_, by omega, by omega⟩
  by_contra hq
  have : q = 0 := by omega
  rw [this] at qhi; omega

section rows
variable {fp m k sg T0 T1 : Int} {s : LoopSt} (h : LRows fp m s sg T0 T1)
include h

theorem LRows.cand1_eq (hT1 : 0 < T1) : cand1 s = (sg * s.r1, T1) := by
  have ht1 := h.t1
  unfold cand1
  rcases h.sgu with rfl | rfl
  · rw [if_neg (by omega), if_neg (by omega)]; simp only [Prod.mk.injEq]; omega
  · rw [if_pos (by omega), if_pos (by omega)]; simp only [Prod.mk.injEq]; omega

theorem LRows.cand1_num_zero (hT1 : 0 < T1) : (cand1 s).1 = 0 ↔ s.r1 = 0 := by
  rw [h.cand1_eq hT1]
  show sg * s.r1 = 0 ↔ s.r1 = 0
  rcases h.sgu with rfl | rfl <;> omega

theorem LRows.cand1_sound {f : Int} (hT1 : 0 < T1) (hx : s.r1 < k) (hfp : m ∣ (fp - f)) :
    m ∣ ((cand1 s).1 - (cand1 s).2 * f) ∧ ((cand1 s).1.natAbs : Int) < k ∧ 0 < (cand1 s).2 := by
  have hr1 := h.r1nn
  rw [h.cand1_eq hT1]
  refine ⟨dvd_congr hfp _ _ h.mem1, ?_, hT1⟩
  show ((sg * s.r1).natAbs : Int) < k
  rcases h.sgu with rfl | rfl <;> omega

end rows

section exit
variable {fp m k sg T0 T1 : Int} {s : LoopSt} (h : LInv fp m k s sg T0 T1)
include h

theorem LInv.T1pos (hx : s.r1 < k) (hkm : k ≤ m) : 0 < T1 := h.toLRows.T1pos (by omega)

theorem LInv.back (hr1 : 0 < s.r1) (hx : s.r1 < k) (hT1 : 0 < T1) :
    LRows fp m (stepQ (backQ s k) s) (-sg) T1 (T0 + backQ s k * T1) ∧ 0 < T0 + backQ s k * T1 ∧
      (stepQ (backQ s k) s).r1 < k := by
  obtain ⟨hq, hlo, hhi⟩ := backQ_spec hr1 h.r0k
  have := h.T0nn
  have := Int.mul_pos (by omega : 0 < backQ s k) hT1
  exact ⟨h.toLRows.step (by omega) (by omega), by omega, hhi⟩

theorem LInv.cand2_sound {f : Int} (hr1 : 0 < s.r1) (hx : s.r1 < k) (hkm : k ≤ m) (hfp : m ∣ (fp - f)) :
    m ∣ ((cand2 s k).1 - (cand2 s k).2 * f) ∧ ((cand2 s k).1.natAbs : Int) < k ∧ 0 < (cand2 s k).2 := by
  obtain ⟨hs, hpos, hlt⟩ := h.back hr1 hx (h.T1pos hx hkm)
  exact hs.cand1_sound hpos hlt hfp

/-- MCA Thm 5.26 for the state the loop stops in -/
theorem LInv.classify (hx : s.r1 < k) (hkm : k ≤ m) (n d : Int) (hsol : m ∣ (n - d * fp)) (hn : (n.natAbs : Int) < k)
    (hd : 0 < d) (hdk : d * k ≤ m) (hg : Int.gcd n d = 1) :
    cand1 s = (n, d) ∨ (0 < s.r1 ∧ cand2 s k = (n, d) ∧ m < 2 * k * d) := by
  have hT1 := h.T1pos hx hkm
  obtain ⟨a, b, hna, hda⟩ := h.toLRows.span n d hsol
  have hX : -k < b * s.r1 - a * s.r0 ∧ b * s.r1 - a * s.r0 < k := by
    rw [← hna]; rcases h.sgu with rfl | rfl <;> omega
  have hn' : n = sg * (b * s.r1 - a * s.r0) := by rw [← hna, ← Int.mul_assoc, sign_sq h.sgu, Int.one_mul]
  rw [hda] at hd hdk
  rcases cand_arith s.r0 s.r1 T0 T1 k a b m h.r1nn hx h.r0k h.T0nn hT1 h.det hX.1 hX.2 hd hdk
    with ⟨rfl, hb⟩ | ⟨rfl, hr1, hb, hw, hbig⟩
  · left
    -- (n, d) = b·(sg r1, T1) is reduced, so b = 1
    have hn2 : n = b * (sg * s.r1) := by rw [hn']; ring
    have hd2 : d = b * T1 := by rw [hda]; ring
    have hb1 : b = 1 := by
      rw [hn2, hd2, Int.gcd_mul_left] at hg
      have := Nat.eq_one_of_mul_eq_one_right hg
      omega
    rw [h.toLRows.cand1_eq hT1, hn2, hd2, hb1, Int.one_mul, Int.one_mul]
  · right
    -- (n, d) = (−sg r0, T0) + b·(sg r1, T1), and b is the code's quotient
    have hr0k := h.r0k
    have hq : backQ s k = b := tdiv_unique _ _ b (by omega) hr1 (by omega) (by omega)
    obtain ⟨hs, hpos, _⟩ := h.back hr1 hx hT1
    refine ⟨hr1, ?_, by rw [hda]; exact hbig⟩
    unfold cand2
    rw [hs.cand1_eq hpos, hq, hn', hda]
    show (-sg * (s.r0 - b * s.r1), T0 + b * T1) = _
    congr 1 <;> ring

theorem LInv.finish_sound (f : Int) (fr : Bool) (hx : s.r1 < k) (hkm : k ≤ m) (hfp : m ∣ (fp - f)) :
    (finish s f m k fr).ok = true → Sound f m k fr (finish s f m k fr).num (finish s f m k fr).den := by
  obtain ⟨a1, a2, a3⟩ := h.toLRows.cand1_sound (h.T1pos hx hkm) hx hfp
  have hz := h.toLRows.cand1_num_zero (h.T1pos hx hkm)
  have hr1 := h.r1nn
  by_cases hg : fr = false ∨ Int.gcd (cand1 s).1 (cand1 s).2 = 1
  · rw [finish_cand1 s f m k fr hg]
    exact fun _ => ⟨a1, a2, a3, fun hfr => hg.resolve_left (by simp [hfr])⟩
  · obtain ⟨hfr, hg1⟩ := not_or.mp hg
    obtain rfl : fr = true := by simpa using hfr
    by_cases h0 : (cand1 s).1 = 0
    · -- the `f % m == 0` branch cannot be reached with gcd ≠ 1: if m ∣ f then 0/1 is a reduced solution, hence a candidate
      rw [finish_zero s f m k hg1 h0]
      intro hok
      exfalso
      have hmf : m ∣ (0 - 1 * fp) := by
        have e : 0 - 1 * fp = -(fp - f) + -f := by ring
        rw [e]; exact Int.dvd_add (Int.dvd_neg.mpr hfp) (Int.dvd_neg.mpr (Int.dvd_of_tmod_eq_zero (of_decide_eq_true hok)))
      rcases h.classify hx hkm 0 1 hmf (by omega) (by omega) (by omega) rfl with hc | ⟨hpos, _, _⟩
      · rw [hc] at hg1; exact hg1 rfl
      · have := hz.mp h0
        omega
    · rw [finish_cand2 s f m k hg1 h0]
      intro hok
      have hpos : 0 < s.r1 := by
        have := mt hz.mpr h0
        omega
      obtain ⟨b1, b2, b3⟩ := h.cand2_sound hpos hx hkm hfp
      exact ⟨b1, b2, b3, fun _ => of_decide_eq_true hok⟩

theorem LInv.finish_general (f n d : Int) (fr : Bool) (hx : s.r1 < k) (hkm : k ≤ m) (hfp : m ∣ (fp - f))
    (hsol : m ∣ (n - d * f)) (hn : (n.natAbs : Int) < k) (hd : 0 < d) (hdk : d * k ≤ m) (hg : Int.gcd n d = 1) :
    (finish s f m k fr).ok = true ∧ (finish s f m k fr = ⟨true, n, d⟩ ∨ m < 2 * k * d) := by
  rcases h.classify hx hkm n d (dvd_congr (dvd_sub_comm.mp hfp) n d hsol) hn hd hdk hg with hc | ⟨hr1, hc, hbig⟩
  · have hfin := finish_cand1 s f m k fr (Or.inr (by rw [hc]; exact hg))
    rw [hc] at hfin
    exact ⟨by rw [hfin], Or.inl hfin⟩
  · by_cases hg1 : fr = false ∨ Int.gcd (cand1 s).1 (cand1 s).2 = 1
    · exact ⟨by rw [finish_cand1 s f m k fr hg1], Or.inr hbig⟩
    · obtain ⟨hfr, hg1'⟩ := not_or.mp hg1
      obtain rfl : fr = true := by simpa using hfr
      have hn0 : (cand1 s).1 ≠ 0 := mt (h.toLRows.cand1_num_zero (h.T1pos hx hkm)).mp (by omega)
      have hfin := finish_cand2 s f m k hg1' hn0
      rw [hc] at hfin
      simp only [hg, decide_true] at hfin
      exact ⟨by rw [hfin], Or.inl hfin⟩

theorem LInv.cand1_bound (hx : s.r1 < k) (hkm : k ≤ m) : 0 < (cand1 s).2 ∧ (cand1 s).2 * k ≤ m := by
  have hT1 := h.T1pos hx hkm
  have h1 : k * T1 ≤ s.r0 * T1 := Int.mul_le_mul_of_nonneg_right h.r0k (by omega)
  have h2 : 0 ≤ s.r1 * T0 := Int.mul_nonneg h.r1nn h.T0nn
  have hdet := h.det
  rw [h.toLRows.cand1_eq hT1]
  exact ⟨hT1, by show T1 * k ≤ m; rw [Int.mul_comm]; omega⟩

end exit


theorem ratrecon_eq_finish (f m k : Int) (fr : Bool) : ratrecon f m k fr = finish (exitSt f m k) f m k fr := rfl

theorem ratrecon_noloop (f m k : Int) (fr : Bool) (fuel : Nat) (hlt : startR1 f m < k) :
    ratreconFuel fuel f m k fr = ⟨true, startR1 f m, 1⟩ := by
  unfold ratreconFuel
  rw [loop_of_lt k fuel ⟨m, 0, startR1 f m, 1⟩ hlt]
  unfold finish
  simp

/-- also for a bound above `m`, provided the start residue is below it (the widening loop asks for that) -/
theorem ratrecon_ok_sound (f m k : Int) (fr : Bool) (hm : 0 < m) (hk : 1 ≤ k) (hkm : k ≤ m ∨ startR1 f m < k) :
    (ratrecon f m k fr).ok = true → Sound f m k fr (ratrecon f m k fr).num (ratrecon f m k fr).den := by
  obtain ⟨h0, hd, _⟩ := startR1_facts f m hm
  by_cases hlt : startR1 f m < k
  · rw [ratrecon, ratrecon_noloop f m k fr _ hlt]
    intro _
    refine ⟨by simpa using hd, ?_, by simp, fun _ => by simp⟩
    show ((startR1 f m).natAbs : Int) < k
    omega
  · obtain ⟨hx, sg, T0, T1, hl⟩ := exitSt_facts f m k hm hk (by omega)
    exact hl.finish_sound f fr hx (by omega) hd

/-! ### the widening loop `for (newk = k+1; !res && newk < f; newk <<= 1)` -/

theorem le_mul_two_pow {a : Int} (ha : 0 ≤ a) (i : Nat) : a ≤ a * 2 ^ i := by
  have h2 : (0 : Int) < 2 ^ i := pow_pos (by decide) i
  have := Int.mul_le_mul_of_nonneg_left (by omega : 1 ≤ (2 : Int) ^ i) ha
  omega

theorem widen_cases (x m f : Int) (fr : Bool) : ∀ (n : Nat) (newk : Int) (cur : Out), 1 ≤ newk →
    widen x m f fr n newk cur = cur ∨
    ∃ k', newk ≤ k' ∧ k' < f ∧ widen x m f fr n newk cur = ratrecon x m k' fr := by
  intro n
  induction n with
  | zero => intro newk cur _; left; rfl
  | succ n ih =>
    intro newk cur hk
    unfold widen
    split
    · rename_i hc
      simp only [Bool.and_eq_true, Bool.not_eq_true', decide_eq_true_eq] at hc
      rcases ih (newk * 2) (ratrecon x m newk fr) (by omega) with h | ⟨k', h1, h2, h3⟩
      · right; exact ⟨newk, by omega, hc.2, h⟩
      · right; exact ⟨k', by omega, h2, h3⟩
    · left; rfl

theorem widen_of_ok (x m f : Int) (fr : Bool) (n : Nat) (newk : Int) (cur : Out) (h : cur.ok = true) :
    widen x m f fr n newk cur = cur := by
  cases n with
  | zero => rfl
  | succ n => unfold widen; simp [h]

theorem widen_fail (x m f : Int) (fr : Bool) : ∀ (n : Nat) (newk : Int) (cur : Out), 1 ≤ newk → (f - newk).toNat < n →
    (widen x m f fr n newk cur).ok = false →
    cur.ok = false ∧ ∀ i : Nat, newk * 2 ^ i < f → (ratrecon x m (newk * 2 ^ i) fr).ok = false := by
  intro n
  induction n with
  | zero => intro newk cur _ hf; omega
  | succ n ih =>
    intro newk cur hk hf hres
    unfold widen at hres
    by_cases hc : (!cur.ok && decide (newk < f)) = true
    · rw [if_pos hc] at hres
      simp only [Bool.and_eq_true, Bool.not_eq_true', decide_eq_true_eq] at hc
      obtain ⟨h1, h2⟩ := ih (newk * 2) (ratrecon x m newk fr) (by omega) (by omega) hres
      refine ⟨hc.1, ?_⟩
      intro i hi
      cases i with
      | zero => simpa using h1
      | succ i =>
        have : newk * 2 ^ (i + 1) = newk * 2 * 2 ^ i := by rw [pow_succ]; ring
        rw [this] at hi ⊢
        exact h2 i hi
    · rw [if_neg hc] at hres
      refine ⟨hres, ?_⟩
      intro i hi
      exfalso
      simp only [Bool.and_eq_true, Bool.not_eq_true', decide_eq_true_eq, not_and] at hc
      have := le_mul_two_pow (by omega : 0 ≤ newk) i
      exact hc hres (by omega)

theorem normResidue_facts (f m : Int) (hm : 0 < m) :
    0 ≤ normResidue f m ∧ normResidue f m ≤ m ∧ m ∣ (normResidue f m - f) := by
  obtain ⟨⟨c, hc⟩, hlo, hhi, hpos, hneg⟩ := tmod_facts f m hm
  unfold normResidue
  split
  · simp only []
    split
    · split
      · exact ⟨by omega, by omega, ⟨c + 1, by rw [Int.mul_add]; omega⟩⟩
      · exact ⟨by omega, by omega, ⟨c, hc⟩⟩
    · exact ⟨by omega, by omega, ⟨1, by omega⟩⟩
  · split
    · exact ⟨by omega, by omega, ⟨c, hc⟩⟩
    · exact ⟨by omega, by omega, ⟨0, by omega⟩⟩

/-- `x` is `normResidue f m`.  The early return `x == 0 → 0/1` is no case of its own: under any bound `k ≥ 1` it is what
    `ratrecon` answers for the residue 0 (before its loop), and the widening loop leaves a success alone -/
theorem rationalReconstruction_cases (f m k : Int) (fr rc : Bool) (hm : 0 < m) (hk : 1 ≤ k) :
    ∃ x, m ∣ (x - f) ∧ 0 ≤ x ∧ x ≤ m ∧ rationalReconstruction f m k fr rc =
      if rc then widen x m f fr (widenFuel f) (k + 1) (ratrecon x m k fr) else ratrecon x m k fr := by
  obtain ⟨x0, xm, xd⟩ := normResidue_facts f m hm
  refine ⟨_, xd, x0, xm, ?_⟩
  unfold rationalReconstruction
  by_cases h0 : normResidue f m = 0
  · have hz : ratrecon 0 m k fr = ⟨true, 0, 1⟩ := ratrecon_noloop 0 m k fr _ hk
    simp only [h0, hz, widen_of_ok, ite_self]
  · simp only [h0, if_false]

theorem sound_of_congr (f x m k : Int) (fr : Bool) (n d : Int) (hx : m ∣ (x - f)) (h : Sound x m k fr n d) :
    Sound f m k fr n d :=
  ⟨dvd_congr hx n d h.1, h.2⟩

theorem solution_congr (f x m k n d : Int) (hx : m ∣ (x - f)) (h : Solution f m k n d) : Solution x m k n d :=
  ⟨dvd_congr (dvd_sub_comm.mp hx) n d h.1, h.2⟩

theorem rationalCtor_of_ok (f m k : Int) (rc fr : Bool) (h : (ratrecon f m k fr).ok = true) :
    rationalCtor f m k rc fr = ratrecon f m k fr := by
  unfold rationalCtor
  cases rc with
  | false => rfl
  | true => exact widen_of_ok _ _ _ _ _ _ _ h

end Givaro.Lemmas.RatRecon
