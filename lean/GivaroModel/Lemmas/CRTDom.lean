/-
C14 — the two-modulus functor `ChineseRemainder`: over canonical storage, and over any residue domain meeting the init/convert
contract (C04), whatever its storage (Montgomery form, discrete logarithms, …).  Over canonical storage the law is `lift_modEq` with
`C_12 = (M⁻¹ mod d)·M`; over any storage the functor returns what the canonical-storage model returns for the residue `convert e`.
-/
import GivaroModel.Lemmas.CRTGarner

namespace Givaro.Lemmas.CRT
open Givaro.Model.CRT

/-- the form in which the functor's law is stated -/
theorem sub_emod_eq_zero {a b n : Int} (h : a ≡ b [ZMOD n]) : (a - b) % n = 0 :=
  Int.emod_eq_zero_of_dvd h.symm.dvd

theorem cra_congruences {cof : Int → Int → Int} (hcof : CofOK cof) {M d : Int} (hd : 0 < d) (hco : IsCoprime d M)
    (A e : Int) :
    (craApply (craInit cof M d) d A e - A) % M = 0 ∧ (craApply (craInit cof M d) d A e - e) % d = 0 ∧
    (craApplyNoReduce (craInit cof M d) A e - A) % M = 0 ∧ (craApplyNoReduce (craInit cof M d) A e - e) % d = 0 := by
  have hc := craInit_modEq hcof hd hco
  have hM : M ∣ craInit cof M d := dvd_mul_left _ _
  obtain ⟨h1, h2⟩ := lift_modEq (A := A) (e := e) hc hM
    ((Int.mod_modEq _ _).trans ((Int.ModEq.refl e).sub (Int.mod_modEq A d)))
  obtain ⟨h3, h4⟩ := lift_modEq (A := A) (e := e) hc hM (Int.ModEq.refl _)
  exact ⟨sub_emod_eq_zero h1, sub_emod_eq_zero h2, sub_emod_eq_zero h3, sub_emod_eq_zero h4⟩

/-- the init/convert contract (property C04) together with the two ring operations the functor uses (C03/C05/C07), stated through
    `convert`: `convert` returns canonical integers, `init` is the canonical map, `sub` and `inv` are subtraction and inversion of the
    residues the codes stand for -/
structure DomOK (D : ResidueDom) : Prop where
  dpos : 0 < D.d
  convert_range : ∀ a, 0 ≤ D.convert a ∧ D.convert a < D.d
  convert_init : ∀ x, D.convert (D.init x) = x % D.d
  convert_sub : ∀ a b, D.convert (D.sub a b) = (D.convert a - D.convert b) % D.d
  convert_inv : ∀ a y, (y * D.convert a) % D.d = 1 % D.d → (D.convert (D.inv a) * D.convert a) % D.d = 1 % D.d

/-- `invin(init(u, M))` holds the inverse of `M mod d` -/
theorem DomOK.convert_inv_init {D : ResidueDom} (h : DomOK D) {M : Int} (hco : IsCoprime D.d M) :
    D.convert (D.inv (D.init M)) * (M % D.d) ≡ 1 [ZMOD D.d] := by
  obtain ⟨y, hy⟩ := exists_inv_of_isCoprime hco
  have := h.convert_inv (D.init M) y
    (by rw [h.convert_init]; exact ((Int.ModEq.refl y).mul (Int.mod_modEq M D.d)).trans hy)
  rwa [h.convert_init] at this

theorem inv_unique {d a x y : Int} (hx : 0 ≤ x ∧ x < d) (hy : 0 ≤ y ∧ y < d)
    (h1 : x * a ≡ 1 [ZMOD d]) (h2 : y * a ≡ 1 [ZMOD d]) : x = y := by
  have h3 := (Int.ModEq.refl x).mul h2
  have h4 := (Int.ModEq.refl y).mul h1
  rw [mul_one] at h3 h4
  rw [mul_left_comm] at h3
  have h5 : x % d = y % d := h3.symm.trans h4
  rwa [Int.emod_eq_of_lt hx.1 hx.2, Int.emod_eq_of_lt hy.1 hy.2] at h5

/-- whatever the storage, the functor returns exactly what the canonical-storage model (`craInit`/`craApply`) returns for the
    residue `convert e` — this is why one model serves every domain in the correspondence -/
theorem cra_dom_eq_canonical {D : ResidueDom} (h : DomOK D) {cof : Int → Int → Int} (hcof : CofOK cof) {M : Int}
    (hco : IsCoprime D.d M) (A e : Int) :
    craInitD D M = craInit cof M D.d ∧
    craApplyD D (craInitD D M) A e = craApply (craInit cof M D.d) D.d A (D.convert e) ∧
    craApplyNoReduceD D (craInitD D M) A e = craApplyNoReduce (craInit cof M D.d) A (D.convert e) := by
  have hd := h.dpos
  have hinit : craInitD D M = craInit cof M D.d := by
    unfold craInitD craInit
    congr 1
    have hx : M % D.d ≡ M [ZMOD D.d] := Int.mod_modEq _ _
    exact inv_unique (h.convert_range _) (emod_canon hd _) (h.convert_inv_init hco)
      (((Int.mod_modEq _ _).mul_right _).trans (cof_inverts hcof hd (Int.emod_nonneg M hd.ne') hx hco))
  refine ⟨hinit, ?_, ?_⟩
  · unfold craApplyD craApply
    rw [hinit, h.convert_sub, h.convert_init]
  · unfold craApplyNoReduceD craApplyNoReduce
    rw [hinit]

/-- `cofEuclid` names the cofactor function of the canonical side; `convert e` being canonical, `≡ convert e (mod d)` is `% d = convert e` -/
theorem cra_congruences_dom {D : ResidueDom} (h : DomOK D) {M : Int} (hco : IsCoprime D.d M) (A e : Int) :
    (craApplyD D (craInitD D M) A e - A) % M = 0 ∧ craApplyD D (craInitD D M) A e % D.d = D.convert e ∧
    (craApplyNoReduceD D (craInitD D M) A e - A) % M = 0 ∧ craApplyNoReduceD D (craInitD D M) A e % D.d = D.convert e := by
  obtain ⟨_, e2, e3⟩ := cra_dom_eq_canonical h cofEuclid_ok hco A e
  obtain ⟨c1, c2, c3, c4⟩ := cra_congruences cofEuclid_ok h.dpos hco A (D.convert e)
  have hcan : D.convert e % D.d = D.convert e := Int.emod_eq_of_lt (h.convert_range e).1 (h.convert_range e).2
  rw [e2, e3]
  exact ⟨c1, (Int.emod_eq_emod_iff_emod_sub_eq_zero.mpr c2).trans hcan, c3,
    (Int.emod_eq_emod_iff_emod_sub_eq_zero.mpr c4).trans hcan⟩

/-! ### instances of the contract -/

theorem montgomeryDom_ok {cof : Int → Int → Int} (hcof : CofOK cof) {d R Rinv : Int} (hd : 0 < d)
    (hR : (Rinv * R) % d = 1 % d) : DomOK (montgomeryDom cof d R Rinv) := by
  -- `convert` undoes the scaling by `R` of `init` and of `inv`
  have hconv : ∀ z, (z * R) % d * Rinv ≡ z [ZMOD d] := by
    intro z
    refine ((Int.mod_modEq _ _).mul_right _).trans ?_
    have : z * (Rinv * R) ≡ z * 1 [ZMOD d] := (Int.ModEq.refl z).mul hR
    rwa [mul_one, mul_comm Rinv R, ← mul_assoc] at this
  refine ⟨hd, fun a => emod_canon hd _, fun x => hconv x, ?_, ?_⟩
  · intro a b
    have h1 : (a - b) % d * Rinv ≡ a * Rinv - b * Rinv [ZMOD d] := by
      rw [← sub_mul]; exact (Int.mod_modEq _ _).mul_right _
    exact h1.trans ((Int.mod_modEq _ _).sub (Int.mod_modEq _ _)).symm
  · intro a y hy
    simp only [montgomeryDom] at hy ⊢
    exact (((Int.mod_modEq _ _).trans (hconv _)).mul_right _).trans
      (hcof d ((a * Rinv) % d) y hd (Int.emod_nonneg _ hd.ne') hy)

theorem canonicalDom_eq (cof : Int → Int → Int) (d : Int) : canonicalDom cof d = montgomeryDom cof d 1 1 := by
  simp only [canonicalDom, montgomeryDom, mul_one]

theorem canonicalDom_ok {cof : Int → Int → Int} (hcof : CofOK cof) {d : Int} (hd : 0 < d) : DomOK (canonicalDom cof d) :=
  canonicalDom_eq cof d ▸ montgomeryDom_ok hcof hd rfl

end Givaro.Lemmas.CRT
