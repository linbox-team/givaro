/-
C17 — the simulation: the Array0 model (shared blocks, reference counts, releases, over the abstract store) refines the
deterministic value-semantics machine of Spec/Array0Spec.lean.  The abstraction `abs` (defined in `Array0Ops.lean`) forgets
counters, liveness and `_psz`; capacity stays visible as the length of the group's cells.
-/
import GivaroModel.Lemmas.Array0Ops
import GivaroModel.Model.Array0ToV
namespace Givaro.Model.Array0
open Givaro.Spec.Array0Spec
variable {α : Type}

theorem toV_handles (op : Op α) : (toV op).handles = op.handles := by cases op <;> rfl

theorem vstate_ext {a b : VState α} (h1 : a.n = b.n) (h2 : a.hs = b.hs) (h3 : a.cells = b.cells) (h4 : a.next = b.next) : a = b := by
  cases a; cases b; simp only [VState.mk.injEq]; exact ⟨h1, h2, h3, h4⟩

theorem absH_upd (hs : Nat → Handle) (h : Nat) (H : Handle) :
    (fun k => absH (upd hs h H k)) = vupd (fun k => absH (hs k)) h (absH H) := by
  funext k; unfold upd vupd; split <;> rfl

theorem vcount_eq (p : Nat → Bool) : ∀ n, vcount p n = countBelow p n
  | 0 => rfl
  | n + 1 => by simp only [vcount, countBelow, vcount_eq p n]

theorem abs_replace {s s' : State α} {h : Nat} {H : Handle} (en : s'.n = s.n) (eh : s'.hs = upd s.hs h H)
    (ed : s'.ddata = s.ddata) (ex : s'.dnext = s.dnext) : abs s' = { abs s with hs := vupd (abs s).hs h (absH H) } := by
  refine vstate_ext en ?_ ed ex
  show (fun k => absH (s'.hs k)) = _
  rw [eh]; exact absH_upd _ _ _

theorem abs_setH (s : State α) (h : Nat) (H : Handle) :
    abs (setH s h H) = { abs s with hs := vupd (abs s).hs h (absH H) } :=
  abs_replace rfl rfl rfl rfl

theorem abs_setSize (s : State α) (h sz : Nat) :
    abs (setH s h { (s.hs h) with size := sz }) = vsetSize (abs s) h sz :=
  abs_setH s h _

theorem abs_attachFresh (s : State α) (h : Nat) (l : List α) (sz : Nat) :
    abs (attachFresh s h l sz) = vfresh (abs s) h l sz :=
  vstate_ext rfl (absH_upd _ _ _) rfl rfl

theorem abs_destroy {s : State α} (I : Inv s) {h : Nat} (hn : h < s.n) : abs (destroy s h) = vdrop (abs s) h := by
  obtain ⟨_, eh, en, ed, ex⟩ := destroy_inv I hn
  exact abs_replace en eh ed ex

theorem abs_share {s : State α} (I : Inv s) {h g : Nat} (hn : h < s.n) (gn : g < s.n) (ne : h ≠ g) :
    abs (attachShare (destroy s h) h g) = vshare (abs s) h g := by
  obtain ⟨G, he⟩ := good_destroy I hn
  obtain ⟨_, eh, en, ed, ex⟩ := attachShare_inv G.inv (G.lt hn) (G.lt gn) he
  unfold vshare
  rw [if_neg ne, ← abs_destroy I hn]
  exact abs_replace en eh ed ex

/-- `Inv.pair` turns "shares `_cnt` with `h`" into "shares `_d` with `h`", handle by handle (`countBelow_congr`) -/
theorem cval_eq_members {s : State α} (I : Inv s) {h c b : Nat} (hn : h < s.n) (hc : (s.hs h).cnt = some c)
    (hd : (s.hs h).d = some b) (hl : s.clive c = true) : s.cval c = (vmembers (abs s) b : Int) := by
  rw [(I.rc c hl).1]
  congr 1
  unfold sharers vmembers
  rw [vcount_eq]
  apply countBelow_congr
  intro k kn
  show ((s.hs k).cnt == some c) = ((s.hs k).d == some b)
  by_cases e : (s.hs k).cnt = some c
  · have := same_cnt_same_d I hn kn hc e
    rw [e, this, hd]; simp
  · have : (s.hs k).d ≠ some b := by
      intro q
      have := same_d_same_cnt I hn kn hd q
      exact e (by rw [this, hc])
    rw [beq_eq_false_iff_ne.mpr e, beq_eq_false_iff_ne.mpr this]

theorem vsoleWithRoom_iff {s : State α} (I : Inv s) {h : Nat} (hn : h < s.n) (sz : Nat) :
    vsoleWithRoom (abs s) h sz = true ↔ Fast s h sz := by
  unfold vsoleWithRoom
  show (match (s.hs h).d with | none => false | some g => decide (vmembers (abs s) g = 1 ∧ (s.ddata g).length ≥ sz)) = true ↔ _
  cases hc : (s.hs h).cnt with
  | none =>
    rw [empty_of_cnt_none I hn hc]
    exact ⟨fun q => (by cases q), fun ⟨c, q, _⟩ => (by rw [hc] at q; cases q)⟩
  | some c =>
    obtain ⟨b, h2, h3, _, _, h6⟩ := owner_of_cnt I hn hc
    have m := cval_eq_members I hn hc h2 h3
    rw [h2]; dsimp only
    rw [decide_eq_true_iff, h6]
    constructor
    · intro ⟨a1, a2⟩; exact ⟨c, hc, by omega, a2⟩
    · intro ⟨c', q, a1, a2⟩
      rw [hc] at q; cases q
      exact ⟨by omega, a2⟩

-- the bridge between `Array0Contents.lean` and the simulation: what a handle denotes is, by definition, what the machine says
theorem contents_eq_vvalue (s : State α) (h : Nat) : contents s h = vvalue (abs s) h := rfl

theorem sim_build {s : State α} (I : Inv s) {h : Nat} (hn : h < s.n) (sz : Nat) (t : α) :
    abs (ctorBuild s h sz t) = vbuild (abs s) h sz t := by
  rw [ctorBuild_eq I hn]
  unfold vbuild
  rw [← abs_destroy I hn]
  split
  · exact abs_attachFresh _ _ _ _
  · rfl

theorem sim_logcopy {s : State α} (I : Inv s) {h g : Nat} (hn : h < s.n) (gn : g < s.n) :
    abs (logcopy s h g) = vshare (abs s) h g := by
  by_cases e : h = g
  · unfold logcopy vshare; rw [if_pos e, if_pos e]
  · rw [logcopy_eq I hn e]; exact abs_share I hn gn e

theorem sim_withCopy {s : State α} (I : Inv s) {h g : Nat} (hn : h < s.n) (gn : g < s.n) :
    abs (ctorWithCopy s h g) = vvalueCopy (abs s) h g := by
  by_cases e : h = g
  · unfold ctorWithCopy vvalueCopy; rw [if_pos e, if_pos e]
  · obtain ⟨G, _⟩ := good_destroy I hn
    have ng : g ≠ h := fun q => e q.symm
    rw [ctorWithCopy_eq I hn gn e]
    unfold vvalueCopy
    rw [if_neg e, ← abs_destroy I hn]
    show _ = if ((destroy s h).hs g).size ≠ 0 then
      vfresh (abs (destroy s h)) h (contents (destroy s h) g) ((destroy s h).hs g).size else abs (destroy s h)
    rw [G.frame g ng, contents_others G ng gn]
    split
    · exact abs_attachFresh _ _ _ _
    · rfl

theorem sim_allocate [Inhabited α] {s : State α} (I : Inv s) {h : Nat} (hn : h < s.n) (sz : Nat) :
    abs (allocate s h sz) = vallocate (abs s) h sz := by
  unfold vallocate
  by_cases F : Fast s h sz
  · rw [allocate_fast I hn F, if_pos ((vsoleWithRoom_iff I hn sz).mpr F)]; exact abs_setSize s h sz
  · rw [allocate_slow I hn F, if_neg (fun q => F ((vsoleWithRoom_iff I hn sz).mp q)), ← abs_destroy I hn]
    split
    · exact abs_attachFresh _ _ _ _
    · rfl

theorem sim_reallocate [Inhabited α] {s : State α} (I : Inv s) {h : Nat} (hn : h < s.n) (sz : Nat) :
    abs (reallocate s h sz) = vresize (abs s) h sz := by
  unfold vresize
  by_cases F : Fast s h sz
  · rw [reallocate_fast I hn F, if_pos ((vsoleWithRoom_iff I hn sz).mpr F)]; exact abs_setSize s h sz
  · rw [reallocate_slow I hn F, if_neg (fun q => F ((vsoleWithRoom_iff I hn sz).mp q)), ← abs_destroy I hn]
    split
    · exact abs_attachFresh _ _ _ _
    · rfl

theorem sim_writeCell {s : State α} (I : Inv s) {h : Nat} (hn : h < s.n) {i : Nat} (hi : i < (s.hs h).size) (v : α) :
    abs (writeCell s (s.hs h).d i v) = vwrite (abs s) h i v := by
  obtain ⟨b, hb, _, e⟩ := writeCell_eq I hn hi v
  unfold vwrite
  have g : ((abs s).hs h).grp = some b := hb
  have sz : ((abs s).hs h).size = (s.hs h).size := rfl
  rw [e, if_pos (by rw [sz]; exact hi), g]
  rfl

theorem sim_write {s : State α} (I : Inv s) {h : Nat} (hn : h < s.n) (i : Nat) (v : α) :
    abs (write s h i v) = vwrite (abs s) h i v := by
  unfold write; dsimp only
  split
  · rename_i hi; exact sim_writeCell I hn hi v
  · rename_i hi
    unfold vwrite
    have sz : ((abs s).hs h).size = (s.hs h).size := rfl
    rw [sz, if_neg hi]

theorem sim_pushBack [Inhabited α] {s : State α} (I : Inv s) {h : Nat} (hn : h < s.n) (v : α) :
    abs (pushBack s h v) = vpushBack (abs s) h v := by
  obtain ⟨G, hs, _⟩ := reallocate_good I hn ((s.hs h).size + 1)
  rw [pushBack_eq v G.inv.nofault hs]
  unfold vpushBack; dsimp only
  have e : ((abs s).hs h).size = (s.hs h).size := rfl
  rw [e, ← sim_reallocate I hn]
  have e1 : ((abs (reallocate s h ((s.hs h).size + 1))).hs h).size - 1 = (s.hs h).size := by
    show ((reallocate s h ((s.hs h).size + 1)).hs h).size - 1 = _
    rw [hs]; rfl
  rw [e1]
  exact sim_writeCell G.inv (G.lt hn) (by rw [hs]; omega) v

theorem sim_pushBackSelf [Inhabited α] {s : State α} (I : Inv s) {h : Nat} (hn : h < s.n) (i : Nat) :
    abs (pushBackSelf s h i) = vpushBackSelf (abs s) h i := by
  unfold vpushBackSelf
  have e : ((abs s).hs h).size = (s.hs h).size := rfl
  rw [e, ← contents_eq_vvalue]
  by_cases hi : i < (s.hs h).size
  · obtain ⟨v, hv, ev⟩ := pushBackSelf_eq I hn hi
    rw [if_pos hi, hv, ev]; exact sim_pushBack I hn v
  · have : pushBackSelf s h i = s := by unfold pushBackSelf; dsimp only; rw [if_neg hi]
    rw [this, if_neg hi]

theorem sim_reserve [Inhabited α] {s : State α} (I : Inv s) {h : Nat} (hn : h < s.n) (sz : Nat) :
    abs (reserve s h sz) = vresize (vresize (abs s) h sz) h 0 := by
  obtain ⟨G, _⟩ := reallocate_good I hn sz
  rw [reserve_eq I hn, sim_reallocate G.inv (G.lt hn), sim_reallocate I hn]

theorem sim_copy [Inhabited α] {s : State α} (I : Inv s) {h g : Nat} (hn : h < s.n) (gn : g < s.n) :
    abs (copy s h g) = vcopy (abs s) h g := by
  unfold vcopy; dsimp only
  show _ = if (s.hs g).d = (s.hs h).d then _ else _
  by_cases de : (s.hs g).d = (s.hs h).d
  · unfold copy; rw [if_pos de, if_pos de]
  · have ne : g ≠ h := fun q => de (by rw [q])
    obtain ⟨G, hs, so⟩ := reallocate_good I hn (s.hs g).size
    have lg := contents_length I gn
    have e : ((abs s).hs g).size = (s.hs g).size := rfl
    rw [copy_eq I hn gn de, if_neg de, e, ← sim_reallocate I hn]
    generalize reallocate s h (s.hs g).size = s1 at *
    -- what the machine copies is what the source denotes
    have e2 : (vvalue (abs s1) g).take ((abs s1).hs h).size = contents s g := by
      show (contents s1 g).take (s1.hs h).size = _
      rw [contents_others G ne gn, hs, ← lg, List.take_length]
    rw [e2]
    exact (writeCells_spec G.inv (G.lt hn) so _ (by rw [hs, lg])).2.2

theorem sim_step [Inhabited α] {s : State α} (I : Inv s) (op : Op α) : abs (step s op) = vstep (abs s) (toV op) := by
  unfold vstep
  rw [toV_handles]
  show _ = if op.handles.any (fun h => decide (s.n ≤ h)) then abs s else vstepCore (abs s) (toV op)
  by_cases hb : ∀ k, k ∈ op.handles → k < s.n
  · rw [step_eq_core I op hb, if_neg (fun q => any_out_of_range.mp q hb)]
    cases op with
    | build h sz t => exact sim_build I (first_lt hb) sz t
    | noCopy h g =>
      rw [show stepCore s (.noCopy h g) = logcopy s h g from ctorNoCopy_eq_logcopy s h g]
      exact sim_logcopy I (first_lt hb) (second_lt hb)
    | withCopy h g => exact sim_withCopy I (first_lt hb) (second_lt hb)
    | destroy h => exact abs_destroy I (first_lt hb)
    | allocate h sz => exact sim_allocate I (first_lt hb) sz
    | resize h sz => exact sim_reallocate I (first_lt hb) sz
    | reserve h sz => exact sim_reserve I (first_lt hb) sz
    | pushBack h v => exact sim_pushBack I (first_lt hb) v
    | pushBackSelf h i => exact sim_pushBackSelf I (first_lt hb) i
    | write h i v => exact sim_write I (first_lt hb) i v
    | copy h g => exact sim_copy I (first_lt hb) (second_lt hb)
    | logcopy h g => exact sim_logcopy I (first_lt hb) (second_lt hb)
    | assign h g => exact sim_copy I (first_lt hb) (second_lt hb)
  · rw [step_out_of_range I op hb, if_pos (any_out_of_range.mpr hb)]

theorem sim_run [Inhabited α] (ops : List (Op α)) : ∀ {s : State α}, Inv s → abs (run s ops) = vrun (abs s) (ops.map toV) := by
  induction ops with
  | nil => intro s _; rfl
  | cons op rest ih =>
    intro s I
    show abs (run (step s op) rest) = vrun (vstep (abs s) (toV op)) (rest.map toV)
    rw [ih (step_inv I op).1, sim_step I op]

theorem abs_init (n : Nat) : abs (init α n) = vinit α n := rfl

end Givaro.Model.Array0
