/- C06 helper lemmas: single-bit shifts (`left_shift_1`, `right_shift_1`) are exact, lost bit included; top bit, complement, negation. -/
import GivaroModel.Lemmas.RecIntSub
import Mathlib.Data.Nat.Bitwise
namespace Givaro.Model.RecInt

theorem and_two_pow_ne (k l : Nat) (hl : l < 2 ^ (k+1)) : (l &&& 2 ^ k ≠ 0) ↔ 2 ^ k ≤ l := by
  rw [Nat.and_two_pow, Nat.testBit_eq_decide_div_mod_eq]
  have hp : 0 < 2 ^ k := by positivity
  have hdiv : l / 2 ^ k < 2 := by
    apply Nat.div_lt_of_lt_mul; rw [pow_succ] at hl; exact hl
  constructor
  · intro h
    by_contra hc
    have : l / 2 ^ k = 0 := Nat.div_eq_of_lt (by omega)
    simp [this] at h
  · intro h
    have : 1 ≤ l / 2 ^ k := (Nat.one_le_div_iff hp).mpr h
    have e : l / 2 ^ k = 1 := by omega
    simp [e]

theorem limb_hbit (a : Nat) (ha : a < B64) : (a &&& 9223372036854775808 ≠ 0) ↔ 9223372036854775808 ≤ a :=
  and_two_pow_ne 63 a ha

theorem limb_lbit (a : Nat) : (a &&& 1 ≠ 0) ↔ a % 2 = 1 := by
  rw [Nat.and_one_is_mod]; omega

theorem or_one_even (a : Nat) (he : a % 2 = 0) : a ||| 1 = a + 1 := by
  have h := Nat.two_pow_add_eq_or_of_lt (i := 1) (b := 1) (by decide) (a / 2)
  have e : 2 ^ 1 * (a / 2) = a := by rw [Nat.pow_one]; omega
  rw [e] at h; exact h.symm

theorem set_lowest_bit_ok : ∀ {n : Nat} (x : RU n), WF x → val x % 2 = 0 →
    WF (set_lowest_bit x) ∧ val (set_lowest_bit x) = val x + 1
  | _, .limb a, hw, he => by
      simp only [WF] at hw
      simp only [val] at he
      simp only [set_lowest_bit, WF, val, or_one_even a he]
      refine ⟨?_, trivial⟩
      simp only [B64] at *; omega
  | _, .node (n := n) l h, hw, he => by
      obtain ⟨k, hk, _⟩ := Bn_even n
      have hl : val l % 2 = 0 := by
        rw [val_node, hk] at he
        have : 2 * k * val h = 2 * (k * val h) := by ring
        omega
      have ih := set_lowest_bit_ok l hw.1 hl
      simp only [set_lowest_bit, WF_node, val_node, ih.2]
      exact ⟨⟨ih.1, hw.2⟩, by ring⟩

theorem set_highest_bit_ok : ∀ {n : Nat} (x : RU n), WF x → 2 * val x < Bn n →
    WF (set_highest_bit x) ∧ 2 * val (set_highest_bit x) = 2 * val x + Bn n
  | _, .limb a, hw, he => by
      rw [Bn_zero] at he
      simp only [WF] at hw
      simp only [val] at he
      rw [Bn_zero]
      have e : (9223372036854775808 : Nat) = 2 ^ 63 := by norm_num
      have h := Nat.or_two_pow_eq_add_of_lt (a := a) (n := 63) (by simp only [B64] at he; omega)
      simp only [set_highest_bit, WF, val, e, h]
      simp only [B64] at *; omega
  | _, .node (n := n) l h, hw, he => by
      rw [val_node, Bn_succ] at he
      have hh : 2 * val h < Bn n := Nat.lt_of_mul_lt_mul_left (a := Bn n) (by rw [Nat.mul_left_comm]; omega)
      have ih := set_highest_bit_ok h hw.2 hh
      simp only [set_highest_bit, WF_node, val_node]
      refine ⟨⟨hw.1, ih.1⟩, ?_⟩
      rw [Bn_succ]
      linear_combination Bn n * ih.2

/-- The code ORs the bit the low half loses into the place the shift of the high half has freed.  With that incoming bit `c` in the
    statement, the node case is the statement itself on both halves. -/
theorem left_shift_1_in : ∀ {n : Nat} (a : RU n) (c : Bool), WF a →
    WF (if c then set_lowest_bit (left_shift_1 a).1 else (left_shift_1 a).1) ∧
    val (if c then set_lowest_bit (left_shift_1 a).1 else (left_shift_1 a).1) + c2n (left_shift_1 a).2 * Bn n = 2 * val a + c2n c
  | _, .limb a, c, hw => by
      simp only [WF] at hw
      have ho := or_one_even (a * 2 % B64) (by simp only [B64]; omega)
      rw [Bn_zero]
      cases c <;> simp only [left_shift_1, set_lowest_bit, WF, val, c2n_decide, limb_hbit a hw, ↓reduceIte, Bool.false_eq_true, ho,
        c2n_true, c2n_false]
      all_goals refine ⟨by simp only [B64]; omega, ?_⟩
      all_goals split <;> simp only [B64] at * <;> omega
  | _, .node (n := n) al ah, c, hw => by
      obtain ⟨hlw, hle⟩ := left_shift_1_in al c hw.1
      obtain ⟨hhw, hhe⟩ := left_shift_1_in ah (left_shift_1 al).2 hw.2
      rw [Bn_succ]
      -- for either `c` the result is the node of the two halves the hypotheses speak of
      cases c
      all_goals
        simp only [left_shift_1, set_lowest_bit, val_node, ↓reduceIte, Bool.false_eq_true] at hle ⊢
        exact ⟨⟨hlw, hhw⟩, by linear_combination hle + Bn n * hhe⟩

theorem left_shift_1_ok {n : Nat} (a : RU n) (hw : WF a) :
    WF (left_shift_1 a).1 ∧ val (left_shift_1 a).1 + c2n (left_shift_1 a).2 * Bn n = 2 * val a :=
  left_shift_1_in a false hw

theorem right_shift_1_in : ∀ {n : Nat} (a : RU n) (c : Bool), WF a →
    WF (if c then set_highest_bit (right_shift_1 a).1 else (right_shift_1 a).1) ∧
    2 * val (if c then set_highest_bit (right_shift_1 a).1 else (right_shift_1 a).1) + c2n (right_shift_1 a).2 = val a + c2n c * Bn n
  | _, .limb a, c, hw => by
      simp only [WF] at hw
      have ho := Nat.or_two_pow_eq_add_of_lt (a := a / 2) (n := 63) (by simp only [B64] at hw; omega)
      rw [show (2 : Nat) ^ 63 = 9223372036854775808 by norm_num] at ho
      rw [Bn_zero]
      cases c <;> simp only [right_shift_1, set_highest_bit, WF, val, c2n_decide, limb_lbit a, ↓reduceIte, Bool.false_eq_true, ho,
        c2n_true, c2n_false]
      all_goals refine ⟨by simp only [B64] at *; omega, ?_⟩
      all_goals split <;> simp only [B64] <;> omega
  | _, .node (n := n) al ah, c, hw => by
      obtain ⟨hhw, hhe⟩ := right_shift_1_in ah c hw.2
      obtain ⟨hlw, hle⟩ := right_shift_1_in al (right_shift_1 ah).2 hw.1
      rw [Bn_succ]
      cases c
      all_goals
        simp only [right_shift_1, set_highest_bit, val_node, ↓reduceIte, Bool.false_eq_true] at hhe ⊢
        exact ⟨⟨hlw, hhw⟩, by linear_combination hle + Bn n * hhe⟩

theorem right_shift_1_ok {n : Nat} (a : RU n) (hw : WF a) :
    WF (right_shift_1 a).1 ∧ 2 * val (right_shift_1 a).1 + c2n (right_shift_1 a).2 = val a := by
  simpa using right_shift_1_in a false hw

theorem highest_bit_eq : ∀ {n : Nat} (x : RU n), highest_bit x = (left_shift_1 x).2
  | _, .limb a => by simp [highest_bit, left_shift_1]
  | _, .node l h => by simp only [highest_bit, left_shift_1]; exact highest_bit_eq h

/-- the top bit is the bit a one-bit left shift loses -/
theorem highest_bit_iff {n : Nat} (b : RU n) (hw : WF b) : highest_bit b = true ↔ Bn n ≤ 2 * val b := by
  obtain ⟨hr, he⟩ := left_shift_1_ok b hw
  have hv := val_lt _ hr
  rw [highest_bit_eq]
  cases hz : (left_shift_1 b).2
  · rw [hz, c2n_false, Nat.zero_mul, Nat.add_zero] at he
    simp only [Bool.false_eq_true, false_iff]; omega
  · rw [hz, c2n_true, Nat.one_mul] at he
    simp only [true_iff]; omega

theorem not_ok : ∀ {n : Nat} (a : RU n), WF a → WF (not_ a) ∧ val (not_ a) + val a + 1 = Bn n
  | _, .limb c, hw => by
      simp only [WF] at hw
      rw [Bn_zero]
      simp only [not_, WF, val]
      simp only [B64] at *; omega
  | _, .node (n := n) l h, hw => by
      have hl := not_ok l hw.1
      have hh := not_ok h hw.2
      simp only [not_, WF_node, val_node]
      refine ⟨⟨hl.1, hh.1⟩, ?_⟩
      rw [Bn_succ]
      linear_combination hl.2 + Bn n * hh.2

theorem not_int {n : Nat} (x : RU n) (hx : WF x) : WF (not_ x) ∧ (val (not_ x) : Int) = Bn n - 1 - val x := by
  obtain ⟨hw, he⟩ := not_ok x hx
  exact ⟨hw, by omega⟩

theorem neg_ok {n : Nat} (a : RU n) (hw : WF a) : WF (neg a) ∧ val (neg a) = (Bn n - val a) % Bn n := by
  have h1 := not_ok a hw
  have h2 := add_1_ok (not_ a) h1.1
  have h3 := h2.exact
  unfold neg
  refine ⟨h2.1, ?_⟩
  rw [h3.1]; congr 1; omega

theorem neg_add {n : Nat} (a : RU n) (hw : WF a) : WF (neg a) ∧ ∃ e, val (neg a) + val a = Bn n * e := by
  obtain ⟨hn, he⟩ := neg_ok a hw
  have hv := val_lt a hw
  refine ⟨hn, ?_⟩
  by_cases h0 : val a = 0
  · exact ⟨0, by rw [he, h0]; simp⟩
  · exact ⟨1, by rw [he, Nat.mod_eq_of_lt (by omega)]; omega⟩

end Givaro.Model.RecInt
