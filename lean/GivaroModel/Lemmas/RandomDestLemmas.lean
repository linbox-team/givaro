/-
C20 — lemmas about Model/RandomDest.lean: the call-list machine `runCalls`, the loop `untilNonzero` that every `nonzerorandom` of
the model is, "destination-explicit draw = value-level draw" for the Modular, GFq and polynomial draws (Integer family:
Props/C20.lean), and the limb tree of RecInt::rand.
-/
import GivaroModel.Model.RandomDest
import GivaroModel.Lemmas.RandomLemmas
import Mathlib.Data.List.Forall2
namespace Givaro.Lemmas.Random
open Givaro Givaro.Model.Random

/-! ### the call-list machine -/

section Run
variable {σ κ ω : Type} (step : σ → κ → Option (ω × σ))

theorem runCalls_cons (c : κ) (cs : List κ) (s : σ) :
    runCalls step (c :: cs) s = (step s c).bind fun os => (runCalls step cs os.2).map fun r => (os.1 :: r.1, r.2) := by
  simp only [runCalls]
  cases step s c with
  | none => rfl
  | some os => dsimp only [Option.bind]; cases runCalls step cs os.2 <;> rfl

theorem runCalls_append (cs₁ cs₂ : List κ) : ∀ s : σ,
    runCalls step (cs₁ ++ cs₂) s =
      (runCalls step cs₁ s).bind fun r₁ => (runCalls step cs₂ r₁.2).map fun r₂ => (r₁.1 ++ r₂.1, r₂.2) := by
  induction cs₁ with
  | nil => intro s; cases h : runCalls step cs₂ s <;> simp [runCalls, h]
  | cons c cs ih =>
    intro s
    rw [List.cons_append, runCalls_cons, runCalls_cons]
    cases step s c with
    | none => rfl
    | some os =>
      simp only [Option.bind_some, ih]
      cases runCalls step cs os.2 with
      | none => rfl
      | some r₁ => simp only [Option.bind_some, Option.map_some]; cases runCalls step cs₂ r₁.2 <;> rfl

theorem runCalls_append_some (cs₁ cs₂ : List κ) (s : σ) {r₁ r₂ : List ω × σ} (h₁ : runCalls step cs₁ s = some r₁)
    (h₂ : runCalls step cs₂ r₁.2 = some r₂) : runCalls step (cs₁ ++ cs₂) s = some (r₁.1 ++ r₂.1, r₂.2) := by
  rw [runCalls_append, h₁, Option.bind_some, h₂]; rfl

theorem runCalls_congr (R : κ → κ → Prop) (hR : ∀ s c c', R c c' → step s c = step s c') :
    ∀ (cs cs' : List κ), List.Forall₂ R cs cs' → ∀ s : σ, runCalls step cs s = runCalls step cs' s := by
  intro cs cs' h
  induction h with
  | nil => intro s; rfl
  | cons hc _ ih => intro s; rw [runCalls_cons, runCalls_cons, hR s _ _ hc]; simp only [ih]

theorem runCalls_dest_indep (h : ∀ s c c', step s c = step s c') (cs cs' : List κ) (hlen : cs.length = cs'.length) (s : σ) :
    runCalls step cs s = runCalls step cs' s :=
  runCalls_congr step (fun _ _ => True) (fun s c c' _ => h s c c') cs cs' (List.forall₂_iff_get.2 ⟨hlen, fun _ _ _ => trivial⟩) s

theorem runCalls_all (P : ω → Prop) (hP : ∀ s c o s', step s c = some (o, s') → P o) :
    ∀ (cs : List κ) (s : σ) (r : List ω × σ), runCalls step cs s = some r → r.1.length = cs.length ∧ ∀ o ∈ r.1, P o := by
  intro cs
  induction cs with
  | nil => intro s r h; simp only [runCalls, Option.some.injEq] at h; subst h; simp
  | cons c cs ih =>
    intro s r h
    rw [runCalls_cons] at h
    obtain ⟨os, hs, h⟩ := Option.bind_eq_some_iff.1 h
    obtain ⟨r', hr, rfl⟩ := Option.map_eq_some_iff.1 h
    have h1 := ih os.2 r' hr
    refine ⟨by simp [h1.1], fun o ho => ?_⟩
    rcases List.mem_cons.1 ho with rfl | ho
    · exact hP s c _ os.2 hs
    · exact h1.2 o ho

end Run

/-! ### lists (the polynomial destination) -/

theorem drop_set_self {α : Type} : ∀ (l : List α) (i : Nat) (a : α), i < l.length → (l.set i a).drop i = a :: l.drop (i + 1)
  | [], _, _, h => by simp at h
  | _ :: ys, 0, a, _ => by simp
  | _ :: ys, j+1, a, h => by
    simp only [List.set_cons_succ, List.drop_succ_cons]
    exact drop_set_self ys j a (by simpa using h)

theorem vresize_length (l : List Int) (n : Nat) : (vresize l n).length = n := by
  unfold vresize; simp

/-- `r.resize(d+1); r[d] = x` -/
theorem vresize_set (old : List Int) (d : Nat) (x : Int) :
    ((vresize old (d + 1)).set d x).length = d + 1 ∧ ((vresize old (d + 1)).set d x).drop d = [x] := by
  have hl := vresize_length old (d + 1)
  rw [List.length_set, drop_set_self _ d _ (by omega), List.drop_eq_nil_of_le (by omega)]
  exact ⟨hl, rfl⟩

/-! ### the loop -/

section Loop
variable {σ : Type} (draw : σ → Int × σ)

/-- `while (isZero(draw())) {}` with fuel (`none`: out of fuel); every `nonzerorandom` loop of the model is this one -/
def untilNonzero : Nat → σ → Option (Int × σ)
  | 0, _ => none
  | f+1, s => if (draw s).1 = 0 then untilNonzero f (draw s).2 else some (draw s)

theorem untilNonzero_eq (L : Nat → σ → Option (Int × σ)) (h0 : ∀ s, L 0 s = none)
    (hS : ∀ f s, L (f + 1) s = if (draw s).1 = 0 then L f (draw s).2 else some (draw s)) :
    ∀ f s, L f s = untilNonzero draw f s := by
  intro f
  induction f with
  | zero => exact h0
  | succ f ih => intro s; rw [hS, untilNonzero, ih]

theorem untilNonzero_eq_dest (drawD : Int → σ → Int × σ) (hd : ∀ o s, drawD o s = draw s)
    (L : Nat → Int → σ → Option (Int × σ)) (h0 : ∀ o s, L 0 o s = none)
    (hS : ∀ f o s, L (f + 1) o s = if (drawD o s).1 = 0 then L f (drawD o s).1 (drawD o s).2 else some (drawD o s)) :
    ∀ f o s, L f o s = untilNonzero draw f s := by
  intro f
  induction f with
  | zero => exact h0
  | succ f ih => intro o s; rw [hS, untilNonzero, hd, ih]

theorem untilNonzero_spec (P : Int → Prop) (hP : ∀ s, P (draw s).1) :
    ∀ f s r, untilNonzero draw f s = some r → P r.1 ∧ r.1 ≠ 0 := by
  intro f
  induction f with
  | zero => intro s r h; cases h
  | succ f ih =>
    intro s r h
    unfold untilNonzero at h
    split at h
    · exact ih _ r h
    · rename_i hne; cases h; exact ⟨hP s, hne⟩

end Loop

theorem untilNonzero_isSome_of_iter (draw : Int → Int × Int) (hnext : ∀ g, (draw g).2 = givNext g) (k : Nat) : ∀ g : Int,
    (draw (givIter k g)).1 ≠ 0 → (untilNonzero draw (k + 1) g).isSome = true := by
  induction k with
  | zero => intro g h; unfold untilNonzero; rw [if_neg (show ¬ (draw g).1 = 0 from h)]; rfl
  | succ k ih =>
    intro g h
    unfold untilNonzero
    split
    · rw [hnext]; exact ih (givNext g) h
    · rfl

/-! ### the model's loops are `untilNonzero`; destination-explicit = value level -/

section IntLoops
variable {σ : Type} (G : RawGen σ)

theorem nonzeroW_loop (ap : Bool) (n : Nat) : ∀ f st, nonzeroW G ap n f st = untilNonzero (lessthan2exp G ap n) f st :=
  untilNonzero_eq _ _ (fun _ => rfl) (fun _ _ => rfl)
theorem nonzeroI_loop (ap : Bool) (m : Int) : ∀ f st, nonzeroI G ap m f st = untilNonzero (lessthan G ap m) f st :=
  untilNonzero_eq _ _ (fun _ => rfl) (fun _ _ => rfl)

end IntLoops

section Mod
variable (bits : Nat) (sgn : Bool) (p : Int)

theorem modNonzero_loop :
    ∀ f g, modNonzero bits sgn p f g = untilNonzero (modRandom bits sgn p) f g :=
  untilNonzero_eq _ _ (fun _ => rfl) (fun _ _ => rfl)
theorem modNonzeroSz_loop (size : Int) :
    ∀ f g, modNonzeroSz bits sgn p size f g = untilNonzero (modRandomSz bits sgn p size) f g :=
  untilNonzero_eq _ _ (fun _ => rfl) (fun _ _ => rfl)

theorem modRandomD_eq (old g : Int) : modRandomD bits sgn p old g = modRandom bits sgn p g := by
  simp only [modRandomD, modRandom, overwrite]
theorem modRandomSzD_eq (size old g : Int) :
    modRandomSzD bits sgn p size old g = modRandomSz bits sgn p size g := by
  simp only [modRandomSzD, modRandomSz, overwrite]

theorem modNonzeroD_eq (fuel : Nat) (old g : Int) :
    modNonzeroD bits sgn p fuel old g = modNonzero bits sgn p fuel g :=
  (untilNonzero_eq_dest _ _ (modRandomD_eq bits sgn p) _ (fun _ _ => rfl) (fun _ _ _ => rfl) fuel old g).trans
    (modNonzero_loop bits sgn p fuel g).symm

theorem modNonzeroSzD_eq (size : Int) (fuel : Nat) (old g : Int) :
    modNonzeroSzD bits sgn p size fuel old g = modNonzeroSz bits sgn p size fuel g :=
  (untilNonzero_eq_dest _ _ (modRandomSzD_eq bits sgn p size) _ (fun _ _ => rfl) (fun _ _ _ => rfl) fuel old g).trans
    (modNonzeroSz_loop bits sgn p size fuel g).symm

theorem modStepD_eq (fn : Nat) (size : Int) (fuel : Nat) (g old : Int) :
    modStepD bits sgn p fn size fuel g old = modStep bits sgn p fn size fuel g :=
  match fn with
  | 0 | 1 | 2 | 4 | 6 => rfl
  | 3 | 5 => modNonzeroD_eq ..
  | 7 => modNonzeroSzD_eq ..
  | _ + 8 => rfl

theorem polyFill_eq (i : Nat) : ∀ (r : List Int) (g : Int), i ≤ r.length →
    polyFill bits sgn p i r g = ((polyLow bits sgn p i g).1 ++ r.drop i, (polyLow bits sgn p i g).2) := by
  induction i with
  | zero => intro r g _; simp [polyFill, polyLow]
  | succ i ih =>
    intro r g h
    simp only [polyFill, polyLow, modRandomD_eq]
    rw [ih _ _ (by simp only [List.length_set]; omega), drop_set_self r i _ (by omega)]
    simp [List.append_assoc]

theorem polyRandomD_eq (d : Int) (fuel : Nat) (old : List Int) (g : Int) :
    polyRandomD bits sgn p d fuel old g = polyRandomDeg bits sgn p d fuel g := by
  unfold polyRandomD polyRandomDeg
  split
  · simp [vresize]
  · unfold polyRandom
    rw [modNonzeroD_eq]
    cases modNonzero bits sgn p fuel g with
    | none => rfl
    | some lead =>
      simp only
      have hv := vresize_set old d.toNat lead.1
      rw [polyFill_eq bits sgn p d.toNat _ _ (by omega), hv.2]

end Mod

section GFq
variable (bits : Nat) (q : Int)

theorem gfqNzLoop_loop :
    ∀ f g, gfqStep.gfqNzLoop bits q f g = untilNonzero (gfqRandom bits q (sampleSize q 0)) f g :=
  untilNonzero_eq _ _ (fun _ => rfl) (fun _ _ => rfl)

theorem gfqRandomD_eq (s old g : Int) : gfqRandomD bits q s old g = gfqRandom bits q s g := by
  simp only [gfqRandomD, gfqRandom, overwrite]
  congr
theorem gfqNonzeroD_eq (s old g : Int) : gfqNonzeroD bits q s old g = gfqNonzero bits q s g := by
  simp only [gfqNonzeroD, gfqNonzero, overwrite]
  congr

theorem gfqNzLoopD_eq (fuel : Nat) (old g : Int) :
    gfqNzLoopD bits q fuel old g = gfqStep.gfqNzLoop bits q fuel g :=
  (untilNonzero_eq_dest _ _ (gfqRandomD_eq bits q _) _ (fun _ _ => rfl) (fun _ _ _ => rfl) fuel old g).trans
    (gfqNzLoop_loop bits q fuel g).symm

theorem gfqStepD_eq (fn : Nat) (size : Int) (fuel : Nat) (g old : Int) :
    gfqStepD bits q fn size fuel g old = gfqStep bits q fn size fuel g :=
  match fn with
  | 0 | 1 | 4 | 6 => congrArg some (gfqRandomD_eq ..)
  | 5 | 7 => congrArg some (gfqNonzeroD_eq ..)
  | 3 => gfqNzLoopD_eq ..
  | 2 | _ + 8 => rfl

end GFq

/-! ### RecInt::rand: the tree of limbs -/

theorem ruTree_dest_indep {σ : Type} (leaf : Int → σ → Int × σ) (hleaf : ∀ o o' s, leaf o s = leaf o' s) (k : Nat) :
    ∀ (old old' : Int) (s : σ), ruTree leaf k old s = ruTree leaf k old' s := by
  induction k with
  | zero => intro old old' s; exact hleaf old old' s
  | succ k ih =>
    intro old old' s
    simp only [ruTree]
    rw [ih (old / 2 ^ (64 * 2 ^ k)) (old' / 2 ^ (64 * 2 ^ k)) s]
    rw [ih (old % 2 ^ (64 * 2 ^ k)) (old' % 2 ^ (64 * 2 ^ k))]

/-- the limbs are digits in base 2^64; `Inv` is an invariant of the generator state that one limb write keeps
    (for a stream of words: what is left is a stream of words) -/
theorem ruTree_range_inv {σ : Type} (leaf : Int → σ → Int × σ) (Inv : σ → Prop)
    (hleaf : ∀ o s, Inv s → (0 ≤ (leaf o s).1 ∧ (leaf o s).1 < 2 ^ 64) ∧ Inv (leaf o s).2) (k : Nat) :
    ∀ (old : Int) (s : σ), Inv s →
      (0 ≤ (ruTree leaf k old s).1 ∧ (ruTree leaf k old s).1 < 2 ^ (64 * 2 ^ k)) ∧ Inv (ruTree leaf k old s).2 := by
  induction k with
  | zero => intro old s hs; exact hleaf old s hs
  | succ k ih =>
    intro old s hs
    have h1 := ih (old / 2 ^ (64 * 2 ^ k)) s hs
    have h2 := ih (old % 2 ^ (64 * 2 ^ k)) _ h1.2
    have := two_digits h1.1.1 h1.1.2 h2.1.1 h2.1.2
    rw [Int.zero_mul, ← Int.pow_add, ← Nat.mul_two, Nat.mul_assoc, ← Nat.pow_succ] at this
    exact ⟨this, h2.2⟩

theorem leafW_dest_indep (o o' : Int) (ws : List Int) : leafW o ws = leafW o' ws := by cases ws <;> rfl
theorem leafG_dest_indep (o o' g : Int) : leafG o g = leafG o' g := by simp only [leafG, overwrite]

theorem ruRingNonzeroD_loop (K : Nat) (p : Int) :
    ∀ fuel old g, ruRingNonzeroD K p fuel old g = untilNonzero (ruRingRandomD K p 0) fuel g :=
  untilNonzero_eq_dest _ _ (fun o g => by unfold ruRingRandomD; rw [ruTree_dest_indep leafG leafG_dest_indep (K - 6) o 0 g])
    _ (fun _ _ => rfl) (fun _ _ _ => rfl)

end Givaro.Lemmas.Random
