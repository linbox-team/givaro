/-
C05 — the `(TT)`/`(Rep)` conversions of the Zech macros are the identity on every intermediate value when the
operands are canonical and the word type holds `[-4(q-1), 4(q-1)]` (`int32_t` for q ≤ 65536, `int64_t` for q ≤ 2^32):
the word-level transcription `Model.Zech.Word.*` coincides with the plain `Int` model the other theorems speak about.
At the end: tables the checker accepts satisfy `WordFits` (`Valid.wordFits`).
-/
import GivaroModel.Lemmas.GFqOps
import GivaroModel.Lemmas.GFqTables
import GivaroModel.Lemmas.WordLemmas
namespace Givaro.Lemmas.GFqZech
open Givaro.Model.Zech

/-- the word type holds `[-B, B]` exactly, `4(q-1) ≤ B`; sentinels and table entries are in range -/
structure WordFits (w : Int → Int) (B : Int) (F : Dom) : Prop where
  id_on : ∀ x, -B ≤ x → x ≤ B → w x = x
  room : 4 * F.mun ≤ B
  mun_nonneg : 0 ≤ F.mun
  mo_lo : 0 ≤ F.mo
  mo_hi : F.mo ≤ F.mun
  pl_lo : ∀ i, -F.mun ≤ F.pl i
  pl_hi : ∀ i, F.pl i ≤ 0

section
variable {w : Int → Int} {B : Int} {F : Dom} (W : WordFits w B F)
include W

theorem w_mun : w F.mun = F.mun := by
  have := W.room
  have := W.mun_nonneg
  exact W.id_on _ (by omega) (by omega)

theorem w_mo : w F.mo = F.mo := by
  have := W.room
  have := W.mun_nonneg
  have := W.mo_lo
  have := W.mo_hi
  exact W.id_on _ (by omega) (by omega)

theorem w_id (x : Int) (h1 : -(4 * F.mun) ≤ x) (h2 : x ≤ 4 * F.mun) : w x = x :=
  W.id_on _ (by have := W.room; omega) (by have := W.room; omega)

theorem wp_eq (c : Int) (h1 : -(3 * F.mun) ≤ c) (h2 : c ≤ 3 * F.mun) : Word.wp w F.mun c = wrapPos F.mun c := by
  have := W.mun_nonneg
  unfold Word.wp wrapPos
  rw [w_mun W, w_id W _ (by omega) (by omega)]

/-- `(c) = (x) - (y); (c) = ((c)>0)?(c):(c)+(TT)(mun)` for two canonical values (`ADD`, `DIV`, and `NEG` with `y = mOne`) -/
theorem wp_w_sub (x y : Int) (hx : 0 ≤ x ∧ x ≤ F.mun) (hy : 0 ≤ y ∧ y ≤ F.mun) :
    Word.wp w F.mun (w (x - y)) = wrapPos F.mun (x - y) := by
  rw [w_id W _ (by omega) (by omega), wp_eq W _ (by omega) (by omega)]

omit W in
theorem wrapPos_bd (c : Int) (h1 : -(2 * F.mun) ≤ c) (h2 : c ≤ F.mun) :
    -F.mun ≤ wrapPos F.mun c ∧ wrapPos F.mun c ≤ F.mun := by
  unfold wrapPos; split <;> omega

theorem wp_wp_eq (c : Int) (h1 : -(2 * F.mun) ≤ c) (h2 : c ≤ F.mun) :
    Word.wp w F.mun (Word.wp w F.mun c) = wrapPos F.mun (wrapPos F.mun c) := by
  have := W.mun_nonneg
  have b := wrapPos_bd (F := F) c h1 h2
  rw [wp_eq W c (by omega) (by omega), wp_eq W _ (by omega) (by omega)]

theorem w_sub_mo (x y : Int) (hx : 0 ≤ x ∧ x ≤ F.mun) (hy : 0 ≤ y ∧ y ≤ F.mun) :
    w (w (x - y) - w F.mo) = x - y - F.mo := by
  have := W.mun_nonneg; have := W.mo_lo; have := W.mo_hi
  rw [w_mo W, w_id W (x - y) (by omega) (by omega), w_id W _ (by omega) (by omega)]

theorem tl_eq (x b : Int) (hb1 : 0 ≤ b) (hb2 : b ≤ F.mun) : Word.tl w F.mun F.pl x b = tail F x b := by
  have := W.mun_nonneg
  have p1 := W.pl_lo x
  have p2 := W.pl_hi x
  unfold Word.tl tail
  simp only []
  rw [w_id W (F.pl x) (by omega) (by omega), w_id W _ (by omega) (by omega), wp_eq W _ (by omega) (by omega)]

theorem ADDw_eq (a b : Int) (ha : 0 ≤ a ∧ a ≤ F.mun) (hb : 0 ≤ b ∧ b ≤ F.mun) :
    Word.ADD w F.mun F.pl a b = ADD F.mun F.pl a b := by
  rw [ADD_eq]
  unfold Word.ADD
  rw [wp_w_sub W a b ha hb, tl_eq W _ b hb.1 hb.2]

theorem NEGw_eq (a : Int) (ha : 0 ≤ a ∧ a ≤ F.mun) : Word.NEG w F.mo F.mun a = NEG F.mo F.mun a := by
  rw [NEG_eq]
  unfold Word.NEG
  rw [w_mo W, wp_w_sub W a F.mo ha ⟨W.mo_lo, W.mo_hi⟩]

theorem SUBw_eq (a b : Int) (ha : 0 ≤ a ∧ a ≤ F.mun) (hb : 0 ≤ b ∧ b ≤ F.mun) :
    Word.SUB w F.mo F.mun F.pl a b = SUB F.mo F.mun F.pl a b := by
  have := W.mun_nonneg; have := W.mo_lo; have := W.mo_hi
  rw [SUB_eq]
  unfold Word.SUB
  rw [NEGw_eq W b hb, w_sub_mo W b a hb ha, wp_wp_eq W _ (by omega) (by omega), tl_eq W _ a ha.1 ha.2]

theorem MULw_eq (a b : Int) (ha : 0 ≤ a ∧ a ≤ F.mun) (hb : 0 ≤ b ∧ b ≤ F.mun) :
    Word.MUL w F.mun a b = MUL F.mun a b := by
  have := W.mun_nonneg
  unfold Word.MUL MUL
  simp only []
  rw [w_mun W, w_id W (a + b) (by omega) (by omega), w_id W (a + b - F.mun) (by omega) (by omega)]

theorem INVw_eq (a : Int) (ha : 0 ≤ a ∧ a ≤ F.mun) : Word.INV w F.mun a = INV F.mun a := by
  have := W.mun_nonneg
  unfold Word.INV INV
  simp only []
  rw [w_mun W, w_id W _ (by omega) (by omega)]

theorem DIVw_eq (a b : Int) (ha : 0 ≤ a ∧ a ≤ F.mun) (hb : 0 ≤ b ∧ b ≤ F.mun) :
    Word.DIV w F.mun a b = DIV F.mun a b := by
  rw [DIV_eq]
  unfold Word.DIV
  rw [wp_w_sub W a b ha hb]

theorem AUTOSUBw_eq (c b : Int) (hc : 0 ≤ c ∧ c ≤ F.mun) (hb : 0 ≤ b ∧ b ≤ F.mun) :
    Word.AUTOSUB w F.mo F.mun F.pl c b = AUTOSUB F.mo F.mun F.pl c b := by
  have := W.mun_nonneg; have := W.mo_lo; have := W.mo_hi
  rw [AUTOSUB_eq]
  unfold Word.AUTOSUB tailNeg
  rw [NEGw_eq W b hb, w_sub_mo W c b hc hb, wp_wp_eq W _ (by omega) (by omega)]
  generalize wrapPos F.mun (wrapPos F.mun (c - b - F.mo)) = x
  have p1 := W.pl_lo x
  have p2 := W.pl_hi x
  simp only []
  rw [w_mo W, w_id W (F.pl x) (by omega) (by omega), w_id W (F.pl x + b) (by omega) (by omega),
    w_id W (F.pl x + b - F.mo) (by omega) (by omega), w_id W (F.pl x + b + F.mo) (by omega) (by omega),
    wp_eq W _ (by split <;> omega) (by split <;> omega)]

theorem MULADDw_eq (a1 a2 b : Int) (h1 : 0 ≤ a1 ∧ a1 ≤ F.mun) (h2 : 0 ≤ a2 ∧ a2 ≤ F.mun) (hb : 0 ≤ b ∧ b ≤ F.mun) :
    Word.MULADD w F.mun F.pl a1 a2 b = MULADD F.mun F.pl a1 a2 b := by
  have := W.mun_nonneg
  rw [MULADD_eq]
  unfold Word.MULADD
  simp only []
  rw [w_mun W, w_id W (a1 + a2) (by omega) (by omega), w_id W (a1 + a2 - F.mun) (by omega) (by omega),
    wp_eq W (a1 + a2 - F.mun) (by omega) (by omega), w_id W (a1 + a2 - b) (by omega) (by omega),
    w_id W (a1 + a2 - b - F.mun) (by omega) (by omega), w_id W (a1 + a2 - b - F.mun + F.mun) (by omega) (by omega),
    wp_eq W _ (by split <;> omega) (by split <;> omega), tl_eq W _ b hb.1 hb.2]
end
section
open Givaro.Spec.GFq
variable {T : Tables}

/-- `WordFits` bounds `_plus1` at every index, `ZechHyp` only on `[1, q-1]`: outside, `plus1[0] = 0` and `getD` returns 0 -/
theorem Valid.pl_range (V : Valid T) (i : Int) : -((T.q : Int) - 1) ≤ T.dom.pl i ∧ T.dom.pl i ≤ 0 := by
  show -((T.q : Int) - 1) ≤ T.pl1 i.toNat ∧ T.pl1 i.toNat ≤ 0
  have hq := V.q_ge
  generalize i.toNat = n
  by_cases hn : n < T.q
  · rcases Nat.eq_zero_or_pos n with rfl | h1
    · rw [V.pl_zero]; omega
    · by_cases hc : T.F.csucc (T.l2p n) = 0
      · rw [(V.succ_zero n h1 hn hc).1]; omega
      · obtain ⟨l, u, -⟩ := V.succ_pos n h1 hn hc
        omega
  · have : T.pl1 n = 0 := by
      unfold Tables.pl1
      rw [Array.getD_eq_getD_getElem?, Array.getElem?_eq_none (by rw [V.size_pl]; omega)]
      rfl
    rw [this]; omega

theorem Valid.wordFits (V : Valid T) {w : Int → Int} {B : Int} (hid : ∀ x, -B ≤ x → x ≤ B → w x = x)
    (hB : 4 * ((T.q : Int) - 1) ≤ B) : WordFits w B T.dom :=
  { id_on := hid, room := hB, mun_nonneg := by show 0 ≤ (T.q : Int) - 1; have := V.q_ge; omega
    mo_lo := by have := V.mo_lo; show 0 ≤ T.mOne; omega
    mo_hi := V.mo_hi, pl_lo := fun i => (V.pl_range i).1, pl_hi := fun i => (V.pl_range i).2 }

/-- `GFqDom<int32_t>`, `q ≤ 65536 = maxCardinality()` -/
theorem Valid.wordFits32 (V : Valid T) (hq : T.q ≤ 65536) : WordFits wrapS32 2147483647 T.dom :=
  V.wordFits (fun _ h1 h2 => wrapS32_id ⟨by omega, by omega⟩) (by omega)

/-- `GFqDom<int64_t>`, `q ≤ 2^32 = maxCardinality()` -/
theorem Valid.wordFits64 (V : Valid T) (hq : T.q ≤ 4294967296) : WordFits wrapS64 9223372036854775807 T.dom :=
  V.wordFits (fun _ h1 h2 => wrapS64_id ⟨by omega, by omega⟩) (by omega)

end
end Givaro.Lemmas.GFqZech
