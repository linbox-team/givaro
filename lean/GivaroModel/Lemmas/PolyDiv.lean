/-
C08 — the implementation's own division: Newton inverse modulo X^l (`newtoninviter`, `invmodpowx`), `div`
(reverse · inverse · product · reverse), `divmod`, `mod`, and the pseudo-division `pdivmod`, `pmod` (one scaled subtraction per round, `pstep_poly`) of `Model/Poly.lean`
against `Polynomial K`.
-/
import GivaroModel.Lemmas.PolyMisc
import Mathlib.Algebra.Polynomial.Degree.Lemmas

open Polynomial
set_option linter.unusedSectionVars false

namespace Givaro.Lemmas.Poly
open Givaro.Model.Poly

variable {K : Type} [Field K] [DecidableEq K]

/-! ### Newton iteration -/

theorem newton_step (thr : Nat) (hthr : 1 ≤ thr) (G T : List K) (i j : Nat) (hij : i ≤ 2 * j)
    (hinv : X ^ j ∣ toPoly G * toPoly T - 1) :
    X ^ i ∣ toPoly (newtoninviter thr G T i) * toPoly T - 1 := by
  unfold newtoninviter
  extract_lets S G2 Ap Am
  have tS : toPoly S = toPoly G * toPoly G := toPoly_sqr thr hthr G
  have tG2 : toPoly G2 = toPoly G + toPoly G := toPoly_addin G G
  have sp := mulR_spec thr (Ap.length + S.length) i Ap S (Or.inl hthr)
  have d1 : X ^ i ∣ toPoly Am - toPoly Ap * (toPoly G * toPoly G) := by
    simp only [Am]; rw [sp.toPoly_pad, ← tS]; exact sp.dvd (Or.inl le_rfl)
  have d2 : X ^ i ∣ toPoly T - toPoly Ap := by
    have := toPoly_take_drop T i
    exact ⟨toPoly (T.drop i), by rw [this]; simp only [Ap]; ring⟩
  have d3 : X ^ i ∣ (toPoly G * toPoly T - 1) * (toPoly G * toPoly T - 1) := by
    have h2 : X ^ (2 * j) ∣ (toPoly G * toPoly T - 1) * (toPoly G * toPoly T - 1) := by
      rw [two_mul, pow_add]; exact mul_dvd_mul hinv hinv
    exact dvd_trans (pow_dvd_pow X hij) h2
  rw [toPoly_subin, tG2]
  have e : (toPoly G + toPoly G - toPoly Am) * toPoly T - 1
      = -((toPoly G * toPoly T - 1) * (toPoly G * toPoly T - 1))
        + toPoly T * (toPoly G * toPoly G) * (toPoly T - toPoly Ap)
        - toPoly T * (toPoly Am - toPoly Ap * (toPoly G * toPoly G)) := by ring
  rw [e]
  exact dvd_sub (dvd_add ((dvd_neg).mpr d3) (dvd_mul_of_dvd_right d2 _)) (dvd_mul_of_dvd_right d1 _)

theorem invmodpowxLoop_spec (thr : Nat) (hthr : 1 ≤ thr) (T : List K) (l : Nat) :
    ∀ (fuel i : Nat) (G : List K) (j : Nat), 1 ≤ i → i ≤ 2 * j → X ^ j ∣ toPoly G * toPoly T - 1 →
      l + 1 ≤ fuel + i →
      ∃ j', l ≤ 2 * j' ∧ X ^ j' ∣ toPoly (invmodpowxLoop thr T l fuel i G) * toPoly T - 1 := by
  intro fuel
  induction fuel with
  | zero => intro i G j _ hij hinv hf; exact ⟨j, by omega, hinv⟩
  | succ fuel ih =>
    intro i G j hi hij hinv hf
    unfold invmodpowxLoop
    split
    · next hlt =>
      exact ih (2 * i) (newtoninviter thr G T i) i (by omega) (le_refl _)
        (newton_step thr hthr G T i j hij hinv) (by omega)
    · next hge => exact ⟨j, by omega, hinv⟩

theorem invmodpowx_spec (thr : Nat) (hthr : 1 ≤ thr) (T : List K) (l : Nat) (h0 : T.getD 0 0 ≠ 0) :
    X ^ l ∣ toPoly (invmodpowx thr T l) * toPoly T - 1 := by
  unfold invmodpowx
  have hinit : X ^ 1 ∣ toPoly [(T.getD 0 0)⁻¹] * toPoly T - 1 := by
    rw [X_pow_dvd_iff]
    intro d hd
    have : d = 0 := by omega
    subst this
    rw [coeff_sub, mul_coeff_zero, coeff_toPoly, coeff_toPoly, coeff_one_zero]
    simp only [List.getD_cons_zero]
    rw [inv_mul_cancel₀ h0, sub_self]
  obtain ⟨j', hj', hd⟩ := invmodpowxLoop_spec thr hthr T l l 2 _ 1 (by omega) (by omega) hinit (by omega)
  exact newton_step thr hthr _ T l j' hj' hd

/-! ### reflection -/

theorem reflect_reflect (N : Nat) (f : K[X]) : reflect N (reflect N f) = f := by
  ext i
  rw [coeff_reflect, coeff_reflect, revAt_invol]

/-- the algebra behind `div`: with `s·rev_m(b) ≡ 1 (mod X^l)`, `l = n - m + 1`, the first `l` coefficients of
    `s·rev_n(a)` are those of `rev_(l-1)(a / b)` -/
theorem div_reflect_core (a b s : K[X]) (n m l : Nat) (ha : a ≠ 0) (hb : b ≠ 0) (hn : a.natDegree = n)
    (hm : b.natDegree = m) (hnm : m ≤ n) (hl : l = n - m + 1) (hs : X ^ l ∣ s * reflect m b - 1) :
    (a / b).natDegree ≤ l - 1 ∧ X ^ l ∣ s * reflect n a - reflect (l - 1) (a / b) := by
  have hle : degree b ≤ degree a := by
    rw [degree_eq_natDegree ha, degree_eq_natDegree hb, hn, hm]; exact_mod_cast hnm
  have hq0 : a / b ≠ 0 := by
    intro h
    have := (Polynomial.div_eq_zero_iff hb).mp h
    exact absurd hle (not_le.mpr this)
  have hdeg := degree_add_div hb hle
  rw [degree_eq_natDegree ha, degree_eq_natDegree hb, degree_eq_natDegree hq0, hn, hm] at hdeg
  have hq : (a / b).natDegree = n - m := by
    have : m + (a / b).natDegree = n := by exact_mod_cast hdeg
    omega
  have hql : (a / b).natDegree ≤ l - 1 := by omega
  refine ⟨hql, ?_⟩
  have hrc : ∀ i, m ≤ i → (a % b).coeff i = 0 := by
    intro i hi
    apply coeff_eq_zero_of_degree_lt
    calc (a % b).degree < b.degree := degree_mod_lt a hb
      _ = (m : WithBot ℕ) := by rw [degree_eq_natDegree hb, hm]
      _ ≤ (i : WithBot ℕ) := by exact_mod_cast hi
  have hdec : a = b * (a / b) + a % b := (EuclideanDomain.div_add_mod a b).symm
  have hrefl : reflect n a = reflect m b * reflect (l - 1) (a / b) + reflect n (a % b) := by
    conv_lhs => rw [hdec]
    rw [reflect_add]
    have : n = m + (l - 1) := by omega
    conv_lhs => rw [this]
    rw [reflect_mul b (a / b) (le_of_eq hm) hql]
    rw [← this]
  have hr : X ^ l ∣ reflect n (a % b) := by
    rw [X_pow_dvd_iff]
    intro d hd
    rw [coeff_reflect, revAt_le (by omega)]
    exact hrc _ (by omega)
  have e : s * reflect n a - reflect (l - 1) (a / b)
      = (s * reflect m b - 1) * reflect (l - 1) (a / b) + s * reflect n (a % b) := by
    rw [hrefl]; ring
  rw [e]
  exact dvd_add (dvd_mul_of_dvd_left hs _) (dvd_mul_of_dvd_right hr _)

/-! ### `div`, `divmod`, `mod` -/

theorem toPoly_div (thr : Nat) (hthr : 1 ≤ thr) (A B : List K) (hb : toPoly B ≠ 0) :
    toPoly (Model.Poly.div thr A B) = toPoly A / toPoly B := by
  unfold Model.Poly.div
  extract_lets An Bn degX S T
  have tAn : toPoly An = toPoly A := toPoly_setdegree A
  have tBn : toPoly Bn = toPoly B := toPoly_setdegree B
  have lB := length_setdegree_pos B hb
  split
  · next hlt =>
    rw [(Polynomial.div_eq_zero_iff hb).mpr (degree_lt_of_model A B hb hlt)]; rfl
  · next hnlt =>
    split
    · next hB0 =>
      obtain ⟨c, _, hc, hBc⟩ := setdegree_of_degree_zero B hB0
      simp only [Bn, An, hc, List.getD_cons_zero]
      rw [toPoly_divVal, toPoly_setdegree, hBc, div_C]
    · next hB0 =>
      unfold Model.Poly.degree at hnlt hB0
      have ha : toPoly A ≠ 0 := by
        intro h0
        rw [(setdegree_eq_nil_iff A).mpr h0] at hnlt; simp only [List.length_nil] at hnlt; omega
      have lA := length_setdegree_pos A ha
      have hn := natDegree_toPoly A ha
      have hm := natDegree_toPoly B hb
      have hnm : (setdegree B).length - 1 ≤ (setdegree A).length - 1 := by omega
      have hdegX : degX = ((setdegree A).length - 1) - ((setdegree B).length - 1) + 1 := by
        simp only [degX, An, Bn]; omega
      have tRB : toPoly (Model.Poly.reverse Bn) = reflect ((setdegree B).length - 1) (toPoly B) := by
        rw [toPoly_reverse, tBn]
      have h0 : (Model.Poly.reverse Bn).getD 0 0 ≠ 0 := by
        rw [← coeff_toPoly, tRB, coeff_reflect, revAt_le (Nat.zero_le _), Nat.sub_zero, ← hm, coeff_natDegree]
        exact leadingCoeff_ne_zero.mpr hb
      have hS : X ^ degX ∣ toPoly S * reflect ((setdegree B).length - 1) (toPoly B) - 1 := by
        have := invmodpowx_spec thr hthr (Model.Poly.reverse Bn) degX h0
        rwa [tRB] at this
      have tT : toPoly T = reflect ((setdegree A).length - 1) (toPoly A) := by
        simp only [T]; rw [toPoly_reverse, tAn]
      obtain ⟨hql, hcore⟩ := div_reflect_core (toPoly A) (toPoly B) (toPoly S) _ _ degX ha hb hn hm hnm hdegX hS
      have sp := mulR_spec thr (S.length + T.length) degX S T (Or.inl hthr)
      have tQ : toPoly (pad degX (mulR thr (S.length + T.length) degX S T))
          = reflect (degX - 1) (toPoly A / toPoly B) := by
        rw [sp.toPoly_pad]
        refine toPoly_eq_of_dvd degX _ _ sp.1
          (dvd_sub_trans (sp.dvd (Or.inl le_rfl)) (by rw [tT]; exact hcore)) (fun k hk => ?_)
        rw [coeff_reflect, revAt_eq_self_of_lt (by omega)]
        exact coeff_eq_zero_of_natDegree_lt (by omega)
      rw [toPoly_reverse, length_pad, tQ, reflect_reflect]

theorem toPoly_divmod (thr : Nat) (hthr : 1 ≤ thr) (A B : List K) (hb : toPoly B ≠ 0) :
    toPoly (Model.Poly.divmod thr A B).1 = toPoly A / toPoly B ∧
    toPoly (Model.Poly.divmod thr A B).2 = toPoly A % toPoly B := by
  unfold Model.Poly.divmod
  refine ⟨toPoly_div thr hthr A B hb, ?_⟩
  simp only [maxpy]
  rw [toPoly_sub, toPoly_mul, toPoly_setdegree, toPoly_setdegree, toPoly_div thr hthr A B hb,
    EuclideanDomain.mod_eq_sub_mul_div]
  ring

theorem toPoly_mod (thr : Nat) (hthr : 1 ≤ thr) (A B : List K) (hb : toPoly B ≠ 0) :
    toPoly (Model.Poly.mod thr A B) = toPoly A % toPoly B := by
  unfold Model.Poly.mod; exact (toPoly_divmod thr hthr A B hb).2

/-! ### pseudo-division -/

/-- `toPoly_mulVal` in the `List.map` form in which `pdivmodLoop` and `pmodLoop` write the scaling (for `rw`) -/
theorem toPoly_map_mul (L : List K) (u : K) : toPoly (L.map (fun r => r * u)) = toPoly L * C u :=
  toPoly_mulVal L u

theorem drop_eq_singleton (L : List K) (k : Nat) (h : L.length = k + 1) : L.drop k = [L.getD k 0] := by
  apply List.ext_getElem
  · simp; omega
  · intro i h1 h2
    obtain rfl : i = 0 := by simp at h2; omega
    simp [List.getD_eq_getElem?_getD, List.getElem?_eq_getElem (show k < L.length by omega)]

/-- one round of the scaled subtraction shared by `pdivmod` and `pmod` -/
theorem pstep_poly (lB c : K) (Bl R : List K) (k : Nat) (hR : R.length = k + Bl.length + 1)
    (hc : c = R.getD (k + Bl.length) 0) :
    ((R.take k).map (fun r => r * lB)
        ++ List.zipWith (fun r b => r * lB - c * b) ((R.drop k).take Bl.length) Bl).length = k + Bl.length ∧
    toPoly ((R.take k).map (fun r => r * lB)
        ++ List.zipWith (fun r b => r * lB - c * b) ((R.drop k).take Bl.length) Bl)
      = C lB * toPoly R - C c * X ^ k * (toPoly Bl + X ^ Bl.length * C lB) := by
  refine ⟨by simp only [List.length_append, List.length_map, List.length_zipWith, List.length_take,
    List.length_drop]; omega, ?_⟩
  have h1 : ((R.take k).map (fun r => r * lB)).length = k := by simp; omega
  rw [toPoly_append, h1, toPoly_map_mul,
    toPoly_zipWith_lin _ _ _ _ (by rw [List.length_take, List.length_drop]; omega)]
  have e1 := toPoly_take_drop R k
  have e2 := toPoly_take_drop (R.drop k) Bl.length
  rw [List.drop_drop, drop_eq_singleton R _ hR, ← hc] at e2
  rw [e1, e2]
  simp only [toPoly_cons, toPoly_nil, mul_zero, add_zero]
  ring

theorem pdivmodLoop_spec (lB : K) (Bl : List K) (a b : K[X]) (hbpoly : b = toPoly Bl + X ^ Bl.length * C lB) :
    ∀ (k : Nat) (Qh R : List K) (m : K), R.length = k + Bl.length →
      C m * a = X ^ k * toPoly Qh * b + toPoly R →
      (pdivmodLoop lB Bl k Qh R m).2.1.length = Bl.length ∧
      (pdivmodLoop lB Bl k Qh R m).2.2 = m * lB ^ k ∧
      C (pdivmodLoop lB Bl k Qh R m).2.2 * a
        = toPoly (pdivmodLoop lB Bl k Qh R m).1 * b + toPoly (pdivmodLoop lB Bl k Qh R m).2.1 := by
  intro k
  induction k with
  | zero =>
    intro Qh R m hR h
    simp only [pdivmodLoop]
    refine ⟨by omega, by rw [pow_zero, mul_one], ?_⟩
    rw [h]; simp
  | succ k ih =>
    intro Qh R m hR h
    simp only [pdivmodLoop]
    obtain ⟨hlen, hstep⟩ := pstep_poly lB (R.getD (k + Bl.length) 0) Bl R k (by omega) rfl
    obtain ⟨h1, h2, h3⟩ := ih (R.getD (k + Bl.length) 0 :: Qh.map (fun q => q * lB)) _ (m * lB) hlen
      (by
        rw [hstep, toPoly_cons, toPoly_map_mul, ← hbpoly, C_mul]
        have : C m * C lB * a = C lB * (C m * a) := by ring
        rw [this, h, pow_succ]; ring)
    refine ⟨h1, ?_, h3⟩
    rw [h2, pow_succ]; ring

theorem degree_nil_lt (B : List K) (hb : toPoly B ≠ 0) : (toPoly ([] : List K)).degree < (toPoly B).degree := by
  rw [toPoly_nil, degree_zero]; exact bot_lt_iff_ne_bot.mpr (fun e => hb (degree_eq_bot.mp e))

theorem divisor_shape (B : List K) (hb : toPoly B ≠ 0) :
    (setdegree B).getD ((setdegree B).length - 1) 0 ≠ 0 ∧
    toPoly B = toPoly ((setdegree B).take ((setdegree B).length - 1))
      + X ^ ((setdegree B).length - 1) * C ((setdegree B).getD ((setdegree B).length - 1) 0) ∧
    (toPoly B).degree = (((setdegree B).length - 1 : ℕ) : WithBot ℕ) := by
  have hl := length_setdegree_pos B hb
  have hm := natDegree_toPoly B hb
  refine ⟨?_, ?_, ?_⟩
  · rw [← coeff_toPoly, toPoly_setdegree, ← hm, coeff_natDegree]; exact leadingCoeff_ne_zero.mpr hb
  · have e := toPoly_take_drop (setdegree B) ((setdegree B).length - 1)
    rw [drop_eq_singleton _ _ (by omega), toPoly_setdegree] at e
    rw [e]; simp
  · rw [degree_eq_natDegree hb, hm]

theorem pdivmod_spec (A B : List K) (hb : toPoly B ≠ 0) :
    C (pdivmod A B).2.2 * toPoly A = toPoly (pdivmod A B).1 * toPoly B + toPoly (pdivmod A B).2.1 ∧
    (toPoly (pdivmod A B).2.1).degree < (toPoly B).degree ∧ (pdivmod A B).2.2 ≠ 0 := by
  unfold pdivmod
  extract_lets An Bn dB r
  have tAn : toPoly An = toPoly A := toPoly_setdegree A
  have hbot : (toPoly ([] : List K)).degree < (toPoly B).degree := degree_nil_lt B hb
  by_cases hA : Model.Poly.degree A < 0
  · rw [if_pos hA]
    exact ⟨by simp [(degree_neg_iff A).mp hA], hbot, one_ne_zero⟩
  by_cases hB0 : Model.Poly.degree B = 0
  · rw [if_neg hA, if_pos hB0]
    obtain ⟨c, hc0, hc, hBc⟩ := setdegree_of_degree_zero B hB0
    simp only [Bn, hc, List.getD_cons_zero, tAn, toPoly_nil, add_zero]
    exact ⟨by rw [hBc]; ring, hbot, hc0⟩
  by_cases hgt : Model.Poly.degree B > Model.Poly.degree A
  · rw [if_neg hA, if_neg hB0, if_pos hgt]
    exact ⟨by simp [tAn], by rw [tAn]; exact degree_lt_of_model A B hb hgt, one_ne_zero⟩
  rw [if_neg hA, if_neg hB0, if_neg hgt]
  obtain ⟨hlB, hshape, hdeg⟩ := divisor_shape B hb
  have lA := length_setdegree_pos A (fun h0 => hA ((degree_neg_iff A).mpr h0))
  have lB := length_setdegree_pos B hb
  unfold Model.Poly.degree at hgt hB0
  have hlt : (Bn.take dB).length = dB := by simp only [List.length_take, dB, Bn]; omega
  obtain ⟨h1, h2, h3⟩ := pdivmodLoop_spec (Bn.getD dB 0) (Bn.take dB) (toPoly A) (toPoly B)
    (by rw [hlt]; exact hshape) (An.length - Bn.length + 1) [] An 1
    (by rw [hlt]; simp only [dB, An, Bn]; omega) (by simp [tAn])
  refine ⟨?_, ?_, ?_⟩
  · simp only [toPoly_setdegree]; exact h3
  · simp only [toPoly_setdegree]
    exact degree_lt_of_length_le _ _ dB hdeg (by rw [h1, hlt])
  · show r.2.2 ≠ 0
    simp only [r]; rw [h2, one_mul]; exact pow_ne_zero _ hlB

/-! ### `pmod` -/

theorem toPoly_scaleTimes (lB : K) (s : Nat) (R : List K) :
    toPoly (scaleTimes lB s R) = toPoly R * C (lB ^ s) := by
  induction s generalizing R with
  | zero => simp [scaleTimes]
  | succ s ih => simp only [scaleTimes]; rw [ih, toPoly_mulVal, pow_succ, C_mul]; ring

theorem npow_eq (x : K) (n : Nat) : npow x n = x ^ n := by
  induction n with
  | zero => simp [npow]
  | succ n ih => simp only [npow, ih, pow_succ]

theorem pmodLoop_spec (lB : K) (Bl : List K) (a b : K[X]) (hbpoly : b = toPoly Bl + X ^ Bl.length * C lB) :
    ∀ (fuel s : Nat) (R : List K) (e : Nat), b ∣ C (lB ^ e) * a - toPoly R →
      (setdegree R).length ≤ Bl.length + s → (setdegree R).length ≤ fuel + Bl.length →
      (pmodLoop lB Bl fuel s R).1.length ≤ Bl.length ∧
      ∃ e', e' + (pmodLoop lB Bl fuel s R).2 = e + s ∧
        b ∣ C (lB ^ e') * a - toPoly (pmodLoop lB Bl fuel s R).1 := by
  intro fuel
  induction fuel with
  | zero =>
    intro s R e h hs hf
    simp only [pmodLoop]
    exact ⟨by omega, e, rfl, by rw [toPoly_setdegree]; exact h⟩
  | succ fuel ih =>
    intro s R e h hs hf
    simp only [pmodLoop]
    split
    · next hge =>
      -- `k` rounds are left after this one; `c` is the leading coefficient of the remainder
      obtain ⟨k, hk⟩ : ∃ k, (setdegree R).length - 1 - Bl.length = k := ⟨_, rfl⟩
      obtain ⟨c, hc⟩ : ∃ c, (setdegree R).getD ((setdegree R).length - 1) 0 = c := ⟨_, rfl⟩
      rw [hk, hc]
      obtain ⟨hlen, hstep⟩ := pstep_poly lB c Bl (setdegree R) k (by omega) (by rw [← hc]; congr 1; omega)
      obtain ⟨h1, e', he', hd⟩ := ih (s - 1) _ (e + 1)
        (by
          rw [hstep, toPoly_setdegree, ← hbpoly]
          have : C (lB ^ (e + 1)) * a - (C lB * toPoly R - C c * X ^ k * b)
              = C lB * (C (lB ^ e) * a - toPoly R) + C c * X ^ k * b := by
            rw [pow_succ, C_mul]; ring
          rw [this]
          exact dvd_add (dvd_mul_of_dvd_right h _) (dvd_mul_left _ _))
        ((length_setdegree_le _).trans (by rw [hlen]; omega)) ((length_setdegree_le _).trans (by rw [hlen]; omega))
      exact ⟨h1, e', by omega, hd⟩
    · next hlt =>
      exact ⟨by show (setdegree R).length ≤ Bl.length; omega, e, rfl, by rw [toPoly_setdegree]; exact h⟩

theorem pmod_spec (A B : List K) (hb : toPoly B ≠ 0) :
    toPoly B ∣ C (pmod A B).2 * toPoly A - toPoly (pmod A B).1 ∧
    (toPoly (pmod A B).1).degree < (toPoly B).degree ∧ (pmod A B).2 ≠ 0 := by
  unfold pmod
  extract_lets An Bn dB lB steps r
  have tAn : toPoly An = toPoly A := toPoly_setdegree A
  have hbot : (toPoly ([] : List K)).degree < (toPoly B).degree := degree_nil_lt B hb
  by_cases hA : Model.Poly.degree A < 0
  · rw [if_pos hA]
    exact ⟨by simp [(degree_neg_iff A).mp hA], hbot, one_ne_zero⟩
  by_cases hB0 : Model.Poly.degree B = 0
  · rw [if_neg hA, if_pos hB0]
    obtain ⟨c, hc0, hc, hBc⟩ := setdegree_of_degree_zero B hB0
    simp only [Bn, hc, List.getD_cons_zero, toPoly_nil, sub_zero]
    exact ⟨by rw [hBc]; exact dvd_mul_right _ _, hbot, hc0⟩
  by_cases hgt : Model.Poly.degree B > Model.Poly.degree A
  · rw [if_neg hA, if_neg hB0, if_pos hgt]
    exact ⟨by simp [tAn], by rw [tAn]; exact degree_lt_of_model A B hb hgt, one_ne_zero⟩
  rw [if_neg hA, if_neg hB0, if_neg hgt]
  obtain ⟨hlB, hshape, hdeg⟩ := divisor_shape B hb
  have lA := length_setdegree_pos A (fun h0 => hA ((degree_neg_iff A).mpr h0))
  have lBp := length_setdegree_pos B hb
  unfold Model.Poly.degree at hgt hB0
  have hlt : (Bn.take dB).length = dB := by simp only [List.length_take, dB, Bn]; omega
  have hAn : (setdegree An).length ≤ An.length := length_setdegree_le An
  obtain ⟨h1, e', he', hd⟩ := pmodLoop_spec lB (Bn.take dB) (toPoly A) (toPoly B)
    (by rw [hlt]; exact hshape) (An.length + 1) steps An 0
    (by simp [tAn]) (by rw [hlt]; simp only [steps, dB, An, Bn] at hAn ⊢; omega) (by omega)
  refine ⟨?_, ?_, ?_⟩
  · show toPoly B ∣ C (npow lB steps) * toPoly A - toPoly (setdegree (scaleTimes lB r.2 r.1))
    rw [toPoly_setdegree, toPoly_scaleTimes, npow_eq]
    have hs : steps = e' + r.2 := by simp only [r]; omega
    have : C (lB ^ steps) * toPoly A - toPoly r.1 * C (lB ^ r.2)
        = C (lB ^ r.2) * (C (lB ^ e') * toPoly A - toPoly r.1) := by
      rw [hs, pow_add, C_mul]; ring
    rw [this]; exact dvd_mul_of_dvd_right hd _
  · show (toPoly (setdegree (scaleTimes lB r.2 r.1))).degree < _
    rw [toPoly_setdegree, toPoly_scaleTimes]
    refine lt_of_le_of_lt (degree_mul_le _ _) ?_
    have hC : (C (lB ^ r.2) : K[X]).degree = 0 := degree_C (pow_ne_zero _ hlB)
    rw [hC, add_zero]
    exact degree_lt_of_length_le _ _ dB hdeg (by rw [← hlt]; exact h1)
  · show npow lB steps ≠ 0
    rw [npow_eq]; exact pow_ne_zero _ hlB

end Givaro.Lemmas.Poly
