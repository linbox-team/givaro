/- C12 — the loops that divide a factor `p` out (`divLoop`, `multLoop`, `twoLoop`, `eratStrip`, `millerSplit`): every `u > 0` is
   `r · p^k` with `p ∤ r`, and on an argument of that form each loop is a closed formula, stated next to the loop's other lemmas:
   `divLoop_pow`, `multLoop_pow` (`twoLoop` is `multLoop 2`: `twoLoop_eq_multLoop`), `eratStrip_pow`, `millerSplit_eq`. -/
import Mathlib.Algebra.Order.Ring.Nat
import Mathlib.Tactic.Ring
namespace Givaro.Lemmas.Primes

theorem strip_step {p r : Nat} (hp : 2 ≤ p) (hr : ¬ p ∣ r) (k : Nat) :
    r * p ^ (k + 1) % p = 0 ∧ r * p ^ (k + 1) / p = r * p ^ k ∧ r * p ^ k < r * p ^ (k + 1) := by
  have hr0 : 0 < r := Nat.pos_of_ne_zero fun h => hr (h ▸ dvd_zero p)
  rw [pow_succ, ← Nat.mul_assoc]
  exact ⟨Nat.mul_mod_left _ _, Nat.mul_div_cancel _ (by omega),
    (Nat.lt_mul_iff_one_lt_right (Nat.mul_pos hr0 (Nat.pow_pos (by omega)))).2 hp⟩

theorem exists_split {p u : Nat} (hp : 2 ≤ p) (hu : 0 < u) : ∃ r k, ¬ p ∣ r ∧ u = r * p ^ k := by
  induction u using Nat.strong_induction_on with
  | _ u ih =>
    by_cases hd : p ∣ u
    · obtain ⟨m, rfl⟩ := hd
      have hm : 0 < m := Nat.pos_of_mul_pos_left hu
      obtain ⟨r, k, hr, e⟩ := ih m ((Nat.lt_mul_iff_one_lt_left hm).2 hp) hm
      exact ⟨r, k + 1, hr, by rw [e, pow_succ]; ring⟩
    · exact ⟨u, 0, hd, by rw [pow_zero, Nat.mul_one]⟩

end Givaro.Lemmas.Primes
