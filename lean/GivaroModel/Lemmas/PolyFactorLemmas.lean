/-
C09 — helper lemmas about the search loops of `Model/PolyFactor.lean` (shape of the candidates, `firstThat`).
`StoredMonic` and the lemmas here serve the proofs of Props/C09.lean; none of them is part of the model, although they share its namespace.
-/
import GivaroModel.Model.PolyFactor
namespace Givaro.Model.PolyFactor
set_option linter.unusedSectionVars false

section
variable {α : Type} [DecidableEq α] (F : FOps α)

/-- stored as `n` coefficients followed by `one`: the form in which the searches build their candidates, and the one `norm` leaves alone -/
def StoredMonic (n : Nat) (R : Poly α) : Prop := ∃ l : Poly α, l.length = n ∧ R = l ++ [F.one]

theorem firstThat_spec (test : Poly α → Bool) (cs : List (Poly α)) (R : Poly α)
    (h : firstThat test cs = some R) : R ∈ cs ∧ test R = true := by
  induction cs with
  | nil => simp [firstThat] at h
  | cons c cs ih =>
    unfold firstThat at h
    split at h
    · next hc => cases h; exact ⟨List.mem_cons_self, hc⟩
    · obtain ⟨h1, h2⟩ := ih h
      exact ⟨List.mem_cons_of_mem _ h1, h2⟩

theorem storedMonic_xpow (n : Nat) : StoredMonic F n (xpow F n) := ⟨_, List.length_replicate, rfl⟩

theorem storedMonic_setCoef {n i : Nat} {R : Poly α} (a : α) (hi : i < n) : StoredMonic F n R → StoredMonic F n (setCoef R i a)
  | ⟨l, hl, e⟩ => ⟨l.set i a, by rw [List.length_set, hl], by rw [e, setCoef, List.set_append_left _ _ (by omega)]⟩

theorem storedMonic_set_last {n : Nat} {R : Poly α} (h : R.length = n + 1) : StoredMonic F n (setCoef R n F.one) :=
  ⟨R.take n, by rw [List.length_take]; omega, by
    rw [setCoef, List.set_eq_take_append_cons_drop, if_pos (by omega), List.drop_eq_nil_of_le (by omega)]⟩

theorem storedMonic_randomials (stream : List (Poly α)) (n : Nat) :
    ∀ R ∈ randomials F n stream, StoredMonic F n R := by
  intro R hR
  obtain ⟨r, -, rfl⟩ := List.mem_map.1 hR
  exact storedMonic_set_last F (by simp only [List.length_append, List.length_take, List.length_replicate]; omega)

theorem storedMonic_candidates (elems : List α) (stream : List (Poly α)) {n : Nat} (hn : 1 ≤ n) (d0 : Nat) :
    ∀ R ∈ binomials F elems n ++ trinomials F elems n d0 ++ randomials F n stream, StoredMonic F n R := by
  intro R hm
  rcases List.mem_append.1 hm with hm | hm
  · simp only [binomials, trinomials, List.mem_append, List.mem_map, List.mem_flatMap, List.mem_range] at hm
    rcases hm with ⟨a, -, rfl⟩ | ⟨i, hi, b, -, a, -, rfl⟩
    · exact storedMonic_setCoef F a (by omega) (storedMonic_xpow F n)
    · -- the middle degree `d0 + i ≤ n / 2` is below `n`
      have : n / 2 < n := Nat.div_lt_self (by omega) (by omega)
      exact storedMonic_setCoef F a (by omega) (storedMonic_setCoef F b (by omega) (storedMonic_xpow F n))
  · exact storedMonic_randomials F stream n R hm

theorem norm_append_singleton (l : Poly α) (a : α) (ha : a ≠ F.zero) : norm F (l ++ [a]) = l ++ [a] := by
  induction l with
  | nil => simp [norm, ha]
  | cons b l ih =>
    simp only [List.cons_append, norm, ih]
    simp

theorem StoredMonic.shape {n : Nat} {R : Poly α} : StoredMonic F n R → R.length = n + 1 ∧ R[n]? = some F.one
  | ⟨l, hl, e⟩ => by subst e hl; simp

theorem degree_of_storedMonic (hone : F.one ≠ F.zero) {n : Nat} {R : Poly α} : StoredMonic F n R → degree F R = n
  | ⟨l, hl, e⟩ => by rw [e, degree, norm_append_singleton F _ _ hone, List.length_append, hl]; simp

end
end Givaro.Model.PolyFactor
