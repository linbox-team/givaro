/-
C19 — text output read back yields the same value.

Every theorem is about `Model/Text.lean`, the executable model of the code as it is (tied to /repo by the
correspondence run of `./check C19`), for *all* values and *all* following text — no bound on the number of
digits, on the length of a sequence or on what follows.

Vocabulary (definitions in Model/Text.lean, Spec/TextSpec.lean, Lemmas/TextLemmas.lean, Lemmas/TextAux.lean):
  `after rest`            stream positioned in front of `rest`, not failed, eofbit exactly when `rest` is empty
  `startsWithDigit rest`  the following text would continue the number (excluded: no format could tell them apart)
  `Canonical (n, d)`      `0 < d` and `gcd n d = 1`: the form in which the library keeps every Rational
  `looksLikeDen rest`     the first non-blank character of `rest` is `/` (excluded after an integer-valued rational)
  `ratAfter d rest`       where the Rational reader leaves the stream: `after rest`, except that after an integer (`d = 1`)
                          followed by blanks the blanks are consumed too (`afterBlanks`) — the known finding
  `sepOk`, `sepOkRat`     admissible separators: non-empty, not starting with a digit (not looking like a denominator)
  `RepOk R rep`           `rep` is a representative the ring prints: `[0,p)`, balanced `[p/2-p+1, p/2]`, any integer for ZRing
  `startsFloatish rest`   `rest` starts with `.`, `e` or `E` (would continue a floating literal; excluded for `operator>>(double&)`)
  `polyWrite x R`         `Poly1Dom::write` on the coefficient vector `R` as stored (`polyNorm` = `setdegree`, `polyShow` = the body)
  `parsePoly x t`         reference parser (Spec/TextSpec.lean) of the infix form for the indeterminate name `x`; the library has none
  `nameOk x`              the name is non-empty and does not start with a digit or `(`
-/
import GivaroModel.Model.Text
import GivaroModel.Spec.TextSpec
import GivaroModel.Lemmas.TextLemmas
import GivaroModel.Lemmas.TextRecInt
import GivaroModel.Lemmas.TextAux
import GivaroModel.Lemmas.TextPoly
namespace Givaro.Props.C19
open Givaro.Model.Text Givaro.Spec.Text Givaro.Lemmas.Text

/-! ### Integer -/

/-- `os << n` then `is >> b`: for every integer `n` (zero, negative, any number of limbs), whatever `b` held and
    whatever follows the number — provided it does not start with a digit — the value read is `n`, the stream has not
    failed and exactly the characters of the number were consumed. -/
theorem int_round_trip (n b : Int) (rest : List Char) (h : startsWithDigit rest = false) :
    intRead b (IStream.ofList (showInt n ++ rest)) = (n, after rest) := by
  simp [intRead, gmpRead_numeral (numeral_showInt n rest h)]

example : intRead 77 (IStream.ofList (showInt (-120) ++ ", 5".toList)) = (-120, after ", 5".toList) :=
  int_round_trip _ _ _ (by decide)

/-- the same through the Boolean checker `roundTripOk` of Spec/TextSpec.lean -/
theorem int_round_trip_ok (n b : Int) (rest : List Char) (h : startsWithDigit rest = false) :
    let r := intRead b (IStream.ofList (showInt n ++ rest))
    roundTripOk n rest ⟨r.1, r.2.fail, r.2.buf⟩ = true := by
  simp [int_round_trip n b rest h, roundTripOk, after]

example : startsWithDigit "/7".toList = false := by decide

/-- the hypothesis is needed: followed by a digit the number continues (not a defect: no format could do better) -/
theorem int_round_trip_needs_separator :
    ¬ ∀ (n : Int) (rest : List Char), (intRead 0 (IStream.ofList (showInt n ++ rest))).1 = n := by
  intro h
  have := h 1 ['2']
  revert this
  decide

/-! ### sequences of Integers -/

/-- any number of integers written with a separator whose first character is not a digit (`" "`, `"\n"`, `", "`,
    `";"`, …) are read back in sequence — each read leaves the stream exactly in front of the separator, which the
    caller consumes — and the last read ends with eofbit and without failbit. -/
theorem int_sequence_round_trip (sep : List Char) (hsep : sepOk sep = true) (ns : List Int) (hne : ns ≠ []) :
    intReadSeq sep.length ns.length (IStream.ofList (joinSep sep (ns.map showInt))) = (ns, after []) := by
  induction ns with
  | nil => exact absurd rfl hne
  | cons x xs ih =>
    cases xs with
    | nil =>
      have := int_round_trip x 0 [] rfl
      simp only [List.append_nil] at this
      simp [intReadSeq, joinSep, this]
    | cons y ys =>
      have h1 := int_round_trip x 0 (sep ++ joinSep sep ((y :: ys).map showInt)) (startsWithDigit_append _ _ hsep)
      show intReadSeq sep.length (ys.length + 2)
        (IStream.ofList (showInt x ++ sep ++ joinSep sep ((y :: ys).map showInt))) = _
      rw [intReadSeq_more, List.append_assoc, h1, after_cons _ _ hsep, dropSep_append]
      exact congrArg (fun r => (x :: r.1, r.2)) (ih (List.cons_ne_nil y ys))

example : sepOk ", ".toList = true := by decide

/-! ### Rational -/

/-- `os << q` then `is >> r` for every canonical rational `q = n/d`: negative numerators, integers (printed without
    denominator), end of stream right after the numerator or the denominator, any following text that does not start
    with a digit and — after an integer — does not look like a denominator.  The value read is `q`, the stream has
    not failed, and the stream is left at `ratAfter d rest` (which is `rest` itself unless `d = 1` and `rest` starts
    with a blank: see `rat_exact_consumption` / `rat_exact_consumption_counterexample`). -/
theorem rat_round_trip (n d : Int) (hq : Canonical (n, d)) (rest : List Char) (h : startsWithDigit rest = false)
    (hden : d > 1 ∨ looksLikeDen rest = false) :
    ratRead (IStream.ofList (showRat (n, d) ++ rest)) = (some (n, d), ratAfter d rest) := by
  by_cases hd : d > 1
  · -- "n/d"
    have h1 := int_round_trip n 0 ('/' :: (showInt d ++ rest)) (by show isDigit '/' = false; decide)
    have h2 := int_round_trip d 1 rest h
    have ht : showRat (n, d) ++ rest = showInt n ++ '/' :: (showInt d ++ rest) := by simp [showRat, hd]
    rw [ht]
    simp only [ratRead, ratReadGen, h1, after]
    simp [getc, IStream.good, blanks, blankG_nonblank, ratAfter, hd]
    rw [show (⟨showInt d ++ rest, false, false⟩ : IStream) = IStream.ofList (showInt d ++ rest) from rfl, h2]
    simp [ratMk_canonical n d hq, after]
  · -- integer printed without denominator
    have hd1 : d = 1 := by have := hq.1; omega
    subst hd1
    have hl : looksLikeDen rest = false := hden.resolve_left hd
    have h1 := int_round_trip n 0 rest h
    have ht : showRat (n, 1) ++ rest = showInt n ++ rest := by simp [showRat]
    rw [ht]
    simp only [ratRead, ratReadGen, h1]
    cases rest with
    | nil => simp [after, IStream.good, ratAfter, ratOfInt]
    | cons r rs =>
      by_cases hr : r = ' '
      · subst hr
        obtain ⟨hb1, hb2⟩ := blankG_blank rs hl
        simp [after, IStream.good, getc, blanks, hb1, hb2, ratAfter, ratMk_canonical n 1 hq]
      · have hsl : r ≠ '/' := by simpa [looksLikeDen_nonblank rs hr] using hl
        simp [after, IStream.good, getc, blanks, blankG_nonblank r rs hr, hsl, putback, ratAfter, hr,
          ratMk_canonical n 1 hq]

example : Canonical (-3, 7) := by decide

example : Canonical (0, 1) := by decide

/-- the value is reproduced and the stream never fails (in particular not on `"3 "`: the defect repaired by
    fixes/C19_1.patch) -/
theorem rat_round_trip_value (n d : Int) (hq : Canonical (n, d)) (rest : List Char) (h : startsWithDigit rest = false)
    (hden : d > 1 ∨ looksLikeDen rest = false) :
    let r := ratRead (IStream.ofList (showRat (n, d) ++ rest))
    r.1 = some (n, d) ∧ r.2.fail = false := by
  rw [rat_round_trip n d hq rest h hden]
  exact ⟨rfl, ratAfter_fail d rest⟩

/-- exactly the characters of the number are consumed whenever the denominator is printed, or the following text
    does not start with a blank -/
theorem rat_exact_consumption (n d : Int) (hq : Canonical (n, d)) (rest : List Char) (h : startsWithDigit rest = false)
    (hden : d > 1 ∨ looksLikeDen rest = false) (hb : d > 1 ∨ rest.head? ≠ some ' ') :
    (ratRead (IStream.ofList (showRat (n, d) ++ rest))).2.buf = rest := by
  rw [rat_round_trip n d hq rest h hden]
  exact ratAfter_buf d rest hb

/-- KNOWN FINDING C19-rational-eats-blanks: without that restriction the statement is false — after the integer `3`
    followed by `" x"` the reader has also consumed the blank. -/
theorem rat_exact_consumption_counterexample :
    ¬ ∀ (n d : Int) (rest : List Char), Canonical (n, d) → startsWithDigit rest = false → (d > 1 ∨ looksLikeDen rest = false) →
        (ratRead (IStream.ofList (showRat (n, d) ++ rest))).2.buf = rest := by
  intro hall
  have h1 := hall 3 1 [' ', 'x'] (by decide) (by decide) (Or.inr (by decide))
  rw [rat_round_trip 3 1 (by decide) [' ', 'x'] (by decide) (Or.inr (by decide))] at h1
  revert h1
  decide

/-- record of the defect repaired by fixes/C19_1.patch: the loop of the pinned tree failed the stream on `"3 "` -/
theorem ratReadOld_fails_on_trailing_blank :
    (ratReadOld (IStream.ofList (showRat (3, 1) ++ [' ']))).2.fail = true := by decide

/-! ### sequences of Rationals -/

/-- any number of canonical rationals — integers printed without denominator among them — written with a separator
    that does not start with a digit and does not look like a denominator are read back in sequence; between two
    reads the caller consumes the separator, tolerating the blanks that the reader has already eaten (known finding
    C19-rational-eats-blanks); the last read ends with eofbit, without failbit. -/
theorem rat_sequence_round_trip (sep : List Char) (hsep : sepOkRat sep = true) (qs : List (Int × Int))
    (hq : ∀ q ∈ qs, Canonical q) (hne : qs ≠ []) :
    ratReadSeq false sep qs.length (IStream.ofList (joinSep sep (qs.map showRat))) = (qs.map some, after []) := by
  have hsep' : sepOk sep = true := by
    simp only [sepOkRat, Bool.and_eq_true] at hsep; exact hsep.1
  induction qs with
  | nil => exact absurd rfl hne
  | cons x xs ih =>
    obtain ⟨n, d⟩ := x
    have hx : Canonical (n, d) := hq (n, d) (by simp)
    cases xs with
    | nil =>
      have h1 := rat_round_trip n d hx [] rfl (Or.inr rfl)
      rw [List.append_nil, ratAfter_nil] at h1
      simp only [ratRead] at h1
      simp [ratReadSeq, joinSep, h1]
    | cons y ys =>
      obtain ⟨j0, jl, hJ, hjn⟩ := joinSep_head sep y ys
      have hsd : startsWithDigit (sep ++ joinSep sep ((y :: ys).map showRat)) = false := startsWithDigit_append _ _ hsep'
      have hlk : looksLikeDen (sep ++ joinSep sep ((y :: ys).map showRat)) = false := by
        rw [hJ]; exact looksLikeDen_sep sep j0 jl hsep hjn
      have h1 := rat_round_trip n d hx (sep ++ joinSep sep ((y :: ys).map showRat)) hsd (Or.inr hlk)
      -- the separator is consumed, whatever the reader left of it
      have hdrop := dropSepTol_ratAfter sep hsep' d j0 jl hjn.1
      rw [← hJ] at hdrop
      show ratReadSeq false sep (ys.length + 2)
        (IStream.ofList (showRat (n, d) ++ sep ++ joinSep sep ((y :: ys).map showRat))) = _
      rw [ratReadSeq_more, List.append_assoc, h1, hdrop]
      exact congrArg (fun r => (some (n, d) :: r.1, r.2)) (ih (fun q hq' => hq q (by simp [hq'])) (List.cons_ne_nil y ys))

example : sepOkRat " ; ".toList = true := by decide

/-! ### RecInt -/

/-- `display_dec` (after fixes/C19_2.patch: no 1024-digit buffer) prints the decimal representation of every value -/
theorem ruShow_eq (a : Nat) : ruShow a = decDigits a := ruShowGen_eq false a nofun

/-- the pinned code was right below 10^1024, i.e. for K ≤ 11 (not at 10^1024: `recint_pinned_counterexample`) -/
theorem ruShow_pinned_eq (a : Nat) (h : a < 10 ^ 1024) : ruShowGen true a = decDigits a := ruShowGen_eq true a (fun _ => h)

/-- `os << a` then `is >> b` for `ruint<K>`, every K ≥ 6 and every value of the type (display_dec after
    fixes/C19_2.patch; K = 6 is the native `uint64_t` printer) -/
theorem recint_round_trip (K : Nat) (hK : 6 ≤ K) (a : Nat) (ha : a < 2 ^ 2 ^ K) (rest : List Char)
    (h : startsWithDigit rest = false) :
    ruintRead K (IStream.ofList (ruintShow K a ++ rest)) = (a, after rest) := by
  simp [ruintRead, ruintShow, ruintShowGen_eq false K a nofun, int_round_trip (a : Int) 0 rest h, mpzToRuint_nat K hK a ha]

example : (77 : Nat) < 2 ^ 2 ^ 6 := by decide

/-- the pinned `display_dec` (1024-character buffer) already satisfied it for K ≤ 11 … -/
theorem recint_round_trip_pinned_le11 (K : Nat) (hK : 6 ≤ K) (hK' : K ≤ 11) (a : Nat) (ha : a < 2 ^ 2 ^ K) (rest : List Char)
    (h : startsWithDigit rest = false) :
    ruintRead K (IStream.ofList (ruintShowGen true K a ++ rest)) = (a, after rest) := by
  have hlt : a < 10 ^ 1024 := by
    have h2 : 2 ^ 2 ^ K ≤ 2 ^ 2 ^ 11 := Nat.pow_le_pow_right (by decide) (Nat.pow_le_pow_right (by decide) hK')
    have h3 : (2 : Nat) ^ 2 ^ 11 < 10 ^ 1024 := by decide +kernel
    exact Nat.lt_trans (Nat.lt_of_lt_of_le ha h2) h3
  simp [ruintRead, ruintShowGen_eq true K a (fun _ => hlt), int_round_trip (a : Int) 0 rest h, mpzToRuint_nat K hK a ha]

/-- … and failed at K = 12: 10^1024 was printed as 1024 zeros (the defect repaired by fixes/C19_2.patch) -/
theorem recint_pinned_counterexample :
    (ruintRead 12 (IStream.ofList (ruintShowGen true 12 (10 ^ 1024)))).1 ≠ 10 ^ 1024 := by decide +kernel

/-- `rint<K>`: every value of the type, `-2^(2^K-1)` included -/
theorem recint_signed_round_trip (K : Nat) (hK : 6 ≤ K) (a : Int) (hlo : -(2 ^ (2 ^ K - 1) : Nat) ≤ a)
    (hhi : a < (2 ^ (2 ^ K - 1) : Nat)) (rest : List Char) (h : startsWithDigit rest = false) :
    rintRead K (IStream.ofList (rintShow K a ++ rest)) = (a, after rest) := by
  rw [rintShow_eq K a ⟨hlo, hhi⟩]
  simp only [rintRead, int_round_trip a 0 rest h]
  rw [mpzToRint_eq K hK, toSigned_toPattern K a ⟨hlo, hhi⟩]

/-! ### ring elements -/

/-- rings that read through `Integer` (all `Modular<T>`, Montgomery, Modular<Log16>, ZRing): every element, any
    following text that does not start with a digit -/
theorem element_round_trip_gmp (R : RingIO) (hR : R.reader = .gmp) (rep : Int) (hrep : RepOk R rep)
    (hex : R.exact = 0 ∨ rep.natAbs ≤ 2 ^ R.exact) (rest : List Char) (h : startsWithDigit rest = false) :
    elemRead R (IStream.ofList (elemShow rep ++ rest)) = some (rep, after rest) := by
  have hx : ¬ (R.exact ≠ 0 ∧ rep.natAbs > 2 ^ R.exact) := by omega
  simp [elemRead, hR, elemShow, int_round_trip rep 0 rest h, initNorm_rep R rep hrep, hx]

example : RepOk ⟨.gmp, false, 101, 0, 0⟩ 100 := Or.inr ⟨by decide, by decide⟩

/-- rings that read through a native signed integer (`ModularBalanced<int32_t|int64_t>`, `ModularExtended`, `GFqDom`):
    every element whose representative fits the reader's type (and, for floating storage, its exact range) -/
theorem element_round_trip_sint (R : RingIO) (w : Nat) (hw : 0 < w) (hR : R.reader = .sint w) (rep : Int) (hrep : RepOk R rep)
    (hlo : -(2 ^ (w - 1) : Int) ≤ rep) (hhi : rep < 2 ^ (w - 1)) (hex : R.exact = 0 ∨ rep.natAbs ≤ 2 ^ R.exact)
    (rest : List Char) (h : startsWithDigit rest = false) :
    elemRead R (IStream.ofList (elemShow rep ++ rest)) = some (rep, after rest) := by
  have hx : ¬ (R.exact ≠ 0 ∧ rep.natAbs > 2 ^ R.exact) := by omega
  simp [elemRead, hR, elemShow, nativeRead_numeral (numeral_showInt rep rest h) w R.uninit hlo hhi, initNorm_rep R rep hrep, hx]

example : RepOk ⟨.sint 32, true, 101, 0, 0⟩ (-50) := Or.inr ⟨by decide, by decide⟩

/-- `ModularBalanced<float|double>` (writer since fixes/C19_3.patch prints the representative as an integer) -/
theorem element_round_trip_flt (R : RingIO) (m : Nat) (hR : R.reader = .flt m) (rep : Int) (hrep : RepOk R rep)
    (hm : rep.natAbs ≤ 2 ^ m) (rest : List Char) (h : startsWithDigit rest = false) (hf : startsFloatish rest = false) :
    elemRead R (IStream.ofList (elemShow rep ++ rest)) = some (rep, after rest) := by
  simp [elemRead, hR, elemShow, floatRead_numeral (numeral_showInt rep rest h) m hm hf, initNorm_rep R rep hrep]

/-! ### strings -/

/-- `mpz_set_str` accepts the printed form of every integer and returns it -/
theorem mpzSetStr_showInt (n : Int) : mpzSetStr (showInt n) = some n := by
  have := mpzSetStr_numeral (numeral_showInt n [] rfl)
  rwa [List.append_nil] at this

/-- `Integer(std::string(n).c_str()) == n` for every integer -/
theorem int_string_round_trip (n : Int) : intOfString (intToString n) = n := by
  simp [intOfString, intToString, mpzSetStr_showInt]

/-- `Rational(const char*)` on the printed form of every canonical rational -/
theorem rat_string_round_trip (n d : Int) (hq : Canonical (n, d)) : ratOfString (showRat (n, d)) = some (n, d) := by
  have := rat_round_trip n d hq [] rfl (Or.inr rfl)
  simp only [List.append_nil] at this
  simp [ratOfString, this]

/-! ### RecInt string constructors -/

/-- `ruint<K>(s)` on the printed form of every value of the type -/
theorem recint_string_round_trip (K : Nat) (hK : 6 ≤ K) (a : Nat) (ha : a < 2 ^ 2 ^ K) :
    ruintOfString K (ruintShow K a) = some a := by
  simp [ruintOfString, mpzClassOfString, ruintShow, ruintShowGen_eq false K a nofun, mpzSetStr_showInt, mpzToRuint_nat K hK a ha]

/-- `rint<K>(s)` on the printed form of every value of the type, negative ones and `-2^(2^K-1)` included
    (`mpz_to_ruint` stores a negative number as its two's complement) -/
theorem recint_signed_string_round_trip (K : Nat) (hK : 6 ≤ K) (a : Int) (hlo : -(2 ^ (2 ^ K - 1) : Nat) ≤ a)
    (hhi : a < (2 ^ (2 ^ K - 1) : Nat)) :
    rintOfString K (rintShow K a) = some a := by
  simp only [rintOfString, ruintOfString, mpzClassOfString, rintShow_eq K a ⟨hlo, hhi⟩, mpzSetStr_showInt, Option.map_some]
  rw [mpzToRuint_eq_toPattern K hK, toSigned_toPattern K a ⟨hlo, hhi⟩]

/-! ### polynomials (KNOWN FINDING C19-poly-format) -/

/-- the full statement — what is written is read back — is false: `X + 1` over Z/101 is written `1 + X`; the reader
    takes `1` for the degree, finds no coefficient and fails -/
theorem poly_round_trip_counterexample :
    ¬ ∀ (R : RingIO) (x : List Char) (P : List Int), polyNorm P = P → (∀ c ∈ P, RepOk R c) →
        ∃ s, polyRead R (IStream.ofList (polyShow x P)) = some (P, s) ∧ s.fail = false := by
  intro hall
  obtain ⟨s, hs, _⟩ := hall ⟨.gmp, false, 101, 0, 0⟩ ['X'] [1, 1] (by decide)
    (by intro c hc; simp at hc; subst hc; exact Or.inr ⟨by decide, by decide⟩)
  revert hs
  simp only [show polyRead ⟨.gmp, false, 101, 0, 0⟩ (IStream.ofList (polyShow ['X'] [1, 1]))
      = some ([0, 0], ⟨" X".toList, true, false⟩) from by decide]
  intro hs
  have h2 : ([0, 0] : List Int) = [1, 1] := congrArg Prod.fst (Option.some.inj hs)
  exact absurd h2 (by decide)

/-- why: whenever the constant coefficient is neither 0 nor 1 the written form starts with `(`, on which the
    reader's `i >> deg` fails — for every domain, indeterminate name and every other coefficient -/
theorem poly_read_rejects_written_form (R : RingIO) (x : List Char) (c0 : Int) (cs : List Int) (h0 : c0 ≠ 0) (h1 : c0 ≠ 1) :
    ∀ r, polyRead R (IStream.ofList (polyShow x (c0 :: cs))) = some r → r.2.fail = true := by
  intro r hr
  have hshow : ∃ l, polyShow x (c0 :: cs) = '(' :: l :=
    ⟨elemShow c0 ++ ')' :: polyTail x cs c0 1, by simp [polyShow, h0, h1]⟩
  obtain ⟨l, hl⟩ := hshow
  have hsp : isSpace '(' = false := by decide
  have hdg : isDigit '(' = false := by decide
  have hd : nativeRead true 64 R.uninit (IStream.ofList ('(' :: l)) = (0, ⟨'(' :: l, true, false⟩) := by
    simp [nativeRead, sentryWs, IStream.ofList, IStream.good, hsp, numGetInt, hdg]
  rw [hl] at hr
  simp only [polyRead, hd] at hr
  simp only [Int.toNat_zero, polyReadCoeffs, show ¬ ((0 : Int) < 0) by decide, ↓reduceIte] at hr
  cases he : elemRead R ⟨'(' :: l, true, false⟩ with
  | none => simp [he] at hr
  | some q =>
    have := elemRead_failed R rfl he
    simp [he] at hr
    subst hr
    simpa using this

/-! ### polynomials: the write half (well-formed, determined by the value, injective on values) -/

/-- the written text is a function of the *normalised* polynomial only: trailing zero coefficients of the stored vector
    (a vector filled by hand, the result of the library's own `read` of `2 101 1 1` over Z/101, …) never show -/
theorem poly_write_normalised (x : List Char) (R : List Int) : polyWrite x R = polyWrite x (polyNorm R) := by
  rw [poly_write_eq, poly_write_eq, polyNorm_idem]

/-- … and it is well-formed: for every stored coefficient vector (any integers: all rings' representatives, any length,
    any number of trailing zeros) and every indeterminate name not starting with a digit or `(`, the reference parser of
    the infix form reads the written text back to exactly the normalised polynomial -/
theorem poly_write_parse (x : List Char) (hx : nameOk x = true) (R : List Int) :
    parsePoly x (polyWrite x R) = some (polyNorm R) := by
  rw [poly_write_eq]
  exact parsePoly_polyShow x hx (polyNorm R) (polyNorm_Norm R)

example : nameOk "Y1".toList = true := by decide

/-- hence `write` is injective on values: equal texts come from equal polynomials -/
theorem poly_write_injective (x : List Char) (hx : nameOk x = true) (P Q : List Int)
    (h : polyWrite x P = polyWrite x Q) : polyNorm P = polyNorm Q := by
  have hp := poly_write_parse x hx P
  rw [h, poly_write_parse x hx Q] at hp
  exact (Option.some.inj hp).symm

/-- the restriction on the name is needed: with the indeterminate called `1`, the polynomials `1` and `X` are written alike -/
theorem poly_write_name_hypothesis_needed :
    ¬ ∀ (x : List Char) (P Q : List Int), x ≠ [] → polyWrite x P = polyWrite x Q → polyNorm P = polyNorm Q := by
  intro h
  have := h ['1'] [1] [0, 1] (by simp) (by decide)
  revert this
  decide

end Givaro.Props.C19
