/-
C13 — number-theoretic functions and modular square roots match their definitions.

Theorems about the model `Model/NumTheo.lean` (a transcription of givintnumtheo.inl / givintsqrootmod.inl /
`logp` with the repairs fixes/C13_1..5, which /repo carries).  The GMP primitives are modelled; where a theorem needs
the *contract* of one of them at a call site (`mpz_invert` returns the inverse of an invertible element,
`mpz_legendre` never answers -1 on a residue) the contract is an explicit hypothesis.  These hypotheses speak of the executable
stand-ins `invmod`, `legendre` of the model; that the stand-ins meet them is proved nowhere (in particular not for `m ≤ 0`).
Random draws are universally quantified (`rnd`).  All statements are for every input, modulus and exponent (no size bound).
-/
import GivaroModel.Lemmas.NumTheoLemmas
import GivaroModel.Lemmas.NumTheoOrder
import GivaroModel.Lemmas.NumTheoSqrt
import GivaroModel.Lemmas.NumTheoSqrtPrime
import GivaroModel.Lemmas.NumTheoPrimRoot
import Mathlib.NumberTheory.ArithmeticFunction.Moebius
import Mathlib.RingTheory.ZMod.UnitsCyclic
import GivaroModel.Spec.NumTheoSpec
namespace Givaro.Props.C13
open Givaro.Model.NumTheo Givaro.Lemmas.NumTheo Givaro.Spec.NumTheo

/-! ## modular exponentiation -/

/-- the model's `powmod` (stand-in for `mpz_powm`) is `a^e mod m` for every base, exponent and modulus -/
theorem powmod_exact (a : Int) (e : Nat) (m : Int) : powmod a e m = a ^ e % m := powmod_eq a e m

/-! ## liftings -/

/-- `sqroothensellift`: given `x^2 = a [p^k]` (the header's precondition) and `mpz_invert` returning the inverse of `2x` modulo `p^k`,
    the result is a root modulo `p^(2k)`.  `pk` is any non-zero modulus. -/
theorem hensel_step_exact (x a pk : Int) (hpk : pk ≠ 0)
    (hx : (x * x - a) % pk = 0)
    (hinv : (x * 2 * invmod (x * 2) pk - 1) % pk = 0) :
    (sqroothensellift x a pk * sqroothensellift x a pk - a) % (pk * pk) = 0 :=
  root_iff.mpr (sqroothensellift_sound x a pk hpk (root_iff.mp hx) hinv)

-- the model's `invmod` meets the hypotheses of `hensel_step_exact` at x = 1, a = 10, pk = 3, and those of the 2-adic lift
-- (`liftStep_sound` with `r = x`, `q = pk / 2` in `Lemmas/NumTheoSqrt.lean`) at x = 3, a = 17, pk = 8
example : ((1 : Int) * 1 - 10) % 3 = 0 ∧ ((1 : Int) * 2 * invmod (1 * 2) 3 - 1) % 3 = 0 := by decide +kernel
example : ((3 : Int) * 3 - 17) % 8 = 0 ∧ ((3 : Int) * invmod 3 (8 / 2) - 1) % (8 / 2) = 0 := by decide +kernel

/-! ## square roots modulo a prime -/

-- the hypotheses of `sqrootmodprime_root` (`Lemmas/NumTheoSqrtPrime.lean`) outside Müller's class, at p = 13, a = 4
example : (13 : Nat) % 16 ≠ 9 ∧ IsSquare ((4 : Int) : ZMod 13) := ⟨by decide, ⟨2, by decide⟩⟩

/-- the branch `p ≡ 3 (mod 4)`: `a^((p+1)/4)` is a root of a residue `a` -/
theorem sqrt_3mod4_exact (rnd : Nat → Int) (a : Int) (p : Nat) [Fact p.Prime] (h3 : p % 4 = 3)
    (hsq : IsSquare (a : ZMod p)) (res : Int) (h : sqrootmodprime rnd a p = some res) (hne : res ≠ -1) :
    (res * res - a) % (p : Int) = 0 :=
  sqrootmodprime_root rnd a (fun _ => hsq) (fun h9 => by omega) res h hne

/-- Atkin's branch `p ≡ 5 (mod 8)`, both sub-branches -/
theorem sqrt_5mod8_exact (rnd : Nat → Int) (a : Int) (p : Nat) [Fact p.Prime] (h5 : p % 8 = 5)
    (hsq : IsSquare (a : ZMod p)) (res : Int) (h : sqrootmodprime rnd a p = some res) (hne : res ≠ -1) :
    (res * res - a) % (p : Int) = 0 :=
  sqrootmodprime_root rnd a (fun _ => hsq) (fun h9 => by omega) res h hne

-- `sqrootmodprime rnd 2 3 = some (-1)` by `sqrootmodprime_reports_nonresidue`: the hypothesis of the next theorem can be met
example : ¬ ((2 : Int) % 3 = 0 ∨ (2 : Int) % 3 = 1) ∧ legendre (2 % 3) 3 = -1 := by decide +kernel

/-- `sqrootlinear` passes the report -1 of `sqrootmodprime` on (it does not lift it: fixes/C13_2) -/
theorem sqrootlinear_reports_nonresidue (rnd : Nat → Int) (a p : Int) (k : Nat)
    (h : sqrootmodprime rnd a p = some (-1)) : sqrootlinear rnd a p k = some (-1) :=
  sqrootlinear_eq k h

/-- `sqrootmodprime` is sound for every prime `p`: for every residue `a` and every sequence of random draws (non-zero modulo `p`,
    as `nonzerorandom(d, l)` with `2^l < p` produces), a returned value other than -1 squares to `a` modulo `p`.
    `hleg` is the contract of `mpz_legendre` (it is the Legendre symbol); it is only used for the draw accepted in Müller's branch. -/
theorem sqrootmodprime_sound (rnd : Nat → Int) (a : Int) (p : Nat) [hp : Fact p.Prime]
    (hsq : IsSquare (a : ZMod p))
    (hleg : ∀ d : Int, legendre d p = legendreSym p d) (hrnd : ∀ j, ((rnd j : Int) : ZMod p) ≠ 0)
    (res : Int) (h : sqrootmodprime rnd a p = some res) (hne : res ≠ -1) : (res * res - a) % (p : Int) = 0 :=
  sqrootmodprime_root rnd a (fun _ => hsq) (fun _ => ⟨hleg, hrnd⟩) res h hne

example : IsSquare ((4 : Int) : ZMod 41) ∧ (41 : Nat) % 16 = 9 := ⟨⟨2, by decide⟩, by decide⟩

/-- the form needed by `sqrootmodprimepower_sound` (`hprime`): under the `mpz_legendre` contract, for *every* `a'` (residue or not)
    a returned value other than -1 is a root — a non-residue is answered by -1 -/
theorem sqrootmodprime_sound_of_contract (rnd : Nat → Int) (p : Nat) [Fact p.Prime]
    (hleg : ∀ d : Int, legendre d p = legendreSym p d) (hrnd : ∀ j, ((rnd j : Int) : ZMod p) ≠ 0) :
    ∀ (a' r : Int), sqrootmodprime rnd a' p = some r → r ≠ -1 → (r * r - a') % (p : Int) = 0 := by
  intro a' r h hne
  refine sqrootmodprime_root rnd a' (fun hl => ?_) (fun _ => ⟨hleg, hrnd⟩) r h hne
  rwa [hleg, Ne, legendreSym.eq_neg_one_iff, ZMod.intCast_mod, not_not] at hl

/-- completeness of `sqrootmodprime`: for every prime `p` and every quadratic residue `a` the function returns a square root
    (never -1, never a divergence), provided the random generator produces, within the first `drawFuel` draws, a non-residue and a
    residue (the searches `while (legendre(nonzerorandom(…)) …)`); `hleg`: `mpz_legendre` is the Legendre symbol. -/
theorem sqrootmodprime_complete (rnd : Nat → Int) (a : Int) (p : Nat) [hp : Fact p.Prime]
    (hsq : IsSquare (a : ZMod p)) (hleg : ∀ d : Int, legendre d p = legendreSym p d)
    (hrnd : ∀ j, ((rnd j : Int) : ZMod p) ≠ 0)
    (hdrawN : ∃ j, j < drawFuel ∧ legendre (rnd j) p = -1) (hdrawR : ∃ j, j < drawFuel ∧ legendre (rnd j) p = 1) :
    ∃ res, sqrootmodprime rnd a p = some res ∧ res ≠ -1 ∧ (res * res - a) % (p : Int) = 0 := by
  have hp2 : 2 ≤ p := hp.out.two_le
  suffices hret : ∃ res, sqrootmodprime rnd a p = some res ∧ res ≠ -1 by
    obtain ⟨res, h, hne⟩ := hret
    exact ⟨res, h, hne, sqrootmodprime_sound rnd a p hsq hleg hrnd res h hne⟩
  by_cases h01 : a % (p : Int) = 0 ∨ a % (p : Int) = 1
  · exact ⟨_, sqrootmodprime_early h01, by omega⟩
  have hnl : legendre (a % (p : Int)) p ≠ -1 := by
    rw [hleg, Ne, legendreSym.eq_neg_one_iff, ZMod.intCast_mod]; exact not_not.mpr hsq
  obtain ⟨res, h, hpos⟩ := sqrootmodprime_returns rnd a p hsq hleg h01 hnl hdrawN hdrawR
  refine ⟨res, h, fun hc => ?_⟩
  -- a root -1 would mean a ≡ 1, the early return
  have hs := sqrootmodprime_cast_root rnd a hsq h01 hnl (fun _ => ⟨hleg, hrnd⟩) res h (fun h1 => by have := hpos h1; omega)
  have h3 : (3 : Int) ≤ p := by have := (sqrootmodprime_class h01).1; omega
  exact h01 (Or.inr (emod_eq_one_of_root_neg_one hc h3 (cast_eq_iff_root.mp hs)))

/-! ## square roots modulo prime powers, as a whole -/

/-- `sqrootmodprimepower` is sound for every odd prime `p`, every exponent `k ≥ 1`, every `a` and every recursion depth:
    a returned value other than -1 squares to `a` modulo `p^k`.  Hypotheses: soundness of `sqrootmodprime` at this `p` (`hprime`,
    discharged by `sqrootmodprime_sound_of_contract` above, for every prime) and the contract of `mpz_invert` (`hinv`). -/
theorem sqrootmodprimepower_sound (rnd : Nat → Int) (p : Int) (hp : Prime p) (hp2 : ¬ p ∣ 2)
    (hprime : ∀ a' r, sqrootmodprime rnd a' p = some r → r ≠ -1 → (r * r - a') % p = 0)
    (hinv : ∀ z m : Int, IsCoprime z m → (z * invmod z m - 1) % m = 0) :
    ∀ (fuel : Nat) (a : Int) (k : Nat) (res : Int), 1 ≤ k →
      sqrootmodprimepower rnd fuel a p k (p ^ k) = some res → res ≠ -1 → (res * res - a) % p ^ k = 0 := by
  simp only [root_iff] at hprime ⊢
  intro fuel
  induction fuel with
  | zero => intro a k res _ h; simp [sqrootmodprimepower] at h
  | succ n ih =>
    intro a k res hk h hne
    have hpk : p ∣ p ^ k := dvd_pow_self p (by omega)
    by_cases h01 : a % p ^ k = 0 ∨ a % p ^ k = 1
    · rw [sqrootmodprimepower_early h01] at h
      injection h with h; subst h; exact root_of_emod_zero_one h01
    by_cases hk1 : k = 1
    · subst hk1
      rw [sqrootmodprimepower_exp_one h01] at h
      rw [pow_one] at h ⊢
      exact (hprime _ _ h hne).trans (Int.mod_modEq a p)
    by_cases hdiv : Int.tmod (a % p ^ k) p = 0
    · -- a = b·p^t with t even: the root of b times p^(t/2)
      rw [sqrootmodprimepower] at h
      simp only [not_or.mp h01, hk1, hdiv, ↓reduceIte] at h
      have hinvt := stripP_inv p ((a % p ^ k).natAbs.log2 + 2) (a % p ^ k) 0
      rw [pow_zero, mul_one] at hinvt
      generalize stripP ((a % p ^ k).natAbs.log2 + 2) (a % p ^ k) p 0 = bt at h hinvt
      split at h
      · next hteven =>
        cases hrec : sqrootmodprimepower rnd n bt.1 p k (p ^ k) with
        | none => rw [hrec] at h; simp at h
        | some s =>
          rw [hrec] at h
          simp only at h
          split at h
          · injection h with h; exact absurd h.symm hne
          · next hsb =>
            injection h with h; subst h
            have htt : p ^ bt.2 = p ^ (bt.2 / 2) * p ^ (bt.2 / 2) := by rw [← pow_add]; congr 1; omega
            refine Int.ModEq.trans ?_ (Int.mod_modEq a _)
            rw [← hinvt, htt]
            exact strip_root (ih _ k s hk hrec hsb) ((tmod_modEq _ _).trans ((powmod_modEq _ _ _).mul_right s))
      · injection h with h; exact absurd h.symm hne
    · rw [sqrootmodprimepower_unit h01 hk1 hdiv] at h
      have hna : ¬ p ∣ a := fun hd => hdiv ((tmod_emod_eq_zero_iff a hpk).mpr hd)
      split at h
      · unfold sqrootlinear at h
        obtain ⟨x, hsp, rfl⟩ := Option.map_eq_some_iff.mp h
        by_cases hx1 : x = -1
        · rw [if_pos hx1] at hne; exact absurd hx1 hne
        · rw [if_neg hx1]
          exact linearLoop_root hp hp2 hna hinv k hk x (hprime _ _ hsp hx1)
      · obtain ⟨x, hrec, rfl⟩ := Option.map_eq_some_iff.mp h
        obtain ⟨hx1, hy⟩ := primePowerFinish_ne hne
        exact primePowerFinish_root hp hp2 hna hinv k (by omega) x (ih a (k / 2) x (by omega) hrec hx1) hx1 hy

/-! ## completeness modulo prime powers (units) -/

/-- completeness of `sqrootmodprimepower` on units: for an odd prime `p ≥ 3`, every `k ≥ 1` and every `a` prime to `p` that is a
    square modulo `p`, the function returns a root modulo `p^k` (never -1, never out of fuel; `k < 2^fuel`, which `ppFuel k` satisfies).
    The checks `if (x == -1) return` on intermediate values never fire on a genuine root: a root equal to -1 would mean `a ≡ 1`, where
    the function answers 1.  `hprimeC` has the shape of `sqrootmodprime_complete`.
    Full statement (not proved): the same for every `a` with `IsSquare (a : ZMod (p^k))`, i.e. including `a = b·p^t` (needs the
    valuation argument `t` even, `b` a residue). -/
theorem sqrootmodprimepower_complete_partial (rnd : Nat → Int) (p : Int) (hp : Prime p) (hp3 : 3 ≤ p) (hp2 : ¬ p ∣ 2)
    (hprimeC : ∀ a' : Int, (∃ y, (y * y - a') % p = 0) → ∃ r, sqrootmodprime rnd a' p = some r ∧ r ≠ -1 ∧ (r * r - a') % p = 0)
    (hinv : ∀ z m : Int, IsCoprime z m → (z * invmod z m - 1) % m = 0) :
    ∀ (fuel : Nat) (a : Int) (k : Nat), 1 ≤ k → k < 2 ^ fuel → ¬ p ∣ a → (∃ y, (y * y - a) % p = 0) →
      ∃ res, sqrootmodprimepower rnd fuel a p k (p ^ k) = some res ∧ (res * res - a) % p ^ k = 0 := by
  simp only [root_iff] at hprimeC ⊢
  intro fuel
  induction fuel with
  | zero => intro a k hk hlt; simp at hlt; omega
  | succ n ih =>
    intro a k hk hlt hna hqr
    have hpk : p ∣ p ^ k := dvd_pow_self p (by omega)
    by_cases h01 : a % p ^ k = 0 ∨ a % p ^ k = 1
    · exact ⟨_, sqrootmodprimepower_early h01, root_of_emod_zero_one h01⟩
    have hdiv : Int.tmod (a % p ^ k) p ≠ 0 := fun hd => hna ((tmod_emod_eq_zero_iff a hpk).mp hd)
    by_cases hk1 : k = 1
    · subst hk1
      rw [sqrootmodprimepower_exp_one h01, pow_one]
      obtain ⟨y, hy⟩ := hqr
      obtain ⟨r, hr, _, hroot⟩ := hprimeC (a % p) ⟨y, hy.trans (Int.mod_modEq a p).symm⟩
      exact ⟨r, hr, hroot.trans (Int.mod_modEq a p)⟩
    rw [sqrootmodprimepower_unit h01 hk1 hdiv]
    split
    · obtain ⟨x, hx, hx1, hxr⟩ := hprimeC a hqr
      rw [sqrootlinear_eq k hx, if_neg hx1]
      exact ⟨_, rfl, linearLoop_root hp hp2 hna hinv k hk x hxr⟩
    · have hkd : 1 ≤ k / 2 := by omega
      have h3 : 3 ≤ p ^ (k / 2) := hp3.trans (le_self_pow₀ (by omega) (by omega))
      obtain ⟨x, hrec, hx⟩ := ih a (k / 2) hkd (by rw [pow_succ] at hlt; omega) hna hqr
      have hx1 : x ≠ -1 := primepower_result_ne_neg_one rnd n a p (k / 2) h3 x hrec hx
      refine ⟨_, by rw [hrec]; rfl, primePowerFinish_root hp hp2 hna hinv k (by omega) x hx hx1 ?_⟩
      -- a lifted value -1 would be a root modulo p^(k-1): then a ≡ 1 modulo p^(k/2), the recursive call answered 1,
      -- and the lift of 1 is not -1
      intro _ hy
      have hl := hensellift_root hp hp2 hna hinv x (k / 2) hkd hx
      have ha1 := emod_eq_one_of_root_neg_one hy h3 (hl.of_dvd (pow_dvd_pow p (by omega)))
      cases n with
      | zero => simp [sqrootmodprimepower] at hrec
      | succ n' =>
        rw [sqrootmodprimepower_early (Or.inr ha1), ha1] at hrec
        injection hrec with hrec
        rw [← hrec] at hy
        exact sqroothensellift_one_ne a _ (fun h2 => hp2 (dvd_trans (dvd_pow_self p (by omega)) h2)) hy

/-! ## square roots modulo powers of two, as a whole -/

/-- `sqrootmodpoweroftwo` is sound for every `k ≥ 1`, every `a` (any sign) and every recursion depth:
    a returned value other than -1 squares to `a` modulo `2^k`.  Hypothesis: the contract of `mpz_invert`. -/
theorem sqrootmodpoweroftwo_sound (hinv : ∀ z m : Int, IsCoprime z m → (z * invmod z m - 1) % m = 0) :
    ∀ (fuel : Nat) (a : Int) (k : Nat) (res : Int), 1 ≤ k →
      sqrootmodpoweroftwo fuel a k (2 ^ k) = some res → res ≠ -1 → (res * res - a) % 2 ^ k = 0 := by
  simp only [root_iff]
  intro fuel
  induction fuel with
  | zero => intro a k res _ h; simp [sqrootmodpoweroftwo] at h
  | succ n ih =>
    intro a k res hk h hne
    by_cases hk4 : 4 ≤ k
    swap
    · -- k = 1, 2, 3: the answer is read off `a mod 2^k`
      have hk' : k = 1 ∨ k = 2 ∨ k = 3 := by omega
      rcases hk' with rfl | rfl | rfl
      · rw [sqrootmodpoweroftwo_exp_one] at h
        injection h with h; subst h
        exact root_of_emod_zero_one (by rw [pow_one]; exact Int.emod_two_eq_zero_or_one a)
      · rw [sqrootmodpoweroftwo_exp_two] at h
        injection h with h; subst h
        by_cases h01 : a % 2 ^ 2 = 0 ∨ a % 2 ^ 2 = 1
        · rw [if_pos h01]; exact root_of_emod_zero_one h01
        · rw [if_neg h01] at hne; exact absurd rfl hne
      · rw [sqrootmodpoweroftwo_exp_three] at h
        injection h with h; subst h
        rw [show (2 : Int) ^ 3 = 8 by norm_num] at hne ⊢
        exact (sqrootmod8_sound _ hne).trans (Int.mod_modEq a 8)
    have hpos : (0 : Int) < 2 ^ k := by positivity
    by_cases h01 : a % 2 ^ k = 0 ∨ a % 2 ^ k = 1
    · rw [sqrootmodpoweroftwo_early k hk4 h01] at h
      injection h with h; subst h; exact root_of_emod_zero_one h01
    by_cases he : a % 2 ^ k % 2 = 0
    · -- a = b·2^t with t even: the root of b times 2^(t/2)
      rw [sqrootmodpoweroftwo] at h
      simp only [show k ≠ 1 by omega, show k ≠ 2 by omega, show k ≠ 3 by omega, not_or.mp h01, he, ↓reduceIte] at h
      have hinvt := stripTwo_inv ((a % 2 ^ k).natAbs.log2 + 2) (a % 2 ^ k) 0
      rw [pow_zero, mul_one] at hinvt
      generalize stripTwo ((a % 2 ^ k).natAbs.log2 + 2) (a % 2 ^ k) 0 = bt at h hinvt
      split at h
      · next hteven =>
        cases hrec : sqrootmodpoweroftwo n bt.1 k (2 ^ k) with
        | none => rw [hrec] at h; simp at h
        | some x =>
          rw [hrec] at h
          simp only at h
          split at h
          · next hxm => injection h with h; exact absurd (h.symm.trans hxm) hne
          · next hx1 =>
            injection h with h; subst h
            have htt : (2 : Int) ^ bt.2 = 2 ^ (bt.2 / 2) * 2 ^ (bt.2 / 2) := by rw [← pow_add]; congr 1; omega
            refine Int.ModEq.trans ?_ (Int.mod_modEq a _)
            rw [← hinvt, htt]
            exact strip_root (ih _ k x hk hrec hx1) ((tmod_modEq _ _).trans (by rw [mul_comm]))
      · injection h with h; exact absurd h.symm hne
    · rw [sqrootmodpoweroftwo_of_odd k hk4 h01 he] at h
      have hto : a % 2 ^ k % 2 = 1 := by omega
      refine Int.ModEq.trans ?_ (Int.mod_modEq a _)
      split at h
      · injection h with h; subst h
        exact sqroottwolinear_root _ k (Int.emod_nonneg _ hpos.ne') hto hk4 (sqroottwolinear_ne hne)
      · rw [show (2 : Int) * 2 ^ (k / 2) = 2 ^ (k / 2 + 1) by rw [pow_succ]; ring] at h
        obtain ⟨x, hrec, rfl⟩ := Option.map_eq_some_iff.mp h
        obtain ⟨hx1, hy⟩ := twoBigFinish_ne hne
        exact twoBigFinish_root hinv x _ k hk4 hto (ih _ (k / 2 + 1) x (by omega) hrec hx1) hx1 hy

/-! ## completeness modulo powers of two (odd arguments) -/

/-- completeness of `sqrootmodpoweroftwo` on odd arguments: for every `k ≥ 1` and every `a ≡ 1 (mod 8)` (exactly the odd squares
    modulo `2^k`, `k ≥ 3`) the function returns a root modulo `2^k` (never -1, never out of fuel; `1 ≤ fuel`, `k ≤ 2^fuel + 2`).
    Full statement (not proved): every `a` with `IsSquare (a : ZMod (2^k))`, i.e. including `a = b·4^s` and the odd squares modulo 2 and 4. -/
theorem sqrootmodpoweroftwo_complete_partial (hinv : ∀ z m : Int, IsCoprime z m → (z * invmod z m - 1) % m = 0) :
    ∀ (fuel : Nat) (a : Int) (k : Nat), 1 ≤ k → 1 ≤ fuel → k ≤ 2 ^ fuel + 2 → a % 8 = 1 →
      ∃ res, sqrootmodpoweroftwo fuel a k (2 ^ k) = some res ∧ (res * res - a) % 2 ^ k = 0 := by
  simp only [root_iff]
  intro fuel
  induction fuel with
  | zero => intro a k hk hf; omega
  | succ n ih =>
    intro a k hk _ hlt ha8
    by_cases hk4 : 4 ≤ k
    swap
    · have hk' : k = 1 ∨ k = 2 ∨ k = 3 := by omega
      rcases hk' with rfl | rfl | rfl
      · exact ⟨_, sqrootmodpoweroftwo_exp_one, root_of_emod_zero_one (by rw [pow_one]; exact Int.emod_two_eq_zero_or_one a)⟩
      · have h41 : a % 2 ^ 2 = 1 := by norm_num; omega
        exact ⟨_, sqrootmodpoweroftwo_exp_two, by rw [if_pos (Or.inr h41)]; exact root_of_emod_zero_one (Or.inr h41)⟩
      · have h81 : a % 2 ^ 3 = 1 := by norm_num; omega
        have := root_of_emod_zero_one (Or.inr h81)
        rw [h81] at this
        exact ⟨1, by rw [sqrootmodpoweroftwo_exp_three, h81]; rfl, this⟩
    have hpos : (0 : Int) < 2 ^ k := by positivity
    by_cases h01 : a % 2 ^ k = 0 ∨ a % 2 ^ k = 1
    · exact ⟨_, sqrootmodpoweroftwo_early k hk4 h01, root_of_emod_zero_one h01⟩
    have ht8 : a % 2 ^ k % 8 = 1 := by rw [mod8_of_mod_pow a k (by omega)]; exact ha8
    have hto : a % 2 ^ k % 2 = 1 := by omega
    rw [sqrootmodpoweroftwo_of_odd k hk4 h01 (by omega)]
    split
    · refine ⟨_, rfl, (sqroottwolinear_root _ k (Int.emod_nonneg _ hpos.ne') hto hk4 ?_).trans (Int.mod_modEq a _)⟩
      rw [sqrootmod8_of_one _ ht8]; decide
    · rw [show (2 : Int) * 2 ^ (k / 2) = 2 ^ (k / 2 + 1) by rw [pow_succ]; ring]
      have hn1 : 1 ≤ n := Nat.one_le_iff_ne_zero.mpr (by rintro rfl; norm_num at hlt; omega)
      obtain ⟨x, hrec, hx⟩ := ih (a % 2 ^ k) (k / 2 + 1) (by omega) hn1 (by rw [pow_succ] at hlt; omega) ht8
      have hx1 : x ≠ -1 := pow2_result_ne_neg_one n _ (k / 2 + 1) (by omega) x hrec hx
      refine ⟨_, by rw [hrec]; rfl, (twoBigFinish_root hinv x _ k hk4 hto hx hx1 ?_).trans (Int.mod_modEq a _)⟩
      -- a lifted value -1 would be a root modulo 2^(k-1): then a ≡ 1 modulo 2^(k/2+1), the recursive call answered 1,
      -- and the lift of 1 is not -1
      intro _ hy
      have hl := twolift_root hinv x _ (k / 2) hto hx
      have h16 : (2 : Int) ^ 4 ≤ 2 ^ (k / 2 + 1) := pow_le_pow_right₀ (by norm_num) (by omega)
      have ha1 := emod_eq_one_of_root_neg_one (m := 2 ^ (k / 2 + 1)) hy (by omega) (hl.of_dvd (pow_dvd_pow 2 (by omega)))
      cases n with
      | zero => omega
      | succ n' =>
        rw [sqrootmodpoweroftwo_early (k / 2 + 1) (by omega) (Or.inr ha1), ha1] at hrec
        injection hrec with hrec
        rw [← hrec] at hy
        refine sqrootmodtwolift_one_ne _ _ ?_ hy
        rw [pow_succ, Int.mul_ediv_cancel _ (by norm_num)]
        intro h2
        have := Int.le_of_dvd (by norm_num) h2
        have : (2 : Int) ^ 2 ≤ 2 ^ (k / 2) := pow_le_pow_right₀ (by norm_num) (by omega)
        omega

/-! ## square roots modulo a composite: CRT recombination -/

/-- `sqrootmod(x, a, n)` on the factor list of `n = ∏ p_i^e_i` (pairwise coprime prime powers): a returned value other
    than -1 squares to `a` modulo `n`.  `hcomp` is the soundness of the per-prime-power computations
    (`sqrootmodprimepower_sound`, `sqrootmodpoweroftwo_sound`); `hinv` the contract of `mpz_invert` used by the CRT. -/
theorem sqrootmod_sound (rnd : Nat → Int) (a : Int) (fs : List (Int × Nat))
    (hinv : ∀ z m : Int, IsCoprime z m → (z * invmod z m - 1) % m = 0)
    (hpw : List.Pairwise (fun x y : Int × Nat => IsCoprime (x.1 ^ x.2) (y.1 ^ y.2)) fs)
    (hcomp : ∀ pe ∈ fs, ∀ r, sqrtComponent rnd a pe = some r → r ≠ -1 → (r * r - a) % pe.1 ^ pe.2 = 0)
    (res : Int) (h : sqrootmodL rnd a fs = some res) (hne : res ≠ -1) :
    (res * res - a) % (fs.map (fun pe => pe.1 ^ pe.2)).prod = 0 := by
  rw [← Lemmas.CRT.prod_eq]
  apply Int.emod_eq_zero_of_dvd
  apply Lemmas.CRT.prod_dvd_of_pairwise
  · rw [List.pairwise_map]; exact hpw
  · intro m hm
    obtain ⟨pe, hpe, rfl⟩ := List.mem_map.mp hm
    exact (sqrootmodL_sound_components rnd a fs hinv hpw (fun pe hpe r hr hr1 => root_iff.mp (hcomp pe hpe r hr hr1))
      res h hne pe hpe).symm.dvd

/-- `hcomp` of `sqrootmod_sound` discharged from the two whole-function theorems -/
theorem sqrootmod_sound_of_parts (rnd : Nat → Int) (a : Int) (fs : List (Int × Nat))
    (hinv : ∀ z m : Int, IsCoprime z m → (z * invmod z m - 1) % m = 0)
    (hpw : List.Pairwise (fun x y : Int × Nat => IsCoprime (x.1 ^ x.2) (y.1 ^ y.2)) fs)
    (hfs : ∀ pe ∈ fs, 1 ≤ pe.2 ∧ (pe.1 ≠ 2 → Prime pe.1 ∧ ¬ pe.1 ∣ 2 ∧
      ∀ a' r, sqrootmodprime rnd a' pe.1 = some r → r ≠ -1 → (r * r - a') % pe.1 = 0))
    (res : Int) (h : sqrootmodL rnd a fs = some res) (hne : res ≠ -1) :
    (res * res - a) % (fs.map (fun pe => pe.1 ^ pe.2)).prod = 0 := by
  refine sqrootmod_sound rnd a fs hinv hpw ?_ res h hne
  intro pe hpe r hr hr1
  obtain ⟨hk, hodd⟩ := hfs pe hpe
  unfold sqrtComponent at hr
  split at hr
  · next h2 =>
    rw [h2] at hr ⊢
    exact sqrootmodpoweroftwo_sound hinv _ a pe.2 r hk hr hr1
  · next h2 =>
    obtain ⟨hp, hp2, hprime⟩ := hodd h2
    exact sqrootmodprimepower_sound rnd pe.1 hp hp2 hprime hinv _ a pe.2 r hk hr hr1

/-! ## sums of two squares modulo p -/

/-- `sumofsquaresmodprime(a, b, k, p)` (= `…Deterministic`): `a² + b² ≡ k (mod p)` unless `a = -1`, `b = -1`, or some call `sqrootmodprime(·, s - 1, p)` answers -1.
    The third alternative does not name a call of the run: it holds, whatever `a` and `b` are, as soon as `legendre` answers -1 on some class other than 0 and 1
    (`sqrootmodprime_reports_nonresidue`), as `mpz_legendre` does on the non-residues of every odd prime.
    `sosqDeterministic_sound_bound` (`Lemmas/NumTheoSqrt.lean`) has it for the least non-residue the run found; this statement forgets which. -/
theorem sosqDeterministic_sound (rnd : Nat → Int) (k p : Int)
    (hprime : ∀ a' r, sqrootmodprime rnd a' p = some r → r ≠ -1 → (r * r - a') % p = 0)
    (hinv : ∀ s : Int, legendre s p = -1 → (s * invmod s p - 1) % p = 0) (a b : Int)
    (h : sosqDeterministic rnd k p = some (a, b)) :
    a = -1 ∨ b = -1 ∨ (∃ s, sqrootmodprime rnd (s - 1) p = some (-1)) ∨ (a * a + b * b - k) % p = 0 :=
  (sosqDeterministic_sound_bound rnd k p hprime hinv a b h).imp_right
    (Or.imp_right (Or.imp_left fun ⟨l, _, hl⟩ => ⟨l, hl⟩))

/-! ## logp -/

/-- `logp(a, p)` is the floor of the base-`p` logarithm for every `a ≥ 1` and `p ≥ 2` (no size bound; the machine `int64_t`
    accumulator is exact as long as the result is below 2^31, i.e. always in practice) -/
theorem logp_exact (a p : Int) (hp : 2 ≤ p) (ha : 1 ≤ a) :
    ∃ r : Nat, logp a p = (r : Int) ∧ p ^ r ≤ a ∧ a < p ^ (r + 1) := by
  unfold logp
  by_cases hlt : a < p
  · rw [if_pos hlt]; exact ⟨0, rfl, by simpa using ha, by simpa using hlt⟩
  · rw [if_neg hlt]
    have h1 : p ^ (2 ^ 0) ≤ a := by simpa using (not_lt.mp hlt)
    have hfuel : a < p ^ (2 ^ (0 + (a.natAbs.log2 + 2))) := by
      -- a < 2^(L+1) ≤ 2^(2^(L+2)) ≤ p^(2^(L+2)) with L = log2 a
      have h2 : (a.natAbs : Int) < 2 ^ (a.natAbs.log2 + 1) := by exact_mod_cast Nat.lt_log2_self
      have h3 : (2 : Int) ^ (a.natAbs.log2 + 1) ≤ 2 ^ (2 ^ (a.natAbs.log2 + 2)) :=
        pow_le_pow_right₀ (by norm_num) (by have := @Nat.lt_two_pow_self (a.natAbs.log2 + 2); omega)
      have h4 := pow_le_pow_left₀ (by norm_num) hp (2 ^ (a.natAbs.log2 + 2))
      rw [Nat.zero_add]; omega
    obtain ⟨m, hm1, hm2, hm3⟩ := logpBuild_spec a p (a.natAbs.log2 + 2) 0 h1 hfuel
    rw [pow_zero, pow_one] at hm1
    rw [show logpBuild (a.natAbs.log2 + 2) a p [] = powList p (m + 1) from hm1]
    simp only [powList, powList_length]
    have hc : ((2 : Int) ^ m) = ((2 ^ m : Nat) : Int) := by push_cast; rfl
    rw [hc]
    exact logpDown_spec a p m (2 ^ m) hm2 (by rw [← two_mul, ← pow_succ']; exact hm3)

example : (2 : Int) ≤ 3 ∧ (1 : Int) ≤ 100 := by decide

/-! ## certificates (outputs the property does not determine are decided by these checkers) -/

theorem isqrt_certificate (a q : Int) : isqrtChk a q = true ↔ 0 ≤ q ∧ q * q ≤ a ∧ a < (q + 1) * (q + 1) := by
  simp [isqrtChk, and_assoc]

theorem isqrt_certificate_unique (a q q' : Int) (h : isqrtChk a q = true) (h' : isqrtChk a q' = true) : q = q' := by
  rw [isqrt_certificate] at h h'
  -- two candidates cannot differ: `q < q'` gives `(q+1)² ≤ q'² ≤ a < (q+1)²`
  have key : ∀ r s : Int, 0 ≤ r → a < (r + 1) * (r + 1) → s * s ≤ a → s ≤ r := by
    intro r s hr h2 h1
    by_contra hc
    have := mul_self_le_mul_self (by omega : 0 ≤ r + 1) (by omega : r + 1 ≤ s)
    omega
  exact le_antisymm (key q' q h'.1 h'.2.2 h.2.1) (key q q' h.1 h.2.2 h'.2.1)

/-- the `logp` certificate is the property proved for the model in `logp_exact` -/
theorem logp_certificate (a p r : Int) : logpChk a p r = true ↔ 0 ≤ r ∧ p ^ r.toNat ≤ a ∧ a < p ^ (r.toNat + 1) := by
  simp [logpChk, and_assoc]

theorem sqrt_certificate (a x n : Int) : sqrtChk a x n = true ↔ (x * x - a) % n = 0 := by
  simp [sqrtChk]

theorem two_squares_certificate (a b p : Int) : twoSquaresChk a b p = true ↔ a * a + b * b = p := by
  simp [twoSquaresChk]

theorem two_squares_mod_certificate (a b k p : Int) : twoSquaresModChk a b k p = true ↔ (a * a + b * b - k) % p = 0 := by
  simp [twoSquaresModChk]

/-! ## Euler phi -/

/-- `phi(res, Lf, n)` returns Euler's totient of `n` whenever `Lf` lists the prime divisors of `n` (each once, any order):
    every `n`, no size bound.  (`phi(res, n)` obtains `Lf` from `IntFactorDom::set`, property C12.) -/
theorem phi_exact (n : Nat) (Lf : List Nat) (hnd : Lf.Nodup) (hmem : ∀ q, q ∈ Lf ↔ q ∈ n.primeFactors) :
    phiL (Lf.map (Nat.cast : Nat → Int)) n = (Nat.totient n : Int) := by
  unfold phiL
  by_cases h1 : n ≤ 1
  · rw [if_pos (by exact_mod_cast h1)]
    have : n = 0 ∨ n = 1 := by omega
    rcases this with rfl | rfl <;> simp
  · rw [if_neg (by exact_mod_cast h1)]
    by_cases h3 : n ≤ 3
    · rw [if_pos (by exact_mod_cast h3)]
      have : n = 2 ∨ n = 3 := by omega
      rcases this with rfl | rfl
      · simp
      · rw [Nat.totient_prime Nat.prime_three]; norm_num
    · rw [if_neg (by exact_mod_cast h3)]
      have hpos : ∀ f ∈ Lf, 0 < f := fun f hf => (Nat.prime_of_mem_primeFactors ((hmem f).mp hf)).pos
      have hfin : Lf.toFinset = n.primeFactors := by ext q; simp [hmem]
      have hprod : Lf.prod = ∏ p ∈ n.primeFactors, p := by
        rw [← hfin, List.prod_toFinset _ hnd]; simp
      have hprod1 : (Lf.map (fun f => f - 1)).prod = ∏ p ∈ n.primeFactors, (p - 1) := by
        rw [← hfin, List.prod_toFinset _ hnd]
      rw [phiLoop_spec _ _ hpos (by rw [hprod]; exact Nat.prod_primeFactors_dvd n),
        hprod, hprod1, ← Nat.totient_eq_div_primeFactors_mul]

example : [3, 2].Nodup ∧ ∀ q, q ∈ [3, 2] ↔ q ∈ (12 : Nat).primeFactors := by
  refine ⟨by decide, ?_⟩
  have : (12 : Nat).primeFactors = {2, 3} := by decide +kernel
  intro q; rw [this]; simp; tauto

/-! ## multiplicative order, primitive-root test -/

/-- `order(g, p, n)` returns the multiplicative order of `p` in `Z/n` — `orderOf`, which is 0 exactly when `p` is not a unit —
    for every `p` and every modulus `n ≥ 2`, given that the factor list of `φ(n)` is well formed. -/
theorem order_exact (a : Int) (n : Nat) (hn : 2 ≤ n) (Lf : List Nat) (hF : PhiFactors n Lf) :
    order a n = (orderOf (a : ZMod n) : Int) := by
  have : Fact (1 < n) := ⟨by omega⟩
  have hz : ((a % (n : Int) : Int) : ZMod n) = (a : ZMod n) := ZMod.intCast_mod a n
  unfold order
  simp only []
  split
  · next h0 =>
    have : (a : ZMod n) = 0 := by rw [← hz, h0]; simp
    rw [this, orderOf_zero_zmod]; rfl
  · split
    · next h1 =>
      have : (a : ZMod n) = 1 := by rw [← hz, h1]; simp
      rw [this, orderOf_one]; rfl
    · split
      · next hc =>
        have hP : ∀ e : Nat, powmod (a % (n : Int)) e n = 1 ↔ (a : ZMod n) ^ e = 1 := by
          intro e; rw [powmod_eq_one_iff _ n hn, hz]
        have hphi0 : 0 < n.totient := Nat.totient_pos.mpr (by omega)
        have hxphi := pow_totient_of_coprime a n hc
        rw [hF.list_eq, hF.phi_eq]
        obtain ⟨G', e, hpos, hd, hx', hgood⟩ := orderLoops_spec (a : ZMod n) _ hP n.totient hphi0 hxphi Lf
          (fun f hf => ⟨(hF.prime f hf).two_le, hF.dvd f hf⟩)
        refine e.trans ?_
        rw [orderOf_eq_of_pow_and_pow_div_prime hpos hx' (fun q hq hqd => hgood q (hF.all q hq (dvd_trans hqd hd)) hqd)]
      · next hc =>
        rw [orderOf_eq_zero_of_not_coprime a n hc]; rfl

/-- `is_prim_root(p, n)` is true exactly when `p` has order `φ(n)` in `Z/n` (in particular `p` is a unit), every `p`, `n ≥ 2` -/
theorem is_prim_root_iff (a : Int) (n : Nat) (hn : 2 ≤ n) (Lf : List Nat) (hF : PhiFactors n Lf) :
    isPrimRoot a n = true ↔ orderOf (a : ZMod n) = n.totient :=
  isPrimRoot_iff_order a n hn Lf hF

/-- `isorder(g, p, n)` is true exactly when `g` is the order of `p` in `Z/n` (`g = 0`: `p` is not a unit) -/
theorem isorder_iff (g : Nat) (a : Int) (n : Nat) (hn : 2 ≤ n) (Lf : List Nat) (hF : PhiFactors n Lf) :
    isOrder g a n = true ↔ orderOf (a : ZMod n) = g := by
  unfold isOrder
  rw [order_exact a n hn Lf hF, Int.toNat_natCast]
  simp only [Bool.and_eq_true, beq_iff_eq]
  constructor
  · rintro ⟨_, h2⟩; exact_mod_cast h2.symm
  · intro h
    refine ⟨?_, by rw [h]⟩
    rw [powmod_eq_one_iff a n hn, ← h, pow_orderOf_eq_one]

example : PhiFactors 7 [2, 3] :=
  ⟨by decide +kernel, by decide +kernel, by decide, by decide +kernel, by
    intro q hq hd
    have h6 : (7 : Nat).totient = 6 := by decide +kernel
    rw [h6] at hd
    have hle := Nat.le_of_dvd (by norm_num) hd
    interval_cases q <;> simp_all (config := {decide := true})⟩

/-! ## primitive-root search: `lowest_prim_root` -/

/-- `lowest_prim_root(A, n)` for `n ≥ 5`, `4 ∤ n`: the result is the least `A ∈ [2, n]` of order `φ(n)` in `Z/n`
    (a primitive root), and `0` exactly when no element of `[2, n]` is a primitive root -/
theorem lowest_prim_root_spec (n : Nat) (hn : 5 ≤ n) (h4 : n % 4 ≠ 0) (Lf : List Nat) (hF : PhiFactors n Lf) :
    (lowestPrimRoot n = 0 ∧ ∀ B : Int, 2 ≤ B → B ≤ n → orderOf (B : ZMod n) ≠ n.totient) ∨
    (2 ≤ lowestPrimRoot n ∧ lowestPrimRoot n ≤ n ∧ orderOf ((lowestPrimRoot n : Int) : ZMod n) = n.totient ∧
      ∀ B : Int, 2 ≤ B → B < lowestPrimRoot n → orderOf (B : ZMod n) ≠ n.totient) := by
  unfold lowestPrimRoot
  rw [if_neg (by omega), if_neg (by omega)]
  rcases lowestGo_spec n _ _ (fun B => primTest_iff_order B n (by omega) Lf hF) (n : Int).toNat 2 with ⟨h0, hall⟩ | h
  · exact Or.inl ⟨h0, fun B hb1 hb2 => hall B hb1 (by rw [Int.toNat_natCast]; omega) hb2⟩
  · exact Or.inr h

/-! ## `prim_root` for n = p^k, n = 2p^k and n = p -/

/-- `prim_root(A, n)` for `n = p^k` (`p ≥ 7` prime, every `k ≥ 1`, every sequence of random draws): a returned value is a primitive root
    modulo `p^k`.  Oracle contracts: the factorisation of `p^k` starts with `p` (`hpf`), the factor lists of `φ(p)` and `φ(p^k)` are
    well formed (`hF`, `hF2`). -/
theorem prim_root_prime_power_correct (rnd : Nat → Int) (p : Nat) (hp : p.Prime) (h7 : 7 ≤ p) (k : Nat) (hk : 1 ≤ k)
    (hpf : ∃ tl, primeFactors ((p : Int) ^ k) = (p : Int) :: tl)
    (Lf : List Nat) (hF : PhiFactors p Lf) (Lf2 : List Nat) (hF2 : PhiFactors (p ^ k) Lf2)
    (A : Int) (h : primRoot rnd ((p ^ k : Nat) : Int) = some A) : orderOf (A : ZMod (p ^ k)) = (p ^ k).totient := by
  obtain ⟨h7k, hodd⟩ := prime_pow_ge_odd p hp h7 k hk
  obtain ⟨tl, hpf⟩ := hpf
  rw [primRoot_eq rnd _ p _ tl (by omega) (by omega) (by rw [if_neg (by omega), Nat.cast_pow]) hpf] at h
  obtain ⟨A0, hA0, rfl⟩ := Option.map_eq_some_iff.mp h
  rw [decide_eq_false (show ¬ ((p ^ k : Nat) : Int) % 2 = 0 by omega)]
  exact (primRootFinish_spec p hp (by omega) k hk Lf2 hF2 A0 (primRootCand_spec rnd p hp h7 Lf hF A0 hA0) false).1

/-- `prim_root(A, n)` for `n = 2·p^k`, same contracts -/
theorem prim_root_two_prime_power_correct (rnd : Nat → Int) (p : Nat) (hp : p.Prime) (h7 : 7 ≤ p) (k : Nat) (hk : 1 ≤ k)
    (hpf : ∃ tl, primeFactors ((p : Int) ^ k) = (p : Int) :: tl)
    (Lf : List Nat) (hF : PhiFactors p Lf) (Lf2 : List Nat) (hF2 : PhiFactors (p ^ k) Lf2)
    (A : Int) (h : primRoot rnd ((2 * p ^ k : Nat) : Int) = some A) :
    orderOf (A : ZMod (2 * p ^ k)) = (2 * p ^ k).totient := by
  obtain ⟨h7k, hodd⟩ := prime_pow_ge_odd p hp h7 k hk
  obtain ⟨tl, hpf⟩ := hpf
  have hno2 : (if ((2 * p ^ k : Nat) : Int) % 2 = 0 then Int.tdiv ((2 * p ^ k : Nat) : Int) 2 else ((2 * p ^ k : Nat) : Int))
      = (p : Int) ^ k := by
    rw [if_pos (by omega)]; push_cast; exact Int.mul_tdiv_cancel_left _ (by norm_num)
  rw [primRoot_eq rnd _ p _ tl (by omega) (by omega) hno2 hpf] at h
  obtain ⟨A0, hA0, rfl⟩ := Option.map_eq_some_iff.mp h
  rw [decide_eq_true (show ((2 * p ^ k : Nat) : Int) % 2 = 0 by omega)]
  obtain ⟨h1, h2⟩ := primRootFinish_spec p hp (by omega) k hk Lf2 hF2 A0 (primRootCand_spec rnd p hp h7 Lf hF A0 hA0) true
  exact orderOf_two_mul (p ^ k) (by omega) hodd _ (h2 rfl) h1

/-- `prim_root(A, n)` for a prime `n = p ≥ 7`: whatever the random draws, a returned value is a primitive root modulo `p`
    (order `φ(p) = p - 1`).  `hpf`: the factorisation oracle answers `[p]` on the prime `p`; `hF`: factor list of `φ(p)` well formed. -/
theorem prim_root_prime_correct (rnd : Nat → Int) (p : Nat) (hp : p.Prime) (h7 : 7 ≤ p)
    (hpf : primeFactors (p : Int) = [(p : Int)]) (Lf : List Nat) (hF : PhiFactors p Lf)
    (A : Int) (h : primRoot rnd p = some A) : orderOf (A : ZMod p) = p.totient := by
  have := prim_root_prime_power_correct rnd p hp h7 1 (le_refl 1) ⟨[], by rw [pow_one]; exact hpf⟩ Lf hF Lf
    (by rw [pow_one]; exact hF) A (by rw [pow_one]; exact h)
  rwa [pow_one] at this

/-! ## Moebius -/

/-- `mobius(lpow)` on the exponents of the factorisation of `n ≥ 1` is Mathlib's Möbius function of `n`.
    `fs` lists the prime divisors of `n` once each with their multiplicities (contract of `IntFactorDom::set(Lf, Le, n)`). -/
theorem mobius_exact (n : Nat) (hn : n ≠ 0) (fs : List (Nat × Nat))
    (hnd : (fs.map Prod.fst).Nodup) (hmem : ∀ p, p ∈ fs.map Prod.fst ↔ p ∈ n.primeFactors)
    (hexp : ∀ pe ∈ fs, pe.2 = n.factorization pe.1) :
    mobiusL (fs.map Prod.snd) = ArithmeticFunction.moebius n := by
  rw [mobiusL_spec]
  have hsq : (fs.map Prod.snd).all (· ≤ 1) = true ↔ Squarefree n := by
    rw [Nat.squarefree_iff_factorization_le_one hn]
    simp only [List.all_eq_true, List.mem_map, forall_exists_index, and_imp, decide_eq_true_eq]
    constructor
    · intro h p
      by_cases hp : p ∈ n.primeFactors
      · obtain ⟨pe, hpe, rfl⟩ := List.mem_map.mp ((hmem p).mpr hp)
        rw [← hexp pe hpe]; exact h pe.2 pe hpe rfl
      · have : n.factorization p = 0 := by
          rw [← Finsupp.notMem_support_iff, Nat.support_factorization]; exact hp
        omega
    · intro h e pe hpe he
      rw [← he, hexp pe hpe]; exact h pe.1
  have hlen : (fs.map Prod.snd).length = n.primeFactors.card := by
    have hfin : (fs.map Prod.fst).toFinset = n.primeFactors := by ext q; simp only [List.mem_toFinset]; exact hmem q
    rw [← hfin, List.toFinset_card_of_nodup hnd]; simp
  by_cases h : Squarefree n
  · rw [if_pos (hsq.mpr h), ArithmeticFunction.moebius_apply_of_squarefree h, ArithmeticFunction.cardFactors_apply, hlen]
    have hnodup := (Nat.squarefree_iff_nodup_primeFactorsList hn).mp h
    have : n.primeFactors.card = n.primeFactorsList.length := by
      unfold Nat.primeFactors; exact List.toFinset_card_of_nodup hnodup
    rw [this]
  · rw [if_neg (fun hc => h (hsq.mp hc)), ArithmeticFunction.moebius_eq_zero_of_not_squarefree h]

example : (12 : Nat) ≠ 0 ∧ ([(2, 2), (3, 1)].map Prod.fst).Nodup := ⟨by decide, by decide⟩

/-! ## Carmichael functions -/

/-- `lambda_inv(m)` is the Carmichael formula on the factorisation the code obtains, for every `m ≥ 2`: the early returns for
    m = 2, 3, 4, 8 agree with the general branch.  The factor list is the model's `factorize` (stand-in for
    `IntFactorDom::set`); its well-formedness is the hypothesis `hv`. -/
theorem lambda_inv_formula (m : Int) (hm : 2 ≤ m) (hne : factorize m.natAbs ≠ [])
    (hv : ∀ pe ∈ factorize m.natAbs, 1 ≤ pe.1 ∧ 1 ≤ pe.2) :
    lambdaInv m = (carmichaelFormula (factorize m.natAbs) : Int) := by
  unfold lambdaInv
  by_cases h2 : m = 2
  · subst h2; decide +kernel
  by_cases h3 : m = 3
  · subst h3; decide +kernel
  by_cases h4 : m = 4
  · subst h4; decide +kernel
  by_cases h8 : m = 8
  · subst h8; decide +kernel
  simp only [h2, h3, h4, h8, or_self, ↓reduceIte]
  exact lambdaBaseL_formula _ hne hv

example : factorize (12 : Int).natAbs ≠ [] ∧ ∀ pe ∈ factorize (12 : Int).natAbs, 1 ≤ pe.1 ∧ 1 ≤ pe.2 := by decide +kernel

/-- `lambda` is `lambda_inv` except at `m = 8` (header: "Both functions coincide except for m=8") -/
theorem lambda_eq_lambda_inv (m : Int) : lambda m = if m = 8 then 3 else lambdaInv m := by
  unfold lambda lambdaInv
  by_cases h2 : m = 2
  · subst h2; decide
  by_cases h3 : m = 3
  · subst h3; decide
  by_cases h4 : m = 4
  · subst h4; decide
  by_cases h8 : m = 8
  · subst h8; decide
  simp [h2, h3, h4, h8]

end Givaro.Props.C13
