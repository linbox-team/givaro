/- C06 helper lemmas: mixed operands `ruint<K>` ⊗ built-in scalar (`rint<K>` forwards to the same functions). -/
import GivaroModel.Lemmas.RecIntDivGen
import GivaroModel.Lemmas.RecIntConv
namespace Givaro.Model.RecInt

theorem smag_lt (w : Int) (h1 : -(2 : Int) ^ 64 < w) (hneg : w < 0) : smag w < B64 ∧ ((smag w : Nat) : Int) = -w := by
  unfold smag; simp only [B64]; constructor <;> omega

theorem toNat_lt (w : Int) (h0 : 0 ≤ w) (h2 : w < (2 : Int) ^ 64) : w.toNat < B64 ∧ ((w.toNat : Nat) : Int) = w := by
  simp only [B64]; constructor <;> omega

/-! ### `+ − *` with a scalar take images to images: read at `val` for `ruint`, at `sval` for `rint` -/
theorem Img.addS {n : Nat} {a : RU n} {x : Int} (ha : Img a x) (w : Int) (h1 : -(2 : Int) ^ 64 < w) (h2 : w < (2 : Int) ^ 64) :
    Img (add_s a w) (x + w) := by
  unfold add_s
  by_cases hneg : w < 0
  · obtain ⟨hm, hme⟩ := smag_lt w h1 hneg
    rw [if_pos hneg, show x + w = x - (smag w : Nat) by omega]
    exact ha.subL hm
  · obtain ⟨hm, hme⟩ := toNat_lt w (by omega) h2
    rw [if_neg hneg, show x + w = x + (w.toNat : Nat) by omega]
    exact ha.addL hm

theorem Img.subS {n : Nat} {a : RU n} {x : Int} (ha : Img a x) (w : Int) (h1 : -(2 : Int) ^ 64 < w) (h2 : w < (2 : Int) ^ 64) :
    Img (sub_s a w) (x - w) := by
  unfold sub_s
  by_cases hneg : w < 0
  · obtain ⟨hm, hme⟩ := smag_lt w h1 hneg
    rw [if_pos hneg, show x - w = x + (smag w : Nat) by omega]
    exact ha.addL hm
  · obtain ⟨hm, hme⟩ := toNat_lt w (by omega) h2
    rw [if_neg hneg, show x - w = x - (w.toNat : Nat) by omega]
    exact ha.subL hm

theorem Img.rsubS {n : Nat} {a : RU n} {x : Int} (ha : Img a x) (w : Int) (h1 : -(2 : Int) ^ 64 < w) (h2 : w < (2 : Int) ^ 64) :
    Img (rsub_s a w) (w - x) := by
  rw [show w - x = -(x - w) by ring]
  exact (ha.subS w h1 h2).negate

theorem Img.mulS {n : Nat} {a : RU n} {x : Int} (ha : Img a x) (w : Int) (h1 : -(2 : Int) ^ 64 < w) (h2 : w < (2 : Int) ^ 64) :
    Img (mul_s a w) (x * w) := by
  unfold mul_s
  by_cases hneg : w < 0
  · obtain ⟨hm, hme⟩ := smag_lt w h1 hneg
    rw [if_pos hneg, show x * w = -(x * (smag w : Nat)) by rw [hme]; ring]
    exact (ha.mulL hm).negate
  · obtain ⟨hm, hme⟩ := toNat_lt w (by omega) h2
    rw [if_neg hneg, show x * w = x * (w.toNat : Nat) by rw [hme]]
    exact ha.mulL hm

theorem cmp_s_ok {n : Nat} (a : RU n) (w : Int) (ha : WF a) (h2 : w < (2 : Int) ^ 64) :
    (cmp_s a w = -1 ∧ (val a : Int) < w) ∨ (cmp_s a w = 0 ∧ (val a : Int) = w) ∨ (cmp_s a w = 1 ∧ (val a : Int) > w) := by
  unfold cmp_s
  by_cases hneg : w < 0
  · rw [if_pos hneg]; right; right; exact ⟨rfl, by omega⟩
  · rw [if_neg hneg]
    obtain ⟨hm, hme⟩ := toNat_lt w (by omega) h2
    rcases cmp_l_spec a w.toNat ha hm with ⟨e, h⟩ | ⟨e, h⟩ | ⟨e, h⟩
    · left; exact ⟨e, by omega⟩
    · right; left; exact ⟨e, by omega⟩
    · right; right; exact ⟨e, by omega⟩

theorem div_word (t : Nat) {n : Nat} (a : RU n) (c : Nat) (ha : WF a) (hc : c < B64) (h0 : c ≠ 0) :
    WF (div t a (ofLimb n c)).1 ∧ WF (div t a (ofLimb n c)).2 ∧
    (val (div t a (ofLimb n c)).1 : Int) = (val a : Int) / c ∧ (val (div t a (ofLimb n c)).2 : Int) = (val a : Int) % c := by
  obtain ⟨hbw, hbe⟩ := ofLimb_ok n c hc
  have h := div_int t a _ ha hbw (by rw [hbe]; exact h0)
  rwa [hbe] at h

theorem divq_s_ok (t : Nat) {n : Nat} (a : RU n) (w : Int) (ha : WF a) (h1 : -(2 : Int) ^ 64 < w) (h2 : w < (2 : Int) ^ 64) (h0 : w ≠ 0) :
    WF (divq_s t a w) ∧ (val (divq_s t a w) : Int) = (Int.tdiv (val a) w) % Bn n := by
  unfold divq_s
  rw [Int.tdiv_eq_ediv_of_nonneg (Int.natCast_nonneg _)]
  by_cases hneg : w < 0
  · obtain ⟨hm, hme⟩ := smag_lt w h1 hneg
    obtain ⟨hq, -, hqe, -⟩ := div_word t a (smag w) ha hm (by omega)
    rw [hme] at hqe
    have := (Img.of_int hq hqe).negate
    rwa [if_pos hneg, show (val a : Int) / w = -((val a : Int) / (-w)) by rw [Int.ediv_neg, Int.neg_neg]]
  · obtain ⟨hm, hme⟩ := toNat_lt w (by omega) h2
    obtain ⟨hq, -, hqe, -⟩ := div_word t a w.toNat ha hm (by omega)
    rw [hme] at hqe
    rw [if_neg hneg]
    exact Img.of_int hq hqe

theorem mod_s_ok (t : Nat) {n : Nat} (a : RU n) (w : Int) (ha : WF a) (h1 : -(2 : Int) ^ 64 < w) (h2 : w < (2 : Int) ^ 64) (h0 : w ≠ 0) :
    WF (mod_s t a w) ∧ (val (mod_s t a w) : Int) = Int.tmod (val a) w := by
  unfold mod_s
  rw [Int.tmod_eq_emod_of_nonneg (Int.natCast_nonneg _)]
  by_cases hneg : w < 0
  · obtain ⟨hm, hme⟩ := smag_lt w h1 hneg
    obtain ⟨-, hr, -, hre⟩ := div_word t a (smag w) ha hm (by omega)
    rw [if_pos hneg, hre, hme, Int.emod_neg]
    exact ⟨hr, rfl⟩
  · obtain ⟨hm, hme⟩ := toNat_lt w (by omega) h2
    obtain ⟨-, hr, -, hre⟩ := div_word t a w.toNat ha hm (by omega)
    rw [if_neg hneg, hre, hme]
    exact ⟨hr, rfl⟩

end Givaro.Model.RecInt
