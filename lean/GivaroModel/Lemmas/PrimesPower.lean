/-
C12 — `IntPrimeDom::isprimepower` (model: Model/PrimesPower.lean) decides "proper prime power" for every primality test and every
`mpz_root` meeting their contracts.  Invariants of the three scans (powers of two, the table of small primes, the prime exponents
`nth`), the fuel of the unbounded `for (nth = 2;; ++nth)` (Bertrand), the recursive call on an exact root that is not prime.
At the end, apart from the above (which holds for any `root` meeting `RootOK`): `irootAux_spec` for the bisection `iroot` that the
driver puts in place of `mpz_root`, from which Props/C12 `iroot_meets_contract`.
-/
import GivaroModel.Model.PrimesPower
import GivaroModel.Spec.PrimesSpec
import GivaroModel.Lemmas.PrimesLemmas
import Mathlib.Data.Nat.Prime.Basic
import Mathlib.Algebra.IsPrimePow
import Mathlib.Data.Nat.Factorization.PrimePow
import Mathlib.NumberTheory.Bertrand
import Mathlib.Tactic.Linarith
import Mathlib.Tactic.Ring
namespace Givaro.Lemmas.Primes
open Givaro Givaro.Model.Primes

def ProperPP (u : Nat) : Prop := ∃ p k, Nat.Prime p ∧ 2 ≤ k ∧ p ^ k = u

/-- contract of `mpz_root`: floor of the k-th root -/
def RootOK (root : Nat → Nat → Nat) : Prop := ∀ u k, 1 ≤ k → root u k ^ k ≤ u ∧ u < (root u k + 1) ^ k

def PPSpec (u : Nat) (r : Nat × Nat) : Prop :=
  (0 < r.1 → Nat.Prime r.2 ∧ 2 ≤ r.1 ∧ r.2 ^ r.1 = u) ∧ (r.1 = 0 → ¬ ProperPP u)

theorem ppspec_zero {u : Nat} {q : Nat} (h : ¬ ProperPP u) : PPSpec u (0, q) :=
  ⟨fun h0 => absurd h0 (by simp), fun _ => h⟩

theorem ppspec_pos {u e q : Nat} (hq : Nat.Prime q) (he : 2 ≤ e) (h : q ^ e = u) : PPSpec u (e, q) :=
  ⟨fun _ => ⟨hq, he, h⟩, fun h0 => by simp at h0; omega⟩

theorem multLoop_pow {p r : Nat} (hp : 2 ≤ p) (hr : ¬ p ∣ r) : ∀ (k fuel n : Nat), r * p ^ k < fuel →
    multLoop p fuel (r * p ^ k) n = (r, n + k)
  | 0, f + 1, n, _ => by
    rw [pow_zero, Nat.mul_one, multLoop, if_pos (mt Nat.dvd_of_mod_eq_zero hr)]; rfl
  | k + 1, f + 1, n, h => by
    obtain ⟨h0, hq, hlt⟩ := strip_step hp hr k
    rw [multLoop, if_neg (not_not.2 h0), hq, multLoop_pow hp hr k f (n + 1) (by omega), Nat.add_right_comm, Nat.add_assoc]

theorem multLoop_spec (p : Nat) (hp : 2 ≤ p) (fuel u2 n : Nat) (h1 : 0 < u2) (h2 : u2 < fuel) :
    ∃ u' k, multLoop p fuel u2 n = (u', n + k) ∧ u' * p ^ k = u2 ∧ ¬ p ∣ u' := by
  obtain ⟨r, k, hr, rfl⟩ := exists_split hp h1
  exact ⟨r, k, multLoop_pow hp hr k fuel n h2, rfl, hr⟩

theorem twoLoop_eq_multLoop (fuel t n2 : Nat) : twoLoop fuel t n2 = multLoop 2 fuel t n2 := by
  fun_induction twoLoop fuel t n2 with
  | case1 => rfl
  | case2 f t n2 h => rw [multLoop, if_pos (by omega)]
  | case3 f t n2 h ih => rw [multLoop, if_neg (by omega), ih]

theorem twoLoop_spec (fuel t n2 : Nat) (h1 : 0 < t) (h2 : t < fuel) :
    ∃ t' k, twoLoop fuel t n2 = (t', n2 + k) ∧ t' * 2 ^ k = t ∧ t' % 2 = 1 := by
  obtain ⟨t', k, e1, e2, e3⟩ := multLoop_spec 2 (le_refl 2) fuel t n2 h1 h2
  exact ⟨t', k, (twoLoop_eq_multLoop fuel t n2).trans e1, e2, by omega⟩

theorem properPP_split {p r k : Nat} (hp : p.Prime) (hr : ¬ p ∣ r) (hk : 1 ≤ k) : ProperPP (r * p ^ k) ↔ r = 1 ∧ 2 ≤ k := by
  constructor
  · rintro ⟨q, j, hq, hj, h⟩
    obtain rfl : p = q := Nat.prime_eq_prime_of_dvd_pow hp hq (h ▸ Dvd.dvd.mul_left (dvd_pow_self p (by omega)) r)
    obtain ⟨i, _, rfl⟩ := (Nat.dvd_prime_pow hp).1 ⟨p ^ k, h⟩
    obtain rfl : i = 0 := by
      by_contra hi
      exact hr (dvd_pow_self p hi)
    rw [pow_zero, Nat.one_mul] at h
    exact ⟨pow_zero p, Nat.pow_right_injective hp.two_le h ▸ hj⟩
  · rintro ⟨rfl, h2⟩
    exact ⟨p, k, hp, h2, (Nat.one_mul _).symm⟩

theorem not_pp_of_dvd_not_sq {u p : Nat} (hp : p.Prime) (h1 : p ∣ u) (h2 : ¬ p * p ∣ u) : ¬ ProperPP u := by
  obtain ⟨m, rfl⟩ := h1
  have hm : ¬ p ∣ m := fun h => h2 (Nat.mul_dvd_mul_left p h)
  rw [Nat.mul_comm, ← pow_one p, properPP_split hp hm (le_refl 1)]
  exact fun h => absurd h.2 (by decide)

theorem ppspec_cofactor {u t k p : Nat} (hp : p.Prime) (hk : 2 ≤ k) (e2 : t * p ^ k = u) (e3 : ¬ p ∣ t) :
    PPSpec u (if t = 1 then (k, p) else (0, 0)) := by
  split
  · next ht => exact ppspec_pos hp hk (by rw [← e2, ht, Nat.one_mul])
  · next ht => exact ppspec_zero fun h => ht ((properPP_split hp e3 (by omega)).1 (e2 ▸ h)).1

theorem smallScan_spec (u : Nat) (hu : 0 < u) : ∀ (ps : List Nat), (∀ p ∈ ps, Nat.Prime p) →
    (smallScan u ps = none → ∀ p ∈ ps, ¬ p ∣ u) ∧ (∀ r, smallScan u ps = some r → PPSpec u r) := by
  intro ps
  induction ps with
  | nil => intro _; exact ⟨fun _ p hp => by simp at hp, fun r h => by simp [smallScan] at h⟩
  | cons p ps ih =>
    intro hps
    have hp : Nat.Prime p := hps p (by simp)
    obtain ⟨ih1, ih2⟩ := ih (fun q hq => hps q (List.mem_cons_of_mem _ hq))
    unfold smallScan
    by_cases hd : u % p = 0
    · rw [if_pos hd]
      by_cases hsq : u % (p * p) = 0
      · -- `u = p² · u/p²`, and the loop divides the remaining factors `p` out of `u/p²`
        have hsqd : p * p ∣ u := Nat.dvd_of_mod_eq_zero hsq
        obtain ⟨u', k, e1, e2, e3⟩ := multLoop_spec p hp.two_le (u + 1) (u / (p * p)) 2
          (Nat.div_pos (Nat.le_of_dvd hu hsqd) (Nat.mul_pos hp.pos hp.pos)) (Nat.lt_succ_of_le (Nat.div_le_self _ _))
        have hfull : u' * p ^ (2 + k) = u := by
          rw [pow_add, pow_two, ← Nat.mul_assoc, Nat.mul_right_comm, e2, Nat.mul_comm, Nat.mul_div_cancel' hsqd]
        rw [if_neg (fun h => h hsq), e1]
        dsimp only
        rw [← apply_ite some]
        refine ⟨(fun h => nomatch h), fun r hr => ?_⟩
        cases hr
        exact ppspec_cofactor hp (Nat.le_add_right 2 k) hfull e3
      · rw [if_pos hsq]
        refine ⟨(fun h => nomatch h), fun r hr => ?_⟩
        cases hr
        exact ppspec_zero (not_pp_of_dvd_not_sq hp (Nat.dvd_of_mod_eq_zero hd) fun h => hsq (Nat.mod_eq_zero_of_dvd h))
    · rw [if_neg hd]
      refine ⟨fun h q hq => ?_, ih2⟩
      rcases List.mem_cons.1 hq with rfl | hq'
      · exact fun hdv => hd (Nat.mod_eq_zero_of_dvd hdv)
      · exact ih1 h q hq'

theorem not_pp_one : ¬ ProperPP 1 := by
  rintro ⟨p, k, hp, hk, h⟩
  rcases Nat.pow_eq_one.1 h with h1 | h1
  · exact hp.ne_one h1
  · omega

theorem root_exact_of_pow {root : Nat → Nat → Nat} (hroot : RootOK root) {u k x : Nat} (hk : 1 ≤ k) (h : x ^ k = u) :
    root u k ^ k = u := by
  subst h
  obtain ⟨h1, h2⟩ := hroot (x ^ k) k hk
  have hk0 : k ≠ 0 := by omega
  have a := (Nat.pow_le_pow_iff_left hk0).1 h1
  have b := (Nat.pow_lt_pow_iff_left hk0).1 h2
  rw [show root (x ^ k) k = x by omega]

theorem eq_one_of_pow_eq {q n u : Nat} (hq : q < 2) (hn : n ≠ 0) (hu : 1 ≤ u) (h : q ^ n = u) : u = 1 := by
  obtain rfl | rfl : q = 0 ∨ q = 1 := by omega
  · rw [Nat.zero_pow (by omega)] at h; omega
  · rw [← h, Nat.one_pow]

/-- the recursive call on an exact root `q` that is not prime -/
theorem ppspec_pow {q n : Nat} (hn : 2 ≤ n) (hqp : ¬ Nat.Prime q) {r : Nat × Nat} (h : PPSpec q r) :
    PPSpec (q ^ n) (n * r.1, r.2) := by
  constructor
  · intro hpos
    obtain ⟨hr, hk2, hrk⟩ := h.1 (Nat.pos_of_mul_pos_left hpos)
    have : 2 * 2 ≤ n * r.1 := Nat.mul_le_mul hn hk2
    exact ⟨hr, by omega, by rw [pow_mul', hrk]⟩
  · intro h0
    have hnq := h.2 (by rcases Nat.mul_eq_zero.1 h0 with h | h <;> omega)
    rintro ⟨p, j, hp, hj, hpj⟩
    have hpp : IsPrimePow (q ^ n) := by
      rw [isPrimePow_nat_iff]; exact ⟨p, j, hp, by omega, hpj⟩
    rw [isPrimePow_pow_iff (by omega), isPrimePow_nat_iff] at hpp
    obtain ⟨p', j', hp', hj', hq'⟩ := hpp
    by_cases hj1 : j' = 1
    · subst hj1; exact hqp (by rw [← hq', pow_one]; exact hp')
    · exact hnq ⟨p', j', hp', by omega, hq'⟩

/-- the early exit of the exponent scan: `u = r^m` forces `m < nth`, and the least prime factor of `m` was tried -/
theorem not_pp_of_small_root {u q nth B : Nat} (hbig : ∀ r, Nat.Prime r → r ∣ u → B ≤ r) (hqs : q < B)
    (hq2 : u < (q + 1) ^ nth) (hinv : ∀ m, Nat.Prime m → m < nth → ¬ ∃ x, x ^ m = u) : ¬ ProperPP u := by
  rintro ⟨r, m, hr, hm, hrm⟩
  have hrB : B ≤ r := hbig r hr (hrm ▸ dvd_pow_self r (by omega))
  have hlt : m < nth := by
    by_contra hc
    have h1 : r ^ nth ≤ r ^ m := Nat.pow_le_pow_right hr.pos (by omega)
    have h2 : (q + 1) ^ nth ≤ r ^ nth := Nat.pow_le_pow_left (by omega) nth
    omega
  obtain ⟨j, hj⟩ := Nat.minFac_dvd m
  exact hinv m.minFac (Nat.minFac_prime (by omega)) (Nat.lt_of_le_of_lt (Nat.minFac_le (by omega)) hlt)
    ⟨r ^ j, by rw [← pow_mul', ← hj, hrm]⟩

theorem small_primes_eq :
    2 :: smallOddPrimes = (List.range SMALLEST_OMITTED_PRIME).filter Givaro.Spec.Primes.isPrimeDec := by decide +kernel

theorem small_primes_iff (r : Nat) : r ∈ 2 :: smallOddPrimes ↔ Nat.Prime r ∧ r < SMALLEST_OMITTED_PRIME := by
  rw [small_primes_eq, List.mem_filter, List.mem_range, isPrimeDec_iff_prime, and_comm]

theorem not_pp_mod4 {u : Nat} (h : u % 4 = 2) : ¬ ProperPP u := fun hpp =>
  absurd ((properPP_split Nat.prime_two (r := u / 2) (by omega) (le_refl 1)).1
    ((show u / 2 * 2 ^ 1 = u by omega).symm ▸ hpp)).2 (by decide)

theorem ppspec_two {u t k : Nat} (h4 : u % 4 ≠ 2) (hk : 0 < k) (e2 : t * 2 ^ k = u) (e3 : t % 2 = 1) :
    PPSpec u (if t = 1 then (k, 2) else (0, 0)) := by
  refine ppspec_cofactor Nat.prime_two ?_ e2 fun hd => by omega
  by_contra hc
  obtain rfl : k = 1 := by omega
  omega

/-- fuel of the exponent scan (Bertrand): the scan stops at the latest at a prime `P` with `u < 2^P` -/
theorem rootScan_fuel (u : Nat) : ∃ P, Nat.Prime P ∧ u < 2 ^ P ∧ P ≤ 2 * Nat.log2 u + 2 := by
  obtain ⟨P, hP, hP1, hP2⟩ := Nat.exists_prime_lt_and_le_two_mul (Nat.log2 u + 1) (by omega)
  refine ⟨P, hP, ?_, by omega⟩
  calc u < 2 ^ (Nat.log2 u + 1) := Nat.lt_log2_self
    _ ≤ 2 ^ P := Nat.pow_le_pow_right (by omega) (by omega)

theorem prime_pow_unique {p q k e : Nat} (hp : Nat.Prime p) (hq : Nat.Prime q) (he : 0 < e) (h : q ^ e = p ^ k) :
    q = p ∧ e = k := by
  have hqp : q = p := Nat.prime_eq_prime_of_dvd_pow hq hp (h ▸ dvd_pow_self q (by omega))
  subst hqp
  exact ⟨rfl, Nat.pow_right_injective hq.two_le h⟩

section
variable (isp : Int → Bool) (hisp : ∀ n : Int, isp n = true ↔ Nat.Prime n.toNat)
  (root : Nat → Nat → Nat) (hroot : RootOK root)
include hisp hroot

/-- invariant: no prime exponent below `nth` gives an exact root of `u`; the scan cannot pass a prime `P` with `u < 2^P` -/
theorem rootScan_spec (again : Nat → Nat × Nat) (u : Nat) (hu : 1 ≤ u)
    (hbig : ∀ r, Nat.Prime r → r ∣ u → SMALLEST_OMITTED_PRIME ≤ r)
    (hagain : ∀ q, 2 ≤ q → q < u → PPSpec q (again q))
    (P : Nat) (hP : Nat.Prime P) (hPu : u < 2 ^ P)
    (fuel nth : Nat) (h2 : 2 ≤ nth) (hle : nth ≤ P) (hfuel : P < fuel + nth)
    (hinv : ∀ m, Nat.Prime m → m < nth → ¬ ∃ x, x ^ m = u) :
    PPSpec u (rootScan isp root again u fuel nth) := by
  have hispN : ∀ m : Nat, isp (m : Int) = true ↔ Nat.Prime m := fun m => by simpa using hisp (m : Int)
  -- the invariant at `nth + 1`, when `nth` is not a prime exponent with an exact root
  have next : ∀ nth, (Nat.Prime nth → ¬ ∃ x, x ^ nth = u) → (∀ m, Nat.Prime m → m < nth → ¬ ∃ x, x ^ m = u) →
      ∀ m, Nat.Prime m → m < nth + 1 → ¬ ∃ x, x ^ m = u := by
    intro nth hno hinv m hm hmlt hx
    by_cases hmn : m = nth
    · subst hmn; exact hno hm hx
    · exact hinv m hm (by omega) hx
  fun_induction rootScan isp root again u fuel nth with
  | case1 => omega
  | case2 f nth hn ih =>
    have hnp : ¬ Nat.Prime nth := fun h => by simp [(hispN nth).2 h] at hn
    have hne : nth ≠ P := fun h => hnp (h ▸ hP)
    exact ih (by omega) (by omega) (by omega) (next nth (fun h => absurd h hnp) hinv)
  | case3 f nth hn q hex hq => exact ppspec_pos ((hispN q).1 hq) h2 hex
  | case4 f nth hn q hex hq hqs =>
    rw [eq_one_of_pow_eq hqs (by omega) hu hex]
    exact ppspec_zero not_pp_one
  | case5 f nth hn q hex hq hqs k r hkr =>
    have hqu : q < u := by
      rw [← hex]; exact lt_self_pow₀ (by omega) (by omega)
    have := ppspec_pow (n := nth) h2 (fun h => hq ((hispN q).2 h)) (hagain q (by omega) hqu)
    rwa [hex, hkr] at this
  | case6 f nth hn q hex hqs => exact ppspec_zero (not_pp_of_small_root hbig hqs (hroot u nth (by omega)).2 hinv)
  | case7 f nth hn q hex hqs ih =>
    -- at `nth = P` the root is below 2
    have hne : nth ≠ P := by
      rintro rfl
      have : 2 ^ nth ≤ q ^ nth := Nat.pow_le_pow_left (by unfold SMALLEST_OMITTED_PRIME at hqs; omega) nth
      have : q ^ nth ≤ u := (hroot u nth (by omega)).1
      omega
    exact ih (by omega) (by omega) (by omega)
      (next nth (fun _ ⟨x, hx⟩ => hex (root_exact_of_pow hroot (by omega) hx)) hinv)

theorem isprimepowerAux_spec :
    ∀ (depth : Nat) (ui : Int), ui.toNat < depth →
      (ui ≤ 0 → (isprimepowerAux isp root depth ui).1 = 0) ∧
      (0 < ui → PPSpec ui.toNat (isprimepowerAux isp root depth ui)) := by
  intro depth
  induction depth with
  | zero => intro ui h; omega
  | succ d ih =>
    intro ui hdepth
    unfold isprimepowerAux
    by_cases hle : ui ≤ 0
    · exact ⟨fun _ => by simp [hle], fun h => by omega⟩
    refine ⟨fun h => absurd h hle, fun _ => ?_⟩
    simp only [hle, ↓reduceIte]
    generalize hudef : ui.toNat = u at hdepth ⊢
    have hu : 1 ≤ u := by omega
    -- the test reads the low limb: `u % 2^64 % 4` is `u % 4`
    rw [Nat.mod_mod_of_dvd u (by decide : 4 ∣ 18446744073709551616)]
    by_cases h4 : u % 4 = 2
    · simp only [h4, ↓reduceIte]
      exact ppspec_zero (not_pp_mod4 h4)
    simp only [h4, ↓reduceIte]
    obtain ⟨t', k, e1, e2, e3⟩ := twoLoop_spec (u + 1) u 0 (by omega) (by omega)
    rw [e1]
    simp only [Nat.zero_add]
    by_cases hk : k > 0
    · simp only [hk, ↓reduceIte]
      exact ppspec_two h4 hk e2 e3
    simp only [hk, ↓reduceIte]
    obtain rfl : k = 0 := by omega
    obtain rfl : t' = u := by simpa using e2
    obtain ⟨s1, s2⟩ := smallScan_spec t' hu smallOddPrimes
      fun p hp => ((small_primes_iff p).1 (List.mem_cons_of_mem _ hp)).1
    rcases hs : smallScan t' smallOddPrimes with _ | r
    swap
    · exact s2 r hs
    have hbig : ∀ r, Nat.Prime r → r ∣ t' → SMALLEST_OMITTED_PRIME ≤ r := by
      intro r hr hrd
      by_contra hc
      rcases List.mem_cons.1 ((small_primes_iff r).2 ⟨hr, by omega⟩) with h | h
      · subst h; have := Nat.mod_eq_zero_of_dvd hrd; omega
      · exact s1 hs r h hrd
    obtain ⟨P, hP, hPu, hPle⟩ := rootScan_fuel t'
    refine rootScan_spec isp hisp root hroot _ t' hu hbig ?_ P hP hPu (2 * Nat.log2 t' + 4) 2 (by omega) hP.two_le
      (by omega) fun m hm hm2 => absurd hm.two_le (by omega)
    intro q hq2 hqu
    simpa using (ih (q : Int) (by simp; omega)).2 (by omega)

theorem isprimepower_spec (u : Int) (hu : Nat.log2 u.toNat < 4294967296) :
    (u ≤ 0 → (isprimepower isp root u).1 = 0) ∧ (0 < u → PPSpec u.toNat (isprimepower isp root u)) := by
  unfold isprimepower
  obtain ⟨a, b⟩ := isprimepowerAux_spec isp hisp root hroot (u.toNat + 1) u (by omega)
  generalize isprimepowerAux isp root (u.toNat + 1) u = r at a b
  refine ⟨fun h => by simp [a h], fun h => ?_⟩
  have hs := b h
  by_cases hr : 0 < r.1
  · obtain ⟨hq, he, hqe⟩ := hs.1 hr
    have : 2 ^ r.1 ≤ u.toNat := by
      rw [← hqe]; exact Nat.pow_le_pow_left hq.two_le _
    have : r.1 ≤ Nat.log2 u.toNat := (Nat.le_log2 (by omega)).2 this
    have hmod : r.1 % 4294967296 = r.1 := Nat.mod_eq_of_lt (by omega)
    simp only [hmod]
    exact hs
  · have : r.1 = 0 := by omega
    simp only [this, Nat.zero_mod]
    exact ppspec_zero (hs.2 this)

end

theorem bisect_bounds {lo hi f : Nat} (h : lo + 1 < hi) (h2 : hi - lo ≤ 2 ^ (f + 1)) :
    lo < (lo + hi) / 2 ∧ (lo + hi) / 2 < hi ∧ hi - (lo + hi) / 2 ≤ 2 ^ f ∧ (lo + hi) / 2 - lo ≤ 2 ^ f := by
  rw [pow_succ] at h2
  omega

theorem irootAux_spec (n k fuel lo hi : Nat) (h1 : lo < hi) (h2 : hi - lo ≤ 2 ^ fuel) (h3 : lo ^ k ≤ n) (h4 : n < hi ^ k) :
    irootAux n k fuel lo hi ^ k ≤ n ∧ n < (irootAux n k fuel lo hi + 1) ^ k := by
  fun_induction irootAux n k fuel lo hi with
  | case1 lo hi =>
    obtain rfl : hi = lo + 1 := by simp at h2; omega
    exact ⟨h3, h4⟩
  | case2 f lo hi hc =>
    obtain rfl : hi = lo + 1 := by omega
    exact ⟨h3, h4⟩
  | case3 f lo hi hc mid hm ih =>
    obtain ⟨b1, b2, b3, b4⟩ := bisect_bounds (by omega) h2
    exact ih b2 b3 hm h4
  | case4 f lo hi hc mid hm ih =>
    obtain ⟨b1, b2, b3, b4⟩ := bisect_bounds (by omega) h2
    exact ih b1 b4 h3 (by omega)

end Givaro.Lemmas.Primes
