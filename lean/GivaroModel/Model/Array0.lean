/-
C17 — executable model of `Array0<T>` (src/kernel/bstruct/givarray0.inl) over an abstract block store.

Handles are the four fields of the class (`_cnt`, `_size`, `_psz`, `_d`); the store has *data blocks* (the `T*` blocks
obtained from `GivaroMM<T>::allocate`, with the list of constructed cells) and *counter cells* (the `int*` blocks obtained
from `GivaroMM<int>::allocate(1)`).  Block identifiers are never reused: a released block stays in the store with
`live = false`, so that every later access through a stale pointer is visible as a `fault` (the state the C++ program
reaches by undefined behaviour: null/stale counter dereference, read of a released block, double release).
That the real pool may recycle a released block only for a *new* allocation is the subject of `Model/FreeList.lean`.

Transcription notes (line numbers of givarray0.inl):
  * `destroy` l.79-90, `build` l.23-34, NoCopy ctor l.51-60, WithCopy ctor l.65-75, `allocate` l.94-110,
    `reallocate` l.115-138, `push_back` l.141-145, `copy` l.157-167, `logcopy` l.171-182, `operator=` l.187-192.
  * constructors are applied by the harness to a slot whose previous object has been destroyed (`H->~A(); new (H) A(…)`),
    the model's `ctor…` operations therefore start with `destroy`.
  * in `reallocate` the new block is obtained before the old one is released; identifiers being fresh, the order of the
    two is immaterial in this store; what matters (and is kept) is that the old cells are *read before* the release.
Core Lean only (linked into the driver).
-/
namespace Givaro.Model.Array0

/-- pointwise update of a total map -/
def upd {β : Type} (f : Nat → β) (i : Nat) (v : β) : Nat → β := fun j => if j = i then v else f j

@[simp] theorem upd_same {β : Type} (f : Nat → β) (i : Nat) (v : β) : upd f i v i = v := by simp [upd]
theorem upd_other {β : Type} (f : Nat → β) (i j : Nat) (v : β) (h : j ≠ i) : upd f i v j = f j := by simp [upd, h]

/-- a flag that is set after one flag was cleared was set before, and is another one -/
theorem upd_false_true {f : Nat → Bool} {i x : Nat} (h : upd f i false x = true) : x ≠ i ∧ f x = true := by
  have e : x ≠ i := by intro q; rw [q, upd_same] at h; cases h
  exact ⟨e, by rwa [upd_other _ _ _ _ e] at h⟩

/-- a flag that is set after one flag was set is that one or was set before -/
theorem upd_true_true {f : Nat → Bool} {i x : Nat} (h : upd f i true x = true) : x = i ∨ (x ≠ i ∧ f x = true) := by
  by_cases e : x = i
  · exact Or.inl e
  · rw [upd_other _ _ _ _ e] at h; exact Or.inr ⟨e, h⟩

structure Handle where
  cnt  : Option Nat      -- `_cnt`  (none = null)
  size : Nat             -- `_size`
  psz  : Nat             -- `_psz`
  d    : Option Nat      -- `_d`    (none = null)
deriving DecidableEq, Repr, Inhabited

def Handle.empty : Handle := ⟨none, 0, 0, none⟩

structure State (α : Type) where
  n     : Nat                 -- number of handle slots
  hs    : Nat → Handle
  dlive : Nat → Bool
  ddata : Nat → List α        -- constructed cells of a data block (its physical size is the length)
  dnext : Nat
  clive : Nat → Bool
  cval  : Nat → Int
  cnext : Nat
  fault : Bool

def init (α : Type) (n : Nat) : State α :=
  { n := n, hs := fun _ => Handle.empty, dlive := fun _ => false, ddata := fun _ => [], dnext := 0,
    clive := fun _ => false, cval := fun _ => 0, cnext := 0, fault := false }

variable {α : Type}

def faulted (s : State α) : State α := { s with fault := true }
def setH (s : State α) (h : Nat) (H : Handle) : State α := { s with hs := upd s.hs h H }

/-- `Array0<T>::destroy()` -/
def destroy (s : State α) (h : Nat) : State α :=
  let H := s.hs h
  if H.psz = 0 then setH s h Handle.empty else
  match H.cnt with
  | none => faulted s                                   -- `--(*_cnt)` through a null pointer
  | some c =>
    if s.clive c = false then faulted s else            -- counter cell already released
    let v := s.cval c - 1
    if v = 0 then
      match H.d with
      | none => faulted s
      | some b =>
        if s.dlive b = false then faulted s else        -- double release
        { s with cval := upd s.cval c 0, clive := upd s.clive c false, dlive := upd s.dlive b false,
                 hs := upd s.hs h Handle.empty }
    else { s with cval := upd s.cval c v, hs := upd s.hs h Handle.empty }

/-- a new data block with cells `l` and a new counter cell holding 1, attached to handle `h` with logical size `sz` -/
def attachFresh (s : State α) (h : Nat) (l : List α) (sz : Nat) : State α :=
  { s with dlive := upd s.dlive s.dnext true, ddata := upd s.ddata s.dnext l, dnext := s.dnext + 1,
           clive := upd s.clive s.cnext true, cval := upd s.cval s.cnext 1, cnext := s.cnext + 1,
           hs := upd s.hs h ⟨some s.cnext, sz, l.length, some s.dnext⟩ }

/-- the body shared by the NoCopy constructor and `logcopy` once `*this` is empty:
    `_psz = p._psz; _size = p._size; if (_psz != 0) { _d = p._d; _cnt = p._cnt; (*_cnt)++; } else { _d = 0; _cnt = 0; }` -/
def attachShare (s : State α) (h g : Nat) : State α :=
  let P := s.hs g
  if P.psz ≠ 0 then
    match P.cnt with
    | none => faulted s
    | some c =>
      if s.clive c = false then faulted s else
      { s with cval := upd s.cval c (s.cval c + 1), hs := upd s.hs h ⟨some c, P.size, P.psz, P.d⟩ }
  else setH s h ⟨none, P.size, P.psz, none⟩

/-- the first `k` cells of a block, `none` when the block is released or shorter (undefined behaviour in C++) -/
def readCells (s : State α) (b : Option Nat) (k : Nat) : Option (List α) :=
  match b with
  | none => if k = 0 then some [] else none
  | some b => if k = 0 then some [] else if s.dlive b = true ∧ k ≤ (s.ddata b).length then some ((s.ddata b).take k) else none

/-- `Array0(size_t s, const T& t)` on a destroyed slot -/
def ctorBuild (s : State α) (h sz : Nat) (t : α) : State α :=
  let s := destroy s h
  if s.fault then s else
  if sz ≠ 0 then attachFresh s h (List.replicate sz t) sz else setH s h ⟨none, 0, 0, none⟩

/-- `Array0(const Self_t& p, givNoCopy)` on a destroyed slot (`g ≠ h`) -/
def ctorNoCopy (s : State α) (h g : Nat) : State α :=
  if h = g then s else
  let s := destroy s h
  if s.fault then s else attachShare s h g

/-- `Array0(const Self_t& p, givWithCopy)` on a destroyed slot (`g ≠ h`) -/
def ctorWithCopy (s : State α) (h g : Nat) : State α :=
  if h = g then s else
  let s := destroy s h
  if s.fault then s else
  let P := s.hs g
  if P.size ≠ 0 then
    match readCells s P.d P.size with
    | none => faulted s
    | some l => attachFresh s h l P.size
  else setH s h ⟨none, 0, 0, none⟩

/-- does the fast path `(*_cnt == 1) && (_psz >= s)` apply?  `none` = the counter cell is stale (fault) -/
def soleWithRoom (s : State α) (H : Handle) (sz : Nat) : Option Bool :=
  match H.cnt with
  | none => some false
  | some c => if s.clive c = false then none else some (s.cval c = 1 ∧ H.psz ≥ sz)

/-- `Array0<T>::allocate(size_t s)` -/
def allocate [Inhabited α] (s : State α) (h sz : Nat) : State α :=
  let H := s.hs h
  match soleWithRoom s H sz with
  | none => faulted s
  | some true => setH s h { H with size := sz }
  | some false =>
    let s := if H.cnt.isSome then destroy s h else s
    if s.fault then s else
    if sz > 0 then attachFresh s h (List.replicate sz default) sz
    else setH s h { (s.hs h) with cnt := none, size := 0, psz := 0 }      -- `_d` is left as it is

/-- `Array0<T>::reallocate(size_t s)` (= `resize`) -/
def reallocate [Inhabited α] (s : State α) (h sz : Nat) : State α :=
  let H := s.hs h
  match soleWithRoom s H sz with
  | none => faulted s
  | some true => setH s h { H with size := sz }
  | some false =>
    if sz > 0 then
      let k := if H.size < sz then H.size else sz
      if H.cnt.isSome then
        match readCells s H.d k with                    -- `initone(&tmp[i], _d[i])`, i < k
        | none => faulted s
        | some l =>
          let s := destroy s h
          if s.fault then s else attachFresh s h (l ++ List.replicate (sz - k) default) sz
      else
        if k ≠ 0 then faulted s                          -- cells [0,k) of the new block would stay unconstructed
        else attachFresh s h (List.replicate sz default) sz
    else destroy s h

/-- store `v` in cell `i` of block `b` -/
def writeCell (s : State α) (b : Option Nat) (i : Nat) (v : α) : State α :=
  match b with
  | none => faulted s
  | some b =>
    if s.dlive b = true ∧ i < (s.ddata b).length then { s with ddata := upd s.ddata b ((s.ddata b).set i v) }
    else faulted s

/-- `push_back(a)`: `reallocate(_size+1); back() = a;` -/
def pushBack [Inhabited α] (s : State α) (h : Nat) (v : α) : State α :=
  let s := reallocate s h ((s.hs h).size + 1)
  if s.fault then s else
  let H := s.hs h
  if H.size = 0 then faulted s else writeCell s H.d (H.size - 1) v

/-- `if (i < size()) push_back((*this)[i])` (the guard is the harness's): the argument refers into the array itself.
    `push_back` copies it before the storage can move: `const T tmp(a); reallocate(_size+1); back() = tmp;` -/
def pushBackSelf [Inhabited α] (s : State α) (h i : Nat) : State α :=
  let H := s.hs h
  if i < H.size then
    match readCells s H.d (i + 1) with                  -- `T tmp(_d[i])`
    | none => faulted s
    | some l =>
      match l[i]? with
      | some v => pushBack s h v
      | none => faulted s
  else s

/-- `push_back` as it was before the repair, applied to its own cell `i`: `reallocate(_size+1); back() = a;`
    where the reference `a` still designates cell `i` of the block the handle had *before* `reallocate`. -/
def pushBackSelfOld [Inhabited α] (s : State α) (h i : Nat) : State α :=
  let H := s.hs h
  if i < H.size then
    let s1 := reallocate s h (H.size + 1)
    if s1.fault then s1 else
    match readCells s1 H.d (i + 1) with                 -- read through the stale reference
    | none => faulted s1                                -- the old block has been destroyed and released
    | some l =>
      match l[i]? with
      | some v => writeCell s1 (s1.hs h).d ((s1.hs h).size - 1) v
      | none => faulted s1
  else s

/-- `if (i < size()) write(i, v)` (the guard is the harness's) -/
def write (s : State α) (h i : Nat) (v : α) : State α :=
  let H := s.hs h
  if i < H.size then writeCell s H.d i v else s

/-- overwrite the first `l.length` cells of block `b` -/
def writeCells (s : State α) (b : Option Nat) (l : List α) : State α :=
  match b with
  | none => if l.isEmpty then s else faulted s
  | some b =>
    if l.isEmpty then s else
    if s.dlive b = true ∧ l.length ≤ (s.ddata b).length then
      { s with ddata := upd s.ddata b (l ++ (s.ddata b).drop l.length) }
    else faulted s

/-- `Array0<T>::copy(const Array0<T>& src)` (= `operator=`) -/
def copy [Inhabited α] (s : State α) (h g : Nat) : State α :=
  if (s.hs g).d = (s.hs h).d then s else                 -- `if (src._d == _d) return *this;`
  let s := reallocate s h (s.hs g).size
  if s.fault then s else
  match readCells s (s.hs g).d (s.hs h).size with        -- `baseThis[i] = baseP[i]`, i < _size
  | none => faulted s
  | some l => writeCells s (s.hs h).d l

/-- `Array0<T>::logcopy(const Array0<T>& src)` -/
def logcopy (s : State α) (h g : Nat) : State α :=
  if h = g then s else                                   -- `if (this == &src) return *this;`
  let s := destroy s h
  if s.fault then s else attachShare s h g

/-- `reserve(s)`: `reallocate(s); reallocate(0);` -/
def reserve [Inhabited α] (s : State α) (h sz : Nat) : State α :=
  let s := reallocate s h sz
  if s.fault then s else reallocate s h 0

inductive Op (α : Type) where
  | build (h sz : Nat) (t : α)
  | noCopy (h g : Nat)
  | withCopy (h g : Nat)
  | destroy (h : Nat)
  | allocate (h sz : Nat)
  | resize (h sz : Nat)
  | reserve (h sz : Nat)
  | pushBack (h : Nat) (v : α)
  | pushBackSelf (h i : Nat)
  | write (h i : Nat) (v : α)
  | copy (h g : Nat)
  | logcopy (h g : Nat)
  | assign (h g : Nat)
deriving Repr

def Op.handles : Op α → List Nat
  | .build h _ _ => [h] | .noCopy h g => [h, g] | .withCopy h g => [h, g] | .destroy h => [h]
  | .allocate h _ => [h] | .resize h _ => [h] | .reserve h _ => [h] | .pushBack h _ => [h] | .pushBackSelf h _ => [h] | .write h _ _ => [h]
  | .copy h g => [h, g] | .logcopy h g => [h, g] | .assign h g => [h, g]

/-- the operation proper -/
def stepCore [Inhabited α] (s : State α) : Op α → State α
  | .build h sz t => ctorBuild s h sz t
  | .noCopy h g => ctorNoCopy s h g
  | .withCopy h g => ctorWithCopy s h g
  | .destroy h => destroy s h
  | .allocate h sz => allocate s h sz
  | .resize h sz => reallocate s h sz
  | .reserve h sz => reserve s h sz
  | .pushBack h v => pushBack s h v
  | .pushBackSelf h i => pushBackSelf s h i
  | .write h i v => write s h i v
  | .copy h g => copy s h g
  | .logcopy h g => logcopy s h g
  | .assign h g => copy s h g

/-- one operation; operations naming a slot outside `[0, n)` and operations on a faulted state do nothing -/
def step [Inhabited α] (s : State α) (op : Op α) : State α :=
  if s.fault then s else
  if op.handles.any (fun h => decide (s.n ≤ h)) then s else stepCore s op

def run [Inhabited α] (s : State α) (ops : List (Op α)) : State α := ops.foldl step s

/-- logical contents of a handle: the first `_size` cells of its block -/
def contents (s : State α) (h : Nat) : List α :=
  match (s.hs h).d with
  | none => []
  | some b => (s.ddata b).take (s.hs h).size

/-- number of `k < n` with `p k` -/
def countBelow (p : Nat → Bool) : Nat → Nat
  | 0 => 0
  | k + 1 => countBelow p k + (if p k then 1 else 0)

/-- number of handles whose `_cnt` is the cell `c` -/
def sharers (s : State α) (c : Nat) : Nat := countBelow (fun h => (s.hs h).cnt == some c) s.n

/-- live blocks that no handle refers to (data blocks, counter cells) -/
def leaked (s : State α) : Nat :=
  countBelow (fun b => s.dlive b && !(List.range s.n).any (fun h => (s.hs h).d == some b && (s.hs h).psz != 0)) s.dnext +
  countBelow (fun c => s.clive c && !(List.range s.n).any (fun h => (s.hs h).cnt == some c)) s.cnext

end Givaro.Model.Array0
