/- C06 helper lemmas: rushift.h — general shifts by every count; bitwise or/and/xor on values. -/
import GivaroModel.Lemmas.RecIntShift
namespace Givaro.Model.RecInt

theorem split_div_mod (k l h : Nat) (hl : l < 2 ^ k) : (l + 2 ^ k * h) % 2 ^ k = l ∧ (l + 2 ^ k * h) / 2 ^ k = h :=
  have u := (Nat.div_mod_unique (Nat.two_pow_pos k)).mpr ⟨rfl, hl⟩
  ⟨u.2, u.1⟩

/-- an operation that commutes with `% 2^k` and `/ 2^k` (and, or, xor) acts digit by digit in base `2^k` -/
theorem bitop_split {f : Nat → Nat → Nat} (hmod : ∀ a b k, f a b % 2 ^ k = f (a % 2 ^ k) (b % 2 ^ k))
    (hdiv : ∀ a b k, f a b / 2 ^ k = f (a / 2 ^ k) (b / 2 ^ k)) (k l1 h1 l2 h2 : Nat) (hl1 : l1 < 2 ^ k) (hl2 : l2 < 2 ^ k) :
    f (l1 + 2 ^ k * h1) (l2 + 2 ^ k * h2) = f l1 l2 + 2 ^ k * f h1 h2 := by
  obtain ⟨m1, d1⟩ := split_div_mod k l1 h1 hl1
  obtain ⟨m2, d2⟩ := split_div_mod k l2 h2 hl2
  have e := (Nat.mod_add_div (f (l1 + 2 ^ k * h1) (l2 + 2 ^ k * h2)) (2 ^ k)).symm
  rw [hmod, hdiv, m1, m2, d1, d2] at e
  exact e

theorem bitwise_ok (f : Nat → Nat → Nat) (F : {n : Nat} → RU n → RU n → RU n)
    (hlimb : ∀ a b, F (.limb a) (.limb b) = .limb (f a b))
    (hnode : ∀ {n : Nat} (l1 h1 l2 h2 : RU n), F (.node l1 h1) (.node l2 h2) = .node (F l1 l2) (F h1 h2))
    (hlt : ∀ a b, a < 2 ^ 64 → b < 2 ^ 64 → f a b < 2 ^ 64)
    (hmod : ∀ a b k, f a b % 2 ^ k = f (a % 2 ^ k) (b % 2 ^ k)) (hdiv : ∀ a b k, f a b / 2 ^ k = f (a / 2 ^ k) (b / 2 ^ k)) :
    ∀ {n : Nat} (x y : RU n), WF x → WF y → WF (F x y) ∧ val (F x y) = f (val x) (val y)
  | _, .limb a, .limb b, ha, hb => by
      rw [hlimb]
      exact ⟨hlt a b ha hb, rfl⟩
  | _, .node (n := n) l1 h1, .node l2 h2, hx, hy => by
      have il := bitwise_ok f F hlimb hnode hlt hmod hdiv l1 l2 hx.1 hy.1
      have ih := bitwise_ok f F hlimb hnode hlt hmod hdiv h1 h2 hx.2 hy.2
      rw [hnode]
      simp only [WF_node, val_node, il.2, ih.2]
      exact ⟨⟨il.1, ih.1⟩, (bitop_split hmod hdiv _ _ _ _ _ (val_lt l1 hx.1) (val_lt l2 hy.1)).symm⟩

theorem lor_ok {n : Nat} (x y : RU n) (hx : WF x) (hy : WF y) : WF (lor x y) ∧ val (lor x y) = val x ||| val y :=
  bitwise_ok (· ||| ·) lor (fun _ _ => rfl) (fun _ _ _ _ => rfl) (fun _ _ => Nat.or_lt_two_pow)
    (fun _ _ _ => Nat.or_mod_two_pow) (fun _ _ _ => Nat.or_div_two_pow) x y hx hy

theorem land_ok {n : Nat} (x y : RU n) (hx : WF x) (hy : WF y) : WF (land x y) ∧ val (land x y) = val x &&& val y :=
  bitwise_ok (· &&& ·) land (fun _ _ => rfl) (fun _ _ _ _ => rfl) (fun a _ _ hb => Nat.and_lt_two_pow a hb)
    (fun _ _ _ => Nat.and_mod_two_pow) (fun _ _ _ => Nat.and_div_two_pow) x y hx hy

theorem lxor_ok {n : Nat} (x y : RU n) (hx : WF x) (hy : WF y) : WF (lxor x y) ∧ val (lxor x y) = val x ^^^ val y :=
  bitwise_ok (· ^^^ ·) lxor (fun _ _ => rfl) (fun _ _ _ _ => rfl) (fun _ _ => Nat.xor_lt_two_pow)
    (fun _ _ _ => Nat.xor_mod_two_pow) (fun _ _ _ => Nat.xor_div_two_pow) x y hx hy

theorem pow_split (h d : Nat) (hd : d ≤ h) : 2 ^ h = 2 ^ (h - d) * 2 ^ d := by
  rw [← pow_add]; congr 1; omega

theorem pow_ge_split (h d : Nat) (hd : h ≤ d) : 2 ^ d = 2 ^ h * 2 ^ (d - h) := by
  rw [pow_split d h hd, Nat.mul_comm]

theorem shl_div (h d x : Nat) (hd : d ≤ h) : x * 2 ^ d / 2 ^ h = x / 2 ^ (h - d) := by
  rw [pow_split h d hd, Nat.mul_div_mul_right _ _ (by positivity)]

theorem shl_mod (h d x : Nat) (hd : d ≤ h) : (x * 2 ^ d) % 2 ^ h = (x % 2 ^ (h - d)) * 2 ^ d := by
  rw [pow_split h d hd, Nat.mul_mod_mul_right]

theorem shl_big (h d x : Nat) (hd : h ≤ d) : (x * 2 ^ d) % 2 ^ h = 0 := by
  rw [pow_ge_split h d hd, ← Nat.mul_assoc, Nat.mul_comm x, Nat.mul_assoc, Nat.mul_mod_right]

theorem shr_big (h d x : Nat) (hx : x < 2 ^ h) (hd : h ≤ d) : x / 2 ^ d = 0 :=
  Nat.div_eq_of_lt (Nat.lt_of_lt_of_le hx (Nat.pow_le_pow_right (by decide) hd))

theorem or_disjoint (d q m : Nat) (hq : q < 2 ^ d) : q ||| (m * 2 ^ d) = q + m * 2 ^ d := by
  rw [Nat.or_comm, Nat.mul_comm m, ← Nat.two_pow_add_eq_or_of_lt hq, Nat.add_comm]

theorem shl_two (h d al ah : Nat) (hd : d < h) (hal : al < 2 ^ h) :
    ((al + 2 ^ h * ah) * 2 ^ d) % (2 ^ h * 2 ^ h)
      = (al * 2 ^ d) % 2 ^ h + 2 ^ h * ((al / 2 ^ (h - d)) ||| ((ah * 2 ^ d) % 2 ^ h)) ∧
    ((al / 2 ^ (h - d)) ||| ((ah * 2 ^ d) % 2 ^ h)) < 2 ^ h := by
  have hd' : d ≤ h := Nat.le_of_lt hd
  have hq : al / 2 ^ (h - d) < 2 ^ d := by
    apply Nat.div_lt_of_lt_mul; rw [← pow_split h d hd']; exact hal
  rw [shl_mod h d ah hd', or_disjoint d _ _ hq]
  have hm : ah % 2 ^ (h - d) < 2 ^ (h - d) := Nat.mod_lt _ (by positivity)
  have hsum : al / 2 ^ (h - d) + ah % 2 ^ (h - d) * 2 ^ d < 2 ^ h := by
    rw [pow_split h d hd', Nat.mul_comm _ (2 ^ d), Nat.mul_comm _ (2 ^ d)]; exact digit_lt hq hm
  refine ⟨?_, hsum⟩
  have hL : (al * 2 ^ d) % 2 ^ h < 2 ^ h := Nat.mod_lt _ (by positivity)
  have e1 := Nat.mod_add_div (al * 2 ^ d) (2 ^ h)
  rw [shl_div h d al hd'] at e1
  have e2 := Nat.mod_add_div (ah * 2 ^ d) (2 ^ h)
  rw [shl_mod h d ah hd'] at e2
  symm
  apply mod_of_add_mul (Q := ah * 2 ^ d / 2 ^ h)
  · linear_combination e1 + 2 ^ h * e2
  · exact digit_lt hL hsum

theorem shr_two (h d al ah : Nat) (hd : d < h) (hal : al < 2 ^ h) :
    (al + 2 ^ h * ah) / 2 ^ d = (((ah * 2 ^ (h - d)) % 2 ^ h) ||| (al / 2 ^ d)) + 2 ^ h * (ah / 2 ^ d) ∧
    (((ah * 2 ^ (h - d)) % 2 ^ h) ||| (al / 2 ^ d)) < 2 ^ h := by
  have hd' : d ≤ h := Nat.le_of_lt hd
  have hhd : h - d ≤ h := Nat.sub_le _ _
  have e0 : h - (h - d) = d := by omega
  have hq : al / 2 ^ d < 2 ^ (h - d) := by
    apply Nat.div_lt_of_lt_mul; rw [Nat.mul_comm, ← pow_split h d hd']; exact hal
  rw [shl_mod h (h - d) ah hhd, e0, Nat.or_comm, or_disjoint (h - d) _ _ hq]
  have hm : ah % 2 ^ d < 2 ^ d := Nat.mod_lt _ (by positivity)
  have hsum : al / 2 ^ d + ah % 2 ^ d * 2 ^ (h - d) < 2 ^ h := by
    rw [pow_split h d hd', Nat.mul_comm (ah % 2 ^ d)]; exact digit_lt hq hm
  refine ⟨?_, hsum⟩
  have e1 : al + 2 ^ h * ah = al + 2 ^ d * (2 ^ (h - d) * ah) := by rw [pow_split h d hd']; ring
  rw [e1, Nat.add_mul_div_left _ _ (by positivity : 0 < 2 ^ d)]
  rw [pow_split h d hd']
  linear_combination 2 ^ (h - d) * (Nat.mod_add_div ah (2 ^ d)).symm

theorem shl_ge (h e al ah : Nat) : ((al + 2 ^ h * ah) * (2 ^ h * 2 ^ e)) % (2 ^ h * 2 ^ h) = 2 ^ h * ((al * 2 ^ e) % 2 ^ h) := by
  have : (al + 2 ^ h * ah) * (2 ^ h * 2 ^ e) = 2 ^ h * (al * 2 ^ e) + 2 ^ h * 2 ^ h * (ah * 2 ^ e) := by ring
  rw [this, Nat.add_mul_mod_self_left, Nat.mul_mod_mul_left]

theorem shr_ge (h e al ah : Nat) (hal : al < 2 ^ h) : (al + 2 ^ h * ah) / (2 ^ h * 2 ^ e) = ah / 2 ^ e := by
  rw [← Nat.div_div_eq_div_mul, Nat.add_mul_div_left _ _ (by positivity : 0 < 2 ^ h), Nat.div_eq_of_lt hal, Nat.zero_add]

/-- by the ranges of the count the code distinguishes: 0, 1, below / at / above half the width, beyond the width -/
theorem shift_ok : ∀ (n : Nat) (a : RU n) (d : Nat), WF a →
    (WF (left_shift a d) ∧ val (left_shift a d) = (val a * 2 ^ d) % Bn n) ∧
    (WF (right_shift a d) ∧ val (right_shift a d) = val a / 2 ^ d)
  | 0, .limb a, d, ha => by
      simp only [WF] at ha
      have e : B64 = 2 ^ 64 := Bn_zero.symm
      rw [Bn_zero]
      simp only [left_shift, right_shift]
      by_cases h0 : d = 0
      · subst h0; simp only [↓reduceIte, WF, val, pow_zero, Nat.mul_one, Nat.div_one, Nat.mod_eq_of_lt ha]
        exact ⟨⟨ha, trivial⟩, ha, trivial⟩
      · rw [if_neg h0, if_neg h0]
        by_cases h1 : d < 64
        · rw [if_pos h1, if_pos h1]
          simp only [WF, val]
          exact ⟨⟨Nat.mod_lt _ (by decide), trivial⟩, Nat.lt_of_le_of_lt (Nat.div_le_self _ _) ha, trivial⟩
        · rw [if_neg h1, if_neg h1]
          simp only [WF, val]
          rw [e] at ha ⊢
          exact ⟨⟨by positivity, (shl_big 64 d a (by omega)).symm⟩, by positivity, (shr_big 64 d a ha (by omega)).symm⟩
  | n+1, .node al ah, d, ha => by
      have hal := val_lt al ha.1
      have hah := val_lt ah ha.2
      have hz := val_zero n
      have hz1 := val_zero (n+1)
      have hb := bits_ge n
      rw [Bn_eq_two_pow] at hal hah
      simp only [left_shift, right_shift]
      by_cases h0 : d = 0
      · subst h0
        simp only [↓reduceIte, pow_zero, Nat.mul_one, Nat.div_one, Nat.mod_eq_of_lt (val_lt _ ha)]
        exact ⟨⟨ha, trivial⟩, ha, trivial⟩
      · rw [if_neg h0, if_neg h0]
        by_cases h1 : d = 1
        · subst h1
          simp only [↓reduceIte, pow_one]
          have hl := left_shift_1_ok (RU.node al ah) ha
          have hr := right_shift_1_ok (RU.node al ah) ha
          have hc := c2n_le (right_shift_1 (RU.node al ah)).2
          refine ⟨⟨hl.1, ?_⟩, hr.1, by omega⟩
          have hv := val_lt _ hl.1
          rw [Nat.mul_comm, ← hl.2, Nat.add_mul_mod_self_right, Nat.mod_eq_of_lt hv]
        · rw [if_neg h1, if_neg h1]
          by_cases h2 : d > bits (n+1)
          · rw [if_pos h2, if_pos h2, hz1.2]
            have hv := val_lt _ ha
            rw [Bn_eq_two_pow] at hv ⊢
            exact ⟨⟨hz1.1, (shl_big _ d _ (by omega)).symm⟩, hz1.1, (shr_big _ d _ hv (by omega)).symm⟩
          · rw [if_neg h2, if_neg h2]
            simp only [bits] at h2
            by_cases h3 : bits n > d
            · rw [if_pos h3, if_pos h3]
              have i1 := shift_ok n al d ha.1
              have i2 := shift_ok n ah d ha.2
              have i3 := shift_ok n al (bits n - d) ha.1
              have i4 := shift_ok n ah (bits n - d) ha.2
              have o1 := lor_ok _ _ i3.2.1 i2.1.1
              have o2 := lor_ok _ _ i4.1.1 i1.2.1
              have s1 := shl_two (bits n) d (val al) (val ah) h3 hal
              have s2 := shr_two (bits n) d (val al) (val ah) h3 hal
              simp only [WF_node, val_node, Bn_succ, o1.2, o2.2, i1.1.2, i1.2.2, i2.1.2, i2.2.2, i3.2.2, i4.1.2, Bn_eq_two_pow]
              exact ⟨⟨⟨i1.1.1, o1.1⟩, s1.1.symm⟩, ⟨o2.1, i2.2.1⟩, s2.1.symm⟩
            · rw [if_neg h3, if_neg h3]
              by_cases h4 : bits n < d
              · rw [if_pos h4, if_pos h4]
                have i1 := shift_ok n al (d - bits n) ha.1
                have i2 := shift_ok n ah (d - bits n) ha.2
                simp only [WF_node, val_node, Bn_succ, hz.2, i1.1.2, i2.2.2, Bn_eq_two_pow, Nat.zero_add, Nat.mul_zero, Nat.add_zero]
                rw [pow_ge_split (bits n) d (Nat.le_of_lt h4), shl_ge, shr_ge _ _ _ _ hal]
                exact ⟨⟨⟨hz.1, i1.1.1⟩, rfl⟩, ⟨i2.2.1, hz.1⟩, rfl⟩
              · rw [if_neg h4, if_neg h4]
                have hd : d = bits n := by omega
                subst hd
                have l := shl_ge (bits n) 0 (val al) (val ah)
                have r := shr_ge (bits n) 0 (val al) (val ah) hal
                rw [pow_zero, Nat.mul_one, Nat.mul_one, Nat.mod_eq_of_lt hal] at l
                rw [pow_zero, Nat.mul_one, Nat.div_one] at r
                simp only [WF_node, val_node, Bn_succ, hz.2, Bn_eq_two_pow, Nat.zero_add, Nat.mul_zero, Nat.add_zero, l, r]
                exact ⟨⟨⟨hz.1, ha.1⟩, trivial⟩, ⟨ha.2, hz.1⟩, trivial⟩

theorem left_shift_x_ok {n : Nat} (a : RU n) (d : Nat) (ha : WF a) :
    WF (left_shift_x a d) ∧ val (left_shift_x a d) = (val a * 2 ^ d) % Bn (n+1) := by
  have hal := val_lt a ha
  have hz := val_zero n
  have hz1 := val_zero (n+1)
  rw [Bn_eq_two_pow] at hal
  unfold left_shift_x
  rw [Bn_succ, Bn_eq_two_pow]
  have hsq : val a < 2 ^ bits n * 2 ^ bits n := Nat.lt_of_lt_of_le hal (Nat.le_mul_of_pos_left _ (by positivity))
  by_cases h0 : d = 0
  · subst h0
    simp only [↓reduceIte, WF_node, val_node, hz.2, pow_zero, Nat.mul_one, Nat.mul_zero, Nat.add_zero, Nat.mod_eq_of_lt hsq]
    exact ⟨⟨ha, hz.1⟩, trivial⟩
  · rw [if_neg h0]
    by_cases h2 : d > bits (n+1)
    · rw [if_pos h2, hz1.2]
      refine ⟨hz1.1, ?_⟩
      have := shl_big (bits (n+1)) d (val a) (by omega)
      simp only [bits, two_mul, pow_add] at this
      exact this.symm
    · rw [if_neg h2]
      simp only [bits] at h2
      by_cases h3 : bits n > d
      · rw [if_pos h3]
        have i1 := shift_ok n a d ha
        have i3 := shift_ok n a (bits n - d) ha
        simp only [WF_node, val_node, i1.1.2, i3.2.2, Bn_eq_two_pow]
        refine ⟨⟨i1.1.1, i3.2.1⟩, ?_⟩
        have e1 := Nat.mod_add_div (val a * 2 ^ d) (2 ^ bits n)
        rw [shl_div _ _ _ (Nat.le_of_lt h3)] at e1
        rw [e1, Nat.mod_eq_of_lt]
        exact Nat.mul_lt_mul'' hal (Nat.pow_lt_pow_right (show 1 < 2 by decide) h3)
      · rw [if_neg h3]
        have l (e : Nat) := shl_ge (bits n) e (val a) 0
        simp only [Nat.mul_zero, Nat.add_zero] at l
        by_cases h4 : bits n < d
        · rw [if_pos h4]
          have i1 := shift_ok n a (d - bits n) ha
          simp only [WF_node, val_node, hz.2, i1.1.2, Bn_eq_two_pow, Nat.zero_add]
          exact ⟨⟨hz.1, i1.1.1⟩, by rw [pow_ge_split (bits n) d (Nat.le_of_lt h4), l]⟩
        · rw [if_neg h4]
          have hd : d = bits n := by omega
          subst hd
          simp only [WF_node, val_node, hz.2, Nat.zero_add]
          refine ⟨⟨hz.1, ha⟩, ?_⟩
          have := l 0
          rw [pow_zero, Nat.mul_one, Nat.mul_one, Nat.mod_eq_of_lt hal] at this
          rw [this, Bn_eq_two_pow]

end Givaro.Model.RecInt

