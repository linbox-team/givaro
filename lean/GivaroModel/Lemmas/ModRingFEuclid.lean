/-
The floating `extended_euclid` (modular-general.inl:117, signed cofactors, `q = floor(u3/v3)`), used by
inv / div / isUnit of `Modular<float|double>`, `ModularBalanced<float|double>` and `ModularExtended`.

The state is two rows of Lemmas/EuclidRows (`SRows`), hence every cofactor and every product `q·v1`, `q·v3` is an integer of
magnitude at most `b`, exactly representable (the `fit`s of the model never fail); `u3·v3 < 2^(2·ms+3)` after the first
iteration and at least halves at every step, which the model's fuel `2·ms + 4 + |a|` covers.
-/
import GivaroModel.Lemmas.ModRingFloat
namespace Givaro.Model.ModRing
open Givaro.Spec.ModRing Givaro.Lemmas.Euclid

theorem feuLoop_succ {k : FCfg} {b : Int} (fsok : ∀ x, -b ≤ x → x ≤ b → k.fS x = some x) (n : Nat)
    {st : FCfg.FEu} (hz : st.v3 ≠ 0) {q v1' v3' : Int} (hq : Int.fdiv st.u3 st.v3 = q)
    (h1 : -b ≤ q * st.v1 ∧ q * st.v1 ≤ b) (hv1 : st.u1 - q * st.v1 = v1') (h2 : -b ≤ v1' ∧ v1' ≤ b)
    (h3 : -b ≤ q * st.v3 ∧ q * st.v3 ≤ b) (hv3 : st.u3 - q * st.v3 = v3') (h4 : -b ≤ v3' ∧ v3' ≤ b) :
    k.feuLoop (n + 1) st = k.feuLoop n ⟨st.v1, v1', st.v3, v3'⟩ := by
  rw [FCfg.feuLoop, if_neg hz, hq]
  simp only [Option.bind_eq_bind]
  rw [fsok _ h1.1 h1.2]
  simp only [Option.bind_some]
  rw [hv1, fsok _ h2.1 h2.2]
  simp only [Option.bind_some]
  rw [fsok _ h3.1 h3.2]
  simp only [Option.bind_some]
  rw [hv3, fsok _ h4.1 h4.2]
  simp only [Option.bind_some]

/-- the floating loop keeps the cofactors signed: `u1 = s·U`, `v1 = −s·V` -/
structure FRows (a b : Int) (st : FCfg.FEu) (s U V : Int) : Prop where
  rows : SRows a b (-s) st.u3 st.v3 U V
  u1 : st.u1 = s * U
  v1 : st.v1 = -(s * V)

theorem feu_step {k : FCfg} {a b : Int} (fsok : ∀ x, -b ≤ x → x ≤ b → k.fS x = some x)
    {st : FCfg.FEu} {s U V : Int} (h : FRows a b st s U V) (hz : st.v3 ≠ 0) (n : Nat) :
    ∃ st' V', k.feuLoop (n + 1) st = k.feuLoop n st' ∧ FRows a b st' (-s) V V'
      ∧ 2 * (st'.u3 * st'.v3) < st.u3 * st.v3 := by
  obtain ⟨hR, hu1, hv1⟩ := h
  obtain ⟨⟨hq0, hqb⟩, ⟨hqV0, hV'b⟩, ⟨hqr0, hqrb⟩, hrem⟩ := hR.bounds hz
  have hs := hR.step hz
  have hsg : s = 1 ∨ s = -1 := by rcases hR.sg with h | h <;> omega
  have hU := hR.U0
  have hv3 : 0 < st.v3 := lt_of_le_of_ne hR.r0 (Ne.symm hz)
  have hq : Int.fdiv st.u3 st.v3 = st.u3 / st.v3 := Int.fdiv_eq_ediv_of_nonneg _ (le_of_lt hv3)
  have hm := hs.r0
  have hmb : st.u3 % st.v3 ≤ b := le_of_lt (lt_of_lt_of_le hs.rd hs.db)
  have hhalf := two_mul_rem_lt hv3 (le_of_lt hR.rd)
  generalize st.u3 / st.v3 = q at *
  have e1 : q * st.v1 = -(s * (q * V)) := by rw [hv1]; ring
  have e2 : st.u1 - q * st.v1 = s * (q * V + U) := by rw [hu1, hv1]; ring
  refine ⟨⟨st.v1, st.u1 - q * st.v1, st.v3, st.u3 % st.v3⟩, q * V + U, ?_, ⟨hs, by rw [hv1]; ring, by rw [e2]; ring⟩, hhalf⟩
  exact feuLoop_succ fsok n hz hq (by rw [e1]; rcases hsg with rfl | rfl <;> omega) rfl
    (by rw [e2]; rcases hsg with rfl | rfl <;> omega) ⟨by omega, by omega⟩ hrem ⟨by omega, by omega⟩

theorem feuLoop_spec {k : FCfg} {a b : Int} (fsok : ∀ x, -b ≤ x → x ≤ b → k.fS x = some x) :
    ∀ (fuel : Nat) (st : FCfg.FEu) (s U V : Int), FRows a b st s U V → st.u3 * st.v3 < (2 : Int) ^ fuel →
      ∃ st' s' U' V', k.feuLoop fuel st = some st' ∧ FRows a b st' s' U' V' ∧ st'.v3 = 0 := by
  intro fuel
  induction fuel with
  | zero =>
    intro st s U V h hf
    have h1 := h.rows.r0; have h2 := h.rows.rd
    have : st.v3 = 0 := by
      by_contra hc
      have : 0 < st.u3 * st.v3 := Int.mul_pos (by omega) (by omega)
      simp at hf; omega
    exact ⟨st, s, U, V, rfl, h, this⟩
  | succ n ih =>
    intro st s U V h hf
    by_cases hz : st.v3 = 0
    · exact ⟨st, s, U, V, by unfold FCfg.feuLoop; rw [if_pos hz], h, hz⟩
    · obtain ⟨st', V', hst, hinv, hdec⟩ := feu_step fsok h hz n
      obtain ⟨st'', s'', U'', V'', hl, hi, hz'⟩ := ih st' (-s) V V' hinv (by rw [pow_succ] at hf; omega)
      exact ⟨st'', s'', U'', V'', by rw [hst]; exact hl, hi, hz'⟩

/-- `hbm` is the fuel; `some` says that no intermediate is rounded -/
theorem feuclid_spec {k : FCfg} {a b : Int} (fsok : ∀ x, -b ≤ x → x ≤ b → k.fS x = some x)
    (ha : -b < a ∧ a < b) (hb : 2 ≤ b) (hbm : b * b < (2 : Int) ^ (2 * k.ms + 3)) :
    ∃ x d, k.euclid a b = some (x, d) ∧ d = (Int.gcd a b : Int) ∧ -b ≤ x ∧ x ≤ b ∧ b ∣ x * a - d
      ∧ (d = 1 → -b < x ∧ x < b) := by
  -- first iteration: q = floor(a/b) ∈ {0,-1}; state (0, 1, b, a mod b)
  have hbz : b ≠ 0 := by omega
  have hq : Int.fdiv a b = a / b := Int.fdiv_eq_ediv_of_nonneg _ (by omega)
  have hm0 := Int.emod_nonneg a hbz
  have hm1 := Int.emod_lt_of_pos a (by omega : 0 < b)
  have hdm := Int.ediv_mul_add_emod a b
  have hqv : a / b = 0 ∨ a / b = -1 := by
    by_cases h0 : 0 ≤ a
    · left; exact Int.ediv_eq_zero_of_lt h0 ha.2
    · right
      have h1 := Int.add_mul_ediv_right a 1 hbz
      rw [Int.one_mul, Int.ediv_eq_zero_of_lt (by omega) (by omega)] at h1
      omega
  have hinv : FRows a b ⟨0, 1, b, a % b⟩ (-1) 0 1 := ⟨SRows.init (by omega), by norm_num, by norm_num⟩
  have hfuel : (⟨0, 1, b, a % b⟩ : FCfg.FEu).u3 * (⟨0, 1, b, a % b⟩ : FCfg.FEu).v3
      < (2 : Int) ^ (2 * k.ms + 3 + a.natAbs) := by
    show b * (a % b) < _
    have h1 : b * (a % b) < b * b := Int.mul_lt_mul_of_pos_left hm1 (by omega)
    have h2 : (2 : Int) ^ (2 * k.ms + 3) ≤ (2 : Int) ^ (2 * k.ms + 3 + a.natAbs) :=
      pow_le_pow_right₀ (by norm_num) (by omega)
    omega
  obtain ⟨st, s, U, V, hl, ⟨hR, hu1, _⟩, hz⟩ := feuLoop_spec fsok _ _ _ _ _ hinv hfuel
  have hfirst : k.feuLoop (2 * k.ms + 4 + a.natAbs) ⟨1, 0, a, b⟩ = some st := by
    have e : 2 * k.ms + 4 + a.natAbs = (2 * k.ms + 3 + a.natAbs) + 1 := by omega
    have hqb : -b ≤ a / b * b ∧ a / b * b ≤ b := by rcases hqv with h | h <;> rw [h] <;> constructor <;> omega
    rw [e, feuLoop_succ fsok _ (st := ⟨1, 0, a, b⟩) hbz hq
      (show -b ≤ a / b * 0 ∧ a / b * 0 ≤ b by rw [Int.mul_zero]; omega)
      (show (1 : Int) - a / b * 0 = 1 by rw [Int.mul_zero, Int.sub_zero]) (by omega) hqb
      (show a - a / b * b = a % b by omega) ⟨by omega, by omega⟩]
    exact hl
  rw [hz] at hR
  have hU := hR.U0
  have hUb := hR.U_le
  have hlt := hR.U_lt (by omega)
  refine ⟨st.u1, st.u3, by unfold FCfg.euclid; rw [hfirst]; rfl, hR.exit.1, ?_⟩
  rw [hu1]
  rcases (show s = 1 ∨ s = -1 by rcases hR.sg with h | h <;> omega) with rfl | rfl
  · exact ⟨by omega, by omega, by rw [Int.one_mul]; exact SRows.cof_noflag hR, fun _ => ⟨by omega, by omega⟩⟩
  · exact ⟨by omega, by omega, by rw [Int.neg_one_mul]; exact (SRows.cof_flag hR).2.2, fun _ => ⟨by omega, by omega⟩⟩

theorem finv_of_euclid {k : FCfg} {a p x d : Int} (fsok : ∀ x, -p ≤ x → x ≤ p → k.fS x = some x)
    (he : k.euclid a p = some (x, d)) (hd : d = (Int.gcd a p : Int)) (hdv : p ∣ x * a - d)
    (hd1 : d = 1 → -p < x ∧ x < p) (hu : Int.gcd a p = 1) :
    ∃ r, k.inv p a = some r ∧ isCanonU p r ∧ (r * a) % p = 1 % p := by
  have hd' : d = 1 := by rw [hd, hu]; rfl
  obtain ⟨hx2, hx3⟩ := hd1 hd'
  rw [hd'] at hdv
  unfold FCfg.inv
  rw [he]
  simp only [Option.bind_eq_bind, Option.bind_some]
  by_cases hneg : x < 0
  · rw [if_pos hneg, fsok _ (by omega) (by omega)]
    refine ⟨x + p, rfl, ⟨by omega, by omega⟩, emod_eq_one_of_dvd ?_⟩
    have e : (x + p) * a - 1 = (x * a - 1) + p * a := by ring
    rw [e]; exact Int.dvd_add hdv (Int.dvd_mul_right _ _)
  · rw [if_neg hneg]
    exact ⟨x, rfl, ⟨by omega, by omega⟩, emod_eq_one_of_dvd hdv⟩

theorem fisUnit_of_euclid {k : FCfg} {a p x d : Int} (hp : 2 ≤ p) (he : k.euclid a p = some (x, d))
    (hd : d = (Int.gcd a p : Int)) : ∃ u, k.isUnit p a = some u ∧ (u = true ↔ Int.gcd a p = 1) := by
  refine ⟨(d == 1 || d == p - 1), ?_, ?_⟩
  · unfold FCfg.isUnit; rw [he]; rfl
  · simp only [Bool.or_eq_true, beq_iff_eq, hd]
    exact gcd_one_or_pred hp

end Givaro.Model.ModRing
