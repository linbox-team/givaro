/-
C10 — the process-wide reduction mode as state, and un-normalised representatives.

`Model/RationalState.lean`: `step c m op = (m', out)` is one call of the Rational / QField<Rational> API made while
`Rational::flags` is `m`; operands are the stored pairs of the live C++ objects.

* frame: no call except `SetReduce`/`SetNoReduce` changes the mode, lifted to arbitrary histories
  (`mode_frame`, `mode_after_history`, `mode_untouched_history`, `history_output_uses_last_requested_mode`);
* exactness does not depend on the mode or on the operands being canonical: every value-producing call, in either mode,
  on operands with positive denominators — e.g. values built in NoReduce mode and used after `SetReduce()` — returns
  exactly the mathematical value with a positive denominator (`step_exact_any_mode`), and a canonical pair when the mode
  is Reduce and the operands are canonical (`step_canonical_in_reduce_mode`);
* in NoReduce mode the stored pair is the documented formula, no hidden gcd (`noreduce_*_formula`), except for the
  listed shortcuts; `reduce()` canonicalises any pair (`reduce_exact` in C10.lean), while an operation in Reduce mode does
  not canonicalise a non-canonical operand (`reduce_mode_keeps_foreign_operand`, a documented limit, not a defect of the
  property: under the default mode alone every reachable value is canonical, `computation_exact`);
* comparison and equality are by value in both modes (`order_by_value_any_mode`);
* programs on live objects, with mode switches and data flow interleaved: every object keeps a positive denominator and the
  program ends in the mode it last asked for (`program_invariant`).
-/
import GivaroModel.Lemmas.RationalStateLemmas
import GivaroModel.Props.C10
namespace Givaro.Props.C10
open Givaro Givaro.Model.Rational Givaro.Spec.Rational Givaro.Lemmas.Rational

/-- frame theorem: every call other than `SetReduce` / `SetNoReduce` leaves the mode as it found it -/
theorem mode_frame (c : Int → Int → Int) (m : Bool) (op : Op) (h : op.isSet = false) : (step c m op).1 = m :=
  (step_mode c m op).trans (lastSet_of_no_set m [op] fun _ ho => List.mem_singleton.mp ho ▸ h)

/-- the two writers set exactly what their name says, whatever the mode was -/
theorem mode_set (c : Int → Int → Int) (m : Bool) :
    (step c m .setReduce).1 = true ∧ (step c m .setNoReduce).1 = false := ⟨rfl, rfl⟩

/-- the mode a call leaves behind does not depend on how `mpz_cmpabs` behaves -/
theorem mode_independent_of_cmp (c c' : Int → Int → Int) (m : Bool) (op : Op) : (step c m op).1 = (step c' m op).1 :=
  (step_mode c m op).trans (step_mode c' m op).symm

/-- any history leaves the mode where the user last put it -/
theorem mode_after_history (c : Int → Int → Int) (m : Bool) (ops : List Op) : (runOps c m ops).1 = lastSet m ops := by
  induction ops generalizing m with
  | nil => rfl
  | cons op ops ih =>
    rw [lastSet_cons m op ops c]
    simp only [runOps]
    exact ih _

/-- a history without `SetReduce` / `SetNoReduce` — constructions from any double included — does not touch the mode -/
theorem mode_untouched_history (c : Int → Int → Int) (m : Bool) (ops : List Op) (h : ∀ op ∈ ops, op.isSet = false) :
    (runOps c m ops).1 = m :=
  (mode_after_history c m ops).trans (lastSet_of_no_set m ops h)
example : (runOps (fun _ _ => 0) false [.ofDouble 1 0 1, .add ⟨1, 2⟩ ⟨1, 2⟩, .ofDouble 0 2046 5]).1 = false := by decide

/-- in a history every call is evaluated under the mode requested by the last `SetReduce`/`SetNoReduce` before it
    (or the initial mode): the outputs recorded for `before ++ op :: after` are those of `before`, then `op` under
    `lastSet m before`, then the rest -/
theorem history_output_uses_last_requested_mode (c : Int → Int → Int) (m : Bool) (before after : List Op) (op : Op) :
    (runOps c m (before ++ op :: after)).2 =
      (runOps c m before).2 ++ (step c (lastSet m before) op).2 ::
        (runOps c (step c (lastSet m before) op).1 after).2 := by
  rw [runOps_append]
  simp only [runOps, mode_after_history]

def _root_.Givaro.Model.Rational.Op.operandsPos : Op → Prop
  | .add a b | .sub a b | .mul a b | .div a b | .addin a b | .subin a b | .mulin a b | .divin a b => 0 < a.den ∧ 0 < b.den
  | .neg a | .abs a | .reduce a | .fneg a | .finv a | .copy a | .powS a _ | .powU a _ => 0 < a.den
  | .axpy a b z | .axpyin a b z | .maxpy a b z | .axmy a b z | .axmyin a b z | .maxpyin a b z => 0 < a.den ∧ 0 < b.den ∧ 0 < z.den
  | _ => True

def _root_.Givaro.Model.Rational.Op.operandsCanon : Op → Prop
  | .add a b | .sub a b | .mul a b | .div a b | .addin a b | .subin a b | .mulin a b | .divin a b => Canon a ∧ Canon b
  | .neg a | .abs a | .reduce a | .fneg a | .finv a | .copy a | .powS a _ | .powU a _ => Canon a
  | .axpy a b z | .axpyin a b z | .maxpy a b z | .axmy a b z | .axmyin a b z | .maxpyin a b z => Canon a ∧ Canon b ∧ Canon z
  | .ofPairZ _ _ red => red = 1        -- `Rational(n, d, 0)` is the explicit request not to reduce
  | _ => True

/-- the value a rational-valued call denotes in ℚ; `none`: not rational-valued, or not defined (zero denominator, division
    by zero, 0 to a negative power, argument outside its C++ type) -/
def _root_.Givaro.Model.Rational.Op.meaning : Op → Option ℚ
  | .ofNeutral one => some (if one then 1 else 0)
  | .ofWord n | .ofInteger n => some n
  | .ofPairS n d | .ofPairZ n d _ => if d = 0 then none else some ((n : ℚ) / d)
  | .ofPairU n d => if 0 ≤ n ∧ 0 < d then some ((n : ℚ) / d) else none
  | .ofDouble s e m =>
    if (s = 0 ∨ s = 1) ∧ 0 ≤ e ∧ e < 2047 ∧ 0 ≤ m ∧ m < 4503599627370496 then some (doubleVal s e m) else none
  | .ofText n none => some n
  | .ofText n (some d) => if d = 0 then none else some ((n : ℚ) / d)
  | .copy a | .reduce a => some (val a)
  | .add a b | .addin a b => some (val a + val b)
  | .sub a b | .subin a b => some (val a - val b)
  | .mul a b | .mulin a b => some (val a * val b)
  | .div a b | .divin a b => if val b = 0 then none else some (val a / val b)
  | .neg a | .fneg a => some (-val a)
  | .abs a => some |val a|
  | .finv a => if val a = 0 then none else some (val a)⁻¹
  | .axpy a b z => some (val a * val b + val z)
  | .axpyin r a b => some (val r + val a * val b)
  | .maxpy a b z => some (val z - val a * val b)
  | .axmy a b z => some (val a * val b - val z)
  | .axmyin r a b => some (val a * val b - val r)
  | .maxpyin r a b => some (val r - val a * val b)
  | .powS a y => if InS64 y ∧ ¬ (val a = 0 ∧ y < 0) then some (val a ^ y) else none
  | .powU a l => if 0 ≤ l then some (val a ^ l.toNat) else none
  | _ => none

/-- `k = false`: operands with positive denominators, any mode; `k = true`: canonical operands, mode Reduce -/
theorem step_exact {k m : Bool} (hkm : k = true → m = true) (c : Int → Int → Int) (hc : CmpAbsOK c) (op : Op) (q : ℚ)
    (hp : k = false → op.operandsPos) (hk : k = true → op.operandsCanon) (hq : op.meaning = some q) :
    ∃ r, (step c m op).2 = .q r ∧ Valid k r ∧ val r = q := by
  have ofCanon : ∀ {f : Option QRep} {q : ℚ}, (∃ r, f = some r ∧ Canon r ∧ val r = q) → ∃ r, qv f = .q r ∧ Valid k r ∧ val r = q :=
    fun ⟨r, h1, h2, h3⟩ => qv_exact ⟨r, h1, canon_valid h2 k, h3⟩
  have valid1 : ∀ {a : QRep}, (k = false → 0 < a.den) → (k = true → Canon a) → Valid k a := fun p c => by
    cases k
    · exact ⟨p rfl, nofun⟩
    · exact canon_valid (c rfl) true
  have valid2 : ∀ {a b : QRep}, (k = false → 0 < a.den ∧ 0 < b.den) → (k = true → Canon a ∧ Canon b) → Valid k a ∧ Valid k b :=
    fun p c => ⟨valid1 (fun h => (p h).1) fun h => (c h).1, valid1 (fun h => (p h).2) fun h => (c h).2⟩
  have valid3 : ∀ {a b z : QRep}, (k = false → 0 < a.den ∧ 0 < b.den ∧ 0 < z.den) → (k = true → Canon a ∧ Canon b ∧ Canon z) →
      Valid k a ∧ Valid k b ∧ Valid k z :=
    fun p c => ⟨valid1 (fun h => (p h).1) fun h => (c h).1, valid2 (fun h => (p h).2) fun h => (c h).2⟩
  cases op with
  | ofNeutral one => cases hq; exact ⟨_, rfl, canon_valid (of_integer_exact 0 one).2.2.2.2.1 k, (of_integer_exact 0 one).2.2.2.2.2⟩
  | ofWord n => cases hq; exact ⟨_, rfl, valid_int k n, (of_integer_exact n true).2.1⟩
  | ofInteger n => cases hq; exact ⟨_, rfl, canon_valid (of_integer_exact n true).2.2.1 k, (of_integer_exact n true).2.2.2.1⟩
  | ofPairS n d =>
    obtain ⟨hd, ⟨⟩⟩ := Option.ite_none_left_eq_some.mp hq
    exact ofCanon (of_pair_exact n d hd).2.1
  | ofPairU n d =>
    obtain ⟨hd, ⟨⟩⟩ := Option.ite_none_right_eq_some.mp hq
    exact ofCanon (of_unsigned_pair_exact n d hd.1 hd.2)
  | ofPairZ n d red =>
    obtain ⟨hd, ⟨⟩⟩ := Option.ite_none_left_eq_some.mp hq
    by_cases hr : red = 1
    · subst hr
      exact ofCanon (of_pair_exact n d hd).1
    · -- `Rational(n, d, 0)` is the explicit request not to reduce: excluded from the canonical operands
      obtain ⟨r, h1, h2, h3⟩ := of_pair_noreduce_exact n d red hd hr
      exact qv_exact ⟨r, h1, ⟨h2, fun h => absurd (hk h) hr⟩, h3⟩
  | ofDouble s e mt =>
    obtain ⟨hr, ⟨⟩⟩ := Option.ite_none_right_eq_some.mp hq
    obtain ⟨r, h1, h2, h3⟩ := of_double_exact m s e mt hr.1 hr.2.1 hr.2.2.1 hr.2.2.2.1 hr.2.2.2.2
    exact qv_exact ⟨r, h1, ⟨h2.1, fun h => h2.2 (hkm h)⟩, h3⟩
  | ofText n d =>
    cases d with
    | none => cases hq; exact ofCanon (of_text_integer_exact n)
    | some d =>
      obtain ⟨hd, ⟨⟩⟩ := Option.ite_none_left_eq_some.mp hq
      exact ofCanon (of_pair_exact n d hd).2.2
  | copy a => cases hq; exact ⟨a, rfl, valid1 hp hk, rfl⟩
  | reduce a => cases hq; exact ⟨_, rfl, canon_valid (reduce_exact a (valid1 hp hk).1).1 k, (reduce_exact a (valid1 hp hk).1).2⟩
  | add a b => cases hq; exact qv_exact (add_val hkm a b (valid2 hp hk).1 (valid2 hp hk).2)
  | addin a b => cases hq; exact qv_exact (addin_val hkm a b (valid2 hp hk).1 (valid2 hp hk).2)
  | sub a b => cases hq; exact qv_exact (sub_val hkm a b (valid2 hp hk).1 (valid2 hp hk).2)
  | subin a b => cases hq; exact qv_exact (subin_val hkm a b (valid2 hp hk).1 (valid2 hp hk).2)
  | mul a b => cases hq; exact qv_exact (mul_val hkm a b (valid2 hp hk).1 (valid2 hp hk).2 hc)
  | mulin a b => cases hq; exact qv_exact (mulin_val hkm a b (valid2 hp hk).1 (valid2 hp hk).2 hc)
  | div a b =>
    obtain ⟨hb0, ⟨⟩⟩ := Option.ite_none_left_eq_some.mp hq
    exact qv_exact (div_val hkm a b (valid2 hp hk).1 (valid2 hp hk).2 hc hb0)
  | divin a b =>
    obtain ⟨hb0, ⟨⟩⟩ := Option.ite_none_left_eq_some.mp hq
    exact qv_exact (divin_val hkm a b (valid2 hp hk).1 (valid2 hp hk).2 hb0)
  | neg a => cases hq; exact qv_exact (neg_exact k a (valid1 hp hk))
  | abs a => cases hq; exact qv_exact (abs_exact k a (valid1 hp hk))
  | fneg a =>
    cases hq
    obtain ⟨h2, h3, _⟩ := qfield_neg_inv_exact k a (valid1 hp hk)
    exact ⟨_, rfl, h2, h3⟩
  | finv a =>
    obtain ⟨h0, ⟨⟩⟩ := Option.ite_none_left_eq_some.mp hq
    obtain ⟨h2, h3⟩ := (qfield_neg_inv_exact k a (valid1 hp hk)).2.2 h0
    exact ⟨_, rfl, h2, h3⟩
  | axpy a b z =>
    cases hq
    obtain ⟨va, vb, vz⟩ := valid3 hp hk
    exact qv_exact (fused_val hkm a b va vb hc z vz).1
  | axpyin r0 a b =>
    cases hq
    obtain ⟨vr, va, vb⟩ := valid3 hp hk
    exact qv_exact (fused_val hkm a b va vb hc r0 vr).2.1
  | maxpy a b z =>
    cases hq
    obtain ⟨va, vb, vz⟩ := valid3 hp hk
    exact qv_exact (fused_val hkm a b va vb hc z vz).2.2.1
  | axmy a b z =>
    cases hq
    obtain ⟨va, vb, vz⟩ := valid3 hp hk
    exact qv_exact (fused_val hkm a b va vb hc z vz).2.2.2.1
  | axmyin r0 a b =>
    cases hq
    obtain ⟨vr, va, vb⟩ := valid3 hp hk
    exact qv_exact (fused_val hkm a b va vb hc r0 vr).2.2.2.2.1
  | maxpyin r0 a b =>
    cases hq
    obtain ⟨vr, va, vb⟩ := valid3 hp hk
    exact qv_exact (fused_val hkm a b va vb hc r0 vr).2.2.2.2.2
  | powS a y =>
    obtain ⟨hy, ⟨⟩⟩ := Option.ite_none_right_eq_some.mp hq
    obtain ⟨h2, h3⟩ := pow_exact k a y (valid1 hp hk) hy.1 hy.2
    exact ⟨_, rfl, h2, h3⟩
  | powU a l =>
    obtain ⟨hl, ⟨⟩⟩ := Option.ite_none_right_eq_some.mp hq
    obtain ⟨h2, h3⟩ := pow_unsigned_exact k a l (valid1 hp hk) hl
    exact ⟨_, rfl, h2, h3⟩
  | _ => cases hq

/-- every rational-valued call of the API, in either mode, on operands with positive denominators (canonical or not):
    no exception when the value is defined, a positive denominator, and exactly the mathematical value -/
theorem step_exact_any_mode (c : Int → Int → Int) (hc : CmpAbsOK c) (m : Bool) (op : Op) (q : ℚ)
    (hp : op.operandsPos) (hq : op.meaning = some q) :
    ∃ r, (step c m op).2 = .q r ∧ 0 < r.den ∧ val r = q := by
  obtain ⟨r, h1, h2, h3⟩ := step_exact (k := false) nofun c hc op q (fun _ => hp) nofun hq
  exact ⟨r, h1, h2.1, h3⟩

/-- under the default mode, on canonical operands, every rational-valued call returns a canonical pair (the value is
    given by `step_exact_any_mode`) -/
theorem step_canonical_in_reduce_mode (c : Int → Int → Int) (hc : CmpAbsOK c) (op : Op) (q : ℚ)
    (hk : op.operandsCanon) (hq : op.meaning = some q) :
    ∃ r, (step c true op).2 = .q r ∧ Canon r := by
  obtain ⟨r, h1, h2, _⟩ := step_exact (k := true) (m := true) id c hc op q nofun (fun _ => hk) hq
  exact ⟨r, h1, valid_true h2⟩
example : (step (fun _ _ => 0) true (.add ⟨1, 6⟩ ⟨1, 3⟩)).2 = .q ⟨1, 2⟩ := by decide

/-- in NoReduce mode `+`, `+=`, `-`, `-=` store exactly the closed formulas `addNR` / `subNR` of Spec/RationalSpec.lean
    (`a/b + c/d = (ad + cb)/(bd)`: no gcd is taken), which is what the driver demands of the implementation -/
theorem noreduce_add_sub_formula (a b : QRep) (ha : 0 < a.den) (hb : 0 < b.den) :
    Model.Rational.add false a b = some (addNR a b) ∧ Model.Rational.addin false a b = some (addNR a b) ∧
    Model.Rational.sub false a b = some (subNR a b) ∧ Model.Rational.subin false a b = some (subNR a b) := by
  -- with the mode off, both sides unfold to the same chain of tests once `some` is pushed into the branches
  have h1 : ∀ b : QRep, 0 < b.den → Model.Rational.add false a b = some (addNR a b) := fun b hb => by
    simp only [Model.Rational.add, addNR, isZero, isInteger, beq_iff_eq, Bool.and_eq_true, Bool.not_false, ↓reduceIte,
      apply_ite some, ofInteger_eq, mk3_pos _ _ (Int.mul_pos ha hb)]
  have h2 : Model.Rational.sub false a b = some (subNR a b) := by
    rw [sub_eq_add_neg false a b hb, h1 ⟨-b.num, b.den⟩ hb]
    simp only [addNR, subNR, Int.neg_eq_zero, Int.sub_eq_add_neg, Int.neg_mul]
  exact ⟨h1 b hb, by rw [addin_eq_add false a b ha hb, h1 b hb], h2, by rw [subin_eq_sub false a b ha hb, h2]⟩

/-- `*` and `*=` in NoReduce mode: `(ac)/(bd)` -/
theorem noreduce_mul_formula (c : Int → Int → Int) (a b : QRep) (ha : 0 < a.den) (hb : 0 < b.den) :
    Model.Rational.mul c false a b = some (mulNR a b) ∧ Model.Rational.mulin c false a b = some (mulinNR a b) := by
  have h1 : Model.Rational.mul c false a b = some (mulNR a b) := by
    simp only [Model.Rational.mul, mulNR, isZero, isOne, isInteger, beq_iff_eq, Bool.and_eq_true, Bool.not_false, ↓reduceIte,
      ite_self, ofWord, apply_ite some, ofInteger_eq, mk3_pos _ _ (Int.mul_pos ha hb), ite_or]
  refine ⟨h1, ?_⟩
  rw [mulin_eq c false a b ha hb, h1]
  exact (apply_ite some _ _ _).symm

/-- `/` and `/=` in NoReduce mode: `(ad)/(bc)` with the sign moved to the numerator.  The one place where the code takes a
    gcd although the mode says not to: equal denominators go through the reducing constructor `Rational(a, c)` / `reduce()`. -/
theorem noreduce_div_formula (c : Int → Int → Int) (hc : CmpAbsOK c) (a b : QRep) (ha : 0 < a.den) (hb : 0 < b.den) (hnz : b.num ≠ 0) :
    Model.Rational.div c false a b = some (divNR a b) ∧ Model.Rational.divin false a b = some (divinNR a b) := by
  have h1 : a.num ≠ 0 → Model.Rational.divin false a b = some (divNR a b) := fun k1 => by
    have hs : 0 < b.num ↔ ¬ b.num < 0 := by omega
    simp only [Model.Rational.divin, divNR, isZero, isOne, beq_iff_eq, Bool.and_eq_true, Bool.not_false, ↓reduceIte,
      isign_neg_iff, hnz, k1, ← reduce_is_normalize a.num b.num hnz, apply_ite reduce, apply_ite some, hs, ite_not]
  rw [div_eq hc false a b ha hb hnz]
  unfold divinNR
  by_cases k1 : a.num = 0
  · rw [if_pos k1, if_pos k1, divNR, if_pos k1]
    exact ⟨rfl, by unfold Model.Rational.divin; simp only [isZero, beq_iff_eq, hnz, k1, ↓reduceIte]⟩
  · rw [if_neg k1, if_neg k1]
    exact ⟨h1 k1, h1 k1⟩
example : Model.Rational.add false ⟨1, 2⟩ ⟨1, 2⟩ = some ⟨4, 4⟩ ∧ Model.Rational.mul (fun _ _ => 1) false ⟨2, 3⟩ ⟨3, 4⟩ = some ⟨6, 12⟩ := by decide

/-- an operation in Reduce mode does not canonicalise an operand that was built in NoReduce mode (only `reduce()` does):
    `2/4 + 0` is `2/4`.  Under the default mode alone this cannot happen (`computation_exact`). -/
theorem reduce_mode_keeps_foreign_operand :
    Model.Rational.add true ⟨2, 4⟩ ⟨0, 1⟩ = some ⟨2, 4⟩ ∧ ¬ Canon ⟨2, 4⟩ ∧ Canon (reduce ⟨2, 4⟩) := by
  refine ⟨by decide, ?_, ⟨by decide, by decide⟩⟩
  intro h; have := h.2; revert this; decide

theorem order_by_value_any_mode (c : Int → Int → Int) (hc : CmpAbsOK c) (m : Bool) (a b : QRep) (ha : 0 < a.den) (hb : 0 < b.den) :
    ((step c m (.lt a b)).2 = .b true ↔ val a < val b) ∧ ((step c m (.gt a b)).2 = .b true ↔ val a > val b) ∧
    ((step c m (.le a b)).2 = .b true ↔ val a ≤ val b) ∧ ((step c m (.ge a b)).2 = .b true ↔ val a ≥ val b) ∧
    ((step c m (.eq a b)).2 = .b true ↔ val a = val b) ∧ ((step c m (.ne a b)).2 = .b true ↔ val a ≠ val b) ∧
    (step c m (.eq a b)).2 = (step c (!m) (.eq a b)).2 := by
  obtain ⟨h1, h2, h3, h4, h5, h6⟩ := order_operators c hc a b ha hb
  simp only [step, Val.b.injEq]
  exact ⟨h1, h2, h3, h4, h5, h6, trivial⟩
example : (step (fun x y => x.natAbs - y.natAbs) false (.eq ⟨2, 4⟩ ⟨1, 2⟩)).2 = .b true := by decide

/-- a command of a program working on live `Rational` objects `obj 0, obj 1, …`: switch the mode, or make a call whose
    operands are taken from the current objects and store its rational result in object `dst` -/
inductive Cmd where
  | setMode (m : Bool)
  | call (dst : Nat) (f : (Nat → QRep) → Op)

structure Machine where
  mode : Bool
  obj : Nat → QRep

def Machine.exec (c : Int → Int → Int) (s : Machine) : Cmd → Machine
  | .setMode m => ⟨(step c s.mode (if m then .setReduce else .setNoReduce)).1, s.obj⟩
  | .call dst f =>
    match step c s.mode (f s.obj) with
    | (m', .q v) => ⟨m', fun i => if i = dst then v else s.obj i⟩
    | (m', _) => ⟨m', s.obj⟩

def Machine.run (c : Int → Int → Int) : Machine → List Cmd → Machine
  | s, [] => s
  | s, k :: ks => Machine.run c (s.exec c k) ks

def Cmd.lastMode : Bool → List Cmd → Bool
  | m, [] => m
  | _, .setMode m' :: ks => Cmd.lastMode m' ks
  | m, .call _ _ :: ks => Cmd.lastMode m ks

/-- whatever the interleaving of mode switches, constructions and arithmetic: as long as every call is mathematically
    defined, every live object keeps a positive denominator (so `step_exact_any_mode` applies to the next call: its stored
    result is exactly its meaning), and the program ends in the mode it last asked for -/
theorem program_invariant (c : Int → Int → Int) (hc : CmpAbsOK c) (prog : List Cmd) (s : Machine)
    (h0 : ∀ i, 0 < (s.obj i).den)
    (hwf : ∀ dst f, Cmd.call dst f ∈ prog → ∀ obj : Nat → QRep, (∀ i, 0 < (obj i).den) →
      (f obj).operandsPos ∧ (f obj).meaning ≠ none ∧ (f obj).isSet = false) :
    (∀ i, 0 < ((Machine.run c s prog).obj i).den) ∧ (Machine.run c s prog).mode = Cmd.lastMode s.mode prog := by
  induction prog generalizing s with
  | nil => exact ⟨h0, rfl⟩
  | cons k ks ih =>
    have hks : ∀ dst f, Cmd.call dst f ∈ ks → ∀ obj : Nat → QRep, (∀ i, 0 < (obj i).den) →
        (f obj).operandsPos ∧ (f obj).meaning ≠ none ∧ (f obj).isSet = false :=
      fun dst f hm => hwf dst f (List.mem_cons_of_mem _ hm)
    cases k with
    | setMode m =>
      have := ih ⟨(step c s.mode (if m then .setReduce else .setNoReduce)).1, s.obj⟩ h0 hks
      simp only [Machine.run, Machine.exec, Cmd.lastMode]
      cases m <;> exact this
    | call dst f =>
      obtain ⟨hp, hm, hs⟩ := hwf dst f (List.mem_cons_self ..) s.obj h0
      obtain ⟨q, hq⟩ := Option.ne_none_iff_exists'.mp hm
      obtain ⟨r, h1, h2, _⟩ := step_exact_any_mode c hc s.mode (f s.obj) q hp hq
      have hmode := mode_frame c s.mode (f s.obj) hs
      have hst : step c s.mode (f s.obj) = (s.mode, .q r) := Prod.ext hmode h1
      have := ih ⟨s.mode, fun i => if i = dst then r else s.obj i⟩
        (fun i => by
          simp only
          split
          · exact h2
          · exact h0 i) hks
      simp only [Machine.run, Machine.exec, hst, Cmd.lastMode]
      exact this
-- non-vacuity: NoReduce, 1/2 + 1/2 stored as 4/4, back to Reduce, times the double -0.5: positive denominators, mode Reduce
example : let s := Machine.run (fun x y => x.natAbs - y.natAbs) ⟨true, fun _ => ⟨1, 2⟩⟩
            [.setMode false, .call 1 (fun o => .add (o 0) (o 0)), .setMode true, .call 2 (fun _ => .ofDouble 1 1022 0),
             .call 3 (fun o => .mul (o 1) (o 2))]
          s.mode = true ∧ s.obj 1 = ⟨4, 4⟩ ∧ 0 < (s.obj 3).den := by decide

end Givaro.Props.C10
