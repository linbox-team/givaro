/-
C15 — soundness of the read-after-write discipline `safe` of Model/AliasProg.lean.  `Agree`, `ConfSound`, `AlSound`, `ExitAgree`,
defined here, are the vocabulary of `discipline_sound` and `rings_alias_independent` (Props/C15Rings.lean).
-/
import GivaroModel.Model.AliasProg
namespace Givaro.Model.AliasProg

/-! ## bit sets -/

theorem testBit_bit (l k : Nat) : (bit l).testBit k = decide (l = k) := by
  unfold bit
  rw [Nat.one_shiftLeft, Nat.testBit_two_pow]

theorem testBit_clr (D m k : Nat) : (clr D m).testBit k = (D.testBit k && !m.testBit k) := by
  unfold clr
  rw [Nat.testBit_xor, Nat.testBit_and]
  cases D.testBit k <;> cases m.testBit k <;> rfl

theorem testBit_mask (s len k : Nat) : (mask s len).testBit k = decide (s ≤ k ∧ k < s + len) := by
  unfold mask
  rw [Nat.testBit_shiftLeft, Nat.one_shiftLeft, Nat.testBit_two_pow_sub_one, ← Bool.decide_and, decide_eq_decide]
  omega

theorem testBit_masks (E : Env) (rs : List Ref) (k : Nat) :
    (masks E rs).testBit k = true ↔ k ∈ locsOf E rs := by
  induction rs with
  | nil => simp [masks, locsOf]
  | cons r rs ih =>
    simp only [masks, locsOf, Nat.testBit_or, Bool.or_eq_true, List.mem_append, ih]
    apply or_congr_left
    unfold Ref.mask Ref.locs
    rw [testBit_mask, List.mem_range'_1]
    simp

theorem testBit_of_and_eq_zero {D M : Nat} (h : D &&& M = 0) {k : Nat} (hk : M.testBit k = true) :
    D.testBit k = false := by
  have h1 : (D &&& M).testBit k = false := by rw [h]; exact Nat.zero_testBit k
  rw [Nat.testBit_and, hk, Bool.and_true] at h1
  exact h1

theorem testBit_of_or_eq {A B : Nat} (h : A ||| B = B) {k : Nat} (hk : A.testBit k = true) :
    B.testBit k = true := by
  rw [← h, Nat.testBit_or, hk, Bool.true_or]

theorem testBit_or_left {A B : Nat} (k : Nat) (h : A.testBit k = true) : (A ||| B).testBit k = true := by
  rw [Nat.testBit_or, h, Bool.true_or]

theorem testBit_or_right {A B : Nat} (k : Nat) (h : B.testBit k = true) : (A ||| B).testBit k = true := by
  rw [Nat.testBit_or, h, Bool.or_true]

/-! ## the relation between the two runs -/

/-- stores agree (modulo the renaming) on every location that is not dirty -/
def Agree {V : Type} (φ : Nat → Nat) (D : Nat) (σ1 σ2 : Store V) : Prop :=
  ∀ l, D.testBit l = false → σ1 l = σ2 (φ l)

/-- `conf l` contains every other location that the renaming identifies with `l` -/
def ConfSound (φ : Nat → Nat) (conf : Nat → Nat) : Prop :=
  ∀ l l', l ≠ l' → φ l = φ l' → (conf l).testBit l' = true

/-- an address test answers "same object" only for locations the renaming identifies -/
def AlSound (φ : Nat → Nat) (al : Nat → Nat → Bool) : Prop :=
  ∀ l l', al l l' = true → φ l = φ l'

/-- same status in both runs, and agreement outside the dirty set `x` records for that status -/
def ExitAgree {V : Type} (φ : Nat → Nat) (x : Exits) (r1 r2 : Store V × Status) : Prop :=
  r1.2 = r2.2 ∧
  match r1.2 with
  | .norm => x.nr = true ∧ Agree φ x.n r1.1 r2.1
  | .brk => Agree φ x.b r1.1 r2.1
  | .ret => Agree φ x.r r1.1 r2.1
  | .oom => True

section
variable {V : Type} {φ : Nat → Nat} {conf : Nat → Nat}

theorem Agree.mono {D D' : Nat} {σ1 σ2 : Store V}
    (h : Agree φ D σ1 σ2) (hsub : ∀ k, D.testBit k = true → D'.testBit k = true) : Agree φ D' σ1 σ2 := by
  intro l hl
  apply h
  cases hD : D.testBit l with
  | false => rfl
  | true => rw [hsub l hD] at hl; exact absurd hl (by decide)

theorem Agree.mono_or_left {D D' : Nat} {σ1 σ2 : Store V}
    (h : Agree φ D σ1 σ2) : Agree φ (D ||| D') σ1 σ2 :=
  h.mono (fun k => testBit_or_left k)

theorem Agree.mono_or_right {D D' : Nat} {σ1 σ2 : Store V}
    (h : Agree φ D σ1 σ2) : Agree φ (D' ||| D) σ1 σ2 :=
  h.mono (fun k => testBit_or_right k)

/-- exits may grow; the normal exit matters only if the run completes normally -/
theorem ExitAgree.mono {x y : Exits} {r1 r2 : Store V × Status} (h : ExitAgree φ x r1 r2)
    (hn : r1.2 = .norm → x.nr = true → y.nr = true ∧ ∀ k, x.n.testBit k = true → y.n.testBit k = true)
    (hb : ∀ k, x.b.testBit k = true → y.b.testBit k = true)
    (hr : ∀ k, x.r.testBit k = true → y.r.testBit k = true) : ExitAgree φ y r1 r2 := by
  obtain ⟨hst, hag⟩ := h
  refine ⟨hst, ?_⟩
  cases h1 : r1.2 with
  | norm => rw [h1] at hag; exact ⟨(hn h1 hag.1).1, hag.2.mono (hn h1 hag.1).2⟩
  | brk => rw [h1] at hag; exact hag.mono hb
  | ret => rw [h1] at hag; exact hag.mono hr
  | oom => trivial

theorem ExitAgree.agree_all {x : Exits} {r1 r2 : Store V × Status} (h : ExitAgree φ x r1 r2)
    (hst : r1.2 ≠ .oom) : Agree φ (x.n ||| x.b ||| x.r) r1.1 r2.1 := by
  obtain ⟨_, hag⟩ := h
  cases h1 : r1.2 with
  | norm => rw [h1] at hag; exact hag.2.mono_or_left.mono_or_left
  | brk => rw [h1] at hag; exact hag.mono_or_right.mono_or_left
  | ret => rw [h1] at hag; exact hag.mono_or_right
  | oom => exact absurd h1 hst

/-! ## leaf steps -/

theorem Store.set_same (σ : Store V) (l : Nat) (v : V) : σ.set l v l = v := by
  simp [Store.set]

theorem Store.set_other (σ : Store V) {l k : Nat} (v : V) (h : k ≠ l) : σ.set l v k = σ k := by
  simp [Store.set, h]

theorem Store.set_self (σ : Store V) (l : Nat) : σ.set l (σ l) = σ := by
  funext k
  by_cases h : k = l
  · subst h; exact Store.set_same σ k _
  · exact Store.set_other σ _ h

theorem testBit_wr (conf : Nat → Nat) (D w k : Nat) :
    (wr conf D w).testBit k = ((D.testBit k || (conf w).testBit k) && !decide (w = k)) := by
  unfold wr
  rw [Nat.testBit_or, testBit_clr, testBit_clr, testBit_bit]
  cases D.testBit k <;> cases (conf w).testBit k <;> cases decide (w = k) <;> rfl

theorem Agree.wr (hc : ConfSound φ conf) {D : Nat} {σ1 σ2 : Store V}
    (h : Agree φ D σ1 σ2) (w : Nat) (v : V) : Agree φ (wr conf D w) (σ1.set w v) (σ2.set (φ w) v) := by
  intro l hl
  rw [testBit_wr] at hl
  by_cases hw : l = w
  · subst hw
    rw [Store.set_same, Store.set_same]
  · have hw' : ¬ w = l := fun e => hw e.symm
    simp only [hw', decide_false, Bool.not_false, Bool.and_true, Bool.or_eq_false_iff] at hl
    have hφ : φ l ≠ φ w := by
      intro e
      have := hc w l hw' e.symm
      rw [hl.2] at this
      exact absurd this (by decide)
    rw [Store.set_other _ _ hw, Store.set_other _ _ hφ]
    exact h l hl.1

theorem Agree.readRefs {D : Nat} {σ1 σ2 : Store V} (h : Agree φ D σ1 σ2)
    (E : Env) (ins : List Ref) (hD : D &&& masks E ins = 0) :
    readL id σ1 (locsOf E ins) = readL φ σ2 (locsOf E ins) :=
  List.map_congr_left fun l hl => h l (testBit_of_and_eq_zero hD ((testBit_masks E ins l).2 hl))

theorem Agree.of_writeL (hc : ConfSound φ conf) (g : Nat → V) :
    ∀ (ls : List Nat) (D : Nat) (σ1 σ2 : Store V) (k : Nat), Agree φ D σ1 σ2 →
      Agree φ (wrL conf D ls) (writeL id g σ1 ls k) (writeL φ g σ2 ls k) := by
  intro ls
  induction ls with
  | nil => intro D σ1 σ2 k h; exact h
  | cons l ls ih =>
    intro D σ1 σ2 k h
    exact ih _ _ _ _ (h.wr hc l (g k))

theorem Agree.of_copyL {al : Nat → Nat → Bool}
    (hc : ConfSound φ conf) (ha : AlSound φ al) :
    ∀ (ps : List (Nat × Nat)) (D D' : Nat) (σ1 σ2 : Store V), cpL conf al D ps = some D' → Agree φ D σ1 σ2 →
      Agree φ D' (copyL id σ1 ps) (copyL φ σ2 ps) := by
  intro ps
  induction ps with
  | nil =>
    intro D D' σ1 σ2 hcp h
    simp only [cpL, Option.some.injEq] at hcp
    subst hcp
    exact h
  | cons p ps ih =>
    obtain ⟨d, s⟩ := p
    intro D D' σ1 σ2 hcp h
    simp only [cpL] at hcp
    cases hs : D.testBit s with
    | true => simp [hs] at hcp
    | false =>
      simp only [hs, Bool.false_eq_true, if_false] at hcp
      have hval : σ1 s = σ2 (φ s) := h s hs
      simp only [copyL, id]
      refine ih _ _ _ _ hcp ?_
      cases hal : al d s with
      | true =>
        have hφ : φ d = φ s := ha d s hal
        simp only [if_true]
        rw [hφ, Store.set_self]
        intro l hl
        rw [testBit_clr, testBit_bit] at hl
        by_cases hd : l = d
        · subst hd
          rw [Store.set_same, hval, hφ]
        · have hd' : ¬ d = l := fun e => hd e.symm
          simp only [hd', decide_false, Bool.not_false, Bool.and_true] at hl
          rw [Store.set_other _ _ hd]
          exact h l hl
      | false =>
        simp only [Bool.false_eq_true, if_false]
        rw [hval]
        exact h.wr hc d _

end

/-! ## `run` and `safe`, one constructor at a time -/

theorem run_seq {V : Type} (S : Sem V) (φ : Nat → Nat) (fuel : Nat) (p q : Prog) (E : Env) (σ : Store V) :
    run S φ fuel (.seq p q) E σ =
      if (run S φ fuel p E σ).2 = .norm then run S φ fuel q E (run S φ fuel p E σ).1 else run S φ fuel p E σ := by
  rw [run]
  rcases h : run S φ fuel p E σ with ⟨σ', st⟩
  cases st <;> simp

theorem run_call {V : Type} (S : Sem V) (φ : Nat → Nat) (fuel : Nat) (q : Prog) (args : List Ref) (frame : Nat) (E : Env)
    (σ : Store V) :
    run S φ fuel (.call q args frame) E σ =
      ((run S φ fuel q (E.callee args frame) σ).1,
        if (run S φ fuel q (E.callee args frame) σ).2 = .oom then .oom else .norm) := by
  rw [run]
  rcases h : run S φ fuel q (E.callee args frame) σ with ⟨σ', st⟩
  cases st <;> simp

/-- the loop-head set `I` is an invariant because a normal pass of the body ends within it (`hyn`) -/
theorem iter_sound {V : Type} (φ : Nat → Nat) (I : Nat) (y : Exits) (test1 test2 : Store V → Bool)
    (body1 body2 : Store V → Store V × Status)
    (htest : ∀ σ1 σ2, Agree φ I σ1 σ2 → test1 σ1 = test2 σ2)
    (hbody : ∀ σ1 σ2, Agree φ I σ1 σ2 → ExitAgree φ y (body1 σ1) (body2 σ2))
    (hyn : ∀ k, y.n.testBit k = true → I.testBit k = true) :
    ∀ (n : Nat) (σ1 σ2 : Store V), Agree φ I σ1 σ2 →
      ExitAgree φ ⟨true, I ||| y.b, 0, y.r⟩ (iter test1 body1 n σ1) (iter test2 body2 n σ2) := by
  intro n
  induction n with
  | zero =>
    intro σ1 σ2 h
    simp only [iter, ← htest σ1 σ2 h]
    cases test1 σ1 with
    | true => exact ⟨rfl, trivial⟩
    | false => exact ⟨rfl, rfl, h.mono_or_left⟩
  | succ n ih =>
    intro σ1 σ2 h
    simp only [iter, ← htest σ1 σ2 h]
    cases test1 σ1 with
    | false => exact ⟨rfl, rfl, h.mono_or_left⟩
    | true =>
      simp only [if_true]
      have hb := hbody σ1 σ2 h
      rcases h1 : body1 σ1 with ⟨τ1, st1⟩
      rcases h2 : body2 σ2 with ⟨τ2, st2⟩
      rw [h1, h2] at hb
      obtain ⟨hst, hag⟩ := hb
      simp only at hst hag
      subst hst
      cases st1 with
      | norm => exact ih τ1 τ2 (Agree.mono hag.2 hyn)
      | brk => exact ⟨rfl, rfl, Agree.mono_or_right hag⟩
      | ret => exact ⟨rfl, hag⟩
      | oom => exact ⟨rfl, trivial⟩

theorem safe_sound {V : Type} (S : Sem V) (φ : Nat → Nat) (conf : Nat → Nat) (hc : ConfSound φ conf) (ha : AlSound φ S.al) (fuel : Nat) :
    ∀ (p : Prog) (E : Env) (D : Nat) (x : Exits) (σ1 σ2 : Store V),
      safe conf S.al p E D = some x → Agree φ D σ1 σ2 →
      ExitAgree φ x (run S id fuel p E σ1) (run S φ fuel p E σ2) := by
  intro p E D x σ1 σ2 hs h
  induction p generalizing E D x σ1 σ2 with
  | skip =>
    cases hs
    exact ⟨rfl, rfl, h⟩
  | prim f outs ins =>
    simp only [safe] at hs
    split at hs
    · rename_i hD
      cases hs
      simp only [run]
      rw [h.readRefs E ins hD]
      exact ⟨rfl, rfl, Agree.of_writeL hc _ _ _ _ _ _ h⟩
    · cases hs
  | copy d s =>
    simp only [safe] at hs
    split at hs
    · rename_i D' hcp
      cases hs
      exact ⟨rfl, rfl, Agree.of_copyL hc ha _ _ _ _ _ hcp h⟩
    · cases hs
  | seq p q ihp ihq =>
    simp only [safe] at hs
    split at hs
    · cases hs
    · rename_i xp hp
      have h1 := ihp E D xp σ1 σ2 hp h
      rw [run_seq, run_seq, ← h1.1]
      by_cases hst : (run S id fuel p E σ1).2 = .norm
      · have hag := h1.2
        rw [hst] at hag
        rw [if_pos hst, if_pos hst]
        rw [if_pos hag.1] at hs
        split at hs
        · cases hs
        · rename_i xq hq
          cases hs
          exact (ihq E xp.n xq _ _ hq hag.2).mono (fun _ hnr => ⟨hnr, fun _ hk => hk⟩)
            (fun k => testBit_or_right k) (fun k => testBit_or_right k)
      · rw [if_neg hst, if_neg hst]
        split at hs
        · split at hs
          · cases hs
          · cases hs
            exact h1.mono (fun e => absurd e hst) (fun k => testBit_or_left k) (fun k => testBit_or_left k)
        · cases hs
          exact h1
  | ite c ins t e iht ihe =>
    simp only [safe] at hs
    split at hs
    · rename_i hD
      split at hs
      · rename_i xt xe ht he
        cases hs
        simp only [run]
        rw [h.readRefs E ins hD]
        cases S.cond c (readL φ σ2 (locsOf E ins)) with
        | true =>
          simp only [if_true]
          exact (iht E D xt σ1 σ2 ht h).mono (fun _ hnr => ⟨by simp [hnr], fun k => testBit_or_left k⟩)
            (fun k => testBit_or_left k) (fun k => testBit_or_left k)
        | false =>
          simp only [Bool.false_eq_true, if_false]
          exact (ihe E D xe σ1 σ2 he h).mono (fun _ hnr => ⟨by simp [hnr], fun k => testBit_or_right k⟩)
            (fun k => testBit_or_right k) (fun k => testBit_or_right k)
      · cases hs
    · cases hs
  | ifAlias a b t e iht ihe =>
    simp only [safe] at hs
    simp only [run]
    cases hal : S.al (a.start E) (b.start E) with
    | true =>
      simp only [hal, if_true] at hs ⊢
      exact iht E D x σ1 σ2 hs h
    | false =>
      simp only [hal, Bool.false_eq_true, if_false] at hs ⊢
      exact ihe E D x σ1 σ2 hs h
  | loop c ins body ih =>
    simp only [safe] at hs
    split at hs
    · cases hs
    · rename_i x0 h0
      split at hs
      · cases hs
      · rename_i y hy
        split at hs
        · rename_i hcond
          cases hs
          exact iter_sound φ (D ||| x0.n) y _ _ _ _
            (fun τ1 τ2 hτ => by rw [hτ.readRefs E ins hcond.2])
            (fun τ1 τ2 hτ => ih E _ y τ1 τ2 hy hτ)
            (fun k hk => testBit_of_or_eq hcond.1 hk)
            fuel σ1 σ2 (Agree.mono_or_left h)
        · cases hs
  | brk =>
    cases hs
    exact ⟨rfl, h⟩
  | ret =>
    cases hs
    exact ⟨rfl, h⟩
  | call q args frame ih =>
    simp only [safe] at hs
    split at hs
    · cases hs
    · rename_i xq hq
      cases hs
      have h1 := ih (E.callee args frame) D xq σ1 σ2 hq h
      rw [run_call, run_call, ← h1.1]
      refine ⟨rfl, ?_⟩
      by_cases hst : (run S id fuel q (E.callee args frame) σ1).2 = .oom
      · rw [if_pos hst]
        trivial
      · rw [if_neg hst]
        exact ⟨rfl, h1.agree_all hst⟩

/-! ## alias patterns -/

theorem eq_of_nodup_map {α β : Type} (f : α → β) :
    ∀ (l : List α), (l.map f).Nodup → ∀ a b, a ∈ l → b ∈ l → f a = f b → a = b := by
  intro l
  induction l with
  | nil => intro _ a b ha; cases ha
  | cons c l ih =>
    intro hnd a b ha hb hab
    rw [List.map_cons, List.nodup_cons] at hnd
    rcases List.mem_cons.1 ha with rfl | ha'
    · rcases List.mem_cons.1 hb with rfl | hb'
      · rfl
      · exact absurd (hab ▸ List.mem_map_of_mem (f := f) hb') hnd.1
    · rcases List.mem_cons.1 hb with rfl | hb'
      · exact absurd (hab ▸ List.mem_map_of_mem (f := f) ha') hnd.1
      · exact ih hnd.2 a b ha' hb' hab

theorem phiOf_of_none {cls : Classes} {l : Nat} (h : findClass cls l = none) : phiOf cls l = l := by
  simp only [phiOf, h]

theorem phiOf_of_some {cls : Classes} {l : Nat} {c : Nat × Nat} (h : findClass cls l = some c) : phiOf cls l = c.1 := by
  simp only [phiOf, h]

theorem findClass_some {cls : Classes} {l : Nat} {c : Nat × Nat} (h : findClass cls l = some c) :
    c ∈ cls ∧ c.2.testBit l = true := by
  unfold findClass at h
  exact ⟨List.mem_of_find?_eq_some h, List.find?_some (p := fun c : Nat × Nat => c.2.testBit l) h⟩

theorem ne_rep_of_none {cls : Classes} (hrep : ∀ c ∈ cls, c.2.testBit c.1 = true) {l l' : Nat} {c' : Nat × Nat}
    (hl : findClass cls l = none) (hl' : findClass cls l' = some c') : l ≠ c'.1 := by
  intro e
  have := List.find?_eq_none.1 hl c' (findClass_some hl').1
  rw [e] at this
  exact this (hrep c' (findClass_some hl').1)

theorem confOf_sound (cls : Classes) (h : clsOK cls = true) : ConfSound (phiOf cls) (confOf cls) := by
  unfold clsOK at h
  rw [Bool.and_eq_true, List.all_eq_true, decide_eq_true_eq] at h
  obtain ⟨hrep, hnd⟩ := h
  intro l l' hne hφ
  cases hl : findClass cls l with
  | none =>
    rw [phiOf_of_none hl] at hφ
    cases hl' : findClass cls l' with
    | none => exact absurd (hφ.trans (phiOf_of_none hl')) hne
    | some c' => exact absurd (hφ.trans (phiOf_of_some hl')) (ne_rep_of_none hrep hl hl')
  | some c =>
    rw [phiOf_of_some hl] at hφ
    cases hl' : findClass cls l' with
    | none => exact absurd ((phiOf_of_none hl').symm.trans hφ.symm) (ne_rep_of_none hrep hl' hl)
    | some c' =>
      -- same representative, hence the same class, which contains `l'`
      have hcc : c = c' := eq_of_nodup_map (·.1) cls hnd c c' (findClass_some hl).1 (findClass_some hl').1
        (hφ.trans (phiOf_of_some hl'))
      simp only [confOf, hl, hcc]
      exact (findClass_some hl').2

theorem alOf_sound (cls : Classes) : AlSound (phiOf cls) (alOf cls) :=
  fun _ _ h => eq_of_beq h

/-! ## table entries -/

theorem entry_sound {V : Type} (e : Entry) (h : safeEntry e = true)
    (interp : Nat → List V → Nat → V) (cond : Nat → List V → Bool) (fuel : Nat) (σ1 σ2 : Store V)
    (hinit : ∀ l, e.d0.testBit l = false → σ1 l = σ2 (phiOf e.cls l)) :
    (run ⟨interp, cond, alOf e.cls⟩ id fuel e.prog e.env σ1).2 = (run ⟨interp, cond, alOf e.cls⟩ (phiOf e.cls) fuel e.prog e.env σ2).2 ∧
    (((run ⟨interp, cond, alOf e.cls⟩ id fuel e.prog e.env σ1).2 = Status.norm ∨ (run ⟨interp, cond, alOf e.cls⟩ id fuel e.prog e.env σ1).2 = Status.ret) →
      ∀ o, e.outs.testBit o = true →
        (run ⟨interp, cond, alOf e.cls⟩ id fuel e.prog e.env σ1).1 o = (run ⟨interp, cond, alOf e.cls⟩ (phiOf e.cls) fuel e.prog e.env σ2).1 (phiOf e.cls o)) := by
  unfold safeEntry at h
  rw [Bool.and_eq_true] at h
  obtain ⟨hok, hs⟩ := h
  split at hs
  · rename_i x hx
    have hz : ((if x.nr then x.n else 0) ||| x.r) &&& e.outs = 0 := eq_of_beq hs
    have hsound := safe_sound (V := V) ⟨interp, cond, alOf e.cls⟩ (phiOf e.cls) (confOf e.cls) (confOf_sound e.cls hok)
      (alOf_sound e.cls) fuel e.prog e.env e.d0 x σ1 σ2 hx hinit
    obtain ⟨hst, hag⟩ := hsound
    refine ⟨hst, ?_⟩
    intro hnr o ho
    have hclean : ((if x.nr then x.n else 0) ||| x.r).testBit o = false := testBit_of_and_eq_zero hz ho
    rw [Nat.testBit_or, Bool.or_eq_false_iff] at hclean
    rcases hnr with hn | hr
    · rw [hn] at hag
      rw [hag.1, if_pos rfl] at hclean
      exact hag.2 o hclean.1
    · rw [hr] at hag
      exact hag o hclean.2
  · exact absurd hs (by simp)

end Givaro.Model.AliasProg
