/-
C18 — const use of a shared domain object from several threads is race-free.

(1) `readonly_*`: in the execution model of Model/Threads.lean, a schedule made of read-only operations -- whatever the number of
    threads and whatever the interleaving -- leaves the shared memory untouched, contains no storing step (hence no conflicting
    pair, hence no data race), and gives every thread exactly the results of running its own program alone on the initial memory.
(2) `claimed_ops_readonly` (read off `claimed_rows_checked`): a kernel evaluation over the footprint table regenerated from the clang AST on every run
    (translate/footprint.py): every const member function and copy constructor of a domain class (random draws excepted) writes no
    data member of the shared object (no assignment to, non-const call on or non-const binding of a `mutable` member, no `const_cast`), writes through no pointer member (shared tables, plain counters;
    `std::atomic` pointees are synchronised by construction) and touches no static storage except the documented random state.
(3) `claimed_ops_hand_out_no_shared_member`: same table, interprocedural column (translate/paramwrites.py).
-/
import GivaroModel.Model.Threads
import GivaroModel.Lemmas.ThreadsLemmas
import GivaroModel.Generated.Footprint
namespace Givaro.Props.C18
open Givaro.Model.Threads Givaro.Gen.Footprint Givaro.Lemmas.Threads

theorem readonly_mem_unchanged (m : Mem) (sched : List (Nat × Op)) (h : ∀ s ∈ sched, s.2.readOnly) :
    (exec m sched).1 = m := by
  rw [exec_readonly m sched h]

theorem readonly_results (m : Mem) (sched : List (Nat × Op)) (h : ∀ s ∈ sched, s.2.readOnly) :
    (exec m sched).2 = sched.map (fun s => (s.1, (s.2.run m).2)) := by
  rw [exec_readonly m sched h]

theorem readonly_thread_results_sequential (m : Mem) (sched : List (Nat × Op)) (h : ∀ s ∈ sched, s.2.readOnly) (t : Nat) :
    resultsOf t (exec m sched).2 = (programOf t sched).map (fun o => (o.run m).2) := by
  -- selecting the steps of thread `t` commutes with taking the results
  rw [readonly_results m sched h, resultsOf, programOf, List.filter_map, List.map_map, List.map_map]
  rfl

/-- two interleavings of the same per-thread programs give every thread the same results -/
theorem readonly_interleaving_independent (m : Mem) (s1 s2 : List (Nat × Op))
    (h1 : ∀ s ∈ s1, s.2.readOnly) (h2 : ∀ s ∈ s2, s.2.readOnly) (t : Nat) (hp : programOf t s1 = programOf t s2) :
    resultsOf t (exec m s1).2 = resultsOf t (exec m s2).2 := by
  rw [readonly_thread_results_sequential m s1 h1, readonly_thread_results_sequential m s2 h2, hp]

/-- a read-only schedule contains no storing step: there is no write that could conflict with another access -/
theorem readonly_race_free (m : Mem) (sched : List (Nat × Op)) (h : ∀ s ∈ sched, s.2.readOnly) :
    ¬ hasSharedWrite m sched := by
  rintro ⟨s, hs, m', hw⟩
  exact hw (h s hs m')

-- non-vacuity: two threads, three read-only operations, two different interleavings
example : let rd : Op := ⟨fun m => ([], m 0 + 1)⟩
    (∀ s ∈ [(0, rd), (1, rd), (0, rd)], s.2.readOnly) ∧ (exec (fun _ => 41) [(0, rd), (1, rd), (0, rd)]).2 = [(0, 42), (1, 42), (0, 42)] := by
  refine ⟨?_, rfl⟩
  intro s hs m
  simp at hs
  rcases hs with h | h | h <;> subst h <;> rfl

/-! ### the claimed operations of the real code are read-only on the shared object -/
/-- the documented random state, and `Rational::flags` (process-wide reduction mode: read by the rational field operations, never written) -/
def allowedStatics : List String := ["local:randstate", "write:randstate", "Rational::flags"]

theorem claimed_rows_checked :
    rows.all (fun r => !r.claimed || (r.constWrites.isEmpty && r.pointeeWrites.isEmpty &&
      r.statics.all (fun s => allowedStatics.contains s) && r.argWrites.isEmpty)) = true := by
  decide +kernel

theorem claimed_ops_readonly :
    ∀ r ∈ rows, r.claimed = true → r.constWrites = [] ∧ r.pointeeWrites = [] ∧ (∀ s ∈ r.statics, s ∈ allowedStatics) := by
  intro r hr hc
  have h := List.all_eq_true.mp claimed_rows_checked r hr
  simp only [hc, Bool.not_true, Bool.false_or, Bool.and_eq_true, List.isEmpty_iff, List.all_eq_true,
    List.contains_iff_mem] at h
  exact ⟨h.1.1.1, h.1.1.2, h.1.2⟩

/-- … and hands no data member of the shared object (nor the object itself, nor -- in a copy constructor -- the source object) to a
    callee position through which that callee, or anything it forwards the parameter to, may store (`translate/paramwrites.py`: least
    fixpoint over the call graph, `const_cast` and C-style casts followed, bodies outside the translation unit judged by parameter
    type).  The only entries of the regenerated table that are not counted are listed in `argNormalise`: the polynomial constants
    `zero`/`one`/`mOne` and `Extension`'s modulus handed to the in-place normalising predicates, where every store on the path is the
    guarded `resize` of `Poly1Dom::setdegree` -- unreachable while these members are stored normalised, which the thread harness
    inspects on every run (`norm` lines) and which is an assumption of this theorem's reading, not proved. -/
theorem claimed_ops_hand_out_no_shared_member :
    ∀ r ∈ rows, r.claimed = true → r.argWrites = [] := by
  intro r hr hc
  have h := List.all_eq_true.mp claimed_rows_checked r hr
  simp only [hc, Bool.not_true, Bool.false_or, Bool.and_eq_true, List.isEmpty_iff] at h
  exact h.2

/-- non-vacuity of the interprocedural column: the analysis does find hand-outs of data members to storing callees in claimed
    operations -- the normalising ones, listed in `argNormalise` -/
example : (rows.any (fun r => r.claimed && !r.argNormalise.isEmpty)) = true := by decide +kernel

/-- non-vacuity: the claimed set is large, and the excluded random draws are exactly where writes (to the caller's generator) occur -/
example : (rows.filter (·.claimed)).length > 300 ∧ (rows.any (fun r => !r.claimed && !r.constWrites.isEmpty)) = true := by
  refine ⟨?_, by decide +kernel⟩
  -- the first 450 rows already hold more than 300 claimed ones
  have h : 300 < ((rows.take 450).filter (·.claimed)).length := by decide +kernel
  rw [← List.take_append_drop 450 rows, List.filter_append, List.length_append]
  omega

end Givaro.Props.C18
