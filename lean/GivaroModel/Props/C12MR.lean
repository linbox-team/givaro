/-
C12 — the Monte-Carlo tests `IntPrimeDom::Miller`, `test_Lehmann`, `Lehmann` (givintprime.inl) as functions of the base
they draw (model: Model/PrimesMR.lean; the base is `2 + mpz_urandomm(n-3)` resp. `1 + mpz_urandomm(n-1)`, the correspondence
recomputes it from the seed of the library generator).  Every statement is for every n and every base of the stated range:
"composite" is never said of a prime, and "prime" for base a is exactly the strong-pseudoprime (Miller) / Euler `-1` (Lehmann)
condition for a.
-/
import GivaroModel.Lemmas.PrimesMR
namespace Givaro.Props.C12MR
open Givaro Givaro.Model.Primes Givaro.Lemmas.Primes

theorem miller_zero_or_one (n a : Int) : millerBase n a = 0 ∨ millerBase n a = 1 := by
  unfold millerBase
  split
  · exact Or.inl rfl
  split
  · exact Or.inr rfl
  simp only
  split
  · exact Or.inr rfl
  · exact millerSquares_01 _ _ _

/-- the guards: `if (n < 2) return 0; if (n <= 3) return 1;` -/
theorem miller_guards (n a : Int) : (n < 2 → millerBase n a = 0) ∧ (2 ≤ n → n ≤ 3 → millerBase n a = 1) := by
  constructor
  · intro h; unfold millerBase; simp [h]
  · intro h2 h3
    have : ¬ n < 2 := by omega
    unfold millerBase; simp [this, h3]

/-- "prime" for base a is exactly the strong-pseudoprime condition for a (as the code tests it): with `n - 1 = t·2^s`, `t` odd,
    `Miller` answers 1 iff `a^t ≡ 1`, or `a^t ≡ -1`, or `a^(t·2^r) ≡ -1` for some `1 ≤ r < s` (mod n).  For odd n (s ≥ 1) this is
    the usual definition of "n is a strong probable prime to base a"; for even n ≥ 4 (s = 0) the code also accepts `a^(n-1) ≡ -1`. -/
theorem miller_accepts_iff (n a : Int) (t s : Nat) (hn : 4 ≤ n) (ha : 0 ≤ a) (ht : t % 2 = 1) (hN : n.toNat - 1 = t * 2 ^ s) :
    millerBase n a = 1 ↔
      (a.toNat ^ t % n.toNat = 1 ∨ a.toNat ^ t % n.toNat = n.toNat - 1 ∨
        ∃ r, 1 ≤ r ∧ r < s ∧ a.toNat ^ (t * 2 ^ r) % n.toNat = n.toNat - 1) :=
  millerBase_iff n a t s hn ht hN
example : (4 : Int) ≤ 13 ∧ (0 : Int) ≤ 2 ∧ 3 % 2 = 1 ∧ (13 : Int).toNat - 1 = 3 * 2 ^ 2 := ⟨by decide, by decide, by decide, by decide⟩

/-- soundness of "composite", every base: a prime n is never declared composite, whatever base `1 ≤ a < n` is used
    (the admissible range `[2, n-2]` of the draw is inside) -/
theorem miller_prime_passes (n a : Int) (hp : Nat.Prime n.toNat) (h1 : 1 ≤ a) (h2 : a < n) : millerBase n a = 1 := by
  have hn2 := hp.two_le
  by_cases h3 : n ≤ 3
  · exact (miller_guards n a).2 (by omega) h3
  have hodd : n.toNat % 2 = 1 := by have := hp.eq_two_or_odd; omega
  obtain ⟨t, s, ht, hN⟩ := exists_odd_split n.toNat hn2
  rw [millerBase_iff n a t s (by omega) ht hN, strong_iff_zmod _ _ t s hn2 (two_adic_pos hodd hn2 ht hN)]
  have := Fact.mk hp
  -- Fermat: `(a^t)^(2^s) = a^(n-1) = 1` in the field `ZMod n`
  refine sq_chain s _ ?_
  rw [← pow_mul, ← hN]
  exact ZMod.pow_card_sub_one_eq_one (zmod_natCast_ne_zero (by rw [Nat.mod_eq_of_lt (by omega)]; omega))
example : Nat.Prime (13 : Int).toNat ∧ (1 : Int) ≤ 5 ∧ (5 : Int) < 13 := ⟨by decide, by decide, by decide⟩

/-- the same for the raw draw `u = mpz_urandomm(n-3) ∈ [0, n-3)`: `Miller(g, n)` answers 1 for a prime n whatever is drawn -/
theorem miller_prime_passes_every_draw (n u : Int) (hp : Nat.Prime n.toNat) (h0 : 0 ≤ u) (h1 : u < n - 3) : miller n u = 1 := by
  unfold miller millerDraw
  exact miller_prime_passes n (u + 2) hp (by omega) (by omega)
example : Nat.Prime (13 : Int).toNat ∧ (0 : Int) ≤ 9 ∧ (9 : Int) < 13 - 3 := ⟨by decide, by decide, by decide⟩

theorem miller_composite_sound (n a : Int) (h1 : 1 ≤ a) (h2 : a < n) (h : millerBase n a = 0) : ¬ Nat.Prime n.toNat := by
  intro hp
  have := miller_prime_passes n a hp h1 h2
  omega
example : (1 : Int) ≤ 2 ∧ (2 : Int) < 9 ∧ ¬ Nat.Prime (9 : Int).toNat := ⟨by decide, by decide, by decide⟩

/-- a "prime" answer on an odd n implies Fermat's condition `a^(n-1) ≡ 1 (mod n)` for the base -/
theorem miller_accept_fermat (n a : Int) (hn : 4 ≤ n) (hodd : n % 2 = 1) (ha : 0 ≤ a) (h : millerBase n a = 1) :
    a.toNat ^ (n.toNat - 1) % n.toNat = 1 := by
  have h2 : 2 ≤ n.toNat := by omega
  obtain ⟨t, s, ht, hN⟩ := exists_odd_split n.toNat h2
  have key := (strong_iff_zmod _ _ t s h2 (two_adic_pos (by omega) h2 ht hN)).1 ((millerBase_iff n a t s hn ht hN).1 h)
  rw [← zmod_eq_one_iff _ _ h2, Nat.cast_pow, hN, pow_mul]
  exact sq_chain_conv key
example : (4 : Int) ≤ 9 ∧ (9 : Int) % 2 = 1 ∧ (0 : Int) ≤ 8 := ⟨by decide, by decide, by decide⟩

/-- `test_Lehmann`, every base: for a prime n the value returned is 1 or n-1 whatever base `1 ≤ A < n` is drawn — so
    "else: n composite" is never said of a prime -/
theorem test_lehmann_prime (n A : Int) (hp : Nat.Prime n.toNat) (h1 : 1 ≤ A) (h2 : A < n) :
    testLehmannBase n A = 1 ∨ testLehmannBase n A = n - 1 := by
  have hn2 := hp.two_le
  rw [testLehmannBase_eq n A (by omega)]
  by_cases h3 : n.toNat < 3
  · left
    obtain h : n.toNat = 2 := by omega
    simp [h]
  · rcases euler_residue n.toNat A.toNat hp (by omega) (by rw [Nat.mod_eq_of_lt (by omega)]; omega) with ⟨h, _⟩ | ⟨h, _⟩
    · left; rw [h]; rfl
    · right; rw [h]; omega
example : Nat.Prime (13 : Int).toNat ∧ (1 : Int) ≤ 5 ∧ (5 : Int) < 13 := ⟨by decide, by decide, by decide⟩

/-- the raw-draw form: `u = mpz_urandomm(n-1) ∈ [0, n-1)` -/
theorem test_lehmann_prime_every_draw (n u : Int) (hp : Nat.Prime n.toNat) (h0 : 0 ≤ u) (h1 : u < n - 1) :
    testLehmann n u = 1 ∨ testLehmann n u = n - 1 := by
  unfold testLehmann lehmannDraw
  exact test_lehmann_prime n (u + 1) hp (by omega) (by omega)
example : Nat.Prime (13 : Int).toNat ∧ (0 : Int) ≤ 11 ∧ (11 : Int) < 13 - 1 := ⟨by decide, by decide, by decide⟩

theorem lehmann_zero_or_one (n A : Int) : lehmannBase n A = 0 ∨ lehmannBase n A = 1 := by
  unfold lehmannBase
  split
  · exact Or.inl rfl
  split
  · exact Or.inr rfl
  split
  · exact Or.inr rfl
  · exact Or.inl rfl

/-- "prime" for base A is exactly Euler's condition with value -1: `Lehmann` answers 1 iff `A^((n-1)/2) ≡ -1 (mod n)` -/
theorem lehmann_accepts_iff (n A : Int) (hn : 4 ≤ n) (hA : 0 ≤ A) :
    lehmannBase n A = 1 ↔ A.toNat ^ ((n.toNat - 1) / 2) % n.toNat = n.toNat - 1 :=
  lehmannBase_iff n A hn
example : (4 : Int) ≤ 13 ∧ (0 : Int) ≤ 2 := ⟨by decide, by decide⟩

/-- for a prime n > 3 and a base `1 ≤ A < n`, `Lehmann` answers 1 exactly when A is a quadratic non-residue mod n (so a prime is
    announced "composite" for the residues: the documented probability 1/2 of the one-round test) -/
theorem lehmann_prime_iff_nonresidue (n A : Int) (hn : 4 ≤ n) (hp : Nat.Prime n.toNat) (h1 : 1 ≤ A) (h2 : A < n) :
    lehmannBase n A = 1 ↔ ¬ IsSquare ((A.toNat : Nat) : ZMod n.toNat) := by
  rw [lehmannBase_iff n A hn]
  rcases euler_residue n.toNat A.toNat hp (by omega) (by rw [Nat.mod_eq_of_lt (by omega)]; omega) with ⟨h, hs⟩ | ⟨h, hs⟩
  · rw [h]; exact ⟨fun h' => by omega, fun h' => absurd hs h'⟩
  · exact ⟨fun _ => hs, fun _ => h⟩
example : (4 : Int) ≤ 13 ∧ Nat.Prime (13 : Int).toNat ∧ (1 : Int) ≤ 2 ∧ (2 : Int) < 13 := ⟨by decide, by decide, by decide, by decide⟩

end Givaro.Props.C12MR
