/-
C19 — vocabulary of the theorem statements (canonical rationals, admissible representatives, stream positions) and the lemmas behind
Props/C19.lean, in the order of that file: separators and sequences, the Rational reader's blanks, `init` on a representative, the
libstdc++ readers and `mpz_set_str` on a numeral (GMP's reader is in TextLemmas, the reference scanner in TextPoly), failed streams.
-/
import GivaroModel.Model.Text
import GivaroModel.Spec.TextSpec
import GivaroModel.Lemmas.TextLemmas
namespace Givaro.Lemmas.Text
open Givaro.Model.Text Givaro.Spec.Text

/-! ### sequences of Integers -/

theorem intReadSeq_more (sepLen k : Nat) (s : IStream) :
    intReadSeq sepLen (k + 2) s = ((intRead 0 s).1 :: (intReadSeq sepLen (k + 1) (dropSep sepLen (intRead 0 s).2)).1,
      (intReadSeq sepLen (k + 1) (dropSep sepLen (intRead 0 s).2)).2) := rfl


theorem dropSep_append (sep J : List Char) :
    dropSep sep.length ⟨sep ++ J, false, false⟩ = ⟨J, false, false⟩ := by
  induction sep with
  | nil => simp [dropSep]
  | cons c cs ih => simpa [dropSep, getc, IStream.good] using ih

theorem startsWithDigit_append (sep J : List Char) (h : sepOk sep = true) : startsWithDigit (sep ++ J) = false := by
  cases sep with
  | nil => simp [sepOk] at h
  | cons c cs => simpa [sepOk, startsWithDigit] using h

theorem after_cons (sep J : List Char) (h : sepOk sep = true) : after (sep ++ J) = ⟨sep ++ J, false, false⟩ := by
  cases sep with
  | nil => simp [sepOk] at h
  | cons c cs => simp [after]

/-! ### Rational -/

/-- a rational in the form the library keeps it: positive denominator, reduced -/
def Canonical (q : Int × Int) : Prop := 0 < q.2 ∧ Int.gcd q.1 q.2 = 1

instance (q : Int × Int) : Decidable (Canonical q) := by unfold Canonical; exact inferInstance

theorem ratMk_canonical (n d : Int) (h : Canonical (n, d)) : ratMk n d = some (n, d) := by
  obtain ⟨hd, hg⟩ := h
  simp only at hd hg
  have : d ≠ 0 := by omega
  simp [ratMk, this, hd, ratReduce, hg]

theorem blankG_nonblank (c : Char) (buf : List Char) (h : c ≠ ' ') : blankG c buf = (c, ⟨buf, false, false⟩) := by
  cases buf <;> simp [blankG, h]

/-- stream after an integer-valued rational followed by a blank and `l`: further blanks are eaten, one character is put back (the last blank if nothing else follows) -/
def afterBlanks : List Char → IStream
  | [] => ⟨[' '], false, false⟩
  | c :: l => if c = ' ' then afterBlanks l else ⟨c :: l, false, false⟩

theorem looksLikeDen_blank (l : List Char) : looksLikeDen (' ' :: l) = looksLikeDen l := rfl

theorem looksLikeDen_nonblank {c : Char} (l : List Char) (hc : c ≠ ' ') : looksLikeDen (c :: l) = decide (c = '/') := by
  simp [looksLikeDen, dropBlanks, hc]

theorem blankG_blank (rs : List Char) (h : looksLikeDen (' ' :: rs) = false) :
    (blankG ' ' rs).1 ≠ '/' ∧ putback (blankG ' ' rs).1 (blankG ' ' rs).2 = afterBlanks rs := by
  rw [looksLikeDen_blank] at h
  induction rs with
  | nil => simp [blankG, putback, afterBlanks]
  | cons c l ih =>
    by_cases hc : c = ' '
    · subst hc
      simpa [blankG, afterBlanks] using ih h
    · have hsl : c ≠ '/' := by simpa [looksLikeDen_nonblank l hc] using h
      simp [blankG, afterBlanks, hc, blankG_nonblank c l hc, putback, hsl]

/-- stream state after reading a canonical rational with denominator `d` followed by `rest` -/
def ratAfter (d : Int) (rest : List Char) : IStream :=
  if d > 1 then after rest
  else match rest with
    | [] => after []
    | r :: rs => if r = ' ' then afterBlanks rs else ⟨r :: rs, false, false⟩

theorem ratAfter_nil (d : Int) : ratAfter d [] = after [] := by
  unfold ratAfter
  split <;> rfl

theorem afterBlanks_fail (l : List Char) : (afterBlanks l).fail = false := by
  induction l with
  | nil => rfl
  | cons c l ih => simp only [afterBlanks]; split <;> simp [ih]

theorem ratAfter_fail (d : Int) (rest : List Char) : (ratAfter d rest).fail = false := by
  unfold ratAfter
  split
  · rfl
  · split
    · rfl
    · split
      · exact afterBlanks_fail _
      · rfl

theorem ratAfter_buf (d : Int) (rest : List Char) (hb : d > 1 ∨ rest.head? ≠ some ' ') : (ratAfter d rest).buf = rest := by
  unfold ratAfter
  split
  · rfl
  · rename_i hd
    cases rest with
    | nil => rfl
    | cons r rs =>
      have : r ≠ ' ' := by simpa [hd] using hb
      simp [this]

/-! ### sequences of Rationals -/

theorem ratReadSeq_more (sep : List Char) (k : Nat) (s : IStream) :
    ratReadSeq false sep (k + 2) s = ((ratRead s).1 :: (ratReadSeq false sep (k + 1) (dropSepTol sep (ratRead s).2)).1,
      (ratReadSeq false sep (k + 1) (dropSepTol sep (ratRead s).2)).2) := rfl

theorem dropSepTol_exact (sep J : List Char) : dropSepTol sep ⟨sep ++ J, false, false⟩ = ⟨J, false, false⟩ := by
  induction sep with
  | nil => simp [dropSepTol]
  | cons c cs ih => simpa [dropSepTol, peek, getc, IStream.good] using ih

theorem afterBlanks_shape (l : List Char) (j0 : Char) (jl : List Char) (hj : j0 ≠ ' ') :
    ∃ h t, afterBlanks (l ++ j0 :: jl) = ⟨h :: t, false, false⟩ ∧ h ≠ ' ' := by
  induction l with
  | nil => exact ⟨j0, jl, by rw [List.nil_append, afterBlanks, if_neg hj], hj⟩
  | cons c cs ih =>
    by_cases hc : c = ' '
    · subst hc
      rw [List.cons_append, afterBlanks, if_pos rfl]
      exact ih
    · exact ⟨c, cs ++ j0 :: jl, by rw [List.cons_append, afterBlanks, if_neg hc], hc⟩

theorem dropSepTol_blank_skip (cs : List Char) (h : Char) (t : List Char) (hh : h ≠ ' ') :
    dropSepTol (' ' :: cs) ⟨h :: t, false, false⟩ = dropSepTol cs ⟨h :: t, false, false⟩ := by
  have : ¬ (some h = some ' ') := by simpa using hh
  simp [dropSepTol, peek, IStream.good, this]

theorem dropSepTol_eaten (cs : List Char) (j0 : Char) (jl : List Char) (hj : j0 ≠ ' ') :
    dropSepTol (' ' :: cs) (afterBlanks (cs ++ j0 :: jl)) = ⟨j0 :: jl, false, false⟩ := by
  induction cs with
  | nil =>
    simp only [List.nil_append, afterBlanks, hj, ↓reduceIte]
    rw [dropSepTol_blank_skip [] j0 jl hj]; rfl
  | cons c cs ih =>
    by_cases hc : c = ' '
    · subst hc
      obtain ⟨h, t, hs, hh⟩ := afterBlanks_shape cs j0 jl hj
      simp only [List.cons_append, afterBlanks, ↓reduceIte]
      rw [hs, dropSepTol_blank_skip _ h t hh, ← hs]
      exact ih
    · simp only [List.cons_append, afterBlanks, hc, ↓reduceIte]
      rw [dropSepTol_blank_skip _ c _ hc]
      exact dropSepTol_exact (c :: cs) (j0 :: jl)

theorem dropSepTol_ratAfter (sep : List Char) (hsep : sepOk sep = true) (d : Int) (j0 : Char) (jl : List Char) (hj : j0 ≠ ' ') :
    dropSepTol sep (ratAfter d (sep ++ j0 :: jl)) = IStream.ofList (j0 :: jl) := by
  simp only [ratAfter]
  split
  · rw [after_cons _ _ hsep]
    exact dropSepTol_exact _ _
  · cases sep with
    | nil => simp [sepOk] at hsep
    | cons c cs =>
      simp only [List.cons_append]
      split
      · rename_i hc
        subst hc
        exact dropSepTol_eaten cs j0 jl hj
      · exact dropSepTol_exact (c :: cs) _

theorem joinSep_head (sep : List Char) (q : Int × Int) (qs : List (Int × Int)) :
    ∃ c l, joinSep sep ((q :: qs).map showRat) = c :: l ∧ c ≠ ' ' ∧ c ≠ '/' := by
  obtain ⟨c, l, hl, hc⟩ := (numeral_showInt q.1 [] rfl).head
  rw [List.append_nil] at hl
  obtain ⟨l', hl'⟩ : ∃ l', showRat q = c :: l' := by
    simp only [showRat]
    split
    · exact ⟨l ++ '/' :: showInt q.2, by simp [hl]⟩
    · exact ⟨l, hl⟩
  cases qs with
  | nil => exact ⟨c, l', by simp [joinSep, hl'], hc⟩
  | cons y ys => exact ⟨c, l' ++ sep ++ joinSep sep ((y :: ys).map showRat), by simp [joinSep, hl'], hc⟩

theorem looksLikeDen_sep (sep : List Char) (j0 : Char) (jl : List Char) (hsep : sepOkRat sep = true)
    (hj : j0 ≠ ' ' ∧ j0 ≠ '/') : looksLikeDen (sep ++ j0 :: jl) = false := by
  have h2 : looksLikeDen sep = false := by
    simp only [sepOkRat, Bool.and_eq_true, Bool.not_eq_true'] at hsep; exact hsep.2
  clear hsep
  induction sep with
  | nil => simpa [looksLikeDen_nonblank jl hj.1] using hj.2
  | cons c cs ih =>
    by_cases hc : c = ' '
    · subst hc
      exact ih h2
    · rwa [List.cons_append, looksLikeDen_nonblank _ hc, ← looksLikeDen_nonblank cs hc]

/-! ### ring elements -/

/-- representatives that `write` can print: `[0, p)`, balanced `[p/2 - p + 1, p/2]`, every integer for ZRing -/
def RepOk (R : RingIO) (rep : Int) : Prop :=
  R.card = 0 ∨ (0 < R.card ∧ (if R.balanced then R.card / 2 - R.card + 1 ≤ rep ∧ rep ≤ R.card / 2 else 0 ≤ rep ∧ rep < R.card))

/-- `init(convert(a)) = a` of C04, for the specification of `init` -/
theorem initNorm_rep (R : RingIO) (rep : Int) (h : RepOk R rep) : initNorm R rep = rep := by
  rcases h with h0 | ⟨hp, hr⟩
  · simp [initNorm, h0]
  · have hne : R.card ≠ 0 := by omega
    simp only [initNorm, hne, ↓reduceIte]
    cases hb : R.balanced with
    | false =>
      simp only [hb, Bool.false_eq_true, ↓reduceIte] at hr
      simp [Int.emod_eq_of_lt hr.1 hr.2]
    | true =>
      simp only [hb, ↓reduceIte] at hr
      by_cases hneg : rep < 0
      · have : rep + R.card > R.card / 2 := by omega
        simp [emod_of_neg (show -R.card ≤ rep by omega) hneg, this]
      · have e : rep % R.card = rep := Int.emod_eq_of_lt (by omega) (by omega)
        have : ¬ rep > R.card / 2 := by omega
        simp [e, this]

theorem nativeRead_numeral {t : List Char} {v : Int} {rest : List Char} (h : Numeral t v rest) (w : Nat) (dflt : Int)
    (hlo : -(2 ^ (w - 1) : Int) ≤ v) (hhi : v < 2 ^ (w - 1)) :
    nativeRead true w dflt (IStream.ofList t) = (v, after rest) := by
  obtain ⟨neg, c, l, _, rfl, hsp, hneg, hplus, hdrop, ⟨d0, ds, rfl⟩, -, htake, hrest, rfl⟩ := h.scan
  simp only [nativeRead, sentryWs, IStream.ofList, IStream.good, Bool.not_false, Bool.and_self, ↓reduceIte, List.dropWhile, hsp,
    numGetInt, List.head?_cons, Option.some.injEq, hneg, hplus, decide_false, Bool.or_false, Bool.decide_eq_true,
    List.drop_succ_cons, List.drop_zero, hdrop, htake, hrest, digitsValue_eq, List.isEmpty_cons, Bool.false_eq_true, Bool.true_and]
  -- the limit depends on the sign: 2^(w-1) - 1, or 2^(w-1) for a negative number
  cases neg
  · have hle : ¬ ((valOf 0 (d0 :: ds) : Int) > 2 ^ (w - 1) - 1) := by
      simp only [Bool.false_eq_true, ↓reduceIte] at hhi
      omega
    simp [hle, after]
  · have hle : ¬ ((valOf 0 (d0 :: ds) : Int) > 2 ^ (w - 1)) := by
      simp only [↓reduceIte] at hlo
      omega
    simp [hle, after]

/-- text after a number read through `operator>>(double&)` must not continue a floating literal either -/
def startsFloatish (rest : List Char) : Bool :=
  match rest with
  | [] => false
  | c :: _ => c = '.' || c = 'e' || c = 'E'

theorem startsFloatish_cons {r : Char} {rs : List Char} (h : startsFloatish (r :: rs) = false) :
    ¬ (r = '.' ∨ r = 'e' ∨ r = 'E') := by
  simpa [startsFloatish, and_assoc] using h

theorem floatRead_numeral {t : List Char} {v : Int} {rest : List Char} (h : Numeral t v rest) (m : Nat)
    (hm : v.natAbs ≤ 2 ^ m) (hf : startsFloatish rest = false) :
    floatRead m (IStream.ofList t) = some (v, after rest) := by
  obtain ⟨neg, c, l, _, rfl, hsp, hneg, hplus, hdrop, ⟨d0, ds, rfl⟩, -, htake, hrest, rfl⟩ := h.scan
  have hgt : ¬ (valOf 0 (d0 :: ds) > 2 ^ m) := by cases neg <;> simpa using hm
  simp only [floatRead, sentryWs, IStream.ofList, IStream.good, Bool.not_false, Bool.and_self, ↓reduceIte, List.dropWhile, hsp,
    List.head?_cons, Option.some.injEq, hneg, hplus, decide_false, Bool.or_false, Bool.decide_eq_true,
    List.drop_succ_cons, List.drop_zero, hdrop, htake, hrest, digitsValue_eq, List.isEmpty_cons, Bool.false_eq_true, Bool.not_true]
  cases rest with
  | nil => simp [hgt, after]
  | cons r rs => simp [startsFloatish_cons hf, hgt, after]

/-! ### a failed stream stays failed -/

theorem intRead_failed (b : Int) {s : IStream} (hs : s.fail = true) : (intRead b s).2.fail = true := by
  have hz : isDigit (Char.ofNat 0) = false := by decide
  have hzs : isSpace (Char.ofNat 0) = false := by decide
  have hzm : Char.ofNat 0 ≠ '-' := by decide
  have hzp : Char.ofNat 0 ≠ '+' := by decide
  simp [intRead, gmpRead, getc, IStream.good, hs, IStream.setFail, skipWs, digits, hz, hzs, hzm, hzp]

theorem sentryWs_failed {s : IStream} (hs : s.fail = true) : sentryWs s = (false, s.setFail) := by
  simp [sentryWs, IStream.good, hs]

theorem nativeRead_failed (signed : Bool) (w : Nat) (dflt : Int) {s : IStream} (hs : s.fail = true) :
    (nativeRead signed w dflt s).2.fail = true := by
  simp [nativeRead, sentryWs_failed hs, IStream.setFail]

theorem elemRead_failed (R : RingIO) {s : IStream} (hs : s.fail = true) {q : Int × IStream} (hq : elemRead R s = some q) :
    q.2.fail = true := by
  cases hrd : R.reader with
  | gmp =>
    simp only [elemRead, hrd] at hq
    split at hq
    · cases hq
    · cases hq
      exact intRead_failed 0 hs
  | sint w =>
    simp only [elemRead, hrd] at hq
    split at hq
    · cases hq
    · cases hq
      exact nativeRead_failed true w R.uninit hs
  | flt m =>
    simp [elemRead, hrd, floatRead, sentryWs_failed hs] at hq

/-! ### strings -/

theorem filter_digits (ds : List Char) (hds : AllDigits ds) : ds.filter (fun c => !isSpace c) = ds := by
  apply List.filter_eq_self.mpr
  intro c hc
  simp [(isDigit_facts c (hds c hc)).1]

theorem mpzSetStr_numeral {t : List Char} {n : Int} (h : Numeral t n []) : mpzSetStr t = some n := by
  obtain ⟨neg, c, l, _, rfl, hsp, hneg, -, hdrop, ⟨d0, ds, rfl⟩, hds, -, -, rfl⟩ := h.scan
  rw [List.append_nil] at hdrop
  have hall : (d0 :: ds).all isDigit = true := by simpa [AllDigits] using hds
  simp only [mpzSetStr, List.dropWhile, hsp, List.head?_cons, Option.some.injEq, hneg, List.drop_succ_cons,
    List.drop_zero, hdrop, hds.head, Bool.not_true, Bool.false_eq_true, ↓reduceIte, filter_digits _ hds, hall]
  rfl

end Givaro.Lemmas.Text
