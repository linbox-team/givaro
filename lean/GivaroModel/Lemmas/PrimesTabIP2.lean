/- C12 — the walk of `IP2` (arguments from 2^15 to 2^16): the search finds exactly the primes of its range. -/
import GivaroModel.Model.PrimesTables
import GivaroModel.Lemmas.PrimesTabWalk
namespace Givaro.Lemmas.PrimesTab
open Givaro Givaro.Model.Primes

theorem ip2_walk : walk ip2At ip2Size 32 LOGMAX2 ((LOGMAX2 / 2 : Nat) : Int) ((LOGMAX2 / 2 : Nat) : Int) 32767 65536 =
    some ((primes16.filter fun p => decide (32768 ≤ p)).map fun p : Nat => (p : Int)) := by
  decide +kernel

end Givaro.Lemmas.PrimesTab
