/-
C16 (static part) — no hidden state.  `Generated/Footprint.lean` is regenerated on every run from the clang AST of a translation
unit that uses every domain class the way the harnesses do (translate/footprint.py): per instantiated member function of a domain
class, closed under calls, the non-const static storage it touches.  The theorem is a kernel evaluation over that whole table.
-/
import GivaroModel.Generated.Footprint
namespace Givaro.Props.C16
open Givaro.Gen.Footprint

/-- the process-wide state the library documents and the property does not count as hidden: the big-integer random state
    (`Integer::randstate()`, a function-local static of gmp++_int_rand.inl, read and advanced by the random draws) and the reduction
    mode of `Rational` (`Rational::SetReduce()/SetNoReduce()`), which the rational field operations may read but never write
    (a `write:Rational::flags` entry is not in this list) -/
def documentedStatics : List String := ["local:randstate", "write:randstate", "Rational::flags"]

/-- member functions of domain classes touch no static storage other than the documented one -/
theorem no_hidden_state : ∀ r ∈ rows, ∀ s ∈ r.statics, s ∈ documentedStatics := by decide +kernel

/-- non-vacuity: the table is not empty and the documented exception does occur in it -/
example : rows.length > 100 ∧ (rows.any (fun r => r.statics.contains "local:randstate")) = true := by decide +kernel

end Givaro.Props.C16
