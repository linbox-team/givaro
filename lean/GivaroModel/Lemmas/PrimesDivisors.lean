/-
C12 — the divisor list built by `IntFactorDom::divisors(L, Lf, Le)` (model: `Model.Primes.divisors`) has no duplicates and is,
as a set, `Nat.divisors` of the product, for every list of distinct primes with arbitrary exponents: what one round of the outer
loop does to a list (`mem_divisorsStep_iff_dvd`, `divisorsStep_nodup`: `p ∤ d`, `p ∤ d'`, `d p^i = d' p^j` force `d = d'`) and
`divisors_snoc`, so that Props/C12.lean argues by induction on the last prime power of the list.
-/
import GivaroModel.Lemmas.PrimesLemmas
import Mathlib.NumberTheory.Divisors
namespace Givaro.Lemmas.Primes
open Givaro Givaro.Model.Primes Givaro.Spec.Primes

theorem mulChain_eq (p : Nat) : ∀ (e d : Nat), mulChain p e d = (List.range e).map fun i => d * p ^ (i + 1) := by
  intro e
  induction e with
  | zero => intro d; rfl
  | succ k ih =>
    intro d
    rw [mulChain, ih, List.range_succ_eq_map, List.map_cons, List.map_map]
    refine congrArg₂ _ (by rw [Nat.zero_add, pow_one]) (List.map_congr_left fun i _ => ?_)
    show d * p * p ^ (i + 1) = d * p ^ (i + 1 + 1)
    rw [pow_succ p (i + 1), Nat.mul_assoc, Nat.mul_comm p]

theorem mem_mulChain (p e d x : Nat) : x ∈ mulChain p e d ↔ ∃ i, 1 ≤ i ∧ i ≤ e ∧ x = d * p ^ i := by
  rw [mulChain_eq, List.mem_map]
  constructor
  · rintro ⟨i, hi, rfl⟩
    exact ⟨i + 1, Nat.le_add_left 1 i, List.mem_range.1 hi, rfl⟩
  · rintro ⟨i, h1, h2, rfl⟩
    exact ⟨i - 1, List.mem_range.2 (by omega), by rw [Nat.sub_add_cancel h1]⟩

theorem mem_divisorsStep (res : List Nat) (p e x : Nat) :
    x ∈ divisorsStep res (p, e) ↔ ∃ d ∈ res, ∃ i, i ≤ e ∧ x = d * p ^ i := by
  simp only [divisorsStep, List.mem_append, List.mem_flatMap, mem_mulChain]
  constructor
  · rintro (h | ⟨d, hd, i, h1, h2, h3⟩)
    · exact ⟨x, h, 0, by omega, by simp⟩
    · exact ⟨d, hd, i, h2, h3⟩
  · rintro ⟨d, hd, i, h2, h3⟩
    by_cases hi : i = 0
    · left; subst hi; simpa [h3] using hd
    · right; exact ⟨d, hd, i, by omega, h2, h3⟩

theorem dvd_mul_prime_pow (p : Nat) (hp : Nat.Prime p) (M e x : Nat) :
    x ∣ M * p ^ e ↔ ∃ d, d ∣ M ∧ ∃ i, i ≤ e ∧ x = d * p ^ i := by
  rw [Nat.dvd_mul]
  constructor
  · rintro ⟨y, z, hy, hz, hyz⟩
    obtain ⟨i, hi, hzi⟩ := (Nat.dvd_prime_pow hp).1 hz
    exact ⟨y, hy, i, hi, by rw [← hyz, hzi]⟩
  · rintro ⟨d, hd, i, hi, hx⟩
    exact ⟨d, p ^ i, hd, (Nat.dvd_prime_pow hp).2 ⟨i, hi, rfl⟩, hx.symm⟩

theorem mem_divisorsStep_iff_dvd {res : List Nat} {M p : Nat} (hp : Nat.Prime p) (h : ∀ x, x ∈ res ↔ x ∣ M) (e y : Nat) :
    y ∈ divisorsStep res (p, e) ↔ y ∣ M * p ^ e := by
  rw [mem_divisorsStep, dvd_mul_prime_pow p hp]
  exact exists_congr fun d => and_congr_left' (h d)

theorem mul_pow_cancel {p d d' i j : Nat} (hp : Nat.Prime p) (hd : ¬ p ∣ d) (hd' : ¬ p ∣ d')
    (h : d * p ^ i = d' * p ^ j) : d = d' :=
  have cop : ∀ {a : Nat} (k : Nat), ¬ p ∣ a → Nat.Coprime a (p ^ k) :=
    fun k ha => Nat.Coprime.pow_right k ((Nat.Prime.coprime_iff_not_dvd hp).2 ha).symm
  Nat.dvd_antisymm ((cop j hd).dvd_of_dvd_mul_right ⟨p ^ i, h.symm⟩) ((cop i hd').dvd_of_dvd_mul_right ⟨p ^ j, h⟩)

theorem mulChain_nodup (p : Nat) (hp : 2 ≤ p) (e d : Nat) (hd : 0 < d) : (mulChain p e d).Nodup := by
  rw [mulChain_eq]
  refine List.nodup_range.map fun i j h => ?_
  exact Nat.succ_injective (Nat.pow_right_injective hp (Nat.eq_of_mul_eq_mul_left hd h))

theorem divisorsStep_nodup (res : List Nat) (p e : Nat) (hp : Nat.Prime p) (hres : res.Nodup)
    (hnd : ∀ d ∈ res, ¬ p ∣ d) : (divisorsStep res (p, e)).Nodup := by
  unfold divisorsStep
  have hpos : ∀ d ∈ res, 0 < d := fun d hd => Nat.pos_of_ne_zero (fun h => hnd d hd (h ▸ dvd_zero p))
  apply List.Nodup.append hres
  · rw [List.nodup_flatMap]
    refine ⟨fun d hd => mulChain_nodup p hp.two_le e d (hpos d hd), ?_⟩
    apply List.Pairwise.imp_of_mem _ hres
    intro a b ha hb hab
    show List.Disjoint (mulChain p e a) (mulChain p e b)
    intro x hxa hxb
    rw [mem_mulChain] at hxa hxb
    obtain ⟨i, _, _, hi⟩ := hxa
    obtain ⟨j, _, _, hj⟩ := hxb
    exact hab (mul_pow_cancel hp (hnd a ha) (hnd b hb) (hi ▸ hj))
  · intro x hx hx2
    rw [List.mem_flatMap] at hx2
    obtain ⟨d, hd, hxd⟩ := hx2
    rw [mem_mulChain] at hxd
    obtain ⟨i, hi1, _, hxi⟩ := hxd
    exact hnd x hx (hxi ▸ Dvd.dvd.mul_left (dvd_pow_self p (by omega)) d)

theorem divisors_snoc (fs : List (Nat × Nat)) (pe : Nat × Nat) : divisors (fs ++ [pe]) = divisorsStep (divisors fs) pe := by
  rw [divisors, List.foldl_append]; rfl

end Givaro.Lemmas.Primes
