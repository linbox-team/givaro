/- C06 helper lemmas: rmgmodule.h — arazi_qi (inverse modulo 2^(2^K) by Newton/Arazi–Qi lifting). -/
import GivaroModel.Lemmas.RecIntMulLow
import Mathlib.Data.ZMod.Basic
namespace Givaro.Model.RecInt

/-- in `ZMod 2^64`, `x = a - 1`: the loop keeps `amone² = x^i` and `u·(1 - x²) = 1 - amone²`; at `i ≥ 64`, `x^i = 0` as `x` is even -/
theorem arazi_loop (x : ZMod B64) (hx : x ^ 64 = 0) : ∀ (f i am u : Nat), 64 ≤ i * 2 ^ f →
    (am : ZMod B64) ^ 2 = x ^ i → (u : ZMod B64) * (1 - x ^ 2) = 1 - (am : ZMod B64) ^ 2 →
    ((araziLimbLoop f i am u : Nat) : ZMod B64) * (1 - x ^ 2) = 1 := by
  have stop : ∀ i am u : Nat, 64 ≤ i → (am : ZMod B64) ^ 2 = x ^ i → (u : ZMod B64) * (1 - x ^ 2) = 1 - (am : ZMod B64) ^ 2 →
      (u : ZMod B64) * (1 - x ^ 2) = 1 := by
    intro i am u hi h1 h2
    rw [h2, h1, show i = 64 + (i - 64) by omega, pow_add, hx, zero_mul, sub_zero]
  intro f
  induction f with
  | zero => intro i am u hi h1 h2; exact stop i am u (by simpa using hi) h1 h2
  | succ f ih =>
    intro i am u hi h1 h2
    simp only [araziLimbLoop]
    split
    · apply ih (i * 2) _ _ (by rw [pow_succ] at hi; rw [Nat.mul_assoc, Nat.mul_comm 2]; exact hi)
      · rw [ZMod.natCast_mod, Nat.cast_mul, ← pow_two, h1, ← pow_mul]
      · simp only [ZMod.natCast_mod, Nat.cast_mul, Nat.cast_add, Nat.cast_one]
        linear_combination ((am : ZMod B64) * am + 1) * h2
    · exact stop i am u (by omega) h1 h2

theorem arazi_limb (a : Nat) (ha : a < B64) (hodd : a % 2 = 1) :
    let u := if a = 1 then 1 else (araziLimbLoop 7 2 ((a + B64 - 1) % B64) 1 * ((2 + B64 - a) % B64)) % B64
    u < B64 ∧ (u * a) % B64 = 1 := by
  intro u
  by_cases h1 : a = 1
  · subst h1; simp [u, B64]
  · have hu : u = (araziLimbLoop 7 2 ((a + B64 - 1) % B64) 1 * ((2 + B64 - a) % B64)) % B64 := by simp [u, h1]
    refine ⟨by rw [hu]; exact Nat.mod_lt _ (by decide), ?_⟩
    obtain ⟨y, hy⟩ : ∃ y, a = 2 * y + 1 := ⟨a / 2, by omega⟩
    have hM : ((B64 : Nat) : ZMod B64) = 0 := ZMod.natCast_self B64
    have h64 : (2 * (y : ZMod B64)) ^ 64 = 0 := by
      have e : ((2 ^ 64 : Nat) : ZMod B64) = 0 := by rw [show (2 ^ 64 : Nat) = B64 by norm_num [B64]]; exact hM
      have e' : (2 : ZMod B64) ^ 64 = 0 := by exact_mod_cast e
      rw [mul_pow, e', zero_mul]
    have ca : (a : ZMod B64) = 2 * y + 1 := by rw [hy]; push_cast; rfl
    have c1 : (((a + B64 - 1) % B64 : Nat) : ZMod B64) = 2 * y := by
      rw [ZMod.natCast_mod, show a + B64 - 1 = 2 * y + B64 by omega]; push_cast; rw [hM, add_zero]
    have c2 : (((2 + B64 - a) % B64 : Nat) : ZMod B64) = 1 - 2 * y := by
      rw [ZMod.natCast_mod, show 2 + B64 - a = B64 + 1 - 2 * y by omega, Nat.cast_sub (by omega)]; push_cast; rw [hM]; ring
    have hl := arazi_loop (2 * y) h64 7 2 _ 1 (by decide) (by rw [c1]) (by rw [c1]; simp)
    have key : ((u * a : Nat) : ZMod B64) = 1 := by
      rw [hu, Nat.cast_mul, ZMod.natCast_mod, Nat.cast_mul, c2, ca]
      linear_combination hl
    have := (ZMod.natCast_eq_natCast_iff' _ 1 B64).mp (by rw [key]; simp)
    rw [this]; decide

/-- one lifting step in base `B`: `t1 ≡ hp + ul·ah`, `t1' ≡ t1·ul`, `uh ≡ -t1'` modulo `B`, so `uh·al ≡ -(hp + ul·ah)` -/
theorem arazi_step {B ul uh al ah hp t1 m2 t1' q1 q2 q3 e : Nat} (hB : 1 < B * B)
    (E1 : ul * al = 1 + B * hp) (E2 : t1 + B * q1 = hp + m2) (E3 : m2 + B * q2 = ul * ah)
    (E4 : t1' + B * q3 = t1 * ul) (E5 : uh + t1' = B * e) :
    ((ul + B * uh) * (al + B * ah)) % (B * B) = 1 := by
  have key : (ul + B * uh) * (al + B * ah) + B * B * (hp * t1)
      = 1 + B * B * (e * al + q1 + q2 + q3 * al + uh * ah) := by
    linear_combination E1 + (B * t1) * E1.symm + B * E2.symm + B * E3.symm + (B * al) * E4.symm + (B * al) * E5
  have := congrArg (· % (B * B)) key
  simp only [Nat.add_mul_mod_self_left] at this
  rw [this, Nat.mod_eq_of_lt hB]

/-- `arazi_limb` at a limb; above, `arazi_step` from the inverse `ul` of the low half -/
theorem arazi_qi_ok (t : Nat) : ∀ {n : Nat} (a : RU n), WF a → val a % 2 = 1 →
    WF (arazi_qi t a) ∧ (val (arazi_qi t a) * val a) % Bn n = 1
  | 0, .limb a, ha, hodd => by
      simp only [WF, val] at ha hodd
      have h := arazi_limb a ha hodd
      simp only at h
      rw [Bn_zero]
      by_cases h1 : a = 1
      · subst h1; simp [arazi_qi, WF, val, B64]
      · simp only [if_neg h1] at h
        simp only [arazi_qi, if_neg h1, WF, val]
        exact h
  | n+1, .node al ah, ha, hodd => by
      obtain ⟨k2, hk2, _⟩ := Bn_even n
      have hoddl : val al % 2 = 1 := by
        rw [val_node, hk2, Nat.mul_assoc] at hodd
        omega
      have hB1 : 1 < Bn n * Bn n := by
        have := B64_le_Bn n
        have := Nat.mul_le_mul this this
        simp only [B64] at *; omega
      simp only [arazi_qi]
      obtain ⟨hulw, hule⟩ := arazi_qi_ok t al ha.1 hoddl
      generalize arazi_qi t al = ul at hulw hule ⊢
      obtain ⟨hpl, hph, hpe⟩ := (lmul_ok t ul al hulw ha.1).digits
      generalize lmul t ul al = p at hpl hph hpe ⊢
      have hlo : val (lo p) = 1 := by
        rw [← hpe, Nat.add_mul_mod_self_left, Nat.mod_eq_of_lt (val_lt _ hpl)] at hule
        exact hule
      rw [hlo] at hpe
      obtain ⟨hm2w, q2, hq2⟩ := mul_q t ul ah hulw ha.2
      generalize mul t ul ah = m2 at hm2w hq2 ⊢
      obtain ⟨ht1w, q1, hq1⟩ := addNC_q (hi p) m2 hph hm2w
      generalize addNC (hi p) m2 = t1 at ht1w hq1 ⊢
      obtain ⟨ht1'w, q3, hq3⟩ := mul_q t t1 ul ht1w hulw
      generalize mul t t1 ul = t1' at ht1'w hq3 ⊢
      obtain ⟨huhw, e, he⟩ := neg_add t1' ht1'w
      generalize neg t1' = uh at huhw he ⊢
      refine ⟨⟨hulw, huhw⟩, ?_⟩
      simp only [val_node, Bn_succ]
      exact arazi_step hB1 hpe.symm hq1 hq2 hq3 he

end Givaro.Model.RecInt
