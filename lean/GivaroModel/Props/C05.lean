/-
C05 — extension fields GF(p^k) behave as F_p[X]/(f) with f irreducible.

All theorems are for every input, no bound on sizes.  In the order of the file: the scalar member functions of `GFqDom` (model
`Model/Zech.lean`, the macros of gfq.inl branch by branch) in any commutative ring in which the three tables satisfy `ZechHyp`; the array
forms, the dot product, GF2; soundness of the run-time table checker `Spec.GFq.Tables.tablesValid` and what accepted tables describe (the
harness dumps the tables of every object it constructs and the driver runs the checker on them, so that hypothesis is checked for each
object, not assumed); the constructors build accepted tables; the `(TT)`/`(Rep)` conversions; `Extension<>`; `init` from a polynomial;
GFqKronecker; GFqExtFast; what an `Extension` reports; the defensive init of GFqExt (known finding).

Hypotheses that are other properties' contracts: the search for the irreducible / primitive polynomial (C09), `phi` and the
factorisation inside `lowest_prim_root` (C13/C12), the laws of the `Poly1Dom` operations (C08).
-/
import GivaroModel.Lemmas.GFqOps
import GivaroModel.Lemmas.GFqTables
import GivaroModel.Lemmas.GFqDecoding
import GivaroModel.Lemmas.GFqAdjoinRoot
import GivaroModel.Lemmas.GFqWord
import GivaroModel.Lemmas.GFqField
import GivaroModel.Lemmas.GFqCtor
import GivaroModel.Lemmas.GFqPrimSearch
import GivaroModel.Lemmas.GFqKron
import GivaroModel.Lemmas.GFqInit
import GivaroModel.Lemmas.GFqExtension
import GivaroModel.Lemmas.GFqQadic
import GivaroModel.Model.GFqExt
import Mathlib.Algebra.BigOperators.Group.Finset.Basic
import Mathlib.Algebra.BigOperators.Intervals
import Mathlib.Data.ZMod.Basic
namespace Givaro.Props.C05
open Givaro.Model.Zech Givaro.Lemmas.GFqZech

section scalar
variable {K : Type*} [CommRing K] {F : Dom} {q : Int} {γ : K} {elt : Int → K}

/-- Every scalar member function of `GFqDom`, for all canonical operands. -/
theorem zech_ops_correct (H : ZechHyp F q γ elt) (a b c : Int) (ha : Canon q a) (hb : Canon q b) (hc : Canon q c) :
    (elt (F.mul a b) = elt a * elt b ∧ Canon q (F.mul a b)) ∧
    (elt (F.mulin a b) = elt a * elt b ∧ Canon q (F.mulin a b)) ∧
    (elt (F.add a b) = elt a + elt b ∧ Canon q (F.add a b)) ∧
    (elt (F.addin a b) = elt a + elt b ∧ Canon q (F.addin a b)) ∧
    (elt (F.sub a b) = elt a - elt b ∧ Canon q (F.sub a b)) ∧
    (elt (F.subin a b) = elt a - elt b ∧ Canon q (F.subin a b)) ∧
    (elt (F.neg a) = - elt a ∧ Canon q (F.neg a)) ∧
    (elt (F.negin a) = - elt a ∧ Canon q (F.negin a)) ∧
    (elt (F.axpy a b c) = elt a * elt b + elt c ∧ Canon q (F.axpy a b c)) ∧
    (elt (F.axpyin c a b) = elt c + elt a * elt b ∧ Canon q (F.axpyin c a b)) ∧
    (elt (F.maxpyin c a b) = elt c - elt a * elt b ∧ Canon q (F.maxpyin c a b)) ∧
    (elt (F.axmyin c a b) = elt a * elt b - elt c ∧ Canon q (F.axmyin c a b)) ∧
    (elt (F.axmy a b c) = elt a * elt b - elt c ∧ Canon q (F.axmy a b c)) ∧
    (elt (F.maxpy a b c) = elt c - elt a * elt b ∧ Canon q (F.maxpy a b c)) := by
  have A := Rep.of_canon H ha
  have B := Rep.of_canon H hb
  have C := Rep.of_canon H hc
  exact ⟨A.mul B, A.mul B, A.add B, A.add B, A.sub B, A.autosub B, A.neg, A.neg, A.muladd B C,
    (A.muladd B C).congr (add_comm _ _), C.autosub (A.mul B), (C.autosub (A.mul B)).neg.congr (neg_sub _ _),
    (A.mul B).autosub C, C.sub (A.mul B)⟩

/-- `inv(a)·a = 1` for every non-zero `a`; `div(a,b)·b = a` for every non-zero `b` (and the in-place forms). -/
theorem zech_inv_div_correct (H : ZechHyp F q γ elt) (a b : Int) (ha : Canon q a) (hb : Canon q b) (hb0 : b ≠ 0) :
    (elt (F.inv b) * elt b = 1 ∧ Canon q (F.inv b) ∧ F.inv b ≠ 0) ∧
    (elt (F.invin b) * elt b = 1 ∧ Canon q (F.invin b)) ∧
    (elt (F.div a b) * elt b = elt a ∧ Canon q (F.div a b)) ∧
    (elt (F.divin a b) * elt b = elt a ∧ Canon q (F.divin a b)) := by
  have B := Rep.of_canon H hb
  have hi := B.inv hb0
  have hd := (Rep.of_canon H ha).div B hb0
  exact ⟨hi, ⟨hi.1, hi.2.1⟩, hd, hd⟩

/-- `SQ`, one of the two macros no member function uses (the other, `MULSUB`, is modelled and has no theorem) -/
theorem zech_unused_macros_correct (H : ZechHyp F q γ elt) (a : Int) (ha : Canon q a) :
    elt (SQ F.mun a) = elt a * elt a ∧ Canon q (SQ F.mun a) :=
  (Rep.of_canon H ha).sq

/-- Under `ZechHyp` the index `q - 1` (the element called `one`) stands for 1, `mOne` for -1, and every index `i ∈ [1, q-1]`
    has a canonical non-zero index `j` with `elt j · elt i = 1` (the one `INV` returns). -/
theorem zechHyp_gives_field_facts (H : ZechHyp F q γ elt) :
    elt (q - 1) = 1 ∧ elt F.mo = -1 ∧ ∀ i, 1 ≤ i → i ≤ q - 1 → ∃ j, Canon q j ∧ j ≠ 0 ∧ elt j * elt i = 1 := by
  have hq := H.q_ge
  refine ⟨?_, ?_, ?_⟩
  · rw [elt_g H _ (by omega) (by omega)]; exact g_mun H
  · rw [elt_g H _ H.mo_lo H.mo_hi]; exact g_mo H
  · intro i h1 h2
    have := (Rep.of_canon H (a := i) ⟨by omega, h2⟩).inv (by omega)
    exact ⟨INV F.mun i, this.2.1, this.2.2, this.1⟩

end scalar

/-! ### non-vacuity: GF(3) with γ = 2 satisfies `ZechHyp` -/
def demoDom : Dom := { mun := 2, mo := 1, pl := fun i => if i = 2 then -1 else 0 }
def demoElt (i : Int) : ZMod 3 := if i = 0 then 0 else if i = 1 then 2 else 1

theorem demo_hyp : ZechHyp demoDom 3 (2 : ZMod 3) demoElt := by
  have two : ∀ i : Int, 1 ≤ i → i ≤ 3 - 1 → i = 1 ∨ i = 2 := by intro i h1 h2; omega
  refine ⟨by decide, by decide, by decide, ?_, by decide, by decide, by decide, by decide, ?_, ?_, ?_, ?_⟩
  all_goals
    intro i h1 h2
    rcases two i h1 h2 with rfl | rfl <;> decide

example : (demoElt (demoDom.add 1 2) = demoElt 1 + demoElt 2) :=
  (zech_ops_correct demo_hyp 1 2 0 ⟨by decide, by decide⟩ ⟨by decide, by decide⟩ ⟨by decide, by decide⟩).2.2.1.1

/-! ### element-wise array forms -/
section arrays

variable (F : Dom)

/-- All sixteen array member functions: cell `i < sz` receives the scalar operation on the `i`-th operands,
    every cell `i ≥ sz` keeps its content — for every `sz`, 0 and 1 included. -/
theorem array_forms_cover_all_indices (sz : Nat) (r a b : Nat → Int) (s c : Int) (i : Nat) :
    (i < sz →
      F.mulVV sz r a b i = F.mul (a i) (b i) ∧ F.mulVS sz r a s i = F.mul (a i) s ∧
      F.divVV sz r a b i = F.div (a i) (b i) ∧ F.divVS sz r a s i = F.div (a i) s ∧
      F.addVV sz r a b i = F.add (a i) (b i) ∧ F.addVS sz r a s i = F.add (a i) s ∧
      F.subVV sz r a b i = F.sub (a i) (b i) ∧ F.subVS sz r a s i = F.sub (a i) s ∧
      F.negV sz r a i = F.neg (a i) ∧ F.invV sz r a i = F.inv (a i) ∧
      F.axpyVV sz r s a b i = F.axpy s (a i) (b i) ∧ F.axpyVS sz r s a c i = F.axpy s (a i) c ∧
      F.axpyinV sz r s a i = F.axpyin (r i) s (a i) ∧
      F.axmyVV sz r s a b i = F.axmy s (a i) (b i) ∧ F.axmyVS sz r s a c i = F.axmy s (a i) c ∧
      F.maxpyinV sz r s a i = F.maxpyin (r i) s (a i)) ∧
    (sz ≤ i →
      F.mulVV sz r a b i = r i ∧ F.mulVS sz r a s i = r i ∧ F.divVV sz r a b i = r i ∧ F.divVS sz r a s i = r i ∧
      F.addVV sz r a b i = r i ∧ F.addVS sz r a s i = r i ∧ F.subVV sz r a b i = r i ∧ F.subVS sz r a s i = r i ∧
      F.negV sz r a i = r i ∧ F.invV sz r a i = r i ∧ F.axpyVV sz r s a b i = r i ∧ F.axpyVS sz r s a c i = r i ∧
      F.axpyinV sz r s a i = r i ∧ F.axmyVV sz r s a b i = r i ∧ F.axmyVS sz r s a c i = r i ∧
      F.maxpyinV sz r s a i = r i) := by
  have S := fun (f : Nat → Int) => arrLoop_spec (fun i _ => f i) (fun _ _ _ _ => rfl) sz r i
  have S1 := arrLoop_spec (fun i r => let tmp := r i; MULADD F.mun F.pl s (a i) tmp) (by intro i r r' e; simp only [e]) sz r i
  have S2 := arrLoop_spec (fun i r => let tmp := MUL F.mun s (a i); AUTOSUB F.mo F.mun F.pl (r i) tmp)
    (by intro i r r' e; simp only [e]) sz r i
  exact ⟨fun h => ⟨(S _).1 h, (S _).1 h, (S _).1 h, (S _).1 h, (S _).1 h, (S _).1 h, (S _).1 h, (S _).1 h, (S _).1 h,
      (S _).1 h, (S _).1 h, (S _).1 h, S1.1 h, (S _).1 h, (S _).1 h, S2.1 h⟩,
    fun h => ⟨(S _).2 h, (S _).2 h, (S _).2 h, (S _).2 h, (S _).2 h, (S _).2 h, (S _).2 h, (S _).2 h, (S _).2 h,
      (S _).2 h, (S _).2 h, (S _).2 h, S1.2 h, (S _).2 h, (S _).2 h, S2.2 h⟩⟩

/-- The loop header of the pinned tree, `for (i = sz; --i;)`: the full statement (“every index `i < sz` is stored,
    for every `sz`”) is false. -/
theorem pinned_array_loop_counterexample :
    ¬ (∀ (body : Nat → (Nat → Int) → Int) (sz : Nat) (r : Nat → Int) (i : Nat), i < sz →
        ∃ r', arrLoopPinned body sz r = some r' ∧ r' i = body i r) := by
  intro h
  obtain ⟨r', h1, h2⟩ := h (fun _ _ => 1) 1 (fun _ => 0) 0 (by decide)
  simp only [arrLoopPinned] at h1
  have : r' = fun _ => 0 := by
    have := Option.some.inj h1
    exact this.symm
  rw [this] at h2
  exact absurd h2 (by decide)

/-- What the loop header of the pinned tree did: for `sz ≥ 1` indices `1 … sz-1` are stored and index 0 keeps its old
    content; for `sz = 0` the loop runs off the arrays. -/
theorem pinned_array_loop_partial (body : Nat → (Nat → Int) → Int)
    (hloc : ∀ i r r', r i = r' i → body i r = body i r') (sz : Nat) (r : Nat → Int) :
    (sz = 0 → arrLoopPinned body sz r = none) ∧
    (1 ≤ sz → ∃ r', arrLoopPinned body sz r = some r' ∧ r' 0 = r 0 ∧ ∀ i, 1 ≤ i → i < sz → r' i = body i r) := by
  constructor
  · intro h; simp [arrLoopPinned, h]
  · intro h
    refine ⟨arrLoopFrom1 body (sz - 1) r, ?_, ?_, ?_⟩
    · have : sz ≠ 0 := by omega
      simp [arrLoopPinned, this]
    · exact ((arrLoopFrom1_spec body hloc (sz - 1) r 0).2 (Or.inl rfl))
    · intro i h1 h2
      exact (arrLoopFrom1_spec body hloc (sz - 1) r i).1 h1 (by omega)

end arrays

/-! ### dot product -/
section dot
variable {K : Type*} [CommRing K] {F : Dom} {q : Int} {γ : K} {elt : Int → K}
open Finset

-- not in Lemmas/GFqOps.lean: importing `Finset` sums there makes every `omega` of the files that import it dearer
theorem dotLoop_correct (H : ZechHyp F q γ elt) (a b : Nat → Int)
    (ha : ∀ i, Canon q (a i)) (hb : ∀ i, Canon q (b i)) :
    ∀ (n : Nat) (r0 : Int) (s : K), Rep H r0 s →
      Rep H (F.dotLoop a b n r0) (s + ∑ i ∈ range n, elt (a (i + 1)) * elt (b (i + 1)))
  | 0, _, _, h => h.congr (by rw [range_zero, sum_empty, add_zero])
  | n + 1, _, _, h =>
    (dotLoop_correct H a b ha hb n _ _ (h.add ((Rep.of_canon H (ha _)).mul (.of_canon H (hb _))))).congr
      (by rw [sum_range_succ]; ring)

/-- `dotprod(r, sz, a, b) = Σ_{i<sz} a_i b_i` for every `sz < 2^31` (the loop counter is an `int`). -/
theorem dotprod_correct (H : ZechHyp F q γ elt) (sz : Nat) (hsz : sz < 2147483648) (a b : Nat → Int)
    (ha : ∀ i, Canon q (a i)) (hb : ∀ i, Canon q (b i)) :
    ∃ r, F.dotprod sz a b = some r ∧ Canon q r ∧ elt r = ∑ i ∈ range sz, elt (a i) * elt (b i) := by
  have hq := H.q_ge
  unfold Dom.dotprod
  by_cases h0 : sz = 0
  · subst h0
    refine ⟨0, by simp, ⟨by omega, by omega⟩, ?_⟩
    simp [H.elt_zero]
  · simp only [h0, hsz, ↓reduceIte]
    obtain ⟨e, c⟩ := dotLoop_correct H a b ha hb (sz - 1) _ _ ((Rep.of_canon H (ha 0)).mul (.of_canon H (hb 0)))
    refine ⟨_, rfl, c, ?_⟩
    rw [e]
    have : sz = (sz - 1) + 1 := by omega
    rw [this, sum_range_succ', Nat.add_sub_cancel]
    ring

example : (2 : Nat) < 2147483648 := by decide
end dot

/-! ### GF2 -/
def b2z (b : Bool) : ZMod 2 := if b then 1 else 0

/-- `false ↦ 0, true ↦ 1` is a bijection and every GF2 operation is the arithmetic of `ZMod 2` under it
    (division and inversion for a non-zero divisor). -/
theorem gf2_ops_correct :
    Function.Bijective b2z ∧
    ∀ a b c : Bool,
      b2z (GF2.add a b) = b2z a + b2z b ∧ b2z (GF2.sub a b) = b2z a - b2z b ∧ b2z (GF2.mul a b) = b2z a * b2z b ∧
      b2z (GF2.neg a) = - b2z a ∧ (b = true → b2z (GF2.div a b) * b2z b = b2z a) ∧ (a = true → b2z (GF2.inv a) * b2z a = 1) ∧
      b2z (GF2.axpy a b c) = b2z a * b2z b + b2z c ∧ b2z (GF2.axmy a b c) = b2z a * b2z b - b2z c ∧
      b2z (GF2.maxpy a b c) = b2z c - b2z a * b2z b ∧ b2z (GF2.axpyin c a b) = b2z c + b2z a * b2z b ∧
      b2z (GF2.axmyin c a b) = b2z a * b2z b - b2z c ∧ b2z (GF2.maxpyin c a b) = b2z c - b2z a * b2z b := by
  exact ⟨by decide, by decide⟩

/-! ### from the dumped tables of a constructed object to the hypotheses above -/
section tables
open Givaro.Spec.GFq

/-- The run-time check is sound for the theorems: if `tablesValid` accepts the dumped tables of an object and `dec`
    decodes p-adic codes into a commutative ring `K` compatibly with the checker's code arithmetic (`csucc`, `cmul`:
    successor and product modulo the object's polynomial), then the object's `Dom` satisfies `ZechHyp`, hence
    (`zech_ops_correct` …) every operation on indices is the arithmetic of `K` on the decoded polynomials. -/
theorem tablesValid_gives_ZechHyp {K : Type*} [CommRing K] {dec : Nat → K} (T : Tables)
    (hv : T.tablesValid = true) (D : Decoding K T.F dec) :
    ZechHyp T.dom (T.q : Int) (dec (T.l2p 1)) (fun i => dec (T.l2p i.toNat)) :=
  (Valid.of_check hv).zechHyp D

/-- Prime fields, end to end: for `k = 1` the decoding is `Nat.cast : ℕ → ZMod p`, so a table dump accepted by
    `tablesValid` makes every scalar operation of the object the arithmetic of `ZMod p` on `log2pol`-decoded values. -/
theorem prime_field_tables_sound (T : Tables) (hv : T.tablesValid = true) (hk : T.F.k = 1) (hp : 2 ≤ T.F.p)
    (a b c : Int) (ha : Canon T.q a) (hb : Canon T.q b) (hc : Canon T.q c) :
    let elt : Int → ZMod T.F.p := fun i => ((T.l2p i.toNat : Nat) : ZMod T.F.p)
    elt (T.dom.add a b) = elt a + elt b ∧ elt (T.dom.sub a b) = elt a - elt b ∧ elt (T.dom.mul a b) = elt a * elt b ∧
    elt (T.dom.neg a) = - elt a ∧ elt (T.dom.axpy a b c) = elt a * elt b + elt c ∧
    (b ≠ 0 → elt (T.dom.inv b) * elt b = 1 ∧ elt (T.dom.div a b) * elt b = elt a) := by
  intro elt
  have H := tablesValid_gives_ZechHyp T hv (decoding_prime T.F hk hp)
  have A := Rep.of_canon H ha
  have B := Rep.of_canon H hb
  have C := Rep.of_canon H hc
  exact ⟨(A.add B).1, (A.sub B).1, (A.mul B).1, A.neg.1, (A.muladd B C).1, fun hb0 => ⟨(B.inv hb0).1, (A.div B hb0).1⟩⟩

/-- Extension fields, end to end up to the choice of the quotient ring: let `K` be any commutative ring in which
    `p = 0` and which contains a root `x` of the object's polynomial `f = X^k + flow` (e.g. `K = F_p[X]/(f)`, `x` the class
    of `X`), and decode an index `i` as the polynomial `log2pol[i]` (p-adic digits) evaluated at `x`.  If `tablesValid`
    accepts the dumped tables then every scalar operation of the object is the arithmetic of `K` on decoded elements. -/
theorem extension_field_tables_sound {K : Type*} [CommRing K] (x : K) (T : Tables) (hv : T.tablesValid = true)
    (hp0 : ((T.F.p : Nat) : K) = 0) (hp : 2 ≤ T.F.p) (hk : 1 ≤ T.F.k)
    (hroot : 2 ≤ T.F.k → ev x T.F.flow + x ^ T.F.k = 0)
    (a b c : Int) (ha : Canon T.q a) (hb : Canon T.q b) (hc : Canon T.q c) :
    let elt : Int → K := fun i => ev x (digits T.F.p T.F.k (T.l2p i.toNat))
    elt (T.dom.add a b) = elt a + elt b ∧ elt (T.dom.sub a b) = elt a - elt b ∧ elt (T.dom.mul a b) = elt a * elt b ∧
    elt (T.dom.neg a) = - elt a ∧ elt (T.dom.axpy a b c) = elt a * elt b + elt c ∧
    elt (T.dom.axmy a b c) = elt a * elt b - elt c ∧ elt (T.dom.maxpy a b c) = elt c - elt a * elt b ∧
    (b ≠ 0 → elt (T.dom.inv b) * elt b = 1 ∧ elt (T.dom.div a b) * elt b = elt a) ∧
    Canon T.q (T.dom.add a b) ∧ Canon T.q (T.dom.mul a b) := by
  intro elt
  have D := decoding_of_root x T.F hp0 hp hk hroot
  have H := tablesValid_gives_ZechHyp T hv D
  have A := Rep.of_canon H ha
  have B := Rep.of_canon H hb
  have C := Rep.of_canon H hc
  exact ⟨(A.add B).1, (A.sub B).1, (A.mul B).1, A.neg.1, (A.muladd B C).1, ((A.mul B).autosub C).1, (C.sub (A.mul B)).1,
    fun hb0 => ⟨(B.inv hb0).1, (A.div B hb0).1⟩, (A.add B).2, (A.mul B).2⟩

/-- Table soundness against Mathlib's `AdjoinRoot`: let `p` be prime, `f = X^k + Σ flow_i X^i ∈ (ZMod p)[X]` the polynomial
    the object reports, `K = (ZMod p)[X] ⧸ (f)`, and let the index `i` stand for the class of the polynomial whose p-adic digits
    are `log2pol[i]`.  If `tablesValid` accepts the dumped tables then the object's tables satisfy `ZechHyp` in `K`, hence
    (`zech_ops_correct`, `zech_inv_div_correct`, `dotprod_correct`) every operation equals polynomial arithmetic modulo `f`. -/
theorem tablesValid_sound_adjoinRoot (T : Tables) [Fact (Nat.Prime T.F.p)] (hv : T.tablesValid = true) (hk : 1 ≤ T.F.k) :
    ZechHyp T.dom (T.q : Int)
      (AdjoinRoot.mk (modulus T.F) (toPoly T.F.p (digits T.F.p T.F.k (T.l2p 1))))
      (fun i => AdjoinRoot.mk (modulus T.F) (toPoly T.F.p (digits T.F.p T.F.k (T.l2p i.toNat)))) :=
  tablesValid_gives_ZechHyp T hv (decoding_adjoinRoot T.F hk)

/-- For every `p`, `k` and every table: if the checker accepts the tables then `p` is
    prime, the reported polynomial `f = X^k + flow` is irreducible over `ZMod p`, `K = (ZMod p)[X] ⧸ (f)` is a field with `p^k`
    elements, decoding (index `i` ↦ class of the polynomial with p-adic digits `log2pol[i]`) is a bijection from the canonical
    indices `[0, q)` onto `K`, the advertised generator `γ = dec (log2pol 1)` generates `Kˣ` (every non-zero element is `γ^i`,
    `1 ≤ i ≤ q-1`), and the tables satisfy `ZechHyp` in `K`. -/
theorem valid_implies_field (T : Tables) (hv : T.tablesValid = true) :
    Nat.Prime T.F.p ∧ Irreducible (modulus T.F) ∧ IsField (AdjoinRoot (modulus T.F)) ∧
    Nat.card (AdjoinRoot (modulus T.F)) = T.F.p ^ T.F.k ∧
    Function.Bijective (fun i : Fin T.q => decA T.F (T.l2p i.val)) ∧
    (∀ x : AdjoinRoot (modulus T.F), x ≠ 0 → ∃ i : Nat, 1 ≤ i ∧ i ≤ T.q - 1 ∧ x = decA T.F (T.l2p 1) ^ i) ∧
    ZechHyp T.dom (T.q : Int) (decA T.F (T.l2p 1)) (fun i => decA T.F (T.l2p i.toNat)) := by
  have V := Valid.of_check hv
  have hq := V.q_ge
  have : Fact (Nat.Prime T.F.p) := ⟨V.prime⟩
  have H : ZechHyp T.dom (T.q : Int) (decA T.F (T.l2p 1)) (fun i => decA T.F (T.l2p i.toNat)) :=
    V.zechHyp (decoding_adjoinRoot T.F V.k_pos)
  have hbij : Function.Bijective (fun i : Fin T.q => decA T.F (T.l2p i.val)) :=
    decA_comp_bijective T.F T.l2p V.l2p_lt V.l2p_inj
  have hpow : ∀ x : AdjoinRoot (modulus T.F), x ≠ 0 →
      ∃ i : Nat, 1 ≤ i ∧ i ≤ T.q - 1 ∧ x = decA T.F (T.l2p 1) ^ i := by
    intro x hx
    obtain ⟨i, rfl⟩ := hbij.2 x
    have hi0 : i.val ≠ 0 := by
      intro h0
      apply hx
      show decA T.F (T.l2p i.val) = 0
      rw [h0]
      exact H.elt_zero
    refine ⟨i.val, by omega, by have := i.isLt; omega, ?_⟩
    exact H.elt_pow (i.val : Int) (by omega) (by have := i.isLt; omega)
  have hγ : decA T.F (T.l2p 1) ^ (T.q - 1) = 1 := by
    have := H.pow_card
    rwa [show ((T.q : Int) - 1).toNat = T.q - 1 by omega] at this
  have hfield : IsField (AdjoinRoot (modulus T.F)) :=
    isField_of_powers (adjoinRoot_zero_ne_one T.F hq) _ _ hγ hpow
  exact ⟨V.prime, modulus_irreducible_of_isField T.F hfield, hfield, card_adjoinRoot T.F, hbij, hpow, H⟩

/-- `∀ tables, Valid tables → ∀ a b c, decode (op a b c) = decode a ⊙ decode b ⊙ decode c` for every
    scalar operation of `GFqDom`, in the field `K = (ZMod p)[X] ⧸ (f)` of `valid_implies_field`, with canonical results;
    inversion and division as `inv(b)·b = 1`, `div(a,b)·b = a` for `b ≠ 0`. -/
theorem gfq_refinement (T : Tables) (hv : T.tablesValid = true) (a b c : Int)
    (ha : Canon T.q a) (hb : Canon T.q b) (hc : Canon T.q c) :
    let dec : Int → AdjoinRoot (modulus T.F) := fun i => decA T.F (T.l2p i.toNat)
    (dec (T.dom.add a b) = dec a + dec b ∧ dec (T.dom.addin a b) = dec a + dec b ∧
     dec (T.dom.sub a b) = dec a - dec b ∧ dec (T.dom.subin a b) = dec a - dec b ∧
     dec (T.dom.mul a b) = dec a * dec b ∧ dec (T.dom.mulin a b) = dec a * dec b ∧
     dec (T.dom.neg a) = - dec a ∧ dec (T.dom.negin a) = - dec a ∧
     dec (T.dom.axpy a b c) = dec a * dec b + dec c ∧ dec (T.dom.axpyin c a b) = dec c + dec a * dec b ∧
     dec (T.dom.maxpyin c a b) = dec c - dec a * dec b ∧ dec (T.dom.axmyin c a b) = dec a * dec b - dec c ∧
     dec (T.dom.axmy a b c) = dec a * dec b - dec c ∧ dec (T.dom.maxpy a b c) = dec c - dec a * dec b) ∧
    (b ≠ 0 → dec (T.dom.inv b) * dec b = 1 ∧ dec (T.dom.invin b) * dec b = 1 ∧
             dec (T.dom.div a b) * dec b = dec a ∧ dec (T.dom.divin a b) * dec b = dec a) ∧
    Canon T.q (T.dom.add a b) ∧ Canon T.q (T.dom.sub a b) ∧ Canon T.q (T.dom.mul a b) ∧ Canon T.q (T.dom.neg a) ∧
    Canon T.q (T.dom.axpy a b c) ∧ Canon T.q (T.dom.axmy a b c) ∧ Canon T.q (T.dom.maxpy a b c) ∧
    (b ≠ 0 → Canon T.q (T.dom.inv b) ∧ Canon T.q (T.dom.div a b)) := by
  intro dec
  obtain ⟨-, -, -, -, -, -, H⟩ := valid_implies_field T hv
  have A := Rep.of_canon H ha
  have B := Rep.of_canon H hb
  have C := Rep.of_canon H hc
  have M := A.mul B
  exact ⟨⟨(A.add B).1, (A.add B).1, (A.sub B).1, (A.autosub B).1, M.1, M.1, A.neg.1, A.neg.1, (A.muladd B C).1,
      ((A.muladd B C).congr (add_comm _ _)).1, (C.autosub M).1, ((C.autosub M).neg.congr (neg_sub _ _)).1, (M.autosub C).1,
      (C.sub M).1⟩,
    fun hb0 => ⟨(B.inv hb0).1, (B.inv hb0).1, (A.div B hb0).1, (A.div B hb0).1⟩,
    (A.add B).2, (A.sub B).2, M.2, A.neg.2, (A.muladd B C).2, (M.autosub C).2, (C.sub M).2,
    fun hb0 => ⟨(B.inv hb0).2.1, (A.div B hb0).2⟩⟩

/-- The abstract-field formulation: for every finite field `Fd` with `q` elements and every generator `g` of `Fdˣ`, if the
    sentinels and the `plus1` table are those of `(Fd, g)` then `0 ↦ 0, i ↦ g^i` is a bijection from the canonical indices onto
    `Fd` under which every scalar operation is exact. -/
theorem zech_exact_for_field_generator {Fd : Type*} [Field Fd] [Fintype Fd] (D : Dom) (q : Nat)
    (hq : Fintype.card Fd = q) (g : Fd) (hg : orderOf g = q - 1)
    (hmun : D.mun = (q : Int) - 1) (hmo1 : 1 ≤ D.mo) (hmo2 : D.mo ≤ (q : Int) - 1) (hmo : g ^ D.mo.toNat = -1)
    (hpl0 : ∀ i : Int, 1 ≤ i → i ≤ (q : Int) - 1 → g ^ i.toNat + 1 = 0 → D.pl i = 0)
    (hpl1 : ∀ i : Int, 1 ≤ i → i ≤ (q : Int) - 1 → g ^ i.toNat + 1 ≠ 0 →
      -((q : Int) - 1) < D.pl i ∧ D.pl i < 0 ∧ g ^ (D.pl i + ((q : Int) - 1)).toNat = g ^ i.toNat + 1)
    (a b c : Int) (ha : Canon q a) (hb : Canon q b) (hc : Canon q c) :
    let dec : Int → Fd := fun i => if i = 0 then 0 else g ^ i.toNat
    Function.Bijective (fun i : Fin q => dec (i.val : Int)) ∧
    dec (D.add a b) = dec a + dec b ∧ dec (D.sub a b) = dec a - dec b ∧ dec (D.mul a b) = dec a * dec b ∧
    dec (D.neg a) = - dec a ∧ dec (D.axpy a b c) = dec a * dec b + dec c ∧ dec (D.axmy a b c) = dec a * dec b - dec c ∧
    dec (D.maxpy a b c) = dec c - dec a * dec b ∧
    (b ≠ 0 → dec (D.inv b) = (dec b)⁻¹ ∧ dec (D.div a b) = dec a / dec b) := by
  intro dec
  have hq2 : 2 ≤ q := by rw [← hq]; exact Fintype.one_lt_card
  have hone : g ^ (q - 1) = 1 := by rw [← hg]; exact pow_orderOf_eq_one g
  have hg0 : g ≠ 0 := by
    intro h; rw [h, zero_pow (by omega)] at hone; exact zero_ne_one hone
  have hnz : ∀ i : Int, 1 ≤ i → i ≤ (q : Int) - 1 → D.pl i ≠ 0 →
      -((q : Int) - 1) < D.pl i ∧ D.pl i < 0 ∧ g ^ (D.pl i + ((q : Int) - 1)).toNat = g ^ i.toNat + 1 :=
    fun i h1 h2 hnz => hpl1 i h1 h2 fun hne => hnz (hpl0 i h1 h2 hne)
  have H : ZechHyp D (q : Int) g dec :=
    { q_ge := by omega, mun_eq := hmun, elt_zero := if_pos rfl
      elt_pow := fun i h1 h2 => if_neg (by omega)
      pow_card := by rw [show ((q : Int) - 1).toNat = q - 1 by omega]; exact hone
      mo_lo := hmo1, mo_hi := hmo2, mo_neg := hmo
      pl_zero := fun i h1 h2 hz => by
        by_contra hne
        have := (hpl1 i h1 h2 hne).2.1
        omega
      pl_lo := fun i h1 h2 h => (hnz i h1 h2 h).1
      pl_hi := fun i h1 h2 h => (hnz i h1 h2 h).2.1
      pl_pow := fun i h1 h2 h => (hnz i h1 h2 h).2.2 }
  -- `0 ↦ 0, i ↦ g^i` is injective on `[0, q)`, hence onto by counting
  have hbij : Function.Bijective (fun i : Fin q => dec (i.val : Int)) := by
    rw [Fintype.bijective_iff_injective_and_card]
    refine ⟨fun i j h => Fin.ext ?_, by rw [Fintype.card_fin, hq]⟩
    exact zeroPow_inj g (q - 1) hg hg0 (fun n => dec (n : Int)) (if_pos rfl)
      (fun n h1 _ => by
        show (if (n : Int) = 0 then 0 else g ^ (n : Int).toNat) = g ^ n
        rw [if_neg (by omega), Int.toNat_natCast])
      i.val j.val (by have := i.isLt; omega) (by have := j.isLt; omega) h
  have A := Rep.of_canon H ha
  have B := Rep.of_canon H hb
  have C := Rep.of_canon H hc
  refine ⟨hbij, (A.add B).1, (A.sub B).1, (A.mul B).1, A.neg.1, (A.muladd B C).1, ((A.mul B).autosub C).1,
    (C.sub (A.mul B)).1, fun hb0 => ?_⟩
  have hi := (B.inv hb0).1
  have hbne : dec b ≠ 0 := fun hz => zero_ne_one (by rwa [hz, mul_zero] at hi)
  exact ⟨eq_inv_of_mul_eq_one_left hi, by rw [eq_div_iff hbne]; exact (A.div B hb0).1⟩

/-! ### the constructors build valid tables -/
open Givaro.Model.GFqCtor in
/-- Every `k ≥ 1`: the table fill of the three constructors, as written (`Model/GFqCtor.lean`), yields
    tables accepted by the checker — hence (`valid_implies_field`, `gfq_refinement`) a field in which every operation is exact —
    for every prime `p`, every monic modulus `f` of degree `k` that is irreducible over `ZMod p` and every generator code
    `g < p^k` whose class has multiplicative order `p^k - 1`.  The last two hypotheses are the contract of the search for the
    irreducible / primitive polynomial (`ixe_irreducible`, `give_prim_root`: C09).  Instance of `construct_valid`. -/
theorem construction_valid (F : Field) (g : Nat) (hp : Nat.Prime F.p) (hk : 1 ≤ F.k) (hmon : F.k = 1 ∨ F.monic = true)
    (hg : g < F.q) (hirr : Irreducible (modulus F)) (hord : orderOf (decA F g) = F.q - 1) :
    (construct F g).tablesValid = true := by
  have : Fact (Nat.Prime F.p) := ⟨hp⟩
  have : Fact (Irreducible (modulus F)) := ⟨hirr⟩
  exact (tablesValid_iff _).2
    (construct_valid F g (decoding_adjoinRoot F hk) (decA_injective F) hp (p_zero F) hk hmon hg hord)

open Givaro.Model.GFqCtor in
/-- Prime fields (`k = 1`, every prime `p`): with `seed` the value returned by the primitive-root
    search — any `seed < p` of multiplicative order `p - 1` modulo `p` (post-condition of `lowest_prim_root`, C13) — the loop
    `accu = accu * seed % P` and the two table loops produce valid tables; no assumption on `_irred` (left unset by the code). -/
theorem construction_valid_prime (p seed irred : Nat) (hp : Nat.Prime p) (hs : seed < p)
    (hord : orderOf ((seed : Nat) : ZMod p) = p - 1) :
    (construct { p := p, k := 1, irred := irred } seed).tablesValid = true := by
  have : Fact (Nat.Prime ({ p := p, k := 1, irred := irred } : Field).p) := ⟨hp⟩
  have hq : ({ p := p, k := 1, irred := irred } : Field).q = p := q_of_k1 _ rfl
  apply construction_valid _ seed hp (le_refl _) (Or.inl rfl) (by rw [hq]; exact hs)
    (modulus_irreducible_k1 _ rfl)
  rw [orderOf_decA_k1 _ rfl, hq]; exact hord

/-- post-condition of the generator search alone -/
theorem lowest_prim_root_post (p : Nat) (hp : Nat.Prime p) (Lf : List Nat) (hLf : ∀ r, r ∈ Lf ↔ r.Prime ∧ r ∣ p - 1) :
    0 < Givaro.Model.GFqCtor.lowestPrimRoot p (p - 1) Lf ∧ Givaro.Model.GFqCtor.lowestPrimRoot p (p - 1) Lf < p ∧
    orderOf ((Givaro.Model.GFqCtor.lowestPrimRoot p (p - 1) Lf : Nat) : ZMod p) = p - 1 := by
  open Givaro.Model.GFqCtor in
  have : Fact (Nat.Prime p) := ⟨hp⟩
  unfold lowestPrimRoot
  by_cases h4 : p ≤ 4
  · rw [if_pos h4]
    have h2 := hp.two_le
    have : p = 2 ∨ p = 3 := by
      rcases Nat.lt_or_ge p 4 with h | h
      · omega
      · have : p = 4 := by omega
        subst this; exact absurd hp (by decide)
    rcases this with rfl | rfl
    · exact ⟨by decide, by decide, by simp⟩
    · exact ⟨by decide, by decide, orderOf_two_mod_three⟩
  · have h40 : ¬ p % 4 = 0 := by
      have := hp.eq_two_or_odd
      omega
    rw [if_neg h4, if_neg h40]
    exact primSearch_post p (by omega) Lf hLf

open Givaro.Model.GFqCtor in
/-- The prime-field constructor end to end (every prime `p`): the generator search `lowest_prim_root` as written, fed with
    `phi(p) = p - 1` and the list `Lf` of the prime factors of `p - 1` (contract of the totient / factorisation routines, C13/C12),
    followed by the table fill as written, yields valid tables. -/
theorem prime_field_constructor_valid (p irred : Nat) (hp : Nat.Prime p) (Lf : List Nat)
    (hLf : ∀ r, r ∈ Lf ↔ r.Prime ∧ r ∣ p - 1) :
    (construct { p := p, k := 1, irred := irred } (lowestPrimRoot p (p - 1) Lf)).tablesValid = true := by
  obtain ⟨_, h2, h3⟩ := lowest_prim_root_post p hp Lf hLf
  exact construction_valid_prime p _ irred hp h2 h3

/-- non-vacuity: for `p = 7` the factor list `[2, 3]` satisfies the contract and the search returns 3 -/
example : Givaro.Model.GFqCtor.lowestPrimRoot 7 6 [2, 3] = 3 := by decide

/-- non-vacuity of the hypotheses: 2 has order 2 modulo 3 -/
example : orderOf ((2 : Nat) : ZMod 3) = 3 - 1 := orderOf_two_mod_three

/-- non-vacuity: the tables of GF(3) as the library builds them (γ = 2) are accepted -/
example : ({ F := { p := 3, k := 1, irred := 0 }, mOne := 1, log2pol := #[0, 2, 1], pol2log := #[0, 2, 1],
             plus1 := #[0, 0, -1] } : Tables).tablesValid = true := by decide +kernel
end tables

/-! ### the machine-word conversions -/
section word
open Givaro

/-- The word-level transcription of the macros (every `(TT)`/`(Rep)` conversion written out, `Model.Zech.Word`) computes
    the same values as the plain `Int` model used above, for all canonical operands, whenever the word type represents
    `[-B, B]` exactly with `4(q-1) ≤ B` and the sentinels / table entries are in range (`WordFits`). -/
theorem word_level_macros_agree {w : Int → Int} {B : Int} {F : Dom} (W : WordFits w B F) (a b c : Int)
    (ha : 0 ≤ a ∧ a ≤ F.mun) (hb : 0 ≤ b ∧ b ≤ F.mun) (hc : 0 ≤ c ∧ c ≤ F.mun) :
    Word.ADD w F.mun F.pl a b = ADD F.mun F.pl a b ∧
    Word.NEG w F.mo F.mun a = NEG F.mo F.mun a ∧
    Word.SUB w F.mo F.mun F.pl a b = SUB F.mo F.mun F.pl a b ∧
    Word.AUTOSUB w F.mo F.mun F.pl a b = AUTOSUB F.mo F.mun F.pl a b ∧
    Word.MUL w F.mun a b = MUL F.mun a b ∧
    Word.INV w F.mun a = INV F.mun a ∧
    Word.DIV w F.mun a b = DIV F.mun a b ∧
    Word.MULADD w F.mun F.pl a b c = MULADD F.mun F.pl a b c :=
  ⟨ADDw_eq W a b ha hb, NEGw_eq W a ha, SUBw_eq W a b ha hb, AUTOSUBw_eq W a b ha hb, MULw_eq W a b ha hb,
   INVw_eq W a ha, DIVw_eq W a b ha hb, MULADDw_eq W a b c ha hb hc⟩

/-- `GFqDom<int32_t>`: `int32_t` is wide enough for every `q ≤ 65536 = maxCardinality()` (accepted tables: `Valid.wordFits32`). -/
theorem wordFits_int32 (F : Dom) (h0 : 0 ≤ F.mun) (hq : F.mun ≤ 65535) (m0 : 0 ≤ F.mo) (m1 : F.mo ≤ F.mun)
    (p0 : ∀ i, -F.mun ≤ F.pl i) (p1 : ∀ i, F.pl i ≤ 0) : WordFits wrapS32 2147483647 F :=
  { id_on := fun x h1 h2 => wrapS32_id ⟨by omega, by omega⟩
    room := by omega, mun_nonneg := h0, mo_lo := m0, mo_hi := m1, pl_lo := p0, pl_hi := p1 }

/-- `GFqDom<int64_t>`: `int64_t` is wide enough for every `q ≤ 2^32 = maxCardinality()` (`Valid.wordFits64`). -/
theorem wordFits_int64 (F : Dom) (h0 : 0 ≤ F.mun) (hq : F.mun ≤ 4294967295) (m0 : 0 ≤ F.mo) (m1 : F.mo ≤ F.mun)
    (p0 : ∀ i, -F.mun ≤ F.pl i) (p1 : ∀ i, F.pl i ≤ 0) : WordFits wrapS64 9223372036854775807 F :=
  { id_on := fun x h1 h2 => wrapS64_id ⟨by omega, by omega⟩
    room := by omega, mun_nonneg := h0, mo_lo := m0, mo_hi := m1, pl_lo := p0, pl_hi := p1 }

example : WordFits wrapS32 2147483647 demoDom :=
  wordFits_int32 demoDom (by decide) (by decide) (by decide) (by decide)
    (by intro i; show -2 ≤ (if i = 2 then -1 else 0 : Int); split <;> omega)
    (by intro i; show (if i = 2 then -1 else 0 : Int) ≤ 0; split <;> omega)
end word

/-! ### the polynomial-quotient extension `Extension<BaseField>` -/
section extension
open Givaro.Model.GFqExtension Givaro.Lemmas.GFqExtension Polynomial

/-- `Extension<>` is `R[X] ⧸ (f)`: for every base field `R`, every stored polynomial type `E` with interpretation `val : E → R[X]`
    under which the `Poly1Dom` operations satisfy their C08 laws, every irreducible stored modulus `f = val _irred` (any degree)
    and all operands: each of the fifteen member functions below (all of `Extension` except `addin`, `subin`, `negin`, which are the
    bare `Poly1Dom` calls of `add`, `sub`, `neg`) as written returns a polynomial whose class is the field operation on the
    classes of its operands — `inv(a)·a = 1`, `div(a,b)·b = a` for `b ≢ 0` — and which is reduced (`deg < deg f`) whenever the
    operands that are merely added are. -/
theorem extension_ops_exact {E : Type} {R : Type*} [_root_.Field R] (X : Ext E) (val : E → R[X]) (L : PolyLaws X.pD val)
    [Fact (Irreducible (val X.irred))] (a b c : E) :
    (cls X val (X.add a b) = cls X val a + cls X val b ∧ cls X val (X.sub a b) = cls X val a - cls X val b ∧
     cls X val (X.neg a) = - cls X val a ∧ cls X val (X.mul a b) = cls X val a * cls X val b ∧
     cls X val (X.axpy a b c) = cls X val a * cls X val b + cls X val c ∧
     cls X val (X.axmy a b c) = cls X val a * cls X val b - cls X val c ∧
     cls X val (X.maxpy a b c) = cls X val c - cls X val a * cls X val b ∧
     cls X val (X.maxpyin c a b) = cls X val c - cls X val a * cls X val b ∧
     cls X val (X.axmyin c a b) = cls X val a * cls X val b - cls X val c ∧
     cls X val (X.axpyin c a b) = cls X val c + cls X val a * cls X val b ∧
     cls X val (X.mulin a b) = cls X val a * cls X val b) ∧
    (cls X val b ≠ 0 → cls X val (X.inv b) * cls X val b = 1 ∧ cls X val (X.invin b) * cls X val b = 1 ∧
       cls X val (X.div a b) * cls X val b = cls X val a ∧ cls X val (X.divin a b) * cls X val b = cls X val a ∧
       Reduced X val (X.inv b) ∧ Reduced X val (X.div a b) ∧ Reduced X val (X.divin a b)) ∧
    (Reduced X val (X.mul a b) ∧ Reduced X val (X.maxpy a b c) ∧ Reduced X val (X.maxpyin c a b) ∧
     Reduced X val (X.axmyin c a b) ∧ Reduced X val (X.axpyin c a b)) ∧
    (Reduced X val a → Reduced X val b → Reduced X val (X.add a b) ∧ Reduced X val (X.sub a b) ∧ Reduced X val (X.neg a)) ∧
    (Reduced X val c → Reduced X val (X.axpy a b c) ∧ Reduced X val (X.axmy a b c)) := by
  refine ⟨⟨(add_exact X val L a b).1, (sub_exact X val L a b).1, (neg_exact X val L a).1, (mul_exact X val L a b).1,
    (axpy_exact X val L a b c).1, (axmy_exact X val L a b c).1, (maxpy_exact X val L a b c).1, (maxpyin_exact X val L c a b).1,
    (axmyin_exact X val L c a b).1, (axpyin_exact X val L c a b).1, (mul_exact X val L a b).1⟩, ?_,
    ⟨(mul_exact X val L a b).2, (maxpy_exact X val L a b c).2, (maxpyin_exact X val L c a b).2, (axmyin_exact X val L c a b).2,
     (axpyin_exact X val L c a b).2⟩, ?_, ?_⟩
  · intro hb
    exact ⟨(inv_exact X val L b hb).1, (inv_exact X val L b hb).1, (div_exact X val L a b hb).1, (divin_exact X val L a b hb).1,
      (inv_exact X val L b hb).2, (div_exact X val L a b hb).2, (divin_exact X val L a b hb).2⟩
  · intro ha hb
    exact ⟨(add_exact X val L a b).2 ha hb, (sub_exact X val L a b).2 ha hb, (neg_exact X val L a).2 ha⟩
  · intro hc
    exact ⟨(axpy_exact X val L a b c).2 hc, (axmy_exact X val L a b c).2 hc⟩

/-- elements ↔ classes: `mk` is injective on reduced polynomials and every class has a reduced representative -/
theorem extension_reduced_bijection {E : Type} {R : Type*} [_root_.Field R] (X : Ext E) (val : E → R[X])
    [Fact (Irreducible (val X.irred))] :
    (∀ g h : R[X], g.degree < (val X.irred).degree → h.degree < (val X.irred).degree →
      AdjoinRoot.mk (val X.irred) g = AdjoinRoot.mk (val X.irred) h → g = h) ∧
    (∀ y : AdjoinRoot (val X.irred), ∃ g : R[X], g.degree < (val X.irred).degree ∧ AdjoinRoot.mk (val X.irred) g = y) := by
  constructor
  · intro g h hg hh e
    rw [AdjoinRoot.mk_eq_mk] at e
    have hd : (g - h).degree < (val X.irred).degree := lt_of_le_of_lt (degree_sub_le _ _) (max_lt hg hh)
    exact sub_eq_zero.mp (eq_zero_of_dvd_of_degree_lt e hd)
  · intro y
    obtain ⟨g, rfl⟩ := AdjoinRoot.mk_surjective y
    exact ⟨g % val X.irred, degree_mod_lt _ (Fact.out : Irreducible (val X.irred)).ne_zero, mk_mod _ _⟩

/-- non-vacuity of `PolyLaws`: `E = ℚ[X]` itself with the Euclidean operations satisfies them -/
example : PolyLaws (refOps ℚ) (id : ℚ[X] → ℚ[X]) := refOps_laws ℚ
end extension

/-! ### init from a polynomial over the prime field -/
open Givaro.Spec.GFq Givaro.Model.GFqInit in
/-- `GFqDom::init(Rep&, const Vector&)`: for valid tables, any commutative ring `K` with `p = 0` containing a root `x` of the
    defining polynomial, `Pdom.mod(·, Irreducible)` taken by its C08 law, and every coefficient vector `cs` (entries `< p`, any
    length and degree — below, equal to, above `k` — stored leading zeros allowed): the call stays inside `_pol2log` and returns the
    canonical index whose polynomial, evaluated at `x`, is `Σ c_i x^i` (i.e. the element `P mod f` under the bijection). -/
theorem init_from_polynomial_exact {K : Type*} [CommRing K] (x : K) (T : Tables) (hv : T.tablesValid = true)
    (hp0 : ((T.F.p : Nat) : K) = 0) (modF : List Nat → List Nat)
    (hmod : ∀ cs, (modF cs).length = T.F.k ∧ (∀ d ∈ modF cs, d < T.F.p) ∧ ev x (modF cs) = ev x cs)
    (cs : List Nat) (hcs : ∀ c ∈ cs, c < T.F.p) :
    ∃ r, initVec T modF cs = some r ∧ r < T.q ∧ ev x (digits T.F.p T.F.k (T.l2p r)) = ev x cs := by
  have V := Valid.of_check hv
  unfold initVec
  simp only []
  by_cases hd : degreeOf cs ≥ (T.F.k : Int)
  · obtain ⟨ml, mlt, mev⟩ := hmod cs
    rw [if_pos hd, ← mev]
    exact V.lookup_list x (modF cs) (le_of_eq ml) mlt
  · obtain ⟨l, n, rfl, hl⟩ := split_of_degree_lt cs T.F.k (by omega)
    rw [if_neg hd, undigits_append_zeros, ev_append_zeros]
    exact V.lookup_list x l hl fun d hd' => hcs d (List.mem_append_left _ hd')

/-! ### GFqKronecker: state machine and Kronecker substitution -/
section kronecker
open Givaro.Model.GFqKron Givaro.Lemmas.GFqKron

/-- Every state reachable from the constructor by any sequence of `setShift` / `setMaxn` keeps the invariant
    `base = 2^shift`, `mask = 2^shift - 1`, `maxn · e(p-1)² < 2^shift` (and `p`, `e` unchanged). -/
theorem kronecker_state_invariant (p k : Nat) (ops : List Op) :
    Inv (run (ctor p k) ops) ∧ (run (ctor p k) ops).p = p ∧ (run (ctor p k) ops).k = k :=
  List.foldlRecOn ops step (motive := fun s => Inv s ∧ s.p = p ∧ s.k = k) ⟨inv_setShift _ _, rfl, rfl⟩
    fun s hs op _ => by
      cases op with
      | shift i => exact ⟨inv_setShift s i, hs.2⟩
      | maxn n => exact ⟨inv_setMaxn s n, hs.2⟩

/-- decode ∘ (sum of ≤ maxn integer products) ∘ encode is the dot product of the field, for every reachable state:
    for elements given by coefficient lists of length `k` with entries `< p`, in every commutative ring with `p = 0` and at
    every point `x` (in particular a root of the defining polynomial: the class in `F_p[X]/(f)`), the polynomial that `init`
    unpacks from `Σ_t convert(a_t)·convert(b_t)` evaluates to `Σ_t a_t(x)·b_t(x)`.  One term: the field product. -/
theorem kronecker_substitution_exact {K : Type*} [CommRing K] (x : K) (p k : Nat) (hk : 1 ≤ k) (hp0 : ((p : Nat) : K) = 0)
    (ops : List Op) (ts : List (List Nat × List Nat))
    (hts : ∀ t ∈ ts, t.1.length = k ∧ t.2.length = k ∧ (∀ c ∈ t.1, c ≤ p - 1) ∧ (∀ c ∈ t.2, c ≤ p - 1))
    (hn : ts.length ≤ (run (ctor p k) ops).maxn) :
    ev x (unpack (run (ctor p k) ops) (accInt (run (ctor p k) ops) ts)) = dotK x ts := by
  obtain ⟨hI, e1, e2⟩ := kronecker_state_invariant p k ops
  apply kronecker_dot x _ hI (by rw [e2]; exact hk) (by rw [e1]; exact hp0) ts _ hn
  intro t ht
  rw [e1, e2]
  exact hts t ht

/-- `convert` is injective on elements (coefficient lists of the same length with entries below the digit base). -/
theorem kronecker_convert_injective (s : KState) (a b : List Nat) (hl : a.length = b.length)
    (ha : ∀ c ∈ a, c < 2 ^ s.shift) (hb : ∀ c ∈ b, c < 2 ^ s.shift) (h : convert s a = convert s b) : a = b := by
  have hB : 0 < 2 ^ s.shift := Nat.pow_pos (by norm_num)
  rw [← digits_undigits hB a ha, ← digits_undigits hB b hb, ← convert_eq, ← convert_eq, h, hl]

/-- Pinned tree (before repair C05_4): `setMaxn` stopped growing the base at `base ≥ m`, so the room condition of the
    invariant was *not* guaranteed — GF(2²), `setMaxn(1)`: base 2 = 1·e(p-1)², the middle coefficient of `(1+X)²` overflows. -/
theorem kronecker_pinned_counterexample :
    ¬ (∀ (p k n : Nat), (setMaxnPinned (ctor p k) n).maxn * epmunsq p k < 2 ^ (setMaxnPinned (ctor p k) n).shift) := by
  intro h
  have := h 2 2 1
  revert this
  decide

example : (run (ctor 3 2) [.maxn 5, .shift 9]).maxn = 63 := by decide
end kronecker

/-! ### GFqExtFast: q-adic transform of accumulated dot products -/
section qadic
open Givaro.Model.GFqKron Givaro.Lemmas.GFqKron Givaro.Model.GFqExt

/-- `GFqExtFast::init(double)` ∘ (sum of ≤ maxdot() products) ∘ `convert(double)` is the field dot product: for every `p`,
    `k ≥ 1` and at most `maxdot()` pairs of elements, the accumulated double is an exact integer below `2^53`, and the
    coefficients `init` reads from it, reduced modulo `p`, form the polynomial `Σ_t a_t·b_t` (value at any `x` of any commutative
    ring with `p = 0`; reduced modulo the defining polynomial it is the field dot product). -/
theorem qadic_transform_exact {K : Type*} [CommRing K] (x : K) (p k : Nat) (hk : 1 ≤ k) (hp0 : ((p : Nat) : K) = 0)
    (ts : List (List Nat × List Nat))
    (hts : ∀ t ∈ ts, t.1.length = k ∧ t.2.length = k ∧ (∀ c ∈ t.1, c ≤ p - 1) ∧ (∀ c ∈ t.2, c ≤ p - 1))
    (hn : ts.length ≤ maxdot p k) :
    accDouble k ts < 2 ^ 53 ∧ ev x ((qadicDigits k (accDouble k ts)).map (· % p)) = dotK x ts := by
  constructor
  · rw [accDouble_eq p k, accInt_eq]
    have hlen := len_accPoly k hk ts (fun t ht => ⟨(hts t ht).1, (hts t ht).2.1⟩)
    calc Givaro.Spec.GFq.undigits (2 ^ bits k) (accPoly ts)
        < (2 ^ bits k) ^ (accPoly ts).length :=
          undigits_lt _ (accPoly_lt (qstate p k) (inv_qstate p k) ts hts hn)
      _ ≤ (2 ^ bits k) ^ (2 * k - 1) := Nat.pow_le_pow_right (Nat.pow_pos (by norm_num)) hlen
      _ = 2 ^ (bits k * (2 * k - 1)) := by rw [← pow_mul]
      _ ≤ 2 ^ 53 := by
        apply Nat.pow_le_pow_right (by norm_num)
        unfold bits
        exact Nat.div_mul_le_self 53 (2 * k - 1)
  · -- the q-adic transform is Kronecker substitution in the state `qstate p k`
    rw [qadicDigits_eq_unpack, accDouble_eq p k]
    exact kronecker_dot x (qstate p k) (inv_qstate p k) hk hp0 ts hts hn

/-- Pinned tree (before repair C05_6): `maxdot() = _BASE/(P-1)/(P-1)/e` leaves no room — GF(2^8): `maxdot() = 1` although the
    product of two all-ones elements has the middle coefficient `8 = 2^_BITS`. -/
theorem qadic_pinned_counterexample :
    ¬ (∀ p k : Nat, maxdotPinned p k * epmunsq p k < 2 ^ bits k) := by
  intro h
  have := h 2 8
  revert this
  decide

example : maxdot 5 2 = 4095 ∧ maxdot 2 8 = 0 := by decide
end qadic

/-! ### Extension: cardinality / characteristic / exponent -/
section extmeta
open Givaro.Model.GFqExtension

/-- `Extension(bF, ex)` over a base that reports `card = char^expo` reports `char^(exponent())`, the same characteristic,
    `exponent() = ex · expo` and `order() = ex`; by iteration, every tower reports `p^(k·e₁·e₂…)`, `p`, `k·e₁·e₂…`. -/
theorem extension_meta_exact (b : FieldMeta) (ex : Nat) (hb : b.card = b.char ^ b.expo) :
    (extMeta b ex).1.card = (extMeta b ex).1.char ^ (extMeta b ex).1.expo ∧ (extMeta b ex).1.char = b.char ∧
    (extMeta b ex).1.expo = ex * b.expo ∧ (extMeta b ex).2 = ex := by
  refine ⟨?_, rfl, rfl, rfl⟩
  show b.card ^ ex = b.char ^ (ex * b.expo)
  rw [hb, ← pow_mul, Nat.mul_comm]

/-- Pinned tree (before repair C05_5), base of a type `Exponent_Trait` was not specialised for: GF(3²) with order 3 reports
    cardinality `3^6` but exponent 3. -/
theorem extension_meta_pinned_counterexample :
    ¬ (∀ (b : FieldMeta) (ex : Nat), b.card = b.char ^ b.expo →
        (extMetaPinned b ex).1.card = (extMetaPinned b ex).1.char ^ (extMetaPinned b ex).1.expo) := by
  intro h
  have := h { card := 9, char := 3, expo := 2 } 3 (by decide)
  revert this
  decide
end extmeta

/-! ### GFqExt: the "defensive" q-adic init (known finding C05-gfqext-defensive-init) -/
section gfqext
open Givaro.Model.GFqExt

/-- Full statement — “the pre-reduction of `GFqExt::init(Rep&, double)` leaves every valid q-adic encoding
    (`0 < d < 2^(bits·(2k-1))`) unchanged, so that the defensive init agrees with `GFqExtFast::init`” — is false:
    in GF(2^2) (`bits = 17`, `_MODOUT = 3`) the encoding `2^17` of the polynomial `X` is reduced to `2`. -/
theorem gfqext_defensive_init_counterexample :
    ¬ (∀ p k d : Nat, 2 ≤ p → 2 ≤ k → 0 < d → d < 2 ^ (bits k * (2 * k - 1)) → defensiveArg p k d = d) := by
  intro h
  have := h 2 2 131072 (by decide) (by decide) (by decide) (by decide)
  revert this
  decide

/-- What holds on the code as it is: the pre-reduction is the identity below `_MODOUT` (the table size). -/
theorem gfqext_defensive_init_partial (p k d : Nat) (h0 : 0 < d) (h : d < modout p k) : defensiveArg p k d = d := by
  unfold defensiveArg
  simp only [Nat.mod_eq_of_lt h, h0, ↓reduceIte]

example : (0 : Nat) < 2 ∧ 2 < modout 3 4 := by decide
end gfqext

end Givaro.Props.C05
