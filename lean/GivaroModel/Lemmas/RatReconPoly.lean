/-
C11 — the polynomial variant (givpoly1ratrecon.inl), the algebra.  For `dk ≥ 0` its do-while loop is the plain Euclid loop
`rowLoop` unrolled twice.  For any primitives satisfying `LawfulOps` (nothing is assumed about the degree of a remainder)
and every fuel, what `polyRatreconFuel` returns with `true` is a row of the extended Euclidean scheme for (M, P), next to
another one (`Cof`).
-/
import GivaroModel.Lemmas.RatReconLemmas
namespace Givaro.Lemmas.RatRecon
open Givaro.Model.RatRecon

/-- what the model assumes about `degree`, `divmodin`, `maxpyin`, `gcd`, `leadcoef`/`divin` of Poly1Dom (their
    correctness is property C08) -/
structure LawfulOps {P : Type} [CommRing P] (O : PolyOps P) : Prop where
  zero_eq : O.zero = 0
  one_eq : O.one = 1
  deg_one : O.deg 1 = 0
  deg_neg_iff : ∀ a, O.deg a < 0 ↔ a = 0
  deg_mul : ∀ a b, a ≠ 0 → b ≠ 0 → O.deg (a * b) = O.deg a + O.deg b
  divmod_eq : ∀ a b, b ≠ 0 → a = (O.divmod a b).1 * b + (O.divmod a b).2
  maxpy_eq : ∀ r a b, O.maxpy r a b = r - a * b
  divLc_eq : ∀ d, d ≠ 0 → ∃ c ci : P, c * ci = 1 ∧ ∀ x, O.divLc x d = ci * x
  gcdDeg_unit : ∀ c ci x y : P, c * ci = 1 → O.gcdDeg (ci * x) (ci * y) = O.gcdDeg x y

/-- N ≡ D·P (mod M), deg N ≤ dk, D ≠ 0, and gcd(N,D) constant when a reduced fraction is requested -/
def PolySound {P : Type} [CommRing P] (O : PolyOps P) (p m : P) (dk : Int) (reduce : Bool) (n d : P) : Prop :=
  (∃ s, n = d * p + s * m) ∧ O.deg n ≤ dk ∧ d ≠ 0 ∧ (reduce = true → O.gcdDeg n d ≤ 0)

/-- the Euclid loop of which `polyLoop` is the twofold unrolling; the fuel counts divisions -/
def rowLoop {P : Type} (O : PolyOps P) (dk : Int) : Nat → P → P → P → P → POut P
  | 0, a, _, _, tb => ⟨false, a, tb⟩
  | n + 1, a, ta, b, tb =>
    let qr := O.divmod a b
    let t := O.maxpy ta qr.1 tb
    if O.deg qr.2 ≤ dk then ⟨true, qr.2, t⟩ else rowLoop O dk n b tb qr.2 t

/-- for `dk ≥ 0` the tests `degN < 0`, `degU ≥ 0` of the do-while loop are implied by the comparisons with `dk` -/
theorem polyLoop_eq_rowLoop {P : Type} (O : PolyOps P) (dk : Int) (hdk : 0 ≤ dk) :
    ∀ (fuel : Nat) (s : PSt P), polyLoop O dk fuel s = rowLoop O dk (2 * fuel) s.n s.d0 s.u s.d := by
  intro fuel
  induction fuel with
  | zero => intro s; rfl
  | succ fuel ih =>
    intro s
    rw [polyLoop, Nat.mul_succ, rowLoop]
    by_cases hA : O.deg (O.divmod s.n s.u).2 ≤ dk
    · rw [if_pos (Or.inl hA), if_pos hA, decide_eq_true hA]
    · rw [if_neg (by omega), if_neg hA, rowLoop]
      simp only []
      by_cases hB : O.deg (O.divmod s.u (O.divmod s.n s.u).2).2 ≤ dk
      · rw [if_pos hB, if_pos hB]
      · rw [if_neg hB, if_neg hB, if_pos (by omega)]
        exact ih _

variable {P : Type} [CommRing P] {O : PolyOps P}

theorem one_ne_zero_of (L : LawfulOps O) : (1 : P) ≠ 0 := by
  intro h
  have := (L.deg_neg_iff 1).mpr h
  rw [L.deg_one] at this
  omega

theorem deg_nonneg_of (L : LawfulOps O) (a : P) (ha : a ≠ 0) : 0 ≤ O.deg a := by
  by_contra h
  exact ha ((L.deg_neg_iff a).mp (by omega))

theorem unit_mul_ne_zero {c ci x : P} (hc : c * ci = 1) (hx : x ≠ 0) : ci * x ≠ 0 := by
  intro h0
  apply hx
  rw [← one_mul x, ← hc, mul_assoc, h0, mul_zero]

theorem deg_unit_mul (L : LawfulOps O) (c ci x : P) (hc : c * ci = 1) : O.deg (ci * x) = O.deg x := by
  have h10 := one_ne_zero_of L
  have hc0 : c ≠ 0 := by intro h0; rw [h0, zero_mul] at hc; exact h10 hc.symm
  have hci0 : ci ≠ 0 := by intro h0; rw [h0, mul_zero] at hc; exact h10 hc.symm
  have hdci : O.deg ci = 0 := by
    have := L.deg_mul c ci hc0 hci0
    rw [hc, L.deg_one] at this
    have := deg_nonneg_of L c hc0
    have := deg_nonneg_of L ci hci0
    omega
  by_cases hx : x = 0
  · rw [hx, mul_zero]
  · rw [L.deg_mul ci x hci0 hx]; omega

/-- a row whose cofactor of `p` vanishes is a unit multiple of `m`, so it is not as short as `dk < deg m` -/
theorem Cof.tb_ne_zero (L : LawfulOps O) {m p sg sgi a ta b tb : P} (h : Cof m p sg a ta b tb) (hsg : sg * sgi = 1)
    {dk : Int} (hdm : dk < O.deg m) (hdeg : O.deg b ≤ dk) : tb ≠ 0 := by
  rintro rfl
  obtain ⟨u, v, huv, rfl⟩ := h.unit_row hsg
  rw [mul_comm u v] at huv
  rw [deg_unit_mul L v u m huv] at hdeg
  omega

theorem rowLoop_cof (L : LawfulOps O) (p m : P) (dk : Int) (hdk : 0 ≤ dk) :
    ∀ (fuel : Nat) (a ta b tb sg : P), sg * sg = 1 → Cof m p sg a ta b tb → b ≠ 0 →
      (rowLoop O dk fuel a ta b tb).ok = true →
      O.deg (rowLoop O dk fuel a ta b tb).n ≤ dk ∧ ∃ sg' a' ta', sg' * sg' = 1 ∧
        Cof m p sg' a' ta' (rowLoop O dk fuel a ta b tb).n (rowLoop O dk fuel a ta b tb).d := by
  intro fuel
  induction fuel with
  | zero => intro a ta b tb _ _ _ _ h; simp [rowLoop] at h
  | succ fuel ih =>
    intro a ta b tb sg hsg hcof hb
    have hsg' : -sg * -sg = 1 := by rw [neg_mul_neg]; exact hsg
    have hdiv := L.divmod_eq a b hb
    rw [rowLoop]
    generalize O.divmod a b = qr at hdiv ⊢
    obtain ⟨q, r⟩ := qr
    simp only [] at hdiv ⊢
    rw [L.maxpy_eq]
    have hcof' := hcof.step hdiv
    by_cases hA : O.deg r ≤ dk
    · rw [if_pos hA]
      exact fun _ => ⟨hA, -sg, b, tb, hsg', hcof'⟩
    · rw [if_neg hA]
      have hr : r ≠ 0 := fun h0 => by have := (L.deg_neg_iff r).mpr h0; omega
      exact ih b tb r (ta - q * tb) (-sg) hsg' hcof' hr

theorem polyRatreconFuel_cases (L : LawfulOps O) (p m : P) (dk : Int) (hdk : 0 ≤ dk) :
    ((O.deg p < dk ∨ O.deg m = 0) ∧ ∀ fuel, polyRatreconFuel O fuel p m dk = ⟨true, p, 1⟩) ∨
    (dk ≤ O.deg p ∧ (O.deg m < 0 ∨ O.deg p = 0) ∧ ∀ fuel, polyRatreconFuel O fuel p m dk = ⟨false, 1, 1⟩) ∨
    (dk ≤ O.deg p ∧ O.deg p ≠ 0 ∧ ∀ fuel, polyRatreconFuel O fuel p m dk = rowLoop O dk (2 * fuel) m 0 p 1) := by
  unfold polyRatreconFuel
  simp only [L.zero_eq, L.one_eq]
  by_cases c1 : O.deg p < dk ∨ O.deg m = 0
  · exact Or.inl ⟨c1, fun _ => if_pos c1⟩
  by_cases c2 : O.deg m < 0 ∨ O.deg p = 0
  · exact Or.inr (Or.inl ⟨by omega, c2, fun _ => by rw [if_neg c1, if_pos c2]⟩)
  · exact Or.inr (Or.inr ⟨by omega, by omega, fun _ => by rw [if_neg c1, if_neg c2, polyLoop_eq_rowLoop O dk hdk]⟩)

theorem polyRatreconFuel_cof (L : LawfulOps O) (fuel : Nat) (p m : P) (dk : Int) (hdk : 0 ≤ dk) (hdm : dk < O.deg m)
    (hok : (polyRatreconFuel O fuel p m dk).ok = true) :
    O.deg (polyRatreconFuel O fuel p m dk).n ≤ dk ∧ ∃ sg a ta, sg * sg = 1 ∧
      Cof m p sg a ta (polyRatreconFuel O fuel p m dk).n (polyRatreconFuel O fuel p m dk).d := by
  rcases polyRatreconFuel_cases L p m dk hdk with ⟨c1, he⟩ | ⟨_, _, he⟩ | ⟨hpk, _, he⟩
  · rw [he]
    exact ⟨by show O.deg p ≤ dk; omega, 1, m, 0, one_mul 1, Cof.init m p⟩
  · rw [he] at hok; cases hok
  · rw [he] at hok ⊢
    have hp0 : p ≠ 0 := fun h0 => by have := (L.deg_neg_iff p).mpr h0; omega
    exact rowLoop_cof L p m dk hdk _ m 0 p 1 1 (one_mul 1) (Cof.init m p) hp0 hok

theorem polyRatreconFuel_sound (L : LawfulOps O) (fuel : Nat) (p m : P) (dk : Int) (hdk : 0 ≤ dk) (hdm : dk < O.deg m)
    (hok : (polyRatreconFuel O fuel p m dk).ok = true) :
    (∃ S, (polyRatreconFuel O fuel p m dk).n = (polyRatreconFuel O fuel p m dk).d * p + S * m) ∧
      O.deg (polyRatreconFuel O fuel p m dk).n ≤ dk ∧ (polyRatreconFuel O fuel p m dk).d ≠ 0 := by
  obtain ⟨hle, sg, a, ta, hsg, hcof⟩ := polyRatreconFuel_cof L fuel p m dk hdk hdm hok
  exact ⟨hcof.row, hle, hcof.tb_ne_zero L hsg hdm hle⟩

end Givaro.Lemmas.RatRecon
