/- C06 helper lemmas: low product, fused multiply-add, squares (rumul.h, ruaddmul.h). -/
import GivaroModel.Lemmas.RecIntMulFam
namespace Givaro.Model.RecInt

theorem addNC_q {n : Nat} (x y : RU n) (hx : WF x) (hy : WF y) :
    WF (addNC x y) ∧ ∃ q, val (addNC x y) + Bn n * q = val x + val y := by
  rw [addNC_eq x y]
  have h := add_ok x y hx hy
  exact ⟨h.1, c2n (add x y).2, by rw [Nat.mul_comm]; exact h.2⟩

theorem mul_q (t : Nat) : ∀ {n : Nat} (b c : RU n), WF b → WF c → WF (mul t b c) ∧ ∃ q, val (mul t b c) + Bn n * q = val b * val c
  | 0, .limb b, .limb c, _, _ => by
      simp only [mul, WF, val, Bn_zero]; exact ⟨Nat.mod_lt _ (by decide), _, Nat.mod_add_div _ _⟩
  | n+1, .node bl bh, .node cl ch, hb, hc => by
      simp only [mul]
      obtain ⟨h1w, q1, hq1⟩ := mul_q t bl ch hb.1 hc.2
      generalize mul t bl ch = m1 at h1w hq1 ⊢
      obtain ⟨h2w, q2, hq2⟩ := mul_q t bh cl hb.2 hc.1
      generalize mul t bh cl = m2 at h2w hq2 ⊢
      obtain ⟨h3w, q3, hq3⟩ := addNC_q m1 m2 h1w h2w
      generalize addNC m1 m2 = bm at h3w hq3 ⊢
      obtain ⟨hall, halh, hale⟩ := (lmul_ok t bl cl hb.1 hc.1).digits
      generalize lmul t bl cl = al at hall halh hale ⊢
      obtain ⟨h4w, q4, hq4⟩ := addNC_q (hi al) bm halh h3w
      generalize addNC (hi al) bm = hh at h4w hq4 ⊢
      refine ⟨⟨hall, h4w⟩, q1 + q2 + q3 + q4 + val bh * val ch, ?_⟩
      simp only [val_node, Bn_succ]
      linear_combination hale + Bn n * hq1 + Bn n * hq2 + Bn n * hq3 + Bn n * hq4

theorem mul_ok (t : Nat) {n : Nat} (b c : RU n) (hb : WF b) (hc : WF c) : WF (mul t b c) ∧ val (mul t b c) = (val b * val c) % Bn n := by
  obtain ⟨hw, q, hq⟩ := mul_q t b c hb hc
  exact ⟨hw, mod_of_add_mul hq (val_lt _ hw)⟩

theorem addmul_ok (t : Nat) {n : Nat} (a b c : RU n) (ha : WF a) (hb : WF b) (hc : WF c) :
    WF (addmul t a b c) ∧ val (addmul t a b c) = (val a + val b * val c) % Bn n := by
  have hm := mul_ok t b c hb hc
  unfold addmul
  rw [addNC_eq a _]
  have h := (add_ok a (mul t b c) ha hm.1)
  refine ⟨h.1, ?_⟩
  rw [h.exact.1, hm.2, Nat.add_mod_mod]

theorem lsquare_ok (t : Nat) : ∀ {n : Nat} (b : RU n), WF b → MulOk (lsquare t b) (val b * val b)
  | 0, .limb b, hb => by
      simpa only [lsquare, lmul_naive] using lmul_naive_zero t (.limb b) (.limb b) hb hb
  | n+1, .node bl bh, hb => by
      have hvb := digit_lt (val_lt bl hb.1) (val_lt bh hb.2)
      simp only [lsquare]
      rw [highest_bit_eq]
      obtain ⟨hxw, hxe⟩ := lmul_ok t bh bl hb.2 hb.1
      generalize lmul t bh bl = x0 at hxw hxe ⊢
      obtain ⟨haHl, haHh, haHe⟩ := (lsquare_ok t bh hb.2).digits
      generalize lsquare t bh = aH at haHl haHh haHe ⊢
      obtain ⟨haLl, haLh, haLe⟩ := (lsquare_ok t bl hb.1).digits
      generalize lsquare t bl = aL at haLl haLh haLe ⊢
      obtain ⟨hlsw, hlse⟩ := left_shift_1_ok x0 hxw
      generalize left_shift_1 x0 = ls at hlsw hlse ⊢
      obtain ⟨hlsl, hlsh, hlsv⟩ := hlsw.digits
      obtain ⟨hs1w, hs1e⟩ := add_ok (hi aL) (lo ls.1) haLh hlsl
      generalize add (hi aL) (lo ls.1) = s1 at hs1w hs1e ⊢
      obtain ⟨hs2w, hs2e⟩ := add_ok (lo aH) (hi ls.1) haHl hlsh
      generalize add (lo aH) (hi ls.1) = s2 at hs2w hs2e ⊢
      obtain ⟨j1, ha2w, ha2e⟩ := ite_add_1NC_ok s1.2 (RU.node s2.1 (hi aH)) ⟨hs2w, haHh⟩
      generalize (if s1.2 = true then (add_1 (RU.node s2.1 (hi aH))).1 else RU.node s2.1 (hi aH)) = aH2 at ha2w ha2e ⊢
      obtain ⟨ha2l, ha2h, ha2v⟩ := ha2w.digits
      obtain ⟨j2, haHHw, haHHe⟩ := ite_add_l_ok s2.2 ls.2 (hi aH2) ha2h
      generalize (if (s2.2 || ls.2) = true then (add_l (hi aH2) ((if s2.2 = true then 1 else 0) + (if ls.2 = true then 1 else 0))).1 else hi aH2) = aHH at haHHw haHHe ⊢
      rw [hlsv, hxe, Bn_succ] at hlse
      rw [ha2v, val_node, Bn_succ] at ha2e
      have E : val (lo aL) + Bn n * val s1.1 + Bn n * Bn n * (val (lo aH2) + Bn n * val aHH) + (j1 + j2) * (Bn n * Bn n * (Bn n * Bn n))
            = (val bl + Bn n * val bh) * (val bl + Bn n * val bh) := by
        linear_combination haLe + Bn n * hlse + Bn n * Bn n * haHe + Bn n * hs1e + Bn n * Bn n * hs2e + Bn n * Bn n * ha2e
          + Bn n * Bn n * Bn n * haHHe
      refine ⟨⟨⟨haLl, hs1w⟩, ha2l, haHHw⟩, ?_⟩
      simp only [val_node, Bn_succ]
      exact (no_carry E (Nat.mul_lt_mul'' hvb hvb)).1

theorem square_ok (t : Nat) : ∀ {n : Nat} (b : RU n), WF b → WF (square t b) ∧ val (square t b) = (val b * val b) % Bn n
  | 0, .limb b, _ => by
      simp only [square, WF, val, Bn_zero]; exact ⟨Nat.mod_lt _ (by decide), trivial⟩
  | n+1, .node bl bh, hb => by
      simp only [square]
      obtain ⟨hmw, q1, hq1⟩ := mul_q t bh bl hb.2 hb.1
      generalize mul t bh bl = m at hmw hq1 ⊢
      obtain ⟨hall, halh, hale⟩ := (lsquare_ok t bl hb.1).digits
      generalize lsquare t bl = al at hall halh hale ⊢
      obtain ⟨hlsw, hlse⟩ := left_shift_1_ok m hmw
      generalize left_shift_1 m = ls at hlsw hlse ⊢
      obtain ⟨h4w, q4, hq4⟩ := addNC_q (hi al) ls.1 halh hlsw
      generalize addNC (hi al) ls.1 = hh at h4w hq4 ⊢
      have hw : WF (RU.node (lo al) hh) := ⟨hall, h4w⟩
      refine ⟨hw, mod_of_add_mul (Q := c2n ls.2 + 2 * q1 + q4 + val bh * val bh) ?_ (val_lt _ hw)⟩
      simp only [val_node, Bn_succ]
      linear_combination hale + 2 * Bn n * hq1 + Bn n * hlse + Bn n * hq4

end Givaro.Model.RecInt
