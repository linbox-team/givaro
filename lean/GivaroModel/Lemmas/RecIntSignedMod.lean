/- C06 helper lemmas: rint mod_n and inv_mod. -/
import GivaroModel.Lemmas.RecIntSignedLemmas
import GivaroModel.Lemmas.RecIntInvMod
import Mathlib.Data.Int.ModEq
namespace Givaro.Model.RecInt

theorem pos_image {n : Nat} (c : RU n) (hc : WF c) (hpos : 0 < sval c) : isNegative c = false ∧ (val c : Int) = sval c ∧ val c ≠ 0 := by
  obtain ⟨hn, hv, -⟩ | ⟨-, -, -, h⟩ := sign_cases c hc
  · exact ⟨hn, hv, by omega⟩
  · omega

/-- the negative branch shared by the `mod_n` overloads and `inv_mod`: from `rr = X mod m` to `(-X) mod m` (`neg_emod_eq` read on `val`) -/
theorem neg_residue {n : Nat} (m rr Z : RU n) (X : Int) (hm : WF m) (hr : WF rr) (hre : (val rr : Int) = X % val m)
    (hp : (0 : Int) < val m) (hZ : isZero rr = true → WF Z ∧ val Z = 0) :
    WF (if (!isZero rr) = true then subNC m rr else Z) ∧ (val (if (!isZero rr) = true then subNC m rr else Z) : Int) = (-X) % val m := by
  have hrlt : val rr < val m := by exact_mod_cast hre ▸ Int.emod_lt_of_pos X hp
  rw [neg_emod_eq X _ hp, ← hre]
  by_cases hzr : isZero rr = true
  · simp only [hzr, Bool.not_true, Bool.false_eq_true, ↓reduceIte]
    exact ⟨(hZ hzr).1, by rw [(hZ hzr).2, (isZero_iff _).mp hzr]; rfl⟩
  · have hne : (val rr : Int) ≠ 0 := fun h => hzr ((isZero_iff _).mpr (by exact_mod_cast h))
    simp only [eq_false_of_ne_true hzr, Bool.not_false, ↓reduceIte, if_neg hne]
    obtain ⟨hsw, hse⟩ := sub_small m _ hm hr (Nat.le_of_lt hrlt)
    exact ⟨hsw, by rw [hse, Nat.cast_sub (Nat.le_of_lt hrlt)]⟩

theorem s_modn_ok (t : Nat) {n : Nat} (a m : RU n) (ha : WF a) (hm : WF m) (hpos : 0 < sval m) :
    WF (s_modn t a m) ∧ sval (s_modn t a m) = sval a % sval m := by
  obtain ⟨hnm, hvm, hne⟩ := pos_image m hm hpos
  have rm := sval_range m hm
  have hp : (0 : Int) < val m := by omega
  unfold s_modn
  rcases sign_cases a ha with ⟨hna, va, pa⟩ | ⟨hna, wa, va, pa⟩ <;> simp only [hna, Bool.not_true, Bool.not_false, Bool.false_eq_true, ↓reduceIte]
  · obtain ⟨-, hr, -, hre⟩ := div_int t a m ha hm hne
    have m1 := Int.emod_lt_of_pos (sval a) hp
    rw [va] at hre
    rw [← hvm]
    exact ⟨hr, sval_of_val _ _ hre (by omega)⟩
  · obtain ⟨-, hr, -, hre⟩ := div_int t (neg a) m wa hm hne
    obtain ⟨hw, he⟩ := neg_residue m _ (zero n) _ hm hr hre hp (fun _ => val_zero n)
    have m1 := Int.emod_lt_of_pos (sval a) hp
    rw [va, Int.neg_neg] at he
    rw [← hvm]
    exact ⟨hw, sval_of_val _ _ he (by omega)⟩

theorem s_invmod_ok (t : Nat) {n : Nat} (b c : RU n) (hb : WF b) (hc : WF c) (hpos : 0 < sval c)
    (hcop : Nat.gcd (sval b).natAbs (sval c).natAbs = 1) :
    WF (s_invmod t b c) ∧ 0 ≤ sval (s_invmod t b c) ∧ sval (s_invmod t b c) < sval c ∧
    (sval c : Int) ∣ sval (s_invmod t b c) * sval b - 1 := by
  obtain ⟨hnc, hvc, hne⟩ := pos_image c hc hpos
  have rc := sval_range c hc
  have hp : (0 : Int) < val c := by omega
  -- the unsigned `inv_mod` is called on some `x ≡ b (mod c)`
  have fin : ∀ (x : RU n), WF x → (val x : Int) ≡ sval b [ZMOD val c] →
      WF (inv_mod t x c) ∧ 0 ≤ sval (inv_mod t x c) ∧ sval (inv_mod t x c) < sval c ∧ (sval c : Int) ∣ sval (inv_mod t x c) * sval b - 1 := by
    intro x hx hxb
    have hg : Nat.gcd (val x) (val c) = 1 := by
      rw [← Int.gcd_natCast_natCast, ← Int.gcd_emod, hxb, Int.gcd_emod, hvc]; exact hcop
    obtain ⟨hw, hlt, he⟩ := inv_mod_ok t x c hx hc hne hg
    have he' : (val (inv_mod t x c) : Int) * val x ≡ 1 [ZMOD val c] := by exact_mod_cast congrArg (Nat.cast : Nat → Int) he
    rw [sval_of_val _ _ rfl (by omega), ← hvc]
    exact ⟨hw, by omega, by omega, (he'.symm.trans (hxb.mul_left _)).dvd⟩
  unfold s_invmod
  rcases sign_cases b hb with ⟨hnb, vb, pb⟩ | ⟨hnb, wb, vb, pb⟩ <;> simp only [hnb, Bool.not_true, Bool.not_false, Bool.false_eq_true, ↓reduceIte]
  · exact fin b hb (by rw [vb])
  · obtain ⟨-, hr, -, hre⟩ := div_int t (neg b) c wb hc hne
    obtain ⟨hw, he⟩ := neg_residue c _ (div t (neg b) c).2 _ hc hr hre hp (fun hz => ⟨hr, (isZero_iff _).mp hz⟩)
    rw [vb, Int.neg_neg] at he
    exact fin _ hw (by rw [he]; exact Int.mod_modEq _ _)

theorem s_modn2_ok (t : Nat) {n : Nat} (b : RU (n+1)) (c : RU n) (hb : WF b) (hc : WF c) (hpos : 0 < sval c) :
    WF (s_modn2 t b c) ∧ sval (s_modn2 t b c) = sval b % sval c := by
  obtain ⟨hnc, hvc, hne⟩ := pos_image c hc hpos
  have rc := sval_range c hc
  have hp : (0 : Int) < val c := by omega
  have m1 := Int.emod_lt_of_pos (sval b) hp
  unfold s_modn2
  rcases sign_cases b hb with ⟨hnb, vb, pb⟩ | ⟨hnb, hbw, hbe, pb⟩ <;> simp only [hnb, Bool.not_true, Bool.not_false, Bool.false_eq_true, ↓reduceIte]
  · obtain ⟨hw, he⟩ := mod_n2_ok t b c hb hc hne
    have he' : (val (mod_n2 t b c) : Int) = sval b % val c := by rw [he, Int.natCast_mod, vb]
    rw [← hvc]
    exact ⟨hw, sval_of_val _ _ he' (by omega)⟩
  · obtain ⟨hw, he⟩ := mod_n2_ok t (neg b) c hbw hc hne
    have he' : (val (mod_n2 t (neg b) c) : Int) = (val (neg b) : Int) % val c := by rw [he, Int.natCast_mod]
    obtain ⟨hw', he''⟩ := neg_residue c _ (mod_n2 t (neg b) c) _ hc hw he' hp (fun hz => ⟨hw, (isZero_iff _).mp hz⟩)
    rw [hbe, Int.neg_neg] at he''
    rw [← hvc]
    exact ⟨hw', sval_of_val _ _ he'' (by omega)⟩

end Givaro.Model.RecInt
