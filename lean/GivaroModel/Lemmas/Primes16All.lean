/- C12 — `Primes16::_primes` (givprimes16.C, re-extracted on every run) is exactly the increasing list of the primes below 2^16:
   as a bit set the table is what the sieve by the primes below 2^8 leaves of the numbers 2 … 2^16 - 1 (one kernel evaluation),
   and the table is increasing (a second one). -/
import GivaroModel.Model.PrimesTables
import GivaroModel.Lemmas.PrimesSieve
import Mathlib.Data.List.Sort
namespace Givaro.Lemmas.Primes16
open Givaro.Model.Primes Givaro.Lemmas.Primes

/-- the numbers 2 … 65535 -/
def window : Nat := (2 ^ 65534 - 1) <<< 2

theorem testBit_window (n : Nat) : window.testBit n = true ↔ 2 ≤ n ∧ n < 65536 := by
  rw [window, Nat.testBit_shiftLeft, Nat.testBit_two_pow_sub_one, Bool.and_eq_true, decide_eq_true_eq, decide_eq_true_eq]
  omega

theorem primes16_sieved : bitsOf primes16 = window ^^^ (multiples smallPrimes &&& window) := by decide +kernel

theorem mem_primes16 (p : Nat) : p ∈ primes16 ↔ p.Prime ∧ p < 65536 := by
  rw [← testBit_bitsOf, primes16_sieved, Nat.testBit_xor, Nat.testBit_and]
  by_cases hp : 2 ≤ p ∧ p < 65536
  · rw [(testBit_window p).mpr hp, Bool.and_true, Bool.true_xor, Bool.not_eq_true',
      sieve_prime smallPrimes_complete smallPrimes_two_le hp.1 (by omega) hp.2, and_iff_left hp.2]
  · have hw : window.testBit p = false := by rwa [← Bool.not_eq_true, testBit_window]
    rw [hw, Bool.and_false, Bool.xor_false]
    exact iff_of_false Bool.false_ne_true fun h => hp ⟨h.1.two_le, h.2⟩

def ascending : List Nat → Bool
  | a :: b :: l => Nat.blt a b && ascending (b :: l)
  | _ => true

theorem ascending_sorted : ∀ l : List Nat, ascending l = true → l.Pairwise (· < ·)
  | [], _ => List.Pairwise.nil
  | [_], _ => List.pairwise_singleton _ _
  | a :: b :: l, h => by
    rw [ascending, Bool.and_eq_true, Nat.blt_eq] at h
    have ih := ascending_sorted (b :: l) h.2
    exact List.pairwise_cons.mpr
      ⟨fun c hc => (List.mem_cons.mp hc).elim (· ▸ h.1) fun hc => h.1.trans ((List.pairwise_cons.mp ih).1 c hc), ih⟩

theorem primes16_ascending : ascending primes16 = true := by decide +kernel

theorem primes16_eq_filter : primes16 = (List.range 65536).filter (fun n => decide n.Prime) :=
  (ascending_sorted _ primes16_ascending).eq_of_mem_iff (List.pairwise_lt_range.filter _) fun p => by
    rw [mem_primes16, List.mem_filter, List.mem_range, decide_eq_true_eq, and_comm]

end Givaro.Lemmas.Primes16
