/-
C03, `Modular<Log16>`: if the generator chain is valid (`exp` runs through (Z/p)^* along the powers of `g`, `log` is its inverse,
`log 0` is the representation of zero), then the index arithmetic of every `__GIVARO_ZPZ16_LOG_*` operation on canonical
representations yields that of the exact result: `val (op a b) = (val a ∘ val b) mod p`.  The tables `_tab_addone`, `_tab_subone` are Zech
logarithms (`log (1 ± g^j)` on differences of logarithms), so add, sub and neg are one more multiplication: `g^a ± g^b = g^a·(1 ± g^(b−a))`.
-/
import GivaroModel.Model.ModRingLog16
import GivaroModel.Lemmas.ModRingLemmas
namespace Givaro.Model.ModRing
open Givaro.Spec.ModRing

theorem mul_pm1 (p x : Int) : (x * (p - 1)) % p = (-x) % p := by
  have : x * (p - 1) = -x + p * x := by ring
  rw [this, Int.add_mul_emod_self_left]

theorem mul_emod_right (x y p : Int) : (x * (y % p)) % p = (x * y) % p := by
  rw [Int.mul_emod, Int.emod_emod_of_dvd _ (Int.dvd_refl p), ← Int.mul_emod]

namespace L16

/-- validity of the chain: what the constructor's generator search establishes for a prime `p` -/
structure Valid (T : L16) : Prop where
  p2 : 2 ≤ T.p
  exp0 : T.exp 0 = 1
  chain : ∀ e, 0 ≤ e → e < T.M → T.exp ((e + 1) % T.M) = (T.exp e * T.g) % T.p
  range : ∀ e, 0 ≤ e → e < T.M → 1 ≤ T.exp e ∧ T.exp e < T.p
  logexp : ∀ e, 0 ≤ e → e < T.M → T.log (T.exp e) = e
  explog : ∀ v, 1 ≤ v → v < T.p → 0 ≤ T.log v ∧ T.log v < T.M ∧ T.exp (T.log v) = v
  log0 : T.log 0 = T.Z

/-- canonical representations: a logarithm in `[0, p-1)`, or `zero = 2(p-1)` -/
def okR (T : L16) (a : Int) : Prop := (0 ≤ a ∧ a < T.M) ∨ a = T.Z

variable {T : L16}

/-- the chain continued periodically to ℤ: `g^x` for any exponent -/
def expm (T : L16) (x : Int) : Int := T.exp (x % T.M)

theorem M_pos (h : Valid T) : 0 < T.M := by have := h.p2; unfold M; omega

theorem expm_range (h : Valid T) (x : Int) : 1 ≤ T.expm x ∧ T.expm x < T.p :=
  h.range _ (Int.emod_nonneg _ (by have := M_pos h; omega)) (Int.emod_lt_of_pos _ (M_pos h))

theorem expm_of_range {e : Int} (h0 : 0 ≤ e) (h1 : e < T.M) : T.expm e = T.exp e := by
  unfold expm; rw [Int.emod_eq_of_lt h0 h1]

theorem expm_succ (h : Valid T) (x : Int) : T.expm (x + 1) = (T.expm x * T.g) % T.p := by
  have hM := M_pos h
  unfold expm
  rw [← h.chain (x % T.M) (Int.emod_nonneg _ (by omega)) (Int.emod_lt_of_pos _ hM), Int.emod_add_emod]

theorem expm_add_nat (h : Valid T) (x : Int) : ∀ n : Nat, T.expm (x + n) = (T.expm x * T.expm n) % T.p := by
  intro n
  induction n with
  | zero =>
    have h1 := expm_range h x
    have : T.expm ((0 : Nat) : Int) = 1 := by
      show T.exp ((0 : Int) % T.M) = 1
      rw [Int.zero_emod]; exact h.exp0
    rw [this]; simp only [Nat.cast_zero, Int.add_zero, Int.mul_one]
    exact (Int.emod_eq_of_lt (by omega) h1.2).symm
  | succ n ih =>
    have e1 : x + ((n + 1 : Nat) : Int) = (x + n) + 1 := by push_cast; ring
    have e2 : ((n + 1 : Nat) : Int) = (n : Int) + 1 := by push_cast; ring
    rw [e1, expm_succ h, ih, e2, expm_succ h, Int.mul_comm (_ % T.p) T.g, mul_emod_right, mul_emod_right]
    congr 1; ring

/-- the chain is a homomorphism `(Z, +) → ((Z/p)^*, ·)` -/
theorem expm_add (h : Valid T) (x y : Int) : T.expm (x + y) = (T.expm x * T.expm y) % T.p := by
  have hM := M_pos h
  have hy0 := Int.emod_nonneg y (by omega : T.M ≠ 0)
  have e : T.expm (x + y) = T.expm (x + ((y % T.M).toNat : Int)) := by
    unfold expm
    rw [Int.toNat_of_nonneg hy0, Int.add_emod_emod]
  have e2 : T.expm y = T.expm ((y % T.M).toNat : Int) := by
    unfold expm
    rw [Int.toNat_of_nonneg hy0, Int.emod_emod_of_dvd _ (Int.dvd_refl _)]
  rw [e, e2]
  exact expm_add_nat h x _

theorem exp_inj (h : Valid T) {e1 e2 : Int} (h1 : 0 ≤ e1 ∧ e1 < T.M) (h2 : 0 ≤ e2 ∧ e2 < T.M)
    (he : T.exp e1 = T.exp e2) : e1 = e2 := by
  rw [← h.logexp e1 h1.1 h1.2, ← h.logexp e2 h2.1 h2.2, he]

theorem expm_M (h : Valid T) : T.expm T.M = 1 := by
  unfold expm; rw [Int.emod_self]; exact h.exp0

theorem expm_zero (h : Valid T) : T.expm 0 = 1 := by
  unfold expm; rw [Int.zero_emod]; exact h.exp0

theorem expm_period (T : L16) (x : Int) : T.expm (x + T.M) = T.expm x ∧ T.expm (x - T.M) = T.expm x := by
  unfold expm
  exact ⟨by rw [Int.add_emod_right], by rw [Int.sub_emod_right]⟩

/-- `g^(±(p-1)/2) = -1` (no primality argument: `p-1` is a power of `g` whose square is 1); for `p = 2` this is `g^0 = 1`.
    For `p > 2` the argument also shows that `p − 1` is even. -/
theorem expm_half (h : Valid T) :
    T.expm (T.M / 2) = T.p - 1 ∧ T.expm (-(T.M / 2)) = T.p - 1 ∧ (2 < T.p → T.M % 2 = 0) := by
  have hM := M_pos h
  have hMd : T.M = T.p - 1 := rfl
  by_cases hp : 2 < T.p
  · obtain ⟨t0, t1, ht⟩ := h.explog (T.p - 1) (by omega) (by omega)
    generalize T.log (T.p - 1) = t at *
    have hsq : ((T.p - 1) * (T.p - 1)) % T.p = 1 := emod_unique (by omega) (by omega) (T.p - 2) (by ring)
    have h2 : T.expm (t + t) = 1 := by rw [expm_add h, expm_of_range t0 t1, ht, hsq]
    have h3 : (t + t) % T.M = 0 :=
      exp_inj h (emod_canon hM _) ⟨Int.le_refl _, hM⟩
        (by unfold expm at h2; rw [h2, h.exp0])
    have h4 : t + t = T.M := by
      by_cases hc : t + t < T.M
      · rw [Int.emod_eq_of_lt (by omega) hc] at h3
        rw [show t = 0 by omega, h.exp0] at ht; omega
      · rw [emod_unique (by omega) (by omega) 1 (by ring : t + t = (t + t - T.M) + T.M * 1)] at h3; omega
    have hh : T.expm (T.M / 2) = T.p - 1 := by rw [show T.M / 2 = t by omega, expm_of_range t0 t1, ht]
    refine ⟨hh, ?_, fun _ => by omega⟩
    rw [show -(T.M / 2) = T.M / 2 - T.M by omega, (expm_period T _).2]; exact hh
  · rw [show T.M / 2 = 0 by omega, Int.neg_zero, expm_zero h]
    exact ⟨by omega, by omega, fun h => absurd h hp⟩

theorem expm_add_half (h : Valid T) (x : Int) : T.expm (x + T.M / 2) = (-(T.expm x)) % T.p := by
  rw [expm_add h, (expm_half h).1, mul_pm1]

theorem expm_half_shift (h : Valid T) (x : Int) : T.expm (x - T.M / 2) = T.expm (x + T.M / 2) := by
  obtain ⟨hh, hh', _⟩ := expm_half h
  rw [Int.sub_eq_add_neg, expm_add h, expm_add h x, hh, hh']

theorem M_even_or_one (h : Valid T) : T.M / 2 + T.M / 2 = T.M ∨ T.M = 1 := by
  have hp := h.p2
  have hMd : T.M = T.p - 1 := rfl
  by_cases hp2 : 2 < T.p
  · have := (expm_half h).2.2 hp2; omega
  · omega

theorem val_nonzero {a : Int} (h0 : 0 ≤ a) (h1 : a < T.M) : T.val a = T.expm a := by
  unfold val; rw [if_neg (by unfold M at h1; omega), expm_of_range h0 h1]

theorem val_Z (h : Valid T) : T.val T.Z = 0 := by
  unfold val; rw [if_pos (by have := h.p2; unfold Z; omega)]

theorem val_range (h : Valid T) {a : Int} (ha : T.okR a) : 0 ≤ T.val a ∧ T.val a < T.p := by
  rcases ha with ha | ha
  · rw [val_nonzero ha.1 ha.2]
    have := expm_range h a
    exact ⟨by omega, this.2⟩
  · rw [ha, val_Z h]; have := h.p2; exact ⟨Int.le_refl _, by omega⟩

theorem expm_emod (T : L16) (x : Int) : T.expm (x % T.M) = T.expm x := by
  unfold expm; rw [Int.emod_emod_of_dvd _ (Int.dvd_refl _)]

theorem expm_canon (h : Valid T) (x : Int) : T.expm x % T.p = T.expm x := by
  have := expm_range h x
  exact Int.emod_eq_of_lt (by omega) this.2

theorem mulT_mod (h : Valid T) {j : Int} (h0 : 0 ≤ j) (h1 : j < T.Z) :
    T.mulT j = j % T.M ∧ 0 ≤ T.mulT j ∧ T.mulT j < T.M := by
  have hM := M_pos h
  have hZ : T.Z = 2 * T.M := rfl
  unfold mulT
  split
  · rw [Int.emod_eq_of_lt h0 (by assumption)]; omega
  · rw [emod_unique (by omega) (by omega) 1 (by ring : j = (j - T.M) + T.M * 1)]; omega

theorem mulT_big (h : Valid T) {j : Int} (h1 : T.Z ≤ j) : T.mulT j = T.Z := by
  have hM := M_pos h
  have : T.Z = 2 * T.M := rfl
  unfold mulT
  rw [if_neg (by omega), if_neg (by omega)]

/-- `_tab_mul[j]` below `zero`: the representation of `g^j` -/
theorem val_mulT (h : Valid T) {j : Int} (h0 : 0 ≤ j) (h1 : j < T.Z) :
    T.okR (T.mulT j) ∧ T.val (T.mulT j) = T.expm j := by
  obtain ⟨e, m0, m1⟩ := mulT_mod h h0 h1
  exact ⟨Or.inl ⟨m0, m1⟩, by rw [val_nonzero m0 m1, e, expm_emod]⟩

theorem val_mulT_zero (h : Valid T) {j : Int} (h1 : T.Z ≤ j) : T.okR (T.mulT j) ∧ T.val (T.mulT j) = 0 := by
  rw [mulT_big h h1]; exact ⟨Or.inr rfl, val_Z h⟩

theorem mulT_id {e : Int} (h1 : e < T.M) : T.mulT e = e := by
  unfold mulT; rw [if_pos h1]

/-- `_tab_value2rep` inverts `val` on the residues -/
theorem _root_.Givaro.Model.ModRing.log16_val_log (T : L16) (h : T.Valid) (r : Int) (hr : 0 ≤ r ∧ r < T.p) :
    T.okR (T.log r) ∧ T.val (T.log r) = r := by
  have hp := h.p2
  have hMd : T.M = T.p - 1 := rfl
  by_cases h0 : r = 0
  · subst h0; rw [h.log0]; exact ⟨Or.inr rfl, val_Z h⟩
  · obtain ⟨t0, t1, ht⟩ := h.explog r (by omega) hr.2
    refine ⟨Or.inl ⟨t0, t1⟩, ?_⟩
    unfold val; rw [if_neg (by omega), ht]

theorem mul_exact (h : Valid T) {a b : Int} (ha : T.okR a) (hb : T.okR b) :
    T.okR (T.mul a b) ∧ T.val (T.mul a b) = (T.val a * T.val b) % T.p := by
  have hM := M_pos h
  have hZ : T.Z = 2 * T.M := rfl
  unfold mul
  rcases ha with ha | ha <;> rcases hb with hb | hb
  · obtain ⟨ok, hv⟩ := val_mulT h (by omega : 0 ≤ a + b) (by omega)
    exact ⟨ok, by rw [hv, val_nonzero ha.1 ha.2, val_nonzero hb.1 hb.2, expm_add h]⟩
  · obtain ⟨ok, hv⟩ := val_mulT_zero h (by omega : T.Z ≤ a + b)
    exact ⟨ok, by rw [hv, hb, val_Z h]; simp⟩
  · obtain ⟨ok, hv⟩ := val_mulT_zero h (by omega : T.Z ≤ a + b)
    exact ⟨ok, by rw [hv, ha, val_Z h]; simp⟩
  · obtain ⟨ok, hv⟩ := val_mulT_zero h (by omega : T.Z ≤ a + b)
    exact ⟨ok, by rw [hv, ha, val_Z h]; simp⟩

/-- inv / invin (non-zero operand): `_tab_div[-b]` -/
theorem inv_exact (h : Valid T) {b : Int} (hb : 0 ≤ b ∧ b < T.M) :
    (0 ≤ T.inv b ∧ T.inv b < T.M) ∧ (T.val (T.inv b) * T.val b) % T.p = 1 % T.p := by
  have hM := M_pos h
  have hZ : T.Z = 2 * T.M := rfl
  have hp := h.p2
  unfold inv
  refine ⟨(mulT_mod h (by omega : 0 ≤ T.M - b) (by omega)).2, ?_⟩
  rw [(val_mulT h (by omega : 0 ≤ T.M - b) (by omega)).2, val_nonzero hb.1 hb.2, ← expm_add h,
    show T.M - b + b = T.M by ring, expm_M h]
  exact (Int.emod_eq_of_lt (by omega) (by omega)).symm

/-- div (non-zero divisor): `_tab_div[a - b]` -/
theorem div_exact (h : Valid T) {a b : Int} (ha : T.okR a) (hb : 0 ≤ b ∧ b < T.M) :
    T.okR (T.div a b) ∧ (T.val (T.div a b) * T.val b) % T.p = T.val a % T.p := by
  have hM := M_pos h
  have hZ : T.Z = 2 * T.M := rfl
  unfold div
  rcases ha with ha | ha
  · obtain ⟨ok, hv⟩ := val_mulT h (by omega : 0 ≤ T.M + (a - b)) (by omega)
    refine ⟨ok, ?_⟩
    rw [hv, val_nonzero hb.1 hb.2, val_nonzero ha.1 ha.2, ← expm_add h,
      show T.M + (a - b) + b = a + T.M by ring, (expm_period T a).1]
    exact (expm_canon h a).symm
  · obtain ⟨ok, hv⟩ := val_mulT_zero h (by omega : T.Z ≤ T.M + (a - b))
    exact ⟨ok, by rw [hv, ha, val_Z h]; simp⟩

/-- neg / negin: `_tab_neg[a] = _tab_mul[(p-1)/2 + a]`, the product with `g^((p-1)/2) = -1` -/
theorem neg_exact (h : Valid T) {a : Int} (ha : T.okR a) :
    T.okR (T.neg a) ∧ T.val (T.neg a) = (-(T.val a)) % T.p := by
  have hM := M_pos h
  obtain ⟨ok, hv⟩ := mul_exact h (Or.inl ⟨by omega, by omega⟩ : T.okR (T.M / 2)) ha
  exact ⟨ok, by rw [← mul_pm1, Int.mul_comm, ← (expm_half h).1, ← val_nonzero (by omega) (by omega)]; exact hv⟩

/-- `plusOne e` is the table entry `log(1 + g^e)` for an exponent in `[0, M)`; `_tab_addone[j]`, `_tab_subone[j]` below hold `log(1 ± g^j)` for a
    difference of logarithms `j ∈ (−M, M)` -/
theorem plusOne_spec (h : Valid T) {e : Int} (he : 0 ≤ e ∧ e < T.M) :
    T.okR (T.plusOne e) ∧ T.val (T.plusOne e) = (1 + T.expm e) % T.p := by
  have hMd : T.M = T.p - 1 := rfl
  have hr := h.range e he.1 he.2
  rw [expm_of_range he.1 he.2]
  unfold plusOne
  split
  · rw [Int.emod_eq_of_lt (by omega) (by omega)]; exact log16_val_log T h _ ⟨by omega, by omega⟩
  · rw [show 1 + T.exp e = T.p by omega, Int.emod_self]; exact log16_val_log T h _ ⟨Int.le_refl _, by omega⟩

theorem addone_spec (h : Valid T) {j : Int} (h0 : -T.M < j) (h1 : j < T.M) :
    T.okR (T.addone j) ∧ T.val (T.addone j) = (1 + T.expm j) % T.p := by
  have hM := M_pos h
  obtain ⟨hh, hh', _⟩ := expm_half h
  unfold addone
  split
  · next hj =>
    have : T.expm j = T.p - 1 := by rcases hj with hj | hj <;> rw [hj] <;> assumption
    rw [this, show 1 + (T.p - 1) = T.p by ring, Int.emod_self]
    exact ⟨Or.inr rfl, val_Z h⟩
  · split
    · next hr => exact plusOne_spec h hr
    · rw [if_pos (by omega), ← (expm_period T j).1]
      exact plusOne_spec h (by omega)

theorem subone_spec (h : Valid T) {j : Int} (h0 : -T.M < j) (h1 : j < T.M) :
    T.okR (T.subone j) ∧ T.val (T.subone j) = (1 - T.expm j) % T.p := by
  have hM := M_pos h
  have hE := M_even_or_one h
  have e : (1 - T.expm j) % T.p = (1 + T.expm (j + T.M / 2)) % T.p := by
    rw [expm_add_half h, Int.add_emod_emod, Int.sub_eq_add_neg]
  rw [e]
  unfold subone
  split
  · exact addone_spec h (by omega) (by omega)
  · split
    · rw [← expm_half_shift h]; exact addone_spec h (by omega) (by omega)
    · rw [if_pos (by omega), ← (expm_period T (j + T.M / 2)).1]; exact addone_spec h (by omega) (by omega)

theorem add_exact (h : Valid T) {a b : Int} (ha : T.okR a) (hb : T.okR b) :
    T.okR (T.add a b) ∧ T.val (T.add a b) = (T.val a + T.val b) % T.p := by
  have hM := M_pos h
  have hZ : T.Z = 2 * T.M := rfl
  rcases ha with ha | ha <;> rcases hb with hb | hb
  · -- both non-zero: `add a b` is `mul a (addone (b − a))` by definition, and `g^a + g^b = g^a·(1 + g^(b−a))`
    obtain ⟨okz, hz⟩ := addone_spec h (by omega : -T.M < b - a) (by omega)
    obtain ⟨ok, hv⟩ := mul_exact h (Or.inl ha) okz
    refine ⟨ok, hv.trans ?_⟩
    rw [hz, val_nonzero ha.1 ha.2, val_nonzero hb.1 hb.2, mul_emod_right, Int.mul_add, Int.mul_one, ← Int.add_emod_emod,
      ← expm_add h]
    congr 3; ring
  · -- b = 0: `_tab_addone` is 0 above `_pmone`
    rw [hb, val_Z h]
    unfold add addone
    rw [if_neg (by omega), if_neg (by omega), if_neg (by omega), if_pos (by omega), Int.add_zero, mulT_id ha.2]
    exact ⟨Or.inl ha, by rw [val_nonzero ha.1 ha.2, Int.add_zero, expm_canon h]⟩
  · -- a = 0: `_tab_addone[j] = j` far below, so the index is `b` again
    rw [ha, val_Z h]
    unfold add addone
    rw [if_neg (by omega), if_neg (by omega), if_neg (by omega), if_neg (by omega),
      show T.Z + (b - T.Z) = b by ring, mulT_id hb.2]
    exact ⟨Or.inl hb, by rw [val_nonzero hb.1 hb.2, Int.zero_add, expm_canon h]⟩
  · -- 0 + 0: whatever representation the table holds at 0 is non-negative, and `zero` absorbs it
    rw [ha, hb, val_Z h]
    obtain ⟨okz, _⟩ := addone_spec h (by omega : -T.M < T.Z - T.Z) (by omega)
    have hnn : 0 ≤ T.addone (T.Z - T.Z) := by rcases okz with hz | hz <;> omega
    obtain ⟨ok, hv⟩ := val_mulT_zero h (by omega : T.Z ≤ T.Z + T.addone (T.Z - T.Z))
    exact ⟨ok, hv.trans (by simp)⟩

theorem sub_exact (h : Valid T) {a b : Int} (ha : T.okR a) (hb : T.okR b) :
    T.okR (T.sub a b) ∧ T.val (T.sub a b) = (T.val a - T.val b) % T.p := by
  have hM := M_pos h
  have hZ : T.Z = 2 * T.M := rfl
  have hE := M_even_or_one h
  rcases ha with ha | ha <;> rcases hb with hb | hb
  · -- both non-zero: `sub a b` is `mul a (subone (b − a))`, and `g^a − g^b = g^a·(1 − g^(b−a))`
    obtain ⟨okz, hz⟩ := subone_spec h (by omega : -T.M < b - a) (by omega)
    obtain ⟨ok, hv⟩ := mul_exact h (Or.inl ha) okz
    refine ⟨ok, hv.trans ?_⟩
    rw [hz, val_nonzero ha.1 ha.2, val_nonzero hb.1 hb.2, mul_emod_right, Int.mul_sub, Int.mul_one, ← Int.sub_emod_emod,
      ← expm_add h]
    congr 3; ring
  · -- b = 0
    rw [hb, val_Z h]
    unfold sub subone
    rw [if_neg (by omega), if_neg (by omega), if_neg (by omega), if_neg (by omega), if_neg (by omega),
      Int.add_zero, mulT_id ha.2]
    exact ⟨Or.inl ha, by rw [val_nonzero ha.1 ha.2, Int.sub_zero, expm_canon h]⟩
  · -- a = 0: the representation of -g^b is b ± (p-1)/2
    rw [ha, val_Z h, val_nonzero hb.1 hb.2, Int.zero_sub, ← expm_add_half h]
    unfold sub subone
    rw [if_neg (by omega), if_neg (by omega), if_neg (by omega)]
    split
    · rw [show T.Z + (b - T.Z - T.M / 2) = b - T.M / 2 by ring, ← expm_half_shift h b]
      exact val_mulT h (by omega) (by omega)
    · rw [if_pos (by omega), show T.Z + (b - T.Z + T.M / 2) = b + T.M / 2 by ring]
      exact val_mulT h (by omega) (by omega)
  · -- 0 − 0
    rw [ha, hb, val_Z h]
    obtain ⟨okz, _⟩ := subone_spec h (by omega : -T.M < T.Z - T.Z) (by omega)
    have hnn : 0 ≤ T.subone (T.Z - T.Z) := by rcases okz with hz | hz <;> omega
    obtain ⟨ok, hv⟩ := val_mulT_zero h (by omega : T.Z ≤ T.Z + T.subone (T.Z - T.Z))
    exact ⟨ok, hv.trans (by simp)⟩

end L16

end Givaro.Model.ModRing
