/-
C17 — monotonicity of the abstract store: identifiers only grow, a released block is never revived, the number of cells
of a block never changes.  Here: the relation, its closure under `if` and sequencing, and the state changes the operations
are made of (on every state, no invariant needed).  An operation on a well-formed state is a sequence of these changes, so it
gets `Mono` as a field of `Good` (`Array0Ops.lean`); `mono_logcopy` is the same fact for `logcopy` on every state (nothing rests on it).
-/
import GivaroModel.Model.Array0
namespace Givaro.Model.Array0
variable {α : Type}

structure Mono (s s' : State α) : Prop where
  dn : s.dnext ≤ s'.dnext
  cn : s.cnext ≤ s'.cnext
  dd : ∀ b, b < s.dnext → s'.dlive b = true → s.dlive b = true
  cd : ∀ c, c < s.cnext → s'.clive c = true → s.clive c = true
  len : ∀ b, b < s.dnext → (s'.ddata b).length = (s.ddata b).length

theorem Mono.refl (s : State α) : Mono s s := ⟨Nat.le_refl _, Nat.le_refl _, fun _ _ h => h, fun _ _ h => h, fun _ _ => rfl⟩

theorem Mono.trans {s s' s'' : State α} (a : Mono s s') (b : Mono s' s'') : Mono s s'' :=
  ⟨Nat.le_trans a.dn b.dn, Nat.le_trans a.cn b.cn,
   fun x hx h => a.dd x hx (b.dd x (Nat.lt_of_lt_of_le hx a.dn) h),
   fun x hx h => a.cd x hx (b.cd x (Nat.lt_of_lt_of_le hx a.cn) h),
   fun x hx => (b.len x (Nat.lt_of_lt_of_le hx a.dn)).trans (a.len x hx)⟩

theorem Mono.ite {s a b : State α} {c : Prop} [Decidable c] (ha : Mono s a) (hb : Mono s b) : Mono s (if c then a else b) := by
  split
  · exact ha
  · exact hb

/-- `t` is an intermediate state and `u` what follows it unless `t` has faulted -/
theorem Mono.seq {s t u : State α} (ht : Mono s t) (hu : Mono t u) : Mono s (if t.fault then t else u) :=
  Mono.ite ht (ht.trans hu)

theorem mono_same_store {s s' : State α} (dn : s'.dnext = s.dnext) (cn : s'.cnext = s.cnext) (dl : s'.dlive = s.dlive)
    (cl : s'.clive = s.clive) (dd : s'.ddata = s.ddata) : Mono s s' :=
  ⟨Nat.le_of_eq dn.symm, Nat.le_of_eq cn.symm, fun _ _ q => by rwa [dl] at q, fun _ _ q => by rwa [cl] at q, fun _ _ => by rw [dd]⟩

theorem mono_faulted (s : State α) : Mono s (faulted s) := mono_same_store rfl rfl rfl rfl rfl
theorem mono_setH (s : State α) (h : Nat) (H : Handle) : Mono s (setH s h H) := mono_same_store rfl rfl rfl rfl rfl

theorem mono_destroy (s : State α) (h : Nat) : Mono s (destroy s h) := by
  unfold destroy; dsimp only
  refine Mono.ite (mono_setH _ _ _) ?_
  split
  · exact mono_faulted s
  · refine Mono.ite (mono_faulted s) (Mono.ite ?_ (mono_same_store rfl rfl rfl rfl rfl))
    split
    · exact mono_faulted s
    · exact Mono.ite (mono_faulted s) ⟨Nat.le_refl _, Nat.le_refl _, fun _ _ q => (upd_false_true q).2,
        fun _ _ q => (upd_false_true q).2, fun _ _ => rfl⟩

theorem mono_attachFresh (s : State α) (h : Nat) (l : List α) (sz : Nat) : Mono s (attachFresh s h l sz) :=
  ⟨Nat.le_succ _, Nat.le_succ _,
   fun b hb q => by
     have q' : upd s.dlive s.dnext true b = true := q
     rw [upd_other _ _ _ _ (by omega)] at q'; exact q',
   fun c hc q => by
     have q' : upd s.clive s.cnext true c = true := q
     rw [upd_other _ _ _ _ (by omega)] at q'; exact q',
   fun b hb => by
     show (upd s.ddata s.dnext l b).length = _
     rw [upd_other _ _ _ _ (by omega)]⟩

theorem mono_attachShare (s : State α) (h g : Nat) : Mono s (attachShare s h g) := by
  unfold attachShare; dsimp only
  refine Mono.ite ?_ (mono_setH _ _ _)
  split
  · exact mono_faulted s
  · exact Mono.ite (mono_faulted s) (mono_same_store rfl rfl rfl rfl rfl)

theorem mono_setData (s : State α) (b : Nat) (l : List α) (hl : l.length = (s.ddata b).length) :
    Mono s ({ s with ddata := upd s.ddata b l } : State α) := by
  refine ⟨Nat.le_refl _, Nat.le_refl _, fun _ _ q => q, fun _ _ q => q, fun x _ => ?_⟩
  show (upd s.ddata b l x).length = _
  unfold upd; split
  · rename_i e; rw [e, hl]
  · rfl

theorem mono_logcopy (s : State α) (h g : Nat) : Mono s (logcopy s h g) :=
  Mono.ite (Mono.refl s) (Mono.seq (mono_destroy s h) (mono_attachShare _ _ _))

end Givaro.Model.Array0
