/- C06 helper lemmas: the ruadd.h family is exact (value and carry), for every level. -/
import GivaroModel.Lemmas.RecIntBasic
namespace Givaro.Model.RecInt

/-! ### wrap-around addition on numbers: the carry shows as the sum falling below an operand -/
-- the same test on integers: `ModRing.add_wrap` (ModRingLemmas), `carry_csub` (WordLemmas)
theorem add_wrap {M X Y : Nat} (hX : X < M) (hY : Y < M) :
    (X + Y) % M + c2n (decide ((X + Y) % M < X)) * M = X + Y ∧ ((X + Y) % M < Y ↔ (X + Y) % M < X) := by
  rw [c2n_decide]
  by_cases h : X + Y < M
  · rw [Nat.mod_eq_of_lt h, if_neg (by omega)]; omega
  · rw [Nat.mod_eq_sub_mod (by omega), Nat.mod_eq_of_lt (by omega), if_pos (by omega)]; omega

theorem add_wrap_succ {M X Y : Nat} (hX : X < M) (hY : Y < M) :
    ((X + Y) % M + 1) % M + c2n (decide (((X + Y) % M + 1) % M ≤ X)) * M = X + Y + 1 := by
  rw [Nat.mod_add_mod, c2n_decide]
  by_cases h : X + Y + 1 < M
  · rw [Nat.mod_eq_of_lt h, if_neg (by omega)]; omega
  · rw [Nat.mod_eq_sub_mod (by omega), Nat.mod_eq_of_lt (by omega), if_pos (by omega)]; omega

theorem add_ss_val (ah al bh bl : Nat) :
    val (mk1 (add_ss ah al bh bl)) = (al + B64 * ah + bl + B64 * bh) % (B64 * B64) ∧ WF (mk1 (add_ss ah al bh bl)) := by
  rw [val_mk1, WF_mk1]; simp only [add_ss, B64]; omega

theorem mk1_eta (bl bh : Nat) : (RU.node (.limb bl) (.limb bh) : RU 1) = mk1 (bh, bl) := rfl

theorem add_ss_node (bl bh cl ch : Nat) :
    WF (mk1 (add_ss bh bl ch cl)) ∧
    val (mk1 (add_ss bh bl ch cl)) = (val (RU.node (.limb bl) (.limb bh)) + val (RU.node (.limb cl) (.limb ch))) % Bn 1 := by
  refine ⟨(add_ss_val bh bl ch cl).2, ?_⟩
  rw [(add_ss_val bh bl ch cl).1, Bn_one]
  simp only [val, Bn_zero, Nat.add_assoc]

theorem add_ss_one (p : Nat × Nat) : WF (mk1 (add_ss p.1 p.2 0 1)) ∧ val (mk1 (add_ss p.1 p.2 0 1)) = (val (mk1 p) + 1) % Bn 1 := by
  refine ⟨(add_ss_val p.1 p.2 0 1).2, ?_⟩
  rw [(add_ss_val p.1 p.2 0 1).1, Bn_one, val_mk1, Nat.mul_zero, Nat.add_zero]

/-- the statement every carry-producing addition satisfies -/
def AddOk {n : Nat} (r : RU n × Bool) (s : Nat) : Prop := WF r.1 ∧ val r.1 + c2n r.2 * Bn n = s

theorem AddOk.node {n : Nat} {p q : RU n × Bool} {sl sh s : Nat} (hp : AddOk p sl) (hq : AddOk q (sh + c2n p.2))
    (hs : s = sl + Bn n * sh) : AddOk (RU.node p.1 q.1, q.2) s := by
  refine ⟨⟨hp.1, hq.1⟩, ?_⟩
  rw [hs, val_node, Bn_succ]
  linear_combination hp.2 + Bn n * hq.2

theorem AddOk.digits {n : Nat} {r : RU (n+1) × Bool} {s : Nat} (h : AddOk r s) :
    WF (lo r.1) ∧ WF (hi r.1) ∧ val (lo r.1) + Bn n * val (hi r.1) + c2n r.2 * (Bn n * Bn n) = s := by
  obtain ⟨hl, hh, hv⟩ := h.1.digits
  exact ⟨hl, hh, by rw [← hv, ← Bn_succ]; exact h.2⟩

theorem AddOk.exact {n : Nat} {r : RU n × Bool} {s : Nat} (h : AddOk r s) :
    val r.1 = s % Bn n ∧ c2n r.2 = s / Bn n :=
  have u := (Nat.div_mod_unique (Bn_pos n)).mpr ⟨(Nat.mul_comm _ _ ▸ h.2 : val r.1 + Bn n * c2n r.2 = s), val_lt _ h.1⟩
  ⟨u.2.symm, u.1.symm⟩

theorem add_wc_ok : ∀ {n : Nat} (b c : RU n) (cy : Bool), WF b → WF c →
    AddOk (add_wc b c cy) (val b + val c + c2n cy)
  | 0, .limb b, .limb c, cy, hb, hc => by
      have hB : 0 < B64 := by decide
      unfold AddOk; rw [Bn_zero]
      cases cy <;> simp only [add_wc, val, WF, c2n_true, c2n_false, ↓reduceIte, Bool.false_eq_true]
      · exact ⟨Nat.mod_lt _ hB, (add_wrap hb hc).1⟩
      · exact ⟨Nat.mod_lt _ hB, add_wrap_succ hb hc⟩
  | 1, .node (.limb bl) (.limb bh), .node (.limb cl) (.limb ch), cy, hb, hc => by
      obtain ⟨hsw, hse⟩ := add_ss_node bl bh cl ch
      obtain ⟨hs'w, hs'e⟩ := add_ss_one (add_ss bh bl ch cl)
      unfold AddOk
      cases cy <;> simp only [add_wc, ← mk1_eta, c2n_true, c2n_false, ↓reduceIte, Bool.false_eq_true]
      · simp only [cmp_lt _ _ hsw hb, hse]
        exact ⟨hsw, (add_wrap (val_lt _ hb) (val_lt _ hc)).1⟩
      · simp only [cmp_le _ _ hs'w hb, hs'e, hse]
        exact ⟨hs'w, add_wrap_succ (val_lt _ hb) (val_lt _ hc)⟩
  | n+2, .node bl bh, .node cl ch, cy, hb, hc => by
      simp only [add_wc]
      exact (add_wc_ok bl cl cy hb.1 hc.1).node (add_wc_ok bh ch _ hb.2 hc.2) (by simp only [val_node]; ring)

theorem add_eq_add_wc : ∀ {n : Nat} (b c : RU n), add b c = add_wc b c false
  | 0, .limb b, .limb c => by simp only [add, add_wc, Bool.false_eq_true, ↓reduceIte]
  | 1, .node (.limb bl) (.limb bh), .node (.limb cl) (.limb ch) => by simp only [add, add_wc, Bool.false_eq_true, ↓reduceIte]
  | n+2, .node bl bh, .node cl ch => by simp only [add, add_wc, add_eq_add_wc bl cl]

theorem add_ok {n : Nat} (b c : RU n) (hb : WF b) (hc : WF c) : AddOk (add b c) (val b + val c) := by
  rw [add_eq_add_wc]; exact add_wc_ok b c false hb hc

theorem ofLimb1_val (c : Nat) (hc : c < B64) : WF (RU.node (.limb c) (.limb 0) : RU 1) ∧ val (RU.node (.limb c) (.limb 0) : RU 1) = c := by
  simp only [WF, val, Nat.mul_zero, Nat.add_zero, hc, true_and]; decide

theorem add_l_ok : ∀ {n : Nat} (b : RU n) (c : Nat), WF b → c < B64 → AddOk (add_l b c) (val b + c)
  | 0, .limb b, c, hb, hc => by
      unfold AddOk; rw [Bn_zero]
      simp only [add_l, val, WF]
      refine ⟨Nat.mod_lt _ (by decide), ?_⟩
      rw [decide_eq_decide.mpr (add_wrap hb hc).2]
      exact (add_wrap hb hc).1
  | 1, .node (.limb bl) (.limb bh), c, hb, hc => by
      obtain ⟨hcw, hce⟩ := ofLimb1_val c hc
      obtain ⟨hsw, hse⟩ := add_ss_node bl bh c 0
      have hY : c < Bn 1 := by rw [← hce]; exact val_lt _ hcw
      rw [hce] at hse
      unfold AddOk
      simp only [add_l]
      simp only [cmp_l_lt _ _ hsw hc, hse, decide_eq_decide.mpr (add_wrap (val_lt _ hb) hY).2]
      exact ⟨hsw, (add_wrap (val_lt _ hb) hY).1⟩
  | n+2, .node bl bh, c, hb, hc => by
      have hc2 : c2n (add_l bl c).2 < B64 := Nat.lt_of_le_of_lt (c2n_le _) (by decide)
      simp only [add_l]
      exact (add_l_ok bl c hb.1 hc).node (sh := val bh) (add_l_ok bh (c2n (add_l bl c).2) hb.2 hc2) (by simp only [val_node]; ring)

theorem add_1_eq_add_l : ∀ {n : Nat} (b : RU n), add_1 b = add_l b 1
  | 0, .limb b => by
      simp only [add_1, add_l]
      exact congrArg _ (decide_eq_decide.mpr Nat.lt_one_iff.symm)
  | 1, .node (.limb bl) (.limb bh) => by
      simp only [add_1, add_l]
      refine congrArg _ ?_
      rw [Bool.eq_iff_iff, isZero_iff, decide_eq_true_eq, cmp_l_lt _ _ (add_ss_val bh bl 0 1).2 (by decide), Nat.lt_one_iff]
  | n+2, .node bl bh => by simp only [add_1, add_l, add_1_eq_add_l bl]

theorem add_1_ok {n : Nat} (b : RU n) (hb : WF b) : AddOk (add_1 b) (val b + 1) := by
  rw [add_1_eq_add_l]; exact add_l_ok b 1 hb (by decide)

theorem add_wcNC_eq : ∀ {n : Nat} (b c : RU n) (cy : Bool), add_wcNC b c cy = (add_wc b c cy).1
  | 0, .limb b, .limb c, cy => by
      cases cy <;> simp only [add_wcNC, add_wc, ↓reduceIte, Bool.false_eq_true, Nat.add_zero]
      rw [Nat.mod_add_mod]
  | 1, .node (.limb bl) (.limb bh), .node (.limb cl) (.limb ch), cy => by
      cases cy <;> simp only [add_wcNC, add_wc, ↓reduceIte, Bool.false_eq_true]
  | n+2, .node bl bh, .node cl ch, cy => by
      simp only [add_wcNC, add_wc, add_wcNC_eq bh ch]

theorem addNC_eq : ∀ {n : Nat} (b c : RU n), addNC b c = (add b c).1
  | 0, .limb b, .limb c => by simp only [addNC, add]
  | 1, .node (.limb bl) (.limb bh), .node (.limb cl) (.limb ch) => by simp only [addNC, add]
  | n+2, .node bl bh, .node cl ch => by
      simp only [addNC, add, add_wcNC_eq bh ch]

end Givaro.Model.RecInt
