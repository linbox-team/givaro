/- C12 — lemmas about the model of `Miller` / `test_Lehmann` / `Lehmann` (Model/PrimesMR.lean): the loops as closed formulas,
   the residues the code compares (`x % N = 1`, `x % N = N - 1`) as equations in `ZMod N`, "the only square roots of 1 in a
   field are ±1" for the strong test, Euler's criterion for Lehmann. -/
import GivaroModel.Model.PrimesMR
import GivaroModel.Lemmas.GmpLemmas
import GivaroModel.Lemmas.PrimesStrip
import Mathlib.FieldTheory.Finite.Basic
import Mathlib.NumberTheory.LegendreSymbol.Basic
namespace Givaro.Lemmas.Primes
open Givaro Givaro.Model.Primes

theorem millerSplit_eq {t : Nat} (ht : t % 2 = 1) : ∀ (s fuel s0 : Nat), t * 2 ^ s < fuel →
    millerSplit fuel (t * 2 ^ s) s0 = (t, s0 + s)
  | 0, f + 1, s0, _ => by rw [pow_zero, Nat.mul_one, millerSplit, if_pos ht]; rfl
  | s + 1, f + 1, s0, h => by
    obtain ⟨h0, hq, hlt⟩ := strip_step (le_refl 2) (r := t) (by omega) s
    rw [millerSplit, if_neg (by omega), hq, millerSplit_eq ht s f (s0 + 1) (by omega), Nat.add_right_comm, Nat.add_assoc]

theorem millerSquares_01 (N s q : Nat) : millerSquares N s q = 0 ∨ millerSquares N s q = 1 := by
  fun_induction millerSquares N s q with
  | case1 => exact Or.inl rfl
  | case2 => exact Or.inl rfl
  | case3 => exact Or.inr rfl
  | case4 s q q' h ih => exact ih

theorem millerSquares_iff (N s x : Nat) :
    millerSquares N s (x % N) = 1 ↔ ∃ r, 1 ≤ r ∧ r < s ∧ x ^ (2 ^ r) % N = N - 1 := by
  -- the exponents `2^(r+1)` of `x` are the exponents `2^r` of `x^2`
  have hpow : ∀ (x r : Nat), x ^ 2 ^ (r + 1) = (x ^ 2) ^ 2 ^ r := fun x r => by rw [← pow_mul, pow_succ, Nat.mul_comm]
  generalize hq : x % N = q
  fun_induction millerSquares N s q generalizing x with
  | case1 => simp
  | case2 => exact iff_of_false (by decide) fun ⟨r, h1, h2, _⟩ => by omega
  | case3 s q q' h =>
    have h' : x ^ 2 % N = N - 1 := by rw [pow_two, Nat.mul_mod, hq]; exact h
    exact iff_of_true rfl ⟨1, le_refl _, by omega, by simpa using h'⟩
  | case4 s q q' h ih =>
    have h' : x ^ 2 % N = q' := by rw [pow_two, Nat.mul_mod, hq]
    refine (ih (x ^ 2) h').trans ⟨?_, ?_⟩
    · rintro ⟨r, h1, h2, h3⟩
      exact ⟨r + 1, by omega, by omega, by rw [hpow]; exact h3⟩
    · rintro ⟨r, h1, h2, h3⟩
      obtain ⟨r', rfl⟩ := Nat.exists_eq_succ_of_ne_zero (by omega : r ≠ 0)
      rw [hpow] at h3
      have hr : r' ≠ 0 := fun h0 => h (by simpa [h0, h'] using h3)
      exact ⟨r', by omega, by omega, h3⟩

theorem millerBase_iff (n a : Int) (t s : Nat) (hn : 4 ≤ n) (ht : t % 2 = 1) (hN : n.toNat - 1 = t * 2 ^ s) :
    millerBase n a = 1 ↔
      (a.toNat ^ t % n.toNat = 1 ∨ a.toNat ^ t % n.toNat = n.toNat - 1 ∨
        ∃ r, 1 ≤ r ∧ r < s ∧ a.toNat ^ (t * 2 ^ r) % n.toNat = n.toNat - 1) := by
  unfold millerBase
  rw [if_neg (by omega), if_neg (by omega)]
  have h4 : 4 ≤ n.toNat := by omega
  generalize n.toNat = N at hN h4 ⊢
  generalize a.toNat = A
  have hs : millerSplit N (N - 1) 0 = (t, s) := by
    have := millerSplit_eq ht s N 0 (by omega)
    rwa [← hN, Nat.zero_add] at this
  simp only [hs, powModNat_spec A t N (by omega)]
  by_cases h1 : A ^ t % N = 1
  · simp [h1]
  by_cases h2 : A ^ t % N = N - 1
  · simp [h2]
  simp only [h1, h2, false_or, ↓reduceIte, millerSquares_iff N s (A ^ t), pow_mul]

theorem exists_odd_split (N : Nat) (h : 2 ≤ N) : ∃ t s, t % 2 = 1 ∧ N - 1 = t * 2 ^ s := by
  obtain ⟨t, s, ht, hts⟩ := exists_split (le_refl 2) (show 0 < N - 1 by omega)
  exact ⟨t, s, by omega, hts⟩

theorem two_adic_pos {N t s : Nat} (hodd : N % 2 = 1) (h2 : 2 ≤ N) (ht : t % 2 = 1) (hN : N - 1 = t * 2 ^ s) : 1 ≤ s := by
  rcases Nat.eq_zero_or_pos s with h0 | h0
  · subst h0; simp at hN; omega
  · exact h0

theorem natCast_pred_eq_neg_one (N : Nat) (h : 1 ≤ N) : ((N - 1 : Nat) : ZMod N) = -1 := by
  rw [Nat.cast_sub h, ZMod.natCast_self, Nat.cast_one, zero_sub]

theorem zmod_eq_one_iff (N x : Nat) (h : 2 ≤ N) : (x : ZMod N) = 1 ↔ x % N = 1 := by
  have : (x : ZMod N) = ((1 : Nat) : ZMod N) ↔ x % N = 1 % N := ZMod.natCast_eq_natCast_iff' x 1 N
  rwa [Nat.mod_eq_of_lt (by omega : 1 < N), Nat.cast_one] at this

theorem zmod_eq_neg_one_iff (N x : Nat) (h : 2 ≤ N) : (x : ZMod N) = -1 ↔ x % N = N - 1 := by
  have : (x : ZMod N) = ((N - 1 : Nat) : ZMod N) ↔ x % N = (N - 1) % N := ZMod.natCast_eq_natCast_iff' x (N - 1) N
  rwa [Nat.mod_eq_of_lt (by omega : N - 1 < N), natCast_pred_eq_neg_one N (by omega)] at this

theorem zmod_natCast_ne_zero {N a : Nat} (ha : a % N ≠ 0) : (a : ZMod N) ≠ 0 :=
  fun h0 => ha (Nat.mod_eq_zero_of_dvd ((ZMod.natCast_eq_zero_iff a N).1 h0))

theorem strong_iff_zmod (N a t s : Nat) (h2 : 2 ≤ N) (hs : 1 ≤ s) :
    (a ^ t % N = 1 ∨ a ^ t % N = N - 1 ∨ ∃ r, 1 ≤ r ∧ r < s ∧ a ^ (t * 2 ^ r) % N = N - 1) ↔
      ((a : ZMod N) ^ t = 1 ∨ ∃ r, r < s ∧ ((a : ZMod N) ^ t) ^ 2 ^ r = -1) := by
  have e1 : a ^ t % N = 1 ↔ (a : ZMod N) ^ t = 1 := by rw [← zmod_eq_one_iff N _ h2, Nat.cast_pow]
  have em : ∀ r, a ^ (t * 2 ^ r) % N = N - 1 ↔ ((a : ZMod N) ^ t) ^ 2 ^ r = -1 := fun r => by
    rw [← zmod_eq_neg_one_iff N _ h2, Nat.cast_pow, pow_mul]
  have e0 : a ^ t % N = N - 1 ↔ ((a : ZMod N) ^ t) ^ 2 ^ 0 = -1 := by simpa using em 0
  rw [e1, e0]
  refine or_congr_right ⟨?_, ?_⟩
  · rintro (h | ⟨r, _, hr, h⟩)
    · exact ⟨0, by omega, h⟩
    · exact ⟨r, hr, (em r).1 h⟩
  · rintro ⟨r, hr, h⟩
    rcases Nat.eq_zero_or_pos r with rfl | hpos
    · exact Or.inl h
    · exact Or.inr ⟨r, hpos, hr, (em r).2 h⟩

theorem sq_chain {F : Type*} [Field F] : ∀ (s : Nat) (x : F), x ^ (2 ^ s) = 1 → x = 1 ∨ ∃ r, r < s ∧ x ^ (2 ^ r) = -1 := by
  intro s
  induction s with
  | zero => intro x hx; left; simpa using hx
  | succ s ih =>
    intro x hx
    have h2 : (x ^ (2 ^ s)) ^ 2 - 1 = 0 := by rw [← pow_mul, ← pow_succ, hx, sub_self]
    have h3 : (x ^ (2 ^ s) - 1) * (x ^ (2 ^ s) + 1) = 0 := by rw [← h2]; ring
    rcases mul_eq_zero.1 h3 with h | h
    · rcases ih x (sub_eq_zero.1 h) with h' | ⟨r, hr, h'⟩
      · exact Or.inl h'
      · exact Or.inr ⟨r, by omega, h'⟩
    · exact Or.inr ⟨s, by omega, eq_neg_of_add_eq_zero_left h⟩

theorem sq_chain_conv {R : Type*} [Ring R] {x : R} {s : Nat} (h : x = 1 ∨ ∃ r, r < s ∧ x ^ (2 ^ r) = -1) : x ^ (2 ^ s) = 1 := by
  rcases h with rfl | ⟨r, hr, h⟩
  · exact one_pow _
  · obtain ⟨d, rfl⟩ := Nat.exists_eq_add_of_lt hr
    rw [show 2 ^ (r + d + 1) = 2 ^ r * (2 * 2 ^ d) by ring, pow_mul, h, pow_mul, neg_one_sq, one_pow]

theorem euler_residue (N A : Nat) (hp : Nat.Prime N) (h3 : 3 ≤ N) (ha : A % N ≠ 0) :
    (A ^ ((N - 1) / 2) % N = 1 ∧ IsSquare (A : ZMod N)) ∨ (A ^ ((N - 1) / 2) % N = N - 1 ∧ ¬ IsSquare (A : ZMod N)) := by
  have := Fact.mk hp
  have : Fact (2 < N) := ⟨by omega⟩
  have hhalf : (N - 1) / 2 = N / 2 := by have := hp.eq_two_or_odd; omega
  have ha0 := zmod_natCast_ne_zero ha
  rw [hhalf, ← zmod_eq_one_iff N _ (by omega), ← zmod_eq_neg_one_iff N _ (by omega), Nat.cast_pow, ZMod.euler_criterion N ha0]
  rcases ZMod.pow_div_two_eq_neg_one_or_one N ha0 with h | h
  · exact Or.inl ⟨h, h⟩
  · exact Or.inr ⟨h, fun h1 => ZMod.neg_one_ne_one (h.symm.trans h1)⟩

theorem testLehmannBase_eq (n A : Int) (h : 1 ≤ n) :
    testLehmannBase n A = ((A.toNat ^ ((n.toNat - 1) / 2) % n.toNat : Nat) : Int) := by
  unfold testLehmannBase
  have h1 : (Int.tdiv (n - 1) 2).toNat = (n.toNat - 1) / 2 := by
    rw [Int.tdiv_eq_ediv_of_nonneg (by omega)]
    omega
  rw [h1, powModNat_spec _ _ _ (by omega)]

theorem lehmannBase_iff (n A : Int) (h : 4 ≤ n) :
    lehmannBase n A = 1 ↔ A.toNat ^ ((n.toNat - 1) / 2) % n.toNat = n.toNat - 1 := by
  unfold lehmannBase
  rw [if_neg (by omega), if_neg (by omega), testLehmannBase_eq n A (by omega)]
  constructor
  · intro hh
    split at hh <;> omega
  · intro hh
    rw [hh, if_pos (by omega)]

end Givaro.Lemmas.Primes
