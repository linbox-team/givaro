/-
C19 — RecInt: `display_dec` prints the decimal digits; `mpz_to_ruint` is `toPattern` (reduction modulo 2^(2^K));
`mpz_to_rint` is `toSigned ∘ toPattern`, the identity on the range of `rint<K>`.
-/
import GivaroModel.Lemmas.TextLemmas
import Mathlib.Tactic.Ring
namespace Givaro.Lemmas.Text
open Givaro.Model.Text

theorem ruLoop_acc : ∀ (f b : Nat) (acc : List Char), ruLoop f b acc = ruLoop f b [] ++ acc := by
  intro f
  induction f with
  | zero => intro b acc; simp [ruLoop]
  | succ f ih =>
    intro b acc
    simp only [ruLoop]
    split
    · simp
    · rw [ih (b / 10) (digitChar (b % 10) :: acc), ih (b / 10) [digitChar (b % 10)]]; simp

theorem ruLoop_zero (f : Nat) (acc : List Char) : ruLoop f 0 acc = acc := by
  cases f <;> rfl

theorem ruLoop_decDigits : ∀ (f b : Nat), 0 < b → b < 10 ^ f → ruLoop f b [] = decDigits b := by
  intro f
  induction f with
  | zero => intro b h0 h; simp at h; omega
  | succ f ih =>
    intro b h0 h
    simp only [ruLoop, show b ≠ 0 by omega, ↓reduceIte]
    rw [ruLoop_acc]
    by_cases hb : b < 10
    · rw [Nat.div_eq_of_lt hb, ruLoop_zero, List.nil_append, Nat.mod_eq_of_lt hb, decDigits_lt b hb]
    · rw [decDigits_ge b (by omega), ih (b / 10) (by omega) (by rw [Nat.pow_succ] at h; omega)]

/-- fuel `a + 1` (fixes/C19_2.patch) always suffices; the 1024-character buffer of the pinned tree below 10^1024 -/
theorem ruShowGen_eq (pinned : Bool) (a : Nat) (h : pinned = true → a < 10 ^ 1024) : ruShowGen pinned a = decDigits a := by
  by_cases h0 : a = 0
  · subst h0; cases pinned <;> decide
  · simp only [ruShowGen, h0, ↓reduceIte, List.nil_append]
    cases pinned with
    | true => exact ruLoop_decDigits 1024 a (by omega) (h rfl)
    | false =>
      exact ruLoop_decDigits (a + 1) a (by omega)
        (Nat.lt_of_lt_of_le (Nat.lt_pow_self (by decide)) (Nat.pow_le_pow_right (by decide) (Nat.le_succ a)))

theorem showInt_natCast (a : Nat) : showInt (a : Int) = decDigits a := by
  simp [showInt]

theorem ruintShowGen_eq (pinned : Bool) (K a : Nat) (h : pinned = true → a < 10 ^ 1024) :
    ruintShowGen pinned K a = showInt (a : Int) := by
  rw [showInt_natCast, ruintShowGen]
  split
  · rfl
  · exact ruShowGen_eq pinned a h

theorem mpzToRuintLoop_nat (bits : Nat) : ∀ (n m i acc : Nat),
    mpzToRuintLoop bits n (m : Int) i acc = acc + (m % 2 ^ (64 * n)) * 2 ^ (64 * i) := by
  intro n
  induction n with
  | zero => intro m i acc; simp [mpzToRuintLoop, Nat.mod_one]
  | succ n ih =>
    intro m i acc
    have hc : (m : Int) / (2 ^ 64 : Int) = ((m / 2 ^ 64 : Nat) : Int) := by norm_cast
    simp only [mpzToRuintLoop, Int.natAbs_natCast, hc]
    rw [ih]
    rw [Nat.mul_succ 64 n, Nat.pow_add, Nat.mul_comm (2 ^ (64 * n)), Nat.mod_mul, Nat.mul_succ 64 i, Nat.pow_add]
    ring

theorem mpzToRuint_int (K : Nat) (hK : 6 ≤ K) (b : Int) : (mpzToRuint K b : Int) = b % ((2 ^ 2 ^ K : Nat) : Int) := by
  have hpos : (0 : Int) < ((2 ^ 2 ^ K : Nat) : Int) := Int.natCast_pos.mpr (Nat.two_pow_pos _)
  obtain ⟨m, hm⟩ := Int.eq_ofNat_of_zero_le (Int.emod_nonneg b hpos.ne')
  have hmlt : m < 2 ^ 2 ^ K := Int.ofNat_lt.mp (hm ▸ Int.emod_lt_of_pos b hpos)
  -- the 2^K / 64 limbs are 2^K bits
  rw [mpzToRuint, hm, mpzToRuintLoop_nat, Nat.mul_div_cancel' (Nat.pow_dvd_pow 2 hK), Nat.mod_eq_of_lt hmlt, Nat.mul_zero,
    Nat.pow_zero, Nat.mul_one, Nat.zero_add]

theorem mpzToRuint_eq_toPattern (K : Nat) (hK : 6 ≤ K) (b : Int) : mpzToRuint K b = toPattern K b := by
  rw [toPattern, ← mpzToRuint_int K hK b, Int.toNat_natCast]

theorem toPattern_natAbs (K : Nat) (x : Int) (h0 : 0 ≤ x) (hx : x.natAbs < 2 ^ 2 ^ K) : toPattern K x = x.natAbs := by
  obtain ⟨m, rfl⟩ := Int.eq_ofNat_of_zero_le h0
  rw [toPattern, Int.emod_eq_of_lt (Int.natCast_nonneg m) (Int.ofNat_lt.mpr hx), Int.toNat_natCast, Int.natAbs_natCast]

theorem mpzToRuint_nat (K : Nat) (hK : 6 ≤ K) (a : Nat) (ha : a < 2 ^ 2 ^ K) : mpzToRuint K (a : Int) = a := by
  rw [mpzToRuint_eq_toPattern K hK, toPattern_natAbs K a (Int.natCast_nonneg a) ha, Int.natAbs_natCast]

/-- `mpz_to_rint` negates twice for a negative argument; modulo 2^(2^K) that is nothing -/
theorem mpzToRint_eq (K : Nat) (hK : 6 ≤ K) (b : Int) : mpzToRint K b = toSigned K (toPattern K b) := by
  unfold mpzToRint
  split
  · rw [mpzToRuint_int K hK, toPattern, toPattern, ← Int.zero_sub, Int.sub_emod_emod, Int.zero_sub, Int.neg_neg]
  · rw [mpzToRuint_eq_toPattern K hK]

theorem signed_of_pattern (H : Nat) (M a : Int) (hM : M = 2 * H) (hlo : -(H : Int) ≤ a) (hhi : a < H) :
    (if (a % M).toNat < H then ((a % M).toNat : Int) else ((a % M).toNat : Int) - M) = a := by
  subst hM
  by_cases hn : a < 0
  · rw [emod_of_neg (by omega) hn, if_neg (by omega)]
    omega
  · rw [Int.emod_eq_of_lt (by omega) (by omega), if_pos (by omega)]
    omega

theorem two_pow_two_pow (K : Nat) : 2 ^ 2 ^ K = 2 * 2 ^ (2 ^ K - 1) := by
  rw [← Nat.pow_succ', Nat.succ_eq_add_one, Nat.sub_add_cancel Nat.one_le_two_pow]

def IsRint (K : Nat) (a : Int) : Prop := -(2 ^ (2 ^ K - 1) : Nat) ≤ a ∧ a < (2 ^ (2 ^ K - 1) : Nat)

theorem toSigned_toPattern (K : Nat) (a : Int) (h : IsRint K a) : toSigned K (toPattern K a) = a := by
  unfold toSigned toPattern
  rw [two_pow_two_pow K]
  exact signed_of_pattern _ _ a (Int.natCast_mul 2 _) h.1 h.2

theorem rintShow_eq (K : Nat) (a : Int) (h : IsRint K a) : rintShow K a = showInt a := by
  have hlt : a.natAbs < 2 ^ 2 ^ K := by
    rw [two_pow_two_pow K]
    have := h.1
    have := h.2
    omega
  have hshow : ∀ x, ruShowGen false x = decDigits x := fun x => ruShowGen_eq false x nofun
  unfold rintShow rintShowGen showInt
  split
  · rw [toPattern_natAbs K (-a) (by omega) (by rwa [Int.natAbs_neg]), Int.natAbs_neg, hshow]
  · rw [toPattern_natAbs K a (by omega) hlt, hshow]

end Givaro.Lemmas.Text
