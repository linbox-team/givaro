/-
C10 — conversions out of a Rational and `operator%(const Integer&)`.

* to every word type: whenever the truncated value fits the type, the conversion returns it (outside, C++ leaves the
  narrowing to the implementation; the model mirrors `mpz_get_si` / `mpz_get_ui` and the harness compares it anyway);
* to `double` / `float`: the model is `mpz_get_d` (truncation) on both members followed by one IEEE division, validated
  bit for bit against the hardware by the correspondence; what is proved here is the meaning of the independent checker
  the driver applies to the implementation's bits (relative distance to the exact value), not an error analysis of the model;
* `operator%`: for a modulus coprime to the denominator the result is congruent to `num/den`;
* the free predicates `isZero`, `sign`, `isOne`, `isMOne`, `isInteger` decide the value (`predicates_exact`);
* the straight-line bodies of givrat*.C written with the translated gmp++ functions compute what the hand model computes
  (`bodies_are_translated_integer_code`).
-/
import GivaroModel.Lemmas.RationalValue
import GivaroModel.Lemmas.GmpLemmas
import GivaroModel.Model.RationalConv
import GivaroModel.Props.C10
namespace Givaro.Props.C10
open Givaro Givaro.Model.Rational Givaro.Spec.Rational Givaro.Lemmas.Rational

/-- conversions to the signed and unsigned word types: the truncated quotient (towards zero), when it fits -/
theorem to_word_exact (a : QRep) :
    (InS64 (trunc a) → toS64 a = trunc a) ∧ (InU64 (trunc a) → toU64 a = trunc a) ∧
    (InS32 (trunc a) → toS32 a = trunc a) ∧ (InU32 (trunc a) → toU32 a = trunc a) ∧
    (InS16 (trunc a) → toS16 a = trunc a) ∧ (InU16 (trunc a) → toU16 a = trunc a) ∧
    (InS8 (trunc a) → toS8 a = trunc a) ∧ (InU8 (trunc a) → toU8 a = trunc a) := by
  unfold toS16 toU16 toS8 toU8 toS64 toU64 toS32 toU32 trunc
  generalize idiv a.num a.den = t
  -- on a narrower type the 64-bit conversion is the identity, and so is every wrap on the way down
  refine ⟨mpz_get_si_id, mpz_get_ui_id, fun h => ?_, fun h => ?_, fun h => ?_, fun h => ?_, fun h => ?_, fun h => ?_⟩
  · unfold InS32 at h
    rw [mpz_get_si_id ⟨by omega, by omega⟩]
    unfold wrapS32
    omega
  · unfold InU32 at h
    rw [mpz_get_ui_id ⟨by omega, by omega⟩]
    unfold wrapU32
    omega
  · unfold InS16 at h
    rw [mpz_get_si_id ⟨by omega, by omega⟩]
    unfold wrapS16 wrapS32
    omega
  · unfold InU16 at h
    rw [mpz_get_ui_id ⟨by omega, by omega⟩]
    unfold wrapU16 wrapU32
    omega
  · unfold InS8 at h
    rw [mpz_get_si_id ⟨by omega, by omega⟩]
    unfold wrapS8 wrapS32
    omega
  · unfold InU8 at h
    rw [mpz_get_ui_id ⟨by omega, by omega⟩]
    unfold wrapU8 wrapU32
    omega
example : toS8 ⟨-257, 2⟩ = -128 ∧ toU16 ⟨131071, 2⟩ = 65535 ∧ toS64 ⟨-7, 2⟩ = -3 := by decide

/-- with `trunc_exact`: the conversion to a word is the value rounded towards zero -/
theorem to_int64_is_truncation (red : Bool) (a : QRep) (ha : Valid red a) (hf : InS64 (trunc a)) :
    toS64 a = if 0 ≤ val a then ⌊val a⌋ else ⌈val a⌉ := by
  rw [(to_word_exact a).1 hf]; exact trunc_exact red a ha
example : Valid true ⟨-7, 2⟩ ∧ InS64 (trunc ⟨-7, 2⟩) := ⟨⟨by decide, fun _ => by decide⟩, by decide⟩

/-- meaning of the checker applied to the `double` / `float` the implementation returns: the bit pattern denotes a normal
    number `v` with `|v - n/d| ≤ 2^-k |n/d|` -/
theorem float_check_sound (prec eb k : Nat) (n d bits : Int) (hd : 0 < d) (hn : n ≠ 0)
    (h : floatCheck prec eb k n d bits = true) :
    ∃ vn vd : Int, ieeeFrac prec eb bits = some (vn, vd) ∧ 0 < vd ∧
      |(vn : ℚ) / vd - (n : ℚ) / d| ≤ (2 : ℚ)⁻¹ ^ k * |(n : ℚ) / d| := by
  unfold floatCheck at h
  rw [if_neg hn] at h
  cases hf : ieeeFrac prec eb bits with
  | none => rw [hf] at h; cases h
  | some v =>
    obtain ⟨vn, vd⟩ := v
    simp only [hf, decide_eq_true_eq, iabs_eq] at h
    have hvd := ieeeFrac_pos hf
    exact ⟨vn, vd, rfl, hvd, rel_err_of_cross _ _ _ _ k (by exact_mod_cast hd) (by exact_mod_cast hvd) (by exact_mod_cast h)⟩
example : floatCheck 53 11 51 1 3 0x3FD5555555555555 = true ∧ floatCheck 24 8 22 (-1) 3 0xBEAAAAAB = true := by decide

/-- `operator%(const Integer& r)`: `r = 0` throws; for `r` coprime to the denominator the result `x` satisfies
    `x · den ≡ num (mod r)` -/
theorem mod_integer_sound (a : QRep) (r : Int) :
    (r = 0 → modZ a r = none) ∧
    (r ≠ 0 → Int.gcd a.den r = 1 → ∃ x, modZ a r = some x ∧ (x * a.den - a.num) % r = 0) := by
  unfold modZ
  refine ⟨fun h => by simp [h], fun hr hg => ?_⟩
  simp only [hr, ↓reduceIte]
  split
  · rename_i h0
    exact ⟨a.num, rfl, by rw [h0]; simp⟩
  · refine ⟨_, rfl, ?_⟩
    have h := mpz_invert_spec a.den r hg hr
    unfold Spec.isInvMod at h
    simp only [decide_eq_true_eq] at h
    obtain ⟨_, _, h3⟩ := h
    have h4 : (mpz_invert_d0 a.den r * a.den - 1) % r = 0 := Int.emod_eq_emod_iff_emod_sub_eq_zero.mp h3
    have h5 : r ∣ mpz_invert_d0 a.den r * a.den - 1 := Int.dvd_of_emod_eq_zero h4
    apply Int.emod_eq_zero_of_dvd
    have : mpz_invert_d0 a.den r * a.num * a.den - a.num = a.num * (mpz_invert_d0 a.den r * a.den - 1) := by ring
    rw [this]
    exact Dvd.dvd.mul_left h5 _
example : modZ ⟨3, 4⟩ 7 = some 6 ∧ (6 * 4 - 3) % 7 = 0 := by decide

/-! ### predicates and accessors -/

/-- the free predicates test the stored pair; on canonical values they decide the value (`isZero` and `sign` on any pair
    with a positive denominator) -/
theorem predicates_exact (a : QRep) :
    (0 < a.den → (isZero a = true ↔ val a = 0) ∧ (sign a < 0 ↔ val a < 0) ∧ (sign a = 0 ↔ val a = 0) ∧ (sign a > 0 ↔ val a > 0)) ∧
    (Canon a → (isOne a = true ↔ val a = 1) ∧ (isMOne a = true ↔ val a = -1) ∧ (isInteger a = true ↔ ∃ z : Int, val a = z)) := by
  constructor
  · intro hd
    obtain ⟨s1, s2, s3⟩ := isign_cases a.num
    unfold isZero sign
    rw [val_eq_zero_iff (Int.ne_of_gt hd), val_neg_iff hd, gt_iff_lt (x := val a), val_pos_iff hd, beq_iff_eq]
    exact ⟨Iff.rfl, s1, s2, s3⟩
  · -- a canonical pair is determined by its value: it is the integer `z` exactly when it is stored as `z/1`
    intro hc
    obtain ⟨n, d⟩ := a
    have key : ∀ z : Int, val ⟨n, d⟩ = z ↔ n = z ∧ d = 1 := fun z => by
      rw [← QRep.mk.injEq]
      exact ⟨fun h => canon_unique_value _ _ hc (canon_int z) (h.trans (val_int z).symm), fun h => by rw [h, val_int]⟩
    refine ⟨?_, ?_, ⟨fun h => ⟨n, (key n).mpr ⟨rfl, by simpa [isInteger] using h⟩⟩, fun ⟨z, hz⟩ => by simpa [isInteger] using ((key z).mp hz).2⟩⟩
    · have := key 1
      simpa [isOne] using this.symm
    · have := key (-1)
      simpa [isMOne] using this.symm
example : isInteger ⟨-3, 1⟩ = true ∧ isOne ⟨1, 1⟩ = true ∧ isMOne ⟨-1, 1⟩ = true ∧ sign ⟨-3, 7⟩ = -1 := by decide

/-! ### straight-line bodies of givrat*.C as compositions of the translated gmp++ functions -/

/-- `Rational::reduce()`, the general branches of `operator+`, `operator*`, `operator*=`, the cross-multiplication of
    `absCompare` and `trunc`, written with the definitions regenerated from /repo's gmp++ layer (`Givaro.Gen.*`, C01/C02),
    compute exactly what the hand model computes.  The proof goes through the per-overload `_exact` theorems of C01/C02, so a
    change in the gmp++ layer or in the model re-checks these equalities. -/
theorem bodies_are_translated_integer_code (a r : QRep) (ha : a.den ≠ 0) (hr : r.den ≠ 0) :
    reduce a = reduceT a ∧
    (r.num ≠ 0 → a.num ≠ 0 → ¬ (a.den = 1 ∧ r.den = 1) → igcd a.den r.den ≠ 1 →
      Model.Rational.add true a r = mk3 (addGeneralT a r).num (addGeneralT a r).den 0) ∧
    mulGeneralT a r = ⟨idiv a.num (igcd a.num r.den) * idiv r.num (igcd a.den r.num),
                       idiv a.den (igcd a.den r.num) * idiv r.den (igcd a.num r.den)⟩ ∧
    mulinGeneralT a r = mulGeneralT a r ∧
    (Gen.absCompare_Zc_Zc (Gen.Integer_op_mul_Zc_const a.num r.den).ret (Gen.Integer_op_mul_Zc_const a.den r.num).ret).ret
      = mpz_cmpabs (a.num * r.den) (a.den * r.num) ∧
    trunc a = (Gen.Integer_op_div_Zc_const a.num a.den).ret :=
  ⟨reduce_body_translated a ha, add_general_translated a r ha, mul_general_translated a r ha hr,
   mulin_general_translated a r ha hr, abscompare_cross_translated a r, trunc_body_translated a ha⟩
example : igcd (4 : Int) 6 ≠ 1 ∧ ¬ ((4 : Int) = 1 ∧ (6 : Int) = 1) := by decide

end Givaro.Props.C10
