/-
C12 — the sieve the finite table checks are evaluated with.  The numbers with a proper divisor in a list `qs` are built as one bit
set (`multiples`: a progression is a doubled-up pattern of bits, so a whole table is crossed out by a few operations on large
numbers); when `qs` holds every prime below `B`, the bits left clear below `B²` are exactly the primes (`sieve_prime`).  Used twice:
the primes below 2^4 give those below 2^8 (`smallPrimes_complete`), and these give the table of the primes below 2^16
(`Lemmas/Primes16All.lean`).
-/
import Mathlib.Data.Nat.Prime.Basic
namespace Givaro.Lemmas.Primes

/-- the bits `0, p, 2p, …` below `p * 2^k`, by doubling -/
def stripes (p : Nat) : Nat → Nat
  | 0 => 1
  | k + 1 => stripes p k ||| (stripes p k <<< (p * 2 ^ k))

theorem testBit_stripes {p : Nat} (hp : 0 < p) (k n : Nat) :
    (stripes p k).testBit n = true ↔ p ∣ n ∧ n < p * 2 ^ k := by
  induction k generalizing n with
  | zero =>
    rw [stripes, Nat.testBit_one_eq_true_iff_self_eq_zero, pow_zero, mul_one]
    exact ⟨fun h => h ▸ ⟨dvd_zero p, hp⟩, fun ⟨hd, hlt⟩ => Nat.eq_zero_of_dvd_of_lt hd hlt⟩
  | succ k ih =>
    have e : p * 2 ^ (k + 1) = p * 2 ^ k + p * 2 ^ k := by rw [pow_succ, ← Nat.mul_assoc, Nat.mul_two]
    have hd : p ∣ p * 2 ^ k := Dvd.intro _ rfl
    rw [stripes, Nat.testBit_or, Nat.testBit_shiftLeft, Bool.or_eq_true, Bool.and_eq_true, decide_eq_true_eq, ih, ih, e]
    generalize p * 2 ^ k = m at hd ⊢
    constructor
    · rintro (⟨h1, h2⟩ | ⟨h0, h1, h2⟩)
      · exact ⟨h1, by omega⟩
      · exact ⟨(Nat.dvd_sub_iff_left h0 hd).mp h1, by omega⟩
    · rintro ⟨h1, h2⟩
      by_cases h : n < m
      · exact Or.inl ⟨h1, h⟩
      · exact Or.inr ⟨by omega, (Nat.dvd_sub_iff_left (by omega) hd).mpr h1, by omega⟩

/-- the numbers that have a proper divisor in `qs` (what the sieve crosses out), exact below 2^16 -/
def multiples : List Nat → Nat
  | [] => 0
  | q :: qs => (stripes q 16 <<< (2 * q)) ||| multiples qs

theorem testBit_multiples {qs : List Nat} (hq : ∀ q ∈ qs, 2 ≤ q) {n : Nat} (hn : n < 65536) :
    (multiples qs).testBit n = true ↔ ∃ q ∈ qs, q ∣ n ∧ 2 * q ≤ n := by
  induction qs with
  | nil => simp [multiples]
  | cons q qs ih =>
    have hq0 : 0 < q := Nat.lt_of_lt_of_le Nat.zero_lt_two (hq q List.mem_cons_self)
    have hd : q ∣ 2 * q := Dvd.intro_left 2 rfl
    rw [multiples, Nat.testBit_or, Nat.testBit_shiftLeft, Bool.or_eq_true, Bool.and_eq_true, decide_eq_true_eq,
      testBit_stripes hq0, ih fun r hr => hq r (List.mem_cons_of_mem q hr)]
    simp only [List.mem_cons, exists_eq_or_imp]
    refine or_congr ⟨fun ⟨h0, h1, _⟩ => ⟨?_, h0⟩, fun ⟨h1, h0⟩ => ⟨h0, ?_, ?_⟩⟩ Iff.rfl
    · exact (Nat.dvd_sub_iff_left h0 hd).mp h1
    · exact (Nat.dvd_sub_iff_left h0 hd).mpr h1
    · have : 65536 ≤ q * 2 ^ 16 := Nat.le_mul_of_pos_left _ hq0
      omega

/-- the primes below `B` decide primality below `B²`: a composite `n` has a prime divisor whose square is at most `n`, so it is
    below `B` and at most half of `n` -/
theorem sieve_prime {qs : List Nat} {B n : Nat} (hc : ∀ q < B, q.Prime → q ∈ qs) (hq : ∀ q ∈ qs, 2 ≤ q)
    (h2 : 2 ≤ n) (hB : n < B * B) (hn : n < 65536) : (multiples qs).testBit n = false ↔ n.Prime := by
  rw [← Bool.not_eq_true, testBit_multiples hq hn]
  constructor
  · intro h
    by_contra hnp
    have hm := Nat.minFac_prime (show n ≠ 1 by omega)
    have hsq := Nat.minFac_sq_le_self (by omega) hnp
    rw [sq] at hsq
    have hlt : n.minFac < B := by
      by_contra hge
      have := Nat.mul_le_mul (Nat.le_of_not_lt hge) (Nat.le_of_not_lt hge)
      omega
    have := Nat.mul_le_mul_right n.minFac hm.two_le
    exact h ⟨_, hc _ hlt hm, Nat.minFac_dvd n, by omega⟩
  · rintro hp ⟨q, hm, hd, hle⟩
    have := hq q hm
    rcases (Nat.dvd_prime hp).mp hd with h1 | h1 <;> omega

def smallPrimes : List Nat :=
  [2, 3, 5, 7, 11, 13, 17, 19, 23, 29, 31, 37, 41, 43, 47, 53, 59, 61, 67, 71, 73, 79, 83, 89, 97, 101, 103, 107, 109, 113,
   127, 131, 137, 139, 149, 151, 157, 163, 167, 173, 179, 181, 191, 193, 197, 199, 211, 223, 227, 229, 233, 239, 241, 251]

theorem smallPrimes_two_le : ∀ q ∈ smallPrimes, 2 ≤ q := by decide

theorem smallPrimes_complete : ∀ q < 256, Nat.Prime q → q ∈ smallPrimes := by
  have h16 : ∀ q < 16, Nat.Prime q → q ∈ [2, 3, 5, 7, 11, 13] := by decide +kernel
  have ev : ∀ n < 256, 2 ≤ n → (multiples [2, 3, 5, 7, 11, 13]).testBit n = false → n ∈ smallPrimes := by decide +kernel
  exact fun q hq hp => ev q hq hp.two_le ((sieve_prime h16 (by decide) hp.two_le (by omega) (by omega)).mpr hp)

def bitsOf : List Nat → Nat
  | [] => 0
  | n :: ns => (1 <<< n) ||| bitsOf ns

theorem testBit_bitsOf (ns : List Nat) (n : Nat) : (bitsOf ns).testBit n = true ↔ n ∈ ns := by
  induction ns with
  | nil => simp [bitsOf]
  | cons m ns ih =>
    rw [bitsOf, Nat.testBit_or, Bool.or_eq_true, ih, Nat.one_shiftLeft, Nat.testBit_two_pow, decide_eq_true_eq, List.mem_cons, eq_comm]

end Givaro.Lemmas.Primes
