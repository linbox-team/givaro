/-
C09 — the list arithmetic of `Model/PolyFactorArith.lean`, `irrLoop` and `isIrreducible` of `Model/PolyFactor.lean` and the checkers of
`Spec/PolyFactorSpec.lean`, read in Mathlib's `Polynomial` for the coefficient record `fieldOps K` of any field `K`.
At `fieldOps K` the ring part is C08's (`norm_eq`, `padd_eq`, `pmul_eq`, `diffAux_eq`); `toPoly` has the body of C08's and is defined
here because Props/C09.lean is stated with it (`toPoly_eq`): normal forms, sums, products, derivatives come from Lemmas/PolyLemmas.lean.
Division, `pgcd`, `powmod`, `irrLoop` are C09's own recursions: `pmod` is `%`, the remainder sequence is `EuclideanDomain.gcd`.
`remSeq` and `loopGcd` are not model functions: they name the two stages of `pgcd`'s last branch for `pgcd_spec`.
At the end: the facts without a list in them that the criteria and certificates of Props/C09.lean share.
-/
import Mathlib.Algebra.Polynomial.FieldDivision
import Mathlib.Algebra.Polynomial.Derivative
import Mathlib.Tactic.Ring
import Mathlib.Tactic.LinearCombination
import Mathlib.RingTheory.Ideal.Quotient.Basic
import Mathlib.RingTheory.Ideal.Span
import Mathlib.RingTheory.Coprime.Lemmas
import Mathlib.FieldTheory.Separable
import Mathlib.Algebra.BigOperators.Associated
import Mathlib.FieldTheory.Finite.Extension
import GivaroModel.Lemmas.PolyLemmas
import GivaroModel.Lemmas.Loops
import GivaroModel.Model.PolyFactor
import GivaroModel.Spec.PolyFactorSpec
open Polynomial
set_option linter.unusedSectionVars false

namespace Givaro.Lemmas.PolyFactor
open Givaro.Model.PolyFactor Givaro.Spec.PolyFactor

/-- the coefficient record of a field: exactly its own operations -/
def fieldOps (K : Type) [Field K] : FOps K :=
  { zero := 0, one := 1, add := fun a b => a + b, neg := fun a => -a, mul := fun a b => a * b, inv := fun a => a⁻¹ }

variable {K : Type} [Field K] [DecidableEq K]

@[simp] theorem fo_zero : (fieldOps K).zero = 0 := rfl
@[simp] theorem fo_one : (fieldOps K).one = 1 := rfl
@[simp] theorem fo_add (a b : K) : (fieldOps K).add a b = a + b := rfl
@[simp] theorem fo_neg (a : K) : (fieldOps K).neg a = -a := rfl
@[simp] theorem fo_mul (a b : K) : (fieldOps K).mul a b = a * b := rfl
@[simp] theorem fo_inv (a : K) : (fieldOps K).inv a = a⁻¹ := rfl

/-- the polynomial denoted by a coefficient list (least significant first) -/
noncomputable def toPoly : List K → K[X]
  | [] => 0
  | a :: P => C a + X * toPoly P

@[simp] theorem toPoly_nil : toPoly ([] : List K) = 0 := rfl
@[simp] theorem toPoly_cons (a : K) (P : List K) : toPoly (a :: P) = C a + X * toPoly P := rfl

-- C08's `Normal` is written `Poly.Normal`: `Mathlib.FieldTheory.Finite.Extension` brings a `Normal` of its own

theorem toPoly_eq (P : List K) : toPoly P = Lemmas.Poly.toPoly P := by
  induction P with
  | nil => rfl
  | cons a P ih => rw [toPoly_cons, Lemmas.Poly.toPoly_cons, ih]

theorem norm_eq (P : List K) : norm (fieldOps K) P = Model.Poly.setdegree P := by
  induction P with
  | nil => rfl
  | cons a P ih =>
    unfold norm Model.Poly.setdegree
    rw [ih]
    cases Model.Poly.setdegree P with
    | nil => by_cases ha : a = 0 <;> simp [ha]
    | cons b Q => simp

theorem padd_eq (P Q : List K) : padd (fieldOps K) P Q = Model.Poly.add P Q := by
  induction P generalizing Q with
  | nil => cases Q <;> rfl
  | cons a P ih => cases Q with
    | nil => rfl
    | cons b Q => simp only [padd, Model.Poly.add, ih, fo_add]

theorem coeff_toPoly (P : List K) (k : Nat) : (toPoly P).coeff k = P.getD k 0 := by
  rw [toPoly_eq]; exact Lemmas.Poly.coeff_toPoly P k

theorem coeff_toPoly_of_le (P : List K) (k : Nat) (h : P.length ≤ k) : (toPoly P).coeff k = 0 := by
  rw [toPoly_eq]; exact Lemmas.Poly.coeff_toPoly_of_le P k h

theorem toPoly_norm (P : List K) : toPoly (norm (fieldOps K) P) = toPoly P := by
  rw [norm_eq, toPoly_eq, toPoly_eq, Lemmas.Poly.toPoly_setdegree]

theorem norm_normal (P : List K) : Poly.Normal (norm (fieldOps K) P) := by
  rw [norm_eq]; exact Lemmas.Poly.setdegree_normal P

theorem toPoly_eq_zero_of_normal (P : List K) (hn : Poly.Normal P) (h : toPoly P = 0) : P = [] :=
  Lemmas.Poly.toPoly_eq_zero_of_normal P hn (by rwa [← toPoly_eq])

theorem toPoly_injective_of_normal (P Q : List K) (hp : Poly.Normal P) (hq : Poly.Normal Q) (h : toPoly P = toPoly Q) : P = Q :=
  Lemmas.Poly.toPoly_injective_of_normal P Q hp hq (by rwa [← toPoly_eq, ← toPoly_eq])

theorem norm_eq_nil_iff (P : List K) : norm (fieldOps K) P = [] ↔ toPoly P = 0 := by
  rw [norm_eq, toPoly_eq]; exact Lemmas.Poly.setdegree_eq_nil_iff P

theorem norm_eq_iff (P Q : List K) : norm (fieldOps K) P = norm (fieldOps K) Q ↔ toPoly P = toPoly Q := by
  rw [norm_eq, norm_eq, toPoly_eq, toPoly_eq]; exact Lemmas.Poly.setdegree_eq_iff P Q

theorem natDegree_toPoly (P : List K) (h : norm (fieldOps K) P ≠ []) :
    (toPoly P).natDegree = (norm (fieldOps K) P).length - 1 := by
  rw [norm_eq] at h ⊢
  rw [toPoly_eq]
  exact Lemmas.Poly.natDegree_toPoly P ((Lemmas.Poly.setdegree_eq_nil_iff P).not.mp h)

theorem lcoef_eq (P : List K) : lcoef (fieldOps K) P = (toPoly P).leadingCoeff := by
  rw [toPoly_eq, ← Lemmas.Poly.leadcoef_eq_leadingCoeff]
  unfold lcoef Model.Poly.leadcoef
  rw [norm_eq, List.getLastD_eq_getLast?]
  rfl

theorem toPoly_padd (P Q : List K) : toPoly (padd (fieldOps K) P Q) = toPoly P + toPoly Q := by
  rw [padd_eq, toPoly_eq, toPoly_eq, toPoly_eq, Lemmas.Poly.toPoly_add]

theorem toPoly_pneg (P : List K) : toPoly (pneg (fieldOps K) P) = - toPoly P := by
  rw [toPoly_eq, toPoly_eq]; exact Lemmas.Poly.toPoly_neg P

theorem toPoly_psub (P Q : List K) : toPoly (psub (fieldOps K) P Q) = toPoly P - toPoly Q := by
  unfold psub; rw [toPoly_padd, toPoly_pneg, sub_eq_add_neg]

theorem toPoly_smul (c : K) (P : List K) : toPoly (smul (fieldOps K) c P) = C c * toPoly P := by
  rw [toPoly_eq, toPoly_eq]; exact Lemmas.Poly.toPoly_map_mul_left c P

theorem pmul_eq (P Q : List K) : pmul (fieldOps K) P Q = Spec.Poly.smul P Q := by
  induction P with
  | nil => rfl
  | cons a P ih =>
    simp only [pmul, Spec.Poly.smul, ih, padd_eq, Lemmas.Poly.sadd_eq_add]
    rfl

theorem toPoly_pmul (P Q : List K) : toPoly (pmul (fieldOps K) P Q) = toPoly P * toPoly Q := by
  rw [pmul_eq, toPoly_eq, toPoly_eq, toPoly_eq, Lemmas.Poly.smul_exact]

theorem toPoly_ppow (P : List K) (n : Nat) : toPoly (ppow (fieldOps K) P n) = toPoly P ^ n := by
  induction n with
  | zero => rw [pow_zero]; show C 1 + X * 0 = 1; rw [mul_zero, add_zero, C_1]
  | succ n ih => rw [ppow, toPoly_pmul, ih, pow_succ']

theorem toPoly_take (L : List K) (n : Nat) (h : ∀ k, n ≤ k → (toPoly L).coeff k = 0) :
    toPoly (L.take n) = toPoly L := by
  ext k
  rw [coeff_toPoly, List.getD_eq_getElem?_getD, List.getElem?_take]
  split
  · rw [coeff_toPoly, List.getD_eq_getElem?_getD]
  · rw [h k (by omega)]; rfl

theorem divmodAux_spec (b : List K) (db : Nat) (hb : b.length = db + 1) (lc : K) (hlc : b.getD db 0 = lc)
    (h0 : lc ≠ 0) (a : List K) :
    toPoly a = toPoly (divmodAux (fieldOps K) b db lc⁻¹ a).1 * toPoly b + toPoly (divmodAux (fieldOps K) b db lc⁻¹ a).2
      ∧ (divmodAux (fieldOps K) b db lc⁻¹ a).2.length ≤ db := by
  induction a with
  | nil => simp [divmodAux]
  | cons a0 a' ih =>
    obtain ⟨ih1, ih2⟩ := ih
    simp only [divmodAux]
    generalize divmodAux (fieldOps K) b db lc⁻¹ a' = qr at ih1 ih2 ⊢
    constructor
    · have hz : ∀ k, db ≤ k →
          (toPoly (psub (fieldOps K) (a0 :: qr.2) (smul (fieldOps K)
            ((fieldOps K).mul ((a0 :: qr.2).getD db (fieldOps K).zero) lc⁻¹) b))).coeff k = 0 := by
        intro k hk
        rw [toPoly_psub, toPoly_smul, coeff_sub, coeff_C_mul]
        rcases Nat.eq_or_lt_of_le hk with hk | hk
        · subst hk
          rw [coeff_toPoly, coeff_toPoly, hlc]
          simp only [fo_mul, fo_zero]
          rw [mul_assoc, inv_mul_cancel₀ h0, mul_one, sub_self]
        · rw [coeff_toPoly_of_le _ k (by simp; omega), coeff_toPoly_of_le b k (by omega)]
          simp
      rw [toPoly_take _ _ hz, toPoly_psub, toPoly_smul]
      simp only [toPoly_cons]
      rw [ih1]
      ring
    · exact (List.length_take_le _ _)

theorem divmod_spec (a b : List K) (hb : toPoly b ≠ 0) :
    toPoly a = toPoly (divmod (fieldOps K) a b).1 * toPoly b + toPoly (divmod (fieldOps K) a b).2 ∧
      (toPoly (divmod (fieldOps K) a b).2).degree < (toPoly b).degree := by
  have hne : norm (fieldOps K) b ≠ [] := fun h => hb ((norm_eq_nil_iff b).1 h)
  have hlen : (norm (fieldOps K) b).length = ((norm (fieldOps K) b).length - 1) + 1 := by
    have := List.length_pos_of_ne_nil hne; omega
  have hnd := natDegree_toPoly b hne
  have hlc : (norm (fieldOps K) b).getD ((norm (fieldOps K) b).length - 1) 0 = lcoef (fieldOps K) b := by
    rw [← coeff_toPoly, toPoly_norm, ← hnd, lcoef_eq]; rfl
  have hl0 : lcoef (fieldOps K) b ≠ 0 := by
    rw [lcoef_eq]; exact leadingCoeff_ne_zero.2 hb
  have key := divmodAux_spec (norm (fieldOps K) b) _ hlen _ hlc hl0 a
  unfold divmod
  simp only [hne, if_false, fo_inv]
  rw [toPoly_norm] at key
  refine ⟨key.1, ?_⟩
  rw [degree_eq_natDegree hb, hnd, degree_lt_iff_coeff_zero]
  intro m hm
  exact coeff_toPoly_of_le _ m (le_trans key.2 hm)

theorem toPoly_rem (a b : List K) (hb : toPoly b ≠ 0) :
    toPoly (divmod (fieldOps K) a b).2 = toPoly a % toPoly b := by
  obtain ⟨h1, h2⟩ := divmod_spec a b hb
  exact Givaro.Lemmas.Poly.mod_unique _ _ _ hb ⟨toPoly (divmod (fieldOps K) a b).1, by linear_combination h1⟩ h2

theorem toPoly_pmod (a b : List K) (hb : toPoly b ≠ 0) : toPoly (pmod (fieldOps K) a b) = toPoly a % toPoly b := by
  unfold pmod; rw [toPoly_norm, toPoly_rem a b hb]

theorem pmod_eq_nil_iff (a b : List K) (hb : toPoly b ≠ 0) :
    pmod (fieldOps K) a b = [] ↔ toPoly b ∣ toPoly a := by
  unfold pmod; rw [norm_eq_nil_iff, toPoly_rem a b hb, EuclideanDomain.mod_eq_zero]

theorem toPoly_pdiv (a b : List K) (hb : toPoly b ≠ 0) (hdvd : toPoly b ∣ toPoly a) :
    toPoly a = toPoly (pdiv (fieldOps K) a b) * toPoly b := by
  have h := (divmod_spec a b hb).1
  rw [toPoly_rem a b hb, EuclideanDomain.mod_eq_zero.2 hdvd, add_zero] at h
  unfold pdiv; rwa [toPoly_norm]

theorem mem_allLists (elems : List K) (hall : ∀ x : K, x ∈ elems) : ∀ (t : List K), t ∈ allLists elems t.length
  | [] => by simp [allLists]
  | a :: t => by
    simp only [allLists, List.length_cons, List.mem_flatMap, List.mem_map]
    exact ⟨t, mem_allLists elems hall t, a, hall a, rfl⟩

theorem length_of_mem_allLists (elems : List K) : ∀ (n : Nat) (t : List K), t ∈ allLists elems n → t.length = n
  | 0, t, h => by simp [allLists] at h; simp [h]
  | n + 1, t, h => by
    simp only [allLists, List.mem_flatMap, List.mem_map] at h
    obtain ⟨t', ht', a, -, rfl⟩ := h
    simp [length_of_mem_allLists elems n t' ht']

theorem monics_sound (elems : List K) (d : Nat) (l : List K) (h : l ∈ monics (fieldOps K) elems d) :
    (toPoly l).Monic ∧ (toPoly l).natDegree = d := by
  unfold monics at h
  obtain ⟨t, ht, rfl⟩ := List.mem_map.1 h
  have hlen := length_of_mem_allLists elems d t ht
  have hne : t ++ [(fieldOps K).one] ≠ [] := by simp
  have hn : Poly.Normal (t ++ [(fieldOps K).one]) := by simp [Poly.Normal]
  have h1 : (toPoly (t ++ [(fieldOps K).one])).natDegree = d := by
    rw [toPoly_eq, Lemmas.Poly.natDegree_toPoly_of_normal _ hn hne, List.length_append, hlen]; rfl
  refine ⟨?_, h1⟩
  unfold Monic leadingCoeff
  rw [h1, coeff_toPoly, ← hlen]
  simp

theorem monics_complete (elems : List K) (hall : ∀ x : K, x ∈ elems) (g : K[X]) (hg : g.Monic) :
    ∃ l ∈ monics (fieldOps K) elems g.natDegree, toPoly l = g := by
  refine ⟨(List.range g.natDegree).map g.coeff ++ [1], ?_, ?_⟩
  · unfold monics
    refine List.mem_map.2 ⟨(List.range g.natDegree).map g.coeff, ?_, rfl⟩
    have := mem_allLists elems hall ((List.range g.natDegree).map g.coeff)
    simpa using this
  · ext k
    rw [coeff_toPoly, List.getD_eq_getElem?_getD]
    rcases Nat.lt_trichotomy k g.natDegree with hk | hk | hk
    · rw [List.getElem?_append_left (by simp [hk])]
      simp [hk]
    · subst hk
      rw [List.getElem?_append_right (by simp)]
      simp only [List.length_map, List.length_range, Nat.sub_self, List.getElem?_cons_zero, Option.getD_some]
      exact hg.coeff_natDegree.symm
    · rw [List.getElem?_eq_none (by simp; omega)]
      simp [coeff_eq_zero_of_natDegree_lt hk]

theorem toPoly_monicize (x : List K) :
    toPoly (monicize (fieldOps K) x) = C (toPoly x).leadingCoeff⁻¹ * toPoly x := by
  unfold monicize
  rw [toPoly_smul, toPoly_norm, lcoef_eq]; rfl

theorem normal_smul (c : K) (hc : c ≠ 0) (N : List K) (hN : Poly.Normal N) : Poly.Normal (smul (fieldOps K) c N) := by
  unfold Poly.Normal smul at *
  rw [List.getLast?_map]
  intro h
  cases hl : N.getLast? with
  | none => rw [hl] at h; simp at h
  | some y =>
    rw [hl] at h
    simp only [Option.map_some, fo_mul, Option.some.injEq] at h
    rcases mul_eq_zero.1 h with h | h
    · exact hc h
    · exact hN (by rw [hl, h])

theorem monicize_normal (x : List K) (hx : toPoly x ≠ 0) : Poly.Normal (monicize (fieldOps K) x) :=
  normal_smul (lcoef (fieldOps K) x)⁻¹ (inv_ne_zero (by rw [lcoef_eq]; exact leadingCoeff_ne_zero.2 hx)) _ (norm_normal x)

/-- `C lc⁻¹ * A` is Mathlib's `normalize A`, which classifies polynomials up to association -/
theorem associated_iff_monic_forms (A B : K[X]) (hA : A ≠ 0) (hB : B ≠ 0) :
    C A.leadingCoeff⁻¹ * A = C B.leadingCoeff⁻¹ * B ↔ Associated A B := by
  rw [← normalize_eq_normalize_iff_associated, normalize_apply, normalize_apply, coe_normUnit_of_ne_zero hA,
    coe_normUnit_of_ne_zero hB, mul_comm A, mul_comm B]

theorem associatedB_iff (a b : List K) :
    associatedB (fieldOps K) a b = true ↔ toPoly a ≠ 0 ∧ toPoly b ≠ 0 ∧ Associated (toPoly a) (toPoly b) := by
  unfold associatedB
  simp only [Bool.and_eq_true, decide_eq_true_eq, ne_eq, norm_eq_nil_iff]
  constructor
  · rintro ⟨⟨ha, hb⟩, h⟩
    refine ⟨ha, hb, ?_⟩
    have := congrArg toPoly h
    rw [toPoly_monicize, toPoly_monicize, toPoly_norm, toPoly_norm] at this
    exact (associated_iff_monic_forms _ _ ha hb).1 this
  · rintro ⟨ha, hb, h⟩
    refine ⟨⟨ha, hb⟩, ?_⟩
    apply toPoly_injective_of_normal _ _ (monicize_normal _ (by rwa [toPoly_norm])) (monicize_normal _ (by rwa [toPoly_norm]))
    rw [toPoly_monicize, toPoly_monicize, toPoly_norm, toPoly_norm]
    exact (associated_iff_monic_forms _ _ ha hb).2 h

theorem toPoly_prodPow (L : List (List K × Nat)) :
    toPoly (prodPow (fieldOps K) L) = (L.map (fun ge => toPoly ge.1 ^ ge.2)).prod := by
  unfold prodPow
  induction L with
  | nil => simp
  | cons ge L ih => simp only [List.foldr_cons, List.map_cons, List.prod_cons, toPoly_pmul, toPoly_ppow, ih]

theorem prod_eq_of_associatedB (P : List K) (L : List (List K × Nat))
    (h : associatedB (fieldOps K) (prodPow (fieldOps K) L) P = true) :
    ∃ c : K, c ≠ 0 ∧ ((L.map (fun ge => (toPoly ge.1, ge.2))).map (fun ge => ge.1 ^ ge.2)).prod = C c * toPoly P := by
  obtain ⟨-, -, u, hu⟩ := (associatedB_iff _ _).1 h
  obtain ⟨r, hr, hru⟩ := Polynomial.isUnit_iff.1 u.isUnit
  have hr0 : r ≠ 0 := hr.ne_zero
  refine ⟨r⁻¹, inv_ne_zero hr0, ?_⟩
  rw [List.map_map]
  have h2 : (L.map ((fun ge : K[X] × ℕ => ge.1 ^ ge.2) ∘ fun ge => (toPoly ge.1, ge.2))) =
      L.map (fun ge => toPoly ge.1 ^ ge.2) := rfl
  rw [h2, ← toPoly_prodPow L, ← hu, ← hru, mul_comm (toPoly (prodPow (fieldOps K) L)) (C r), ← mul_assoc, ← C_mul,
    inv_mul_cancel₀ hr0, C_1, one_mul]

theorem pairwiseB_iff {β : Type} (r : β → β → Bool) (L : List β) :
    pairwiseB r L = true ↔ L.Pairwise (fun a b => r a b = true) := by
  induction L with
  | nil => simp [pairwiseB]
  | cons x xs ih => simp [pairwiseB, ih, List.all_eq_true]

theorem degree_eq (L : List K) : degree (fieldOps K) L = Model.Poly.degree L := by
  unfold Givaro.Model.PolyFactor.degree Model.Poly.degree; rw [norm_eq]

theorem degree_model (L : List K) :
    degree (fieldOps K) L = if toPoly L = 0 then -1 else ((toPoly L).natDegree : Int) := by
  rw [degree_eq, Model.Poly.degree, Lemmas.Poly.length_setdegree, toPoly_eq]
  split <;> simp

theorem degree_neg_iff (L : List K) : degree (fieldOps K) L < 0 ↔ toPoly L = 0 := by
  rw [degree_eq, toPoly_eq]; exact Lemmas.Poly.degree_neg_iff L

theorem degree_pos_iff (L : List K) : degree (fieldOps K) L > 0 ↔ 0 < (toPoly L).natDegree := by
  rw [degree_model]
  split
  · next h => simp [h]
  · omega

theorem degree_eq_zero_iff (L : List K) : degree (fieldOps K) L = 0 ↔ IsUnit (toPoly L) := by
  rw [degree_model, Polynomial.isUnit_iff_degree_eq_zero]
  split
  · next h => simp [h]
  · next h => rw [degree_eq_natDegree h]; norm_cast

theorem degree_le_zero_iff (L : List K) : degree (fieldOps K) L ≤ 0 ↔ toPoly L = 0 ∨ IsUnit (toPoly L) := by
  rw [← degree_neg_iff, ← degree_eq_zero_iff]; omega

open scoped Classical in
/-- the remainder sequence is the recursion of `EuclideanDomain.gcd` (`gcd_val`) -/
theorem toPoly_gcdLoop (n : Nat) (U G : List K) (hG : toPoly G ≠ 0) (hfuel : (toPoly G).natDegree < n) :
    toPoly (gcdLoop (fieldOps K) n U G) = EuclideanDomain.gcd (toPoly U % toPoly G) (toPoly G) := by
  induction n generalizing U G with
  | zero => omega
  | succ n ih =>
    unfold gcdLoop
    simp only []
    by_cases hR : pmod (fieldOps K) U G = []
    · rw [if_pos hR, EuclideanDomain.mod_eq_zero.2 ((pmod_eq_nil_iff U G hG).1 hR), EuclideanDomain.gcd_zero_left]
    · have hR0 : toPoly (pmod (fieldOps K) U G) ≠ 0 := fun h0 =>
        hR (toPoly_eq_zero_of_normal _ (norm_normal _) h0)
      have hlt : (toPoly (pmod (fieldOps K) U G)).natDegree < (toPoly G).natDegree :=
        natDegree_lt_natDegree hR0 (by rw [toPoly_pmod U G hG]; exact degree_mod_lt _ hG)
      rw [if_neg hR, ih G _ hR0 (by omega), toPoly_pmod U G hG, ← EuclideanDomain.gcd_val]

/-- the remainder sequence as `pgcd` starts it: on the normalised arguments, with fuel `length G + 1` -/
def remSeq (U G : List K) : List K :=
  gcdLoop (fieldOps K) ((norm (fieldOps K) G).length + 1) (norm (fieldOps K) U) (norm (fieldOps K) G)

theorem remSeq_spec (U G : List K) (hG : toPoly G ≠ 0) (d : K[X]) :
    d ∣ toPoly (remSeq U G) ↔ d ∣ toPoly U ∧ d ∣ toPoly G := by
  classical
  have hne : norm (fieldOps K) G ≠ [] := fun h => hG ((norm_eq_nil_iff G).1 h)
  have spec := toPoly_gcdLoop ((norm (fieldOps K) G).length + 1) (norm (fieldOps K) U) (norm (fieldOps K) G)
    (by rwa [toPoly_norm]) (by rw [toPoly_norm, natDegree_toPoly G hne]; omega)
  rw [toPoly_norm, toPoly_norm, ← EuclideanDomain.gcd_val] at spec
  unfold remSeq
  rw [spec]
  exact ⟨fun h => ⟨h.trans (EuclideanDomain.gcd_dvd_right _ _), h.trans (EuclideanDomain.gcd_dvd_left _ _)⟩,
    fun h => EuclideanDomain.dvd_gcd h.2 h.1⟩

/-- what `pgcd` returns from its loop on the ordered pair `(U, G)`: a constant result is replaced by `one` -/
def loopGcd (U G : List K) : List K :=
  if degree (fieldOps K) (remSeq U G) ≤ 0 then [(fieldOps K).one] else remSeq U G

theorem loopGcd_spec (U G : List K) (hG : toPoly G ≠ 0) (d : K[X]) :
    d ∣ toPoly (loopGcd U G) ↔ d ∣ toPoly U ∧ d ∣ toPoly G := by
  rw [← remSeq_spec U G hG d]
  unfold loopGcd
  split
  · next hle =>
    -- the result of the loop is non-zero (it divides `G`), so a constant one is a unit: same divisors as `one`
    have h0 : toPoly (remSeq U G) ≠ 0 := fun h0 => hG (zero_dvd_iff.1 ((remSeq_spec U G hG 0).1 (by rw [h0])).2)
    have hu := ((degree_le_zero_iff _).1 hle).resolve_left h0
    rw [toPoly_cons, toPoly_nil, mul_zero, add_zero, fo_one, C_1]
    exact ⟨fun hd => (isUnit_of_dvd_one hd).dvd, fun hd => (isUnit_of_dvd_unit hd hu).dvd⟩
  · exact Iff.rfl

theorem pgcd_spec (P Q : List K) (d : K[X]) :
    d ∣ toPoly (pgcd (fieldOps K) P Q) ↔ d ∣ toPoly P ∧ d ∣ toPoly Q := by
  by_cases h1 : degree (fieldOps K) P < 0 ∨ degree (fieldOps K) Q = 0
  · rw [show pgcd (fieldOps K) P Q = norm (fieldOps K) Q from if_pos h1, toPoly_norm]
    rcases h1 with h | h
    · rw [(degree_neg_iff P).1 h]; exact ⟨fun hd => ⟨dvd_zero d, hd⟩, fun hd => hd.2⟩
    · have hu := (degree_eq_zero_iff Q).1 h
      exact ⟨fun hd => ⟨(isUnit_of_dvd_unit hd hu).dvd, hd⟩, fun hd => hd.2⟩
  by_cases h2 : degree (fieldOps K) Q < 0 ∨ degree (fieldOps K) P = 0
  · rw [show pgcd (fieldOps K) P Q = norm (fieldOps K) P from (if_neg h1).trans (if_pos h2), toPoly_norm]
    rcases h2 with h | h
    · rw [(degree_neg_iff Q).1 h]; exact ⟨fun hd => ⟨hd, dvd_zero d⟩, fun hd => hd.1⟩
    · have hu := (degree_eq_zero_iff P).1 h
      exact ⟨fun hd => ⟨hd, (isUnit_of_dvd_unit hd hu).dvd⟩, fun hd => hd.1⟩
  have hP0 : toPoly P ≠ 0 := fun h0 => h1 (Or.inl ((degree_neg_iff P).2 h0))
  have hQ0 : toPoly Q ≠ 0 := fun h0 => h2 (Or.inl ((degree_neg_iff Q).2 h0))
  by_cases hge : degree (fieldOps K) P ≥ degree (fieldOps K) Q
  · rw [show pgcd (fieldOps K) P Q = loopGcd P Q from
      ((if_neg h1).trans (if_neg h2)).trans (by unfold loopGcd remSeq; simp only [if_pos hge])]
    exact loopGcd_spec P Q hQ0 d
  · rw [show pgcd (fieldOps K) P Q = loopGcd Q P from
      ((if_neg h1).trans (if_neg h2)).trans (by unfold loopGcd remSeq; simp only [if_neg hge]), loopGcd_spec Q P hP0 d]
    exact and_comm

theorem pgcd_unit_iff (P Q : List K) :
    IsUnit (toPoly (pgcd (fieldOps K) P Q)) ↔ IsCoprime (toPoly P) (toPoly Q) := by
  classical
  have h1 : toPoly (pgcd (fieldOps K) P Q) ∣ EuclideanDomain.gcd (toPoly P) (toPoly Q) := by
    have := (pgcd_spec P Q _).1 (dvd_refl _)
    exact EuclideanDomain.dvd_gcd this.1 this.2
  have h2 : EuclideanDomain.gcd (toPoly P) (toPoly Q) ∣ toPoly (pgcd (fieldOps K) P Q) :=
    (pgcd_spec P Q _).2 ⟨EuclideanDomain.gcd_dvd_left _ _, EuclideanDomain.gcd_dvd_right _ _⟩
  rw [← EuclideanDomain.gcd_isUnit_iff]
  exact ⟨fun h => isUnit_of_dvd_unit h2 h, fun h => isUnit_of_dvd_unit h1 h⟩

theorem pgcd_ne_zero (P Q : List K) (h : toPoly P ≠ 0 ∨ toPoly Q ≠ 0) : toPoly (pgcd (fieldOps K) P Q) ≠ 0 := by
  intro h0
  have := (pgcd_spec P Q 0).1 (by rw [h0])
  rcases h with h | h
  · exact h (zero_dvd_iff.1 this.1)
  · exact h (zero_dvd_iff.1 this.2)

theorem pgcd_degree_pos_iff (P Q : List K) (h : toPoly P ≠ 0 ∨ toPoly Q ≠ 0) :
    degree (fieldOps K) (pgcd (fieldOps K) P Q) > 0 ↔ ¬ IsCoprime (toPoly P) (toPoly Q) := by
  rw [← pgcd_unit_iff, ← degree_eq_zero_iff]
  have := pgcd_ne_zero P Q h
  have h2 : ¬ degree (fieldOps K) (pgcd (fieldOps K) P Q) < 0 := fun hlt => this ((degree_neg_iff _).1 hlt)
  omega

/-! Congruences modulo `U` are equalities of images under a ring homomorphism `φ` that kills `U`; the loops are followed for an
arbitrary such `φ`, and `K[X] ⧸ (P)` is put in where a congruence has to be turned back into a divisibility. -/

section
variable {R : Type*} [CommRing R] (φ : K[X] →+* R)

theorem map_pmod (a U : List K) (hU : toPoly U ≠ 0) (hφ : φ (toPoly U) = 0) :
    φ (toPoly (pmod (fieldOps K) a U)) = φ (toPoly a) := by
  have h := congrArg φ (EuclideanDomain.div_add_mod (toPoly a) (toPoly U))
  rwa [φ.map_add, φ.map_mul, hφ, zero_mul, zero_add, ← toPoly_pmod a U hU] at h

theorem powmodLoop_spec (U : List K) (hU : toPoly U ≠ 0) (hφ : φ (toPoly U) = 0) (fuel n : Nat) (W puiss : List K)
    (h : n < 2 ^ fuel) :
    φ (toPoly (powmodLoop (fieldOps K) U fuel n W puiss)) = φ (toPoly W) * φ (toPoly puiss) ^ n := by
  have hm : ∀ {a x : List K} {A X : R}, φ (toPoly a) = A → φ (toPoly x) = X →
      φ (toPoly (pmod (fieldOps K) (pmul (fieldOps K) a x) U)) = A * X := fun ha hx => by
    rw [map_pmod φ _ _ hU hφ, toPoly_pmul, φ.map_mul, ha, hx]
  exact Loops.sqmul (fun (W : List K) w => φ (toPoly W) = w) (fun (P : List K) x => φ (toPoly P) = x)
    (powmodLoop (fieldOps K) U) (fun W P => pmod (fieldOps K) (pmul (fieldOps K) W P) U)
    (fun _ P => pmod (fieldOps K) (pmul (fieldOps K) P P) U)
    (fun f W P => by cases f <;> simp [powmodLoop])
    (fun f k W P hk => by simp only [powmodLoop, hk, ↓reduceIte])
    hm (fun _ hx => hm hx hx) fuel n W puiss _ _ h rfl rfl

theorem powmod_spec (W : List K) (e : Nat) (U : List K) (hU : toPoly U ≠ 0) (hφ : φ (toPoly U) = 0) :
    φ (toPoly (powmod (fieldOps K) W e U)) = φ (toPoly W) ^ e := by
  unfold powmod
  rw [toPoly_norm, powmodLoop_spec φ U hU hφ _ _ _ _ (by
    have := Nat.lt_log2_self (n := e)
    have h2 : 2 ^ (e.log2 + 2) = 2 * 2 ^ (e.log2 + 1) := pow_succ' 2 _
    omega), map_pmod φ _ _ hU hφ]
  show φ (C 1 + X * 0) * _ = _
  rw [mul_zero, add_zero, C_1, φ.map_one, one_mul]

end

theorem powmod_dvd (W : List K) (e : Nat) (U : List K) (hU : toPoly U ≠ 0) :
    toPoly U ∣ toPoly (powmod (fieldOps K) W e U) - toPoly W ^ e := by
  rw [← Ideal.mem_span_singleton, ← Ideal.Quotient.eq, map_pow]
  exact powmod_spec (Ideal.Quotient.mk (Ideal.span {toPoly U})) W e U hU
    (Ideal.Quotient.eq_zero_iff_mem.2 (Ideal.mem_span_singleton_self _))

theorem toPoly_polX : toPoly (polX (fieldOps K)) = X := by
  simp [polX]

theorem isCoprime_congr (P a b : K[X]) (h : P ∣ a - b) : IsCoprime a P ↔ IsCoprime b P := by
  obtain ⟨k, hk⟩ := h
  rw [eq_add_of_sub_eq' hk]
  exact IsCoprime.add_mul_left_left_iff

theorem irrLoop_spec (q : Nat) (P : List K) (hP : toPoly P ≠ 0) (n i : Nat) (W : List K)
    (hW : toPoly P ∣ toPoly W - X ^ (q ^ i)) :
    irrLoop (fieldOps K) q P n W = true ↔ ∀ j, i < j → j ≤ i + n → IsCoprime (X ^ (q ^ j) - X) (toPoly P) := by
  induction n generalizing i W with
  | zero => exact ⟨fun _ j h1 h2 => absurd h2 (by omega), fun _ => rfl⟩
  | succ n ih =>
    -- the next `W` is `W^q ≡ (X^(q^i))^q = X^(q^(i+1))`
    have hW' : toPoly P ∣ toPoly (powmod (fieldOps K) W q P) - X ^ (q ^ (i + 1)) := by
      have h2 : toPoly P ∣ toPoly W ^ q - (X ^ (q ^ i)) ^ q := hW.trans (sub_dvd_pow_sub_pow (toPoly W) (X ^ (q ^ i)) q)
      rw [← pow_mul, ← pow_succ] at h2
      have := dvd_add (powmod_dvd W q P hP) h2
      rwa [sub_add_sub_cancel] at this
    -- so the test of this round is the coprimality of `X^(q^(i+1)) - X` with `P`
    have hstep : degree (fieldOps K) (pgcd (fieldOps K) (psub (fieldOps K) (powmod (fieldOps K) W q P) (polX (fieldOps K))) P) > 0 ↔
        ¬ IsCoprime (X ^ (q ^ (i + 1)) - X) (toPoly P) := by
      rw [pgcd_degree_pos_iff _ P (Or.inr hP), isCoprime_congr (toPoly P) _ (X ^ (q ^ (i + 1)) - X)]
      rwa [toPoly_psub, toPoly_polX, sub_sub_sub_cancel_right]
    unfold irrLoop
    simp only []
    by_cases hc : IsCoprime (X ^ (q ^ (i + 1)) - X) (toPoly P)
    · rw [if_neg (fun h => hstep.1 h hc), ih (i + 1) _ hW']
      constructor
      · intro h j h1 h2
        rcases Nat.eq_or_lt_of_le h1 with h3 | h3
        · rw [← h3]; exact hc
        · exact h j h3 (by omega)
      · intro h j h1 h2
        exact h j (by omega) (by omega)
    · rw [if_pos (hstep.2 hc)]
      exact ⟨fun h => absurd h (by decide), fun h => absurd (h (i + 1) (by omega) (by omega)) hc⟩

theorem diffAux_eq (c : K) (t : List K) : diffAux (fieldOps K) c t = Model.Poly.diffFrom c t := by
  induction t generalizing c with
  | nil => rfl
  | cons a q ih => simp only [diffAux, Model.Poly.diffFrom, ih, fo_mul, fo_add, fo_one]

theorem toPoly_diff (Q : List K) : toPoly (diff (fieldOps K) Q) = derivative (toPoly Q) := by
  have e : diff (fieldOps K) Q = Model.Poly.diff Q := by
    unfold diff Model.Poly.diff
    rw [norm_eq]
    cases Model.Poly.setdegree Q with
    | nil => rfl
    | cons a t => exact diffAux_eq _ t
  rw [e, toPoly_eq, toPoly_eq, Lemmas.Poly.toPoly_diff]

/-- what `isIrreducible` computes; `q` is arbitrary here and `K` need not be finite -/
theorem isIrreducible_iff (q : ℕ) (P : List K) :
    isIrreducible (fieldOps K) q P = true ↔ 0 < (toPoly P).natDegree ∧ IsCoprime (toPoly P) (derivative (toPoly P)) ∧
      ∀ i, 1 ≤ i → i ≤ (toPoly P).natDegree / 2 → IsCoprime (X ^ (q ^ i) - X) (toPoly P) := by
  unfold isIrreducible
  rw [← degree_pos_iff]
  -- `degree` alone could also be `Polynomial.degree`, and both readings would be elaborated
  by_cases hdeg : Model.PolyFactor.degree (fieldOps K) P ≤ 0
  · rw [if_pos hdeg]
    exact ⟨fun h => absurd h (by decide), fun h => absurd h.1 (by omega)⟩
  · have hP0 : toPoly P ≠ 0 := fun h => hdeg (le_of_lt ((degree_neg_iff P).2 h))
    have hn : (Model.PolyFactor.degree (fieldOps K) P).toNat = (toPoly P).natDegree := by
      rw [degree_model, if_neg hP0]; simp
    have hd := pgcd_degree_pos_iff (diff (fieldOps K) P) P (Or.inr hP0)
    rw [toPoly_diff, isCoprime_comm] at hd
    rw [if_neg hdeg, and_iff_right (by omega : _ > (0 : Int))]
    simp only []
    split
    · next h => exact ⟨fun h' => absurd h' (by decide), fun h' => absurd h'.1 (hd.1 h)⟩
    · next h =>
      -- the loop starts at `W = X = X^(q^0)`
      rw [and_iff_right (not_not.1 fun hnc => h (hd.2 hnc)), hn,
        irrLoop_spec q P hP0 _ 0 _ (by rw [toPoly_polX, pow_zero, pow_one, sub_self]; exact dvd_zero _)]
      simp only [Nat.zero_add]
      exact Iff.rfl

theorem coprimeB_iff (a b : List K) (h : toPoly a ≠ 0 ∨ toPoly b ≠ 0) :
    coprimeB (fieldOps K) a b = true ↔ IsCoprime (toPoly a) (toPoly b) := by
  unfold coprimeB
  rw [decide_eq_true_eq, ← not_iff_not, not_le]
  exact pgcd_degree_pos_iff a b h

theorem squarefreeB_sound (g : List K) (hg : toPoly g ≠ 0) (h : squarefreeB (fieldOps K) g = true) :
    Squarefree (toPoly g) := by
  unfold squarefreeB at h
  rw [Bool.or_eq_true, decide_eq_true_eq] at h
  rcases h with h | h
  · rcases (degree_le_zero_iff g).1 h with h0 | hu
    · exact absurd h0 hg
    · exact hu.squarefree
  · have := (coprimeB_iff g (diff _ g) (Or.inl hg)).1 h
    rw [toPoly_diff] at this
    exact Polynomial.Separable.squarefree this

theorem indexed_fst {β : Type} : ∀ (G : List β) (i : Nat), (indexed G i).map Prod.fst = G
  | [], _ => rfl
  | x :: xs, i => by simp [indexed, indexed_fst xs (i + 1)]

theorem coprime_frobenius_of_irreducible {K : Type*} [Field K] [Finite K] {P : K[X]} (hP : Irreducible P) {i : ℕ}
    (hi : ¬ P.natDegree ∣ i) : IsCoprime (X ^ (Nat.card K ^ i) - X) P := by
  rw [isCoprime_comm, hP.coprime_iff_not_dvd]
  exact fun hdvd => hi ((hP.natDegree_dvd_iff_dvd_X_pow_card_pow_sub_X (n := i)).2 hdvd)

theorem not_coprime_frobenius {K : Type*} [Field K] [Finite K] {g P : K[X]} (hg : Irreducible g) (hgP : g ∣ P) {i : ℕ}
    (hi : g.natDegree ∣ i) : ¬ IsCoprime (X ^ (Nat.card K ^ i) - X) P :=
  fun h => hg.not_isUnit (h.isUnit_of_dvd' ((hg.natDegree_dvd_iff_dvd_X_pow_card_pow_sub_X (n := i)).1 hi) hgP)

theorem dvd_base_of_dvd_prod_pow {R : Type*} [CommMonoidWithZero R] {f : R} (hf : Prime f) (L : List (R × ℕ))
    (h : f ∣ (L.map (fun ge => ge.1 ^ ge.2)).prod) : ∃ ge ∈ L, f ∣ ge.1 ∧ 1 ≤ ge.2 := by
  obtain ⟨a, ha, hfa⟩ := (Prime.dvd_prod_iff hf).1 h
  obtain ⟨ge, hge, rfl⟩ := List.mem_map.1 ha
  refine ⟨ge, hge, hf.dvd_of_dvd_pow hfa, Nat.one_le_iff_ne_zero.2 fun h0 => ?_⟩
  rw [h0, pow_zero] at hfa
  exact hf.not_isUnit (isUnit_of_dvd_one hfa)

end Givaro.Lemmas.PolyFactor
