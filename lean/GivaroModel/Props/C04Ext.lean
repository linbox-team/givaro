/-
C04 — `ModularExtended<float|double>::init` from machine integers narrower than the element type (the template overload:
`Caster<Element>(a)` then the FMA `reduce`).  Model: `ECfg.initSmall` (Model/ModRingInit.lean), `ECfg.reduceQ` (Model/ModRingExt.lean).

`reduce(x)` computes `q = floor(x · (1/p))` in floating point, `r = fma(-q, p, x)` and corrects once (`r ≥ p → r − p`, `r < 0 → r + p`).
The theorem is for the model's estimate `q = k.qEst p a`, given that it is within one of the true quotient (`−p ≤ a − q·p < 2p`); that the IEEE estimate meets this
is the same contract as for `mul` (Props/C03 `ExtContract`), tied by correspondence with the soft-float model in both builds.
-/
import GivaroModel.Props.C03
import GivaroModel.Model.ModRingInit
namespace Givaro.Props.C04Ext
open Givaro.Model.ModRing Givaro.Spec.ModRing Givaro.Props.C03

/-- Full statement: `k.initSmall p a = some (canonU p a)` for every narrow machine integer `a` with no hypothesis on the
    estimate; proved here given the closeness of the floating quotient estimate (the FMA/IEEE contract, correspondence). -/
theorem extended_init_small_exact_partial (k : ECfg) (hv : k.valid) (p a : Int) (hp : 2 ≤ p) (hm : p ≤ k.maxCard)
    (ha : k.f a = some a)                                   -- the source is exactly representable (narrower than the mantissa)
    (hc : -p ≤ a - k.qEst p a * p ∧ a - k.qEst p a * p < 2 * p) :
    k.initSmall p a = some (canonU p a) := by
  have hpow : (0 : Int) ≤ (2 : Int) ^ (k.mant - 4) := by positivity
  unfold ECfg.initSmall
  rw [ha]
  simp only [Option.bind_eq_bind, Option.bind_some]
  unfold ECfg.reduce ECfg.reduceQ
  rw [ext_fit k hv p hm (a - k.qEst p a * p) (by omega) (by omega)]
  simp only [Option.bind_eq_bind, Option.bind_some]
  unfold canonU
  exact extended_correct k hv p hp hm _ a hc.1 hc.2 (k.qEst p a) (by ring)
example : (ECfg.mk 53).valid ∧ (ECfg.mk 53).f (-2147483648) = some (-2147483648) ∧
    -(1125899906842623 : Int) ≤ -2147483648 - (ECfg.mk 53).qEst 1125899906842623 (-2147483648) * 1125899906842623 ∧
    (ECfg.mk 53).initSmall 1125899906842623 (-2147483648) = some (canonU 1125899906842623 (-2147483648)) := by
  unfold ECfg.valid; decide +kernel

end Givaro.Props.C04Ext
