/-
C08 — lemmas tying the list model (`Model/Poly.lean`) and the reference arithmetic (`Spec/PolySpec.lean`) to
Mathlib's `Polynomial K` through `toPoly l = Σ lᵢ Xⁱ`: normal forms, the additive and scalar forms, evaluation, the
coefficients of stored ranges, degree and leading coefficient, the update loops and the schoolbook range product.
-/
import Mathlib.Algebra.Polynomial.Basic
import Mathlib.Algebra.Polynomial.Coeff
import Mathlib.Algebra.Polynomial.Eval.Defs
import Mathlib.Algebra.Polynomial.Derivative
import Mathlib.Algebra.Polynomial.FieldDivision
import Mathlib.Tactic.Ring
import Mathlib.Tactic.LinearCombination
import GivaroModel.Model.Poly
import GivaroModel.Spec.PolySpec

open Polynomial
set_option linter.unusedSectionVars false

namespace Givaro.Lemmas.Poly
open Givaro.Model.Poly

variable {K : Type} [Field K] [DecidableEq K]

/-- the polynomial denoted by a coefficient list (least significant first) -/
noncomputable def toPoly : List K → K[X]
  | [] => 0
  | a :: P => C a + X * toPoly P

@[simp] theorem toPoly_nil : toPoly ([] : List K) = 0 := rfl
@[simp] theorem toPoly_cons (a : K) (P : List K) : toPoly (a :: P) = C a + X * toPoly P := rfl

/-- no leading zero coefficient -/
def Normal (P : List K) : Prop := P.getLast? ≠ some 0

theorem coeff_toPoly (P : List K) (k : Nat) : (toPoly P).coeff k = P.getD k 0 := by
  induction P generalizing k with
  | nil => simp
  | cons a P ih =>
    cases k with
    | zero => simp
    | succ k => simp [coeff_X_mul, ih, coeff_C_succ]

theorem toPoly_setdegree (P : List K) : toPoly (setdegree P) = toPoly P := by
  induction P with
  | nil => rfl
  | cons a P ih =>
    unfold setdegree
    split
    · next h =>
      rw [h] at ih
      by_cases ha : a = 0
      · simp [ha, ← ih]
      · simp [ha, ← ih]
    · next b Q h =>
      rw [h] at ih
      simp only [toPoly_cons] at ih ⊢
      rw [ih]

theorem setdegree_normal (P : List K) : Normal (setdegree P) := by
  induction P with
  | nil => simp [setdegree, Normal]
  | cons a P ih =>
    unfold setdegree
    split
    · next h =>
      by_cases ha : a = 0
      · simp [ha, Normal]
      · simp [ha, Normal]
    · next b Q h =>
      rw [h] at ih
      simpa [Normal, List.getLast?_cons_cons] using ih

theorem Normal.tail {a : K} {P : List K} (h : Normal (a :: P)) : Normal P := by
  cases P with
  | nil => simp [Normal]
  | cons b Q => simpa [Normal, List.getLast?_cons_cons] using h

theorem toPoly_eq_zero_of_normal : ∀ (P : List K), Normal P → toPoly P = 0 → P = []
  | [], _, _ => rfl
  | a :: P, hn, h0 => by
    exfalso
    have ha : a = 0 := by simpa using congrArg (fun p => p.coeff 0) h0
    have hP : toPoly P = 0 := by
      rw [toPoly_cons, ha] at h0
      simpa using h0
    have := toPoly_eq_zero_of_normal P hn.tail hP
    subst this
    simp [Normal, ha] at hn

theorem toPoly_injective_of_normal : ∀ (P Q : List K), Normal P → Normal Q → toPoly P = toPoly Q → P = Q
  | [], Q, _, hq, h => (toPoly_eq_zero_of_normal Q hq h.symm).symm
  | a :: P, [], hp, _, h => toPoly_eq_zero_of_normal (a :: P) hp h
  | a :: P, b :: Q, hp, hq, h => by
    have hab : a = b := by simpa using congrArg (fun p => p.coeff 0) h
    have hPQ : toPoly P = toPoly Q := by
      rw [toPoly_cons, toPoly_cons, hab] at h
      exact mul_left_cancel₀ X_ne_zero (add_left_cancel h)
    rw [hab, toPoly_injective_of_normal P Q hp.tail hq.tail hPQ]

theorem setdegree_eq_iff (P Q : List K) : setdegree P = setdegree Q ↔ toPoly P = toPoly Q := by
  constructor
  · intro h; rw [← toPoly_setdegree P, ← toPoly_setdegree Q, h]
  · intro h
    apply toPoly_injective_of_normal _ _ (setdegree_normal P) (setdegree_normal Q)
    rw [toPoly_setdegree, toPoly_setdegree, h]

theorem setdegree_of_normal (L : List K) (h : Normal L) : setdegree L = L :=
  toPoly_injective_of_normal _ _ (setdegree_normal L) h (toPoly_setdegree L)

/-! ### additive forms -/

theorem toPoly_add (P Q : List K) : toPoly (add P Q) = toPoly P + toPoly Q := by
  induction P generalizing Q with
  | nil => simp [add]
  | cons a P ih =>
    cases Q with
    | nil => simp [add]
    | cons b Q => simp only [add, toPoly_cons, ih, C_add]; ring

theorem toPoly_neg (P : List K) : toPoly (neg P) = - toPoly P := by
  induction P with
  | nil => simp [neg]
  | cons a P ih =>
    simp only [neg, List.map_cons, toPoly_cons, C_neg] at ih ⊢
    rw [ih]; ring

theorem toPoly_sub (P Q : List K) : toPoly (sub P Q) = toPoly P - toPoly Q := by
  induction P generalizing Q with
  | nil =>
    cases Q with
    | nil => simp [sub]
    | cons b Q => simp only [sub, toPoly_neg]; simp
  | cons a P ih =>
    cases Q with
    | nil => simp [sub]
    | cons b Q => simp only [sub, toPoly_cons, ih, C_sub]; ring

theorem length_sub (A B : List K) : (sub A B).length = max A.length B.length := by
  induction A generalizing B with
  | nil => cases B <;> simp [sub, neg]
  | cons a A ih => cases B with
    | nil => simp [sub]
    | cons b B => simp [sub, ih]

theorem isEmpty_toPoly {P : List K} (h : P.isEmpty = true) : toPoly P = 0 := by
  cases P with
  | nil => rfl
  | cons a P => simp at h

theorem toPoly_addin (R P : List K) : toPoly (addin R P) = toPoly R + toPoly P := by
  unfold addin
  split
  · next h => simp [isEmpty_toPoly h]
  · split
    · next h => simp [isEmpty_toPoly h, assign, toPoly_setdegree]
    · split
      · rw [toPoly_add]; ring
      · rw [toPoly_add]

theorem toPoly_subin (R P : List K) : toPoly (subin R P) = toPoly R - toPoly P := by
  unfold subin
  split
  · next h => simp [isEmpty_toPoly h]
  · split
    · next h => simp [isEmpty_toPoly h, toPoly_neg]
    · split
      · rw [toPoly_setdegree, toPoly_setdegree, toPoly_sub]
      · rw [toPoly_setdegree, toPoly_sub]

/-! ### scalar forms -/

theorem toPoly_mulVal (P : List K) (u : K) : toPoly (mulVal P u) = toPoly P * C u := by
  induction P with
  | nil => simp [mulVal]
  | cons a P ih =>
    simp only [mulVal, List.map_cons, toPoly_cons, C_mul] at ih ⊢
    rw [ih]; ring

theorem toPoly_map_mul_left (u : K) (P : List K) : toPoly (P.map (fun a => u * a)) = C u * toPoly P := by
  induction P with
  | nil => simp
  | cons a P ih =>
    simp only [List.map_cons, toPoly_cons, C_mul] at ih ⊢
    rw [ih]; ring

theorem toPoly_divVal (P : List K) (u : K) : toPoly (divVal P u) = toPoly P * C u⁻¹ := by
  unfold divVal
  rw [toPoly_setdegree]
  induction P with
  | nil => simp
  | cons a P ih =>
    simp only [List.map_cons, toPoly_cons, div_eq_mul_inv, C_mul] at ih ⊢
    rw [ih]; ring

/-! `add(R,P,Val)`, `add(R,Val,P)`, `sub(R,P,Val)`, `sub(R,Val,P)` act on the normal form of `P` -/

theorem toPoly_addVal (P : List K) (v : K) : toPoly (addVal P v) = toPoly P + C v := by
  rw [← toPoly_setdegree P]; unfold addVal
  cases setdegree P with
  | nil => simp
  | cons a t => simp only [toPoly_cons, C_add]; ring

theorem toPoly_valAdd (v : K) (P : List K) : toPoly (valAdd v P) = C v + toPoly P := by
  rw [← toPoly_setdegree P]; unfold valAdd
  cases setdegree P with
  | nil => simp
  | cons a t => simp only [toPoly_cons, C_add]; ring

theorem toPoly_subVal (P : List K) (v : K) : toPoly (subVal P v) = toPoly P - C v := by
  rw [← toPoly_setdegree P]; unfold subVal
  cases setdegree P with
  | nil => simp
  | cons a t => simp only [toPoly_cons, C_sub]; ring

theorem toPoly_valSub (v : K) (P : List K) : toPoly (valSub v P) = C v - toPoly P := by
  rw [← toPoly_setdegree P]; unfold valSub
  cases setdegree P with
  | nil => simp
  | cons a t => simp only [toPoly_cons, C_sub, toPoly_neg]; ring

theorem toPoly_addinVal (R : List K) (v : K) : toPoly (addinVal R v) = toPoly R + C v := by
  cases R with
  | nil => simp [addinVal]
  | cons a t => simp only [addinVal, toPoly_cons, C_add]; ring

theorem toPoly_subinVal (R : List K) (v : K) : toPoly (subinVal R v) = toPoly R - C v := by
  cases R with
  | nil => simp [subinVal]
  | cons a t => simp only [subinVal, toPoly_cons, C_sub]; ring

/-- `r·u - c·b` along two ranges of equal length: one round of `pdivmod`, `pmod` (`PolyDiv`) and of `modin` (`PolyEuclid`) -/
theorem toPoly_zipWith_lin (u c : K) : ∀ (U V : List K), U.length = V.length →
    toPoly (List.zipWith (fun r b => r * u - c * b) U V) = toPoly U * C u - C c * toPoly V
  | [], [], _ => by simp
  | [], _ :: _, h => by simp at h
  | _ :: _, [], h => by simp at h
  | x :: U, y :: V, h => by
    have hl : U.length = V.length := by simpa using h
    simp only [List.zipWith_cons_cons, toPoly_cons]
    rw [toPoly_zipWith_lin u c U V hl, C_sub, C_mul, C_mul]; ring

theorem toPoly_axpyVal (a : K) (X' Y : List K) : toPoly (axpyVal a X' Y) = C a * toPoly X' + toPoly Y := by
  induction X' generalizing Y with
  | nil => cases Y <;> simp [axpyVal]
  | cons x X' ih =>
    cases Y with
    | nil => simp only [axpyVal, toPoly_nil, add_zero]; exact toPoly_map_mul_left a _
    | cons y Y => simp only [axpyVal, toPoly_cons, ih, C_add, C_mul]; ring

theorem toPoly_axpyinVal (a : K) (R X' : List K) : toPoly (axpyinVal a R X') = toPoly R + C a * toPoly X' := by
  induction R generalizing X' with
  | nil =>
    cases X' with
    | nil => simp [axpyinVal]
    | cons x X' => simp only [axpyinVal, toPoly_nil, zero_add]; exact toPoly_map_mul_left a _
  | cons r R ih =>
    cases X' with
    | nil => simp [axpyinVal]
    | cons x X' => simp only [axpyinVal, toPoly_cons, ih, C_add, C_mul]; ring

/-! ### evaluation, derivative -/

theorem foldr_horner (L : List K) (v : K) :
    L.foldr (fun a acc => acc * v + a) 0 = (toPoly L).eval v := by
  induction L with
  | nil => simp
  | cons a L ih => simp only [List.foldr_cons, ih, toPoly_cons, eval_add, eval_C, eval_mul, eval_X]; ring

theorem eval_eq (P : List K) (v : K) : Model.Poly.eval P v = (toPoly P).eval v := by
  unfold Model.Poly.eval
  rw [foldr_horner, toPoly_setdegree]

theorem toPoly_diffFrom (c : K) (L : List K) :
    toPoly (diffFrom c L) = C (c + 1) * toPoly L + X * derivative (toPoly L) := by
  induction L generalizing c with
  | nil => simp [diffFrom]
  | cons a L ih =>
    simp only [diffFrom, toPoly_cons, ih, derivative_add, derivative_C, derivative_mul, derivative_X, C_mul, C_add, C_1]
    ring

theorem toPoly_diff (Q : List K) : toPoly (diff Q) = derivative (toPoly Q) := by
  unfold diff
  have h := toPoly_setdegree Q
  split
  · next e => rw [e] at h; simp [← h]
  · next a t e =>
    rw [e] at h
    rw [← h, toPoly_diffFrom]
    simp only [toPoly_cons, derivative_add, derivative_C, derivative_mul, derivative_X, C_add, C_0, C_1]
    ring

/-! ### coefficients of stored ranges -/

theorem getD_of_le (L : List K) (k : Nat) (h : L.length ≤ k) : L.getD k 0 = 0 := by
  simp [List.getD_eq_getElem?_getD, List.getElem?_eq_none h]

theorem coeff_toPoly_of_le (P : List K) (k : Nat) (h : P.length ≤ k) : (toPoly P).coeff k = 0 := by
  rw [coeff_toPoly]; exact getD_of_le _ _ h

theorem coeff_mul_toPoly_of_le (P Q : List K) (k : Nat) (h : P.length + Q.length ≤ k + 1) :
    (toPoly P * toPoly Q).coeff k = 0 := by
  rw [coeff_mul]
  apply Finset.sum_eq_zero
  intro ij hij
  rw [Finset.mem_antidiagonal] at hij
  by_cases h1 : P.length ≤ ij.1
  · rw [coeff_toPoly_of_le P _ h1, zero_mul]
  · rw [coeff_toPoly_of_le Q ij.2 (by omega), mul_zero]

theorem getD_setdegree (L : List K) (i : Nat) : (setdegree L).getD i 0 = L.getD i 0 := by
  rw [← coeff_toPoly, ← coeff_toPoly, toPoly_setdegree]

theorem length_setdegree_le (L : List K) : (setdegree L).length ≤ L.length := by
  induction L with
  | nil => simp [setdegree]
  | cons a L ih =>
    unfold setdegree
    split
    · split <;> simp
    · next b Q h => rw [h] at ih; simp at ih ⊢; omega

theorem length_zeros (n : Nat) : (zeros n : List K).length = n := by simp [zeros]

theorem length_pad (n : Nat) (L : List K) : (pad n L).length = n := by
  simp [pad, length_zeros]

theorem getD_zeros (n i : Nat) : (zeros n : List K).getD i 0 = 0 := by
  simp [zeros, List.getD_eq_getElem?_getD, List.getElem?_replicate]
  split <;> rfl

theorem getD_take (L : List K) (m i : Nat) : (L.take m).getD i 0 = if i < m then L.getD i 0 else 0 := by
  simp only [List.getD_eq_getElem?_getD, List.getElem?_take]
  split <;> rfl

theorem getD_drop (L : List K) (m i : Nat) : (L.drop m).getD i 0 = L.getD (m + i) 0 := by
  simp only [List.getD_eq_getElem?_getD, List.getElem?_drop]

theorem getD_append (A B : List K) (k : Nat) :
    (A ++ B).getD k 0 = if k < A.length then A.getD k 0 else B.getD (k - A.length) 0 := by
  simp only [List.getD_eq_getElem?_getD]
  split
  · next h => rw [List.getElem?_append_left h]
  · next h => rw [List.getElem?_append_right (by omega)]

theorem getD_pad (n : Nat) (L : List K) (i : Nat) : (pad n L).getD i 0 = if i < n then L.getD i 0 else 0 := by
  unfold pad
  rw [getD_take]
  split
  · rw [getD_append]
    split
    · rfl
    · next h => rw [getD_zeros, getD_of_le L i (by omega)]
  · rfl

theorem toPoly_append (A B : List K) : toPoly (A ++ B) = toPoly A + X ^ A.length * toPoly B := by
  induction A with
  | nil => simp
  | cons a A ih => simp only [List.cons_append, toPoly_cons, ih, List.length_cons, pow_succ]; ring

theorem toPoly_take_drop (L : List K) (h : Nat) : toPoly L = toPoly (L.take h) + X ^ h * toPoly (L.drop h) := by
  induction h generalizing L with
  | zero => simp
  | succ h ih =>
    cases L with
    | nil => simp
    | cons a L =>
      simp only [List.take_succ_cons, List.drop_succ_cons, toPoly_cons]
      rw [ih L]; ring

/-- `L` holds the coefficients of `f` below `n` exactly when `toPoly L ≡ f (mod X^n)`; the range products are
    specified coefficient by coefficient and composed as congruences -/
theorem X_pow_dvd_toPoly_sub_iff (n : Nat) (L : List K) (f : K[X]) :
    X ^ n ∣ toPoly L - f ↔ ∀ k, k < n → L.getD k 0 = f.coeff k := by
  rw [X_pow_dvd_iff]
  refine forall₂_congr fun k _ => ?_
  rw [coeff_sub, coeff_toPoly, sub_eq_zero]

theorem dvd_sub_trans {u a b c : K[X]} (h1 : u ∣ a - b) (h2 : u ∣ b - c) : u ∣ a - c := by
  rw [← sub_add_sub_cancel a b c]; exact dvd_add h1 h2

theorem dvd_sub_mul {u a a' b b' : K[X]} (h1 : u ∣ a - a') (h2 : u ∣ b - b') : u ∣ a * b - a' * b' := by
  rw [show a * b - a' * b' = (a - a') * b + a' * (b - b') by ring]
  exact dvd_add (dvd_mul_of_dvd_left h1 _) (dvd_mul_of_dvd_right h2 _)

theorem toPoly_eq_of_coeff (n : Nat) (L : List K) (f : K[X]) (hl : L.length ≤ n)
    (h1 : ∀ k, k < n → L.getD k 0 = f.coeff k) (h2 : ∀ k, n ≤ k → f.coeff k = 0) : toPoly L = f := by
  ext k
  rw [coeff_toPoly]
  by_cases hk : k < n
  · exact h1 k hk
  · rw [getD_of_le _ _ (by omega), h2 k (by omega)]

theorem toPoly_eq_of_dvd (n : Nat) (L : List K) (f : K[X]) (hl : L.length ≤ n) (h : X ^ n ∣ toPoly L - f)
    (h2 : ∀ k, n ≤ k → f.coeff k = 0) : toPoly L = f :=
  toPoly_eq_of_coeff n L f hl ((X_pow_dvd_toPoly_sub_iff _ _ _).mp h) h2

theorem toPoly_pad_eq (n : Nat) (R : List K) (f : K[X]) (h1 : ∀ k, k < n → R.getD k 0 = f.coeff k)
    (h2 : ∀ k, n ≤ k → f.coeff k = 0) : toPoly (pad n R) = f :=
  toPoly_eq_of_coeff n _ _ (length_pad n R).le (fun k hk => by rw [getD_pad, if_pos hk, h1 k hk]) h2

theorem toPoly_pad_of_le (n : Nat) (L : List K) (h : L.length ≤ n) : toPoly (pad n L) = toPoly L :=
  toPoly_pad_eq n L _ (fun k _ => (coeff_toPoly L k).symm) (fun k hk => coeff_toPoly_of_le L k (by omega))

theorem toPoly_take_dvd (n : Nat) (L : List K) : X ^ n ∣ toPoly (L.take n) - toPoly L :=
  ⟨-toPoly (L.drop n), by rw [toPoly_take_drop L n]; ring⟩

/-! ### zero test, degree and leading coefficient of a stored vector -/

theorem toPoly_assign (Q : List K) : toPoly (assign Q) = toPoly Q := toPoly_setdegree Q

theorem length_assign_le (Q : List K) : (assign Q).length ≤ Q.length := length_setdegree_le Q

theorem toPoly_assignC (c : K) : toPoly (assignC c) = C c := by
  unfold assignC
  split
  · next h => simp [h]
  · simp

theorem toPoly_zeros_append (m : Nat) (S : List K) : toPoly (zeros m ++ S) = X ^ m * toPoly S := by
  induction m with
  | zero => simp [zeros]
  | succ m ih =>
    have : (zeros (m + 1) : List K) = 0 :: zeros m := by simp [zeros, List.replicate_succ]
    rw [this, List.cons_append, toPoly_cons, ih]; simp; ring

theorem setdegree_eq_nil_iff (P : List K) : setdegree P = [] ↔ toPoly P = 0 := by
  simpa [setdegree] using setdegree_eq_iff P []

theorem isZero_iff (P : List K) : isZero P = true ↔ toPoly P = 0 := by
  have hn := setdegree_normal P
  have ht := toPoly_setdegree P
  unfold isZero
  split
  · next e => rw [e] at ht; simp [← ht]
  · next a e =>
    rw [e] at ht hn
    have ha : a ≠ 0 := by simpa [Normal, eq_comm] using hn
    simp only [decide_eq_true_eq, ha, false_iff]
    rw [← ht]; simp [ha]
  · next h1 h2 =>
    simp only [Bool.false_eq_true, false_iff]
    exact fun h0 => h1 ((setdegree_eq_nil_iff P).mpr h0)

theorem degree_neg_iff (P : List K) : Model.Poly.degree P < 0 ↔ toPoly P = 0 := by
  rw [← setdegree_eq_nil_iff, ← List.length_eq_zero_iff]
  unfold Model.Poly.degree
  omega

theorem length_setdegree_pos (P : List K) (h : toPoly P ≠ 0) : 1 ≤ (setdegree P).length :=
  List.length_pos_iff.mpr ((setdegree_eq_nil_iff P).not.mpr h)

theorem natDegree_toPoly_of_normal (Q : List K) (hn : Normal Q) (hne : Q ≠ []) :
    (toPoly Q).natDegree = Q.length - 1 := by
  have hlen := List.length_pos_iff.mpr hne
  apply natDegree_eq_of_le_of_coeff_ne_zero
  · rw [natDegree_le_iff_coeff_eq_zero]
    intro N hN
    exact coeff_toPoly_of_le Q N (by omega)
  · rw [coeff_toPoly]
    intro h0
    apply hn
    rw [List.getLast?_eq_getElem?]
    rw [List.getD_eq_getElem?_getD] at h0
    have : Q[Q.length - 1]? = some (Q[Q.length - 1]'(by omega)) := List.getElem?_eq_getElem (by omega)
    rw [this] at h0 ⊢
    simpa using h0

theorem natDegree_toPoly (P : List K) (h : toPoly P ≠ 0) : (toPoly P).natDegree = (setdegree P).length - 1 := by
  have := natDegree_toPoly_of_normal (setdegree P) (setdegree_normal P) ((setdegree_eq_nil_iff P).not.mpr h)
  rwa [toPoly_setdegree] at this

theorem length_setdegree (P : List K) :
    (setdegree P).length = if toPoly P = 0 then 0 else (toPoly P).natDegree + 1 := by
  split
  · next h => rw [(setdegree_eq_nil_iff P).mpr h]; rfl
  · next h => rw [natDegree_toPoly P h]; have := length_setdegree_pos P h; omega

theorem leadcoef_eq_leadingCoeff (P : List K) : leadcoef P = (toPoly P).leadingCoeff := by
  by_cases h0 : toPoly P = 0
  · unfold leadcoef; rw [(setdegree_eq_nil_iff P).mpr h0, h0]; simp
  · unfold leadcoef leadingCoeff
    rw [natDegree_toPoly P h0, ← toPoly_setdegree P, coeff_toPoly, List.getLast?_eq_getElem?,
      List.getD_eq_getElem?_getD]

theorem leadcoef_ne_zero (P : List K) (h : toPoly P ≠ 0) : leadcoef P ≠ 0 := by
  rw [leadcoef_eq_leadingCoeff]; exact leadingCoeff_ne_zero.mpr h

theorem setdegree_of_degree_zero (P : List K) (h : Model.Poly.degree P = 0) :
    ∃ c : K, c ≠ 0 ∧ setdegree P = [c] ∧ toPoly P = C c := by
  unfold Model.Poly.degree at h
  have hn := setdegree_normal P
  have ht := toPoly_setdegree P
  obtain ⟨c, hc⟩ := List.length_eq_one_iff.mp (by omega : (setdegree P).length = 1)
  refine ⟨c, ?_, hc, ?_⟩
  · rw [hc] at hn; simpa [Normal, eq_comm] using hn
  · rw [hc] at ht; rw [← ht]; simp

theorem degree_zero_elim (P : List K) (h : Model.Poly.degree P = 0) :
    ∃ c : K, c ≠ 0 ∧ toPoly P = C c ∧ leadcoef P = c := by
  obtain ⟨c, hc0, hc, hP⟩ := setdegree_of_degree_zero P h
  exact ⟨c, hc0, hP, by unfold leadcoef; rw [hc]; simp⟩

theorem degree_le_zero_elim (P : List K) (h : Model.Poly.degree P ≤ 0) :
    toPoly P = 0 ∨ ∃ c : K, c ≠ 0 ∧ toPoly P = C c ∧ leadcoef P = c := by
  by_cases h0 : toPoly P = 0
  · exact Or.inl h0
  · exact Or.inr (degree_zero_elim P (by have := (degree_neg_iff P).not.mpr h0; omega))

theorem setdegree_singleton (c : K) (hc : c ≠ 0) : setdegree [c] = [c] := by simp [setdegree, hc]

theorem toPoly_eq_C_iff (P : List K) (c : K) (hc : c ≠ 0) : toPoly P = C c ↔ setdegree P = [c] := by
  have h := setdegree_eq_iff P [c]
  rw [setdegree_singleton c hc] at h
  rw [h]; simp

theorem shape_cases (P : List K) :
    (setdegree P = [] ∧ toPoly P = 0) ∨ (∃ p0 : K, p0 ≠ 0 ∧ setdegree P = [p0] ∧ toPoly P = C p0) ∨
    (∃ a b t, setdegree P = a :: b :: t ∧ 0 < (toPoly P).degree) := by
  cases hs : setdegree P with
  | nil => exact Or.inl ⟨rfl, (setdegree_eq_nil_iff P).mp hs⟩
  | cons a t =>
    cases t with
    | nil =>
      have := setdegree_of_degree_zero P (by unfold Model.Poly.degree; rw [hs]; rfl)
      rw [hs] at this
      exact Or.inr (Or.inl this)
    | cons b t =>
      refine Or.inr (Or.inr ⟨a, b, t, rfl, ?_⟩)
      have hne : toPoly P ≠ 0 := fun h0 => by rw [(setdegree_eq_nil_iff P).mpr h0] at hs; simp at hs
      have hnd := natDegree_toPoly P hne
      rw [hs] at hnd
      simp only [List.length_cons] at hnd
      rw [degree_eq_natDegree hne]
      exact_mod_cast (by omega : 0 < (toPoly P).natDegree)

theorem C_dvd_of_ne_zero {c : K} (hc : c ≠ 0) (f : K[X]) : C c ∣ f :=
  (isUnit_C.mpr (isUnit_iff_ne_zero.mpr hc)).dvd

theorem degree_lt_of_model (A B : List K) (hb : toPoly B ≠ 0) (h : Model.Poly.degree A < Model.Poly.degree B) :
    (toPoly A).degree < (toPoly B).degree := by
  unfold Model.Poly.degree at h
  rw [length_setdegree, length_setdegree, if_neg hb] at h
  split at h
  · next ha => rw [ha, degree_zero]; exact bot_lt_iff_ne_bot.mpr (fun e => hb (degree_eq_bot.mp e))
  · exact degree_lt_degree (by omega)

theorem degree_lt_of_length_le (R : List K) (b : K[X]) (n : Nat) (hb : b.degree = (n : WithBot ℕ)) (h : R.length ≤ n) :
    (toPoly R).degree < b.degree := by
  rw [hb, degree_lt_iff_coeff_zero]
  intro m hm
  rw [coeff_toPoly]; exact getD_of_le _ _ (by omega)

theorem plen_lt_of_degree_lt (P Q : List K) (hq : toPoly Q ≠ 0) (h : (toPoly P).degree < (toPoly Q).degree) :
    (setdegree P).length < (setdegree Q).length := by
  rw [length_setdegree, length_setdegree, if_neg hq]
  split
  · omega
  · next hp => have := natDegree_lt_natDegree hp h; omega

/-! ### update loops

`*ri = f(*ri, *mi)` along two ranges, stopping at the end of either (`zipAxpy`, `zipSub`, `zipAdd`; `zipAxpyR` of the middle product
is `zipAxpy` up to `mul_comm`, see PolyMid), and the same started at an offset of the R range (`axpyRow`, `subRow`, `addRow`): one
statement for every function with these equations. -/

theorem zip_loop (f : K → K → K) (hf : ∀ r, f r 0 = r) (z : List K → List K → List K)
    (hc : ∀ r R m M, z (r :: R) (m :: M) = f r m :: z R M) (hn : ∀ R, z R [] = R) (hn' : ∀ M, z [] M = [])
    (R M : List K) :
    (z R M).length = R.length ∧
    ∀ k, (z R M).getD k 0 = if k < R.length then f (R.getD k 0) (M.getD k 0) else 0 := by
  induction R generalizing M with
  | nil => rw [hn']; simp
  | cons r R ih =>
    cases M with
    | nil =>
      rw [hn]
      refine ⟨rfl, fun k => ?_⟩
      split
      · rw [List.getD_nil, hf]
      · next h => exact getD_of_le _ _ (by omega)
    | cons m M =>
      rw [hc]
      refine ⟨by rw [List.length_cons, (ih M).1, List.length_cons], fun k => ?_⟩
      cases k with
      | zero => simp
      | succ k =>
        simp only [List.getD_cons_succ, List.length_cons, Nat.add_lt_add_iff_right]
        exact (ih M).2 k

theorem row_loop (f : K → K → K) (z : List K → List K → List K) (row : Nat → List K → List K) (M : List K)
    (hz : ∀ R, (z R M).length = R.length ∧
      ∀ k, (z R M).getD k 0 = if k < R.length then f (R.getD k 0) (M.getD k 0) else 0)
    (h0 : ∀ R, row 0 R = z R M) (hn : ∀ off, row (off + 1) [] = [])
    (hc : ∀ off r R, row (off + 1) (r :: R) = r :: row off R) (off : Nat) (R : List K) :
    (row off R).length = R.length ∧
    ∀ k, (row off R).getD k 0
      = if off ≤ k ∧ k < R.length then f (R.getD k 0) (M.getD (k - off) 0) else R.getD k 0 := by
  induction off generalizing R with
  | zero =>
    rw [h0]
    refine ⟨(hz R).1, fun k => ?_⟩
    rw [(hz R).2 k]
    by_cases hk : k < R.length
    · rw [if_pos hk, if_pos ⟨Nat.zero_le k, hk⟩, Nat.sub_zero]
    · rw [if_neg hk, if_neg (fun c => hk c.2), getD_of_le _ _ (by omega)]
  | succ off ih =>
    cases R with
    | nil => rw [hn]; simp
    | cons r R =>
      rw [hc]
      refine ⟨by rw [List.length_cons, (ih R).1, List.length_cons], fun k => ?_⟩
      cases k with
      | zero => simp
      | succ k =>
        simp only [List.getD_cons_succ, List.length_cons, Nat.add_lt_add_iff_right, Nat.add_le_add_iff_right,
          Nat.add_sub_add_right]
        exact (ih R).2 k

theorem zipAxpy_spec (a : K) (R Q : List K) :
    (zipAxpy a R Q).length = R.length ∧
    ∀ k, (zipAxpy a R Q).getD k 0 = if k < R.length then R.getD k 0 + a * Q.getD k 0 else 0 :=
  zip_loop (fun r b => r + a * b) (fun r => by ring) (zipAxpy a) (fun _ _ _ _ => rfl) (fun R => by cases R <;> rfl)
    (fun M => by cases M <;> rfl) R Q

theorem zipSub_spec (R M : List K) :
    (zipSub R M).length = R.length ∧
    ∀ k, (zipSub R M).getD k 0 = if k < R.length then R.getD k 0 - M.getD k 0 else 0 :=
  zip_loop (fun r m => r - m) sub_zero zipSub (fun _ _ _ _ => rfl) (fun R => by cases R <;> rfl)
    (fun M => by cases M <;> rfl) R M

theorem zipAdd_spec (R M : List K) :
    (zipAdd R M).length = R.length ∧
    ∀ k, (zipAdd R M).getD k 0 = if k < R.length then R.getD k 0 + M.getD k 0 else 0 :=
  zip_loop (fun r m => r + m) add_zero zipAdd (fun _ _ _ _ => rfl) (fun R => by cases R <;> rfl)
    (fun M => by cases M <;> rfl) R M

theorem axpyRow_spec (a : K) (Q : List K) (off : Nat) (R : List K) :
    (axpyRow a Q off R).length = R.length ∧
    ∀ k, (axpyRow a Q off R).getD k 0
      = if off ≤ k ∧ k < R.length then R.getD k 0 + a * Q.getD (k - off) 0 else R.getD k 0 :=
  row_loop (fun r b => r + a * b) (zipAxpy a) (axpyRow a Q) Q (fun R => zipAxpy_spec a R Q) (fun _ => rfl)
    (fun _ => rfl) (fun _ _ _ => rfl) off R

theorem subRow_spec (M : List K) (off : Nat) (R : List K) :
    (subRow M off R).length = R.length ∧
    ∀ k, (subRow M off R).getD k 0
      = if off ≤ k ∧ k < R.length then R.getD k 0 - M.getD (k - off) 0 else R.getD k 0 :=
  row_loop (fun r m => r - m) zipSub (subRow M) M (fun R => zipSub_spec R M) (fun _ => rfl) (fun _ => rfl)
    (fun _ _ _ => rfl) off R

theorem addRow_spec (M : List K) (off : Nat) (R : List K) :
    (addRow M off R).length = R.length ∧
    ∀ k, (addRow M off R).getD k 0
      = if off ≤ k ∧ k < R.length then R.getD k 0 + M.getD (k - off) 0 else R.getD k 0 :=
  row_loop (fun r m => r + m) zipAdd (addRow M) M (fun R => zipAdd_spec R M) (fun _ => rfl) (fun _ => rfl)
    (fun _ _ _ => rfl) off R

/-! ### schoolbook product on ranges -/

theorem row0_length (a : K) (n : Nat) (Q : List K) : (row0 a n Q).length = n := by
  induction n generalizing Q with
  | zero => simp [row0]
  | succ n ih => cases Q <;> simp [row0, ih]

theorem row0_getD (a : K) (n : Nat) (Q : List K) (k : Nat) (hk : k < n) :
    (row0 a n Q).getD k 0 = a * Q.getD k 0 := by
  induction n generalizing Q k with
  | zero => omega
  | succ n ih => cases Q with
    | nil => cases k with
      | zero => simp [row0]
      | succ k => simp only [row0, List.getD_cons_succ]; rw [ih [] k (by omega)]; simp
    | cons b Q => cases k with
      | zero =>
        simp only [row0, List.getD_cons_zero]
        by_cases ha : a = 0
        · simp [ha]
        · by_cases hb : b = 0
          · simp [ha, hb]
          · simp [ha, hb]
      | succ k => simp only [row0, List.getD_cons_succ]; exact ih Q k (by omega)

theorem rowsFrom_length (Q : List K) (off : Nat) (P R : List K) : (rowsFrom Q off P R).length = R.length := by
  induction P generalizing off R with
  | nil => simp [rowsFrom]
  | cons a P ih =>
    simp only [rowsFrom]
    rw [ih]
    split
    · rfl
    · exact (axpyRow_spec _ _ _ _).1

theorem coeff_shift_scale (a : K) (Q : List K) (off k : Nat) :
    (X ^ off * (C a * toPoly Q)).coeff k = if off ≤ k then a * Q.getD (k - off) 0 else 0 := by
  rw [coeff_X_pow_mul']
  split
  · rw [coeff_C_mul, coeff_toPoly]
  · rfl

theorem rowsFrom_getD (Q : List K) (off : Nat) (P R : List K) (k : Nat) (hk : k < R.length) :
    (rowsFrom Q off P R).getD k 0 = R.getD k 0 + (X ^ off * (toPoly P * toPoly Q)).coeff k := by
  induction P generalizing off R with
  | nil => simp [rowsFrom]
  | cons a P ih =>
    simp only [rowsFrom]
    have hsplit : X ^ off * (toPoly (a :: P) * toPoly Q)
        = X ^ off * (C a * toPoly Q) + X ^ (off + 1) * (toPoly P * toPoly Q) := by
      simp only [toPoly_cons]; ring
    rw [hsplit, coeff_add, coeff_shift_scale]
    by_cases ha : a = 0
    · simp only [ha, if_true, zero_mul, ite_self, zero_add]
      exact ih (off + 1) R hk
    · simp only [ha, if_false]
      rw [ih (off + 1) _ (by rw [(axpyRow_spec _ _ _ _).1]; exact hk), (axpyRow_spec _ _ _ _).2]
      by_cases ho : off ≤ k
      · simp [ho, hk]; ring
      · simp [ho]

theorem stdmulR_exact (n : Nat) (P Q : List K) (hn : 0 < n) (hP : P ≠ []) :
    (stdmulR n P Q).length = n ∧ ∀ k, k < n → (stdmulR n P Q).getD k 0 = (toPoly P * toPoly Q).coeff k := by
  cases P with
  | nil => exact absurd rfl hP
  | cons a Pt =>
    have hn0 : n ≠ 0 := by omega
    simp only [stdmulR, hn0, if_false]
    refine ⟨by rw [rowsFrom_length, row0_length], ?_⟩
    intro k hk
    rw [rowsFrom_getD _ _ _ _ _ (by rw [row0_length]; exact hk), row0_getD _ _ _ _ hk]
    have : toPoly (a :: Pt) * toPoly Q = C a * toPoly Q + X ^ 1 * (toPoly Pt * toPoly Q) := by
      simp only [toPoly_cons]; ring
    rw [this, coeff_add, coeff_C_mul, coeff_toPoly]

theorem toPoly_product (P Q R : List K)
    (h : 0 < P.length → 0 < Q.length → toPoly R = toPoly P * toPoly Q) :
    toPoly (if P.isEmpty ∨ Q.isEmpty then [] else setdegree R) = toPoly P * toPoly Q := by
  split
  · next he => rcases he with he | he <;> simp [isEmpty_toPoly he]
  · next he =>
    rw [toPoly_setdegree]
    exact h (List.length_pos_iff.mpr fun e => he (Or.inl (by simp [e])))
      (List.length_pos_iff.mpr fun e => he (Or.inr (by simp [e])))

theorem toPoly_stdmul (P Q : List K) : toPoly (stdmul P Q) = toPoly P * toPoly Q :=
  toPoly_product P Q _ fun hp hq =>
    toPoly_pad_eq _ _ _ (stdmulR_exact (P.length + Q.length - 1) P Q (by omega) (List.length_pos_iff.mp hp)).2
      (fun k hk => coeff_mul_toPoly_of_le P Q k (by omega))

theorem mulR_of_le (thr fuel n : Nat) (P Q : List K) (h : P.length ≤ thr ∨ Q.length ≤ thr) :
    mulR thr fuel n P Q = stdmulR n P Q := by
  cases fuel with
  | zero => rfl
  | succ f =>
    simp only [mulR]
    rw [if_neg (by omega)]

/-! ### the reference arithmetic of `Spec/PolySpec.lean` is the arithmetic of `K[X]` -/

theorem mod_unique (a b r : K[X]) (hb : b ≠ 0) (hd : b ∣ a - r) (hdeg : r.degree < b.degree) : r = a % b := by
  have h1 : b ∣ a % b - r := by
    have : a % b - r = (a - r) - b * (a / b) := by rw [EuclideanDomain.mod_eq_sub_mul_div]; ring
    rw [this]; exact dvd_sub hd (dvd_mul_right _ _)
  have h2 : (a % b - r).degree < b.degree :=
    lt_of_le_of_lt (degree_sub_le _ _) (max_lt (degree_mod_lt _ hb) hdeg)
  have := eq_zero_of_dvd_of_degree_lt h1 h2
  exact (sub_eq_zero.mp this).symm

section
open Givaro.Spec.Poly (norm sadd sscale smul eqv)

theorem norm_eq_setdegree (P : List K) : norm P = setdegree P := by
  induction P with
  | nil => rfl
  | cons a P ih => unfold norm setdegree; rw [ih]; rfl

theorem sadd_eq_add (P Q : List K) : sadd P Q = add P Q := by
  induction P generalizing Q with
  | nil => cases Q <;> rfl
  | cons a P ih => cases Q with
    | nil => rfl
    | cons b Q => simp only [sadd, add, ih]

theorem sadd_exact (P Q : List K) : toPoly (sadd P Q) = toPoly P + toPoly Q := by
  rw [sadd_eq_add, toPoly_add]

theorem sscale_exact (c : K) (P : List K) : toPoly (sscale c P) = C c * toPoly P := toPoly_map_mul_left c P

theorem smul_exact (P Q : List K) : toPoly (smul P Q) = toPoly P * toPoly Q := by
  induction P with
  | nil => simp [smul]
  | cons a P ih =>
    simp only [smul, sadd_exact, sscale_exact, toPoly_cons, ih, C_0]
    ring

theorem eqv_correct (P Q : List K) : eqv P Q = true ↔ toPoly P = toPoly Q := by
  unfold eqv
  rw [decide_eq_true_eq, norm_eq_setdegree, norm_eq_setdegree]
  exact setdegree_eq_iff P Q

end

end Givaro.Lemmas.Poly
