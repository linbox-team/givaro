/- C06 helper lemmas: ruexp.h exp_mod, rugcd.h gcd. -/
import GivaroModel.Lemmas.RecIntDivGen
import GivaroModel.Lemmas.RecIntConv
namespace Givaro.Model.RecInt

/-- value of a list of bits, least significant first -/
def bitsVal : List Bool → Nat
  | [] => 0
  | b :: bs => c2n b + 2 * bitsVal bs

theorem bitsVal_append (l1 l2 : List Bool) : bitsVal (l1 ++ l2) = bitsVal l1 + 2 ^ l1.length * bitsVal l2 := by
  induction l1 with
  | nil => simp [bitsVal]
  | cons x xs ih => simp only [List.cons_append, bitsVal, ih, List.length_cons, pow_succ]; ring

theorem bitsVal_range (l : Nat) : ∀ k : Nat,
    bitsVal ((List.range k).map (fun j => decide ((l / 2 ^ j) % 2 = 1))) = l % 2 ^ k ∧
    ((List.range k).map (fun j => decide ((l / 2 ^ j) % 2 = 1))).length = k
  | 0 => by simp [bitsVal, Nat.mod_one]
  | k+1 => by
      obtain ⟨ih, hl⟩ := bitsVal_range l k
      rw [List.range_succ, List.map_append, bitsVal_append, ih, hl]
      refine ⟨?_, by simp⟩
      simp only [List.map_cons, List.map_nil, bitsVal, Nat.mul_zero, Nat.add_zero, c2n_decide]
      have h1 : l % 2 ^ (k+1) = l % 2 ^ k + 2 ^ k * (l / 2 ^ k % 2) := by rw [pow_succ, Nat.mod_mul]
      rw [h1]
      split
      · rename_i h; rw [h]
      · rename_i h; have : l / 2 ^ k % 2 = 0 := by omega
        rw [this]

theorem bitsVal_bitsLS : ∀ (ls : List Nat), (∀ l ∈ ls, l < B64) → bitsVal (bitsLS ls) = limbsVal ls
  | [], _ => by simp [bitsLS, bitsVal, limbsVal]
  | l :: ls, h => by
      have e : B64 = 2 ^ 64 := by norm_num [B64]
      have hl : l < B64 := h l (by simp)
      have ih := bitsVal_bitsLS ls (fun x hx => h x (by simp [hx]))
      have hr := bitsVal_range l 64
      simp only [bitsLS, List.flatMap_cons] at ih ⊢
      rw [bitsVal_append, hr.1, hr.2, ih, limbsVal, ← e, Nat.mod_eq_of_lt hl]

theorem limbs_lt : ∀ {n : Nat} (b : RU n), WF b → ∀ l ∈ limbsLS b, l < B64
  | _, .limb v, hw, l, hl => by simp only [limbsLS, List.mem_singleton] at hl; subst hl; exact hw
  | _, .node x y, hw, l, hl => by
      simp only [limbsLS, List.mem_append] at hl
      rcases hl with h | h
      · exact limbs_lt x hw.1 l h
      · exact limbs_lt y hw.2 l h

/-- the loop of `exp_mod`: the accumulator is kept reduced, the running square only congruent -/
theorem exp_fold (t : Nat) {n : Nat} (m : RU n) (hm : WF m) (hne : val m ≠ 0) :
    ∀ (L : List Bool) (a x : RU n) (A X : Nat), WF a → val a = A % val m → WF x → val x % val m = X % val m →
      WF (L.foldl (fun (st : RU n × RU n) bit =>
            let a := if bit then mod_n2 t (lmul t st.1 st.2) m else st.1
            (a, mod_n2 t (lsquare t st.2) m)) (a, x)).1 ∧
      val (L.foldl (fun (st : RU n × RU n) bit =>
            let a := if bit then mod_n2 t (lmul t st.1 st.2) m else st.1
            (a, mod_n2 t (lsquare t st.2) m)) (a, x)).1 = A * X ^ bitsVal L % val m
  | [], a, x, A, X, ha, hae, _, _ => by simp [bitsVal, ha, hae]
  | bit :: L, a, x, A, X, ha, hae, hx, hxe => by
      obtain ⟨hsqw, hsqe⟩ := lsquare_ok t x hx
      obtain ⟨hxw, hxe'⟩ := mod_n2_ok t (lsquare t x) m hsqw hm hne
      have hx' : val (mod_n2 t (lsquare t x) m) % val m = X * X % val m := by
        rw [hxe', hsqe, Nat.mod_mod, Nat.mul_mod, hxe, ← Nat.mul_mod]
      cases bit
      · have h := exp_fold t m hm hne L a _ A (X * X) ha hae hxw hx'
        rw [← pow_two, ← pow_mul] at h
        simpa only [List.foldl_cons, Bool.false_eq_true, ↓reduceIte, bitsVal, c2n_false, Nat.zero_add] using h
      · obtain ⟨hpw, hpe⟩ := lmul_ok t a x ha hx
        obtain ⟨haw, hae'⟩ := mod_n2_ok t (lmul t a x) m hpw hm hne
        have h := exp_fold t m hm hne L _ _ (A * X) (X * X) haw
          (by rw [hae', hpe, hae, Nat.mul_mod, Nat.mod_mod, hxe, ← Nat.mul_mod]) hxw hx'
        rw [← pow_two, ← pow_mul, Nat.mul_assoc, ← pow_succ'] at h
        simpa only [List.foldl_cons, ↓reduceIte, bitsVal, c2n_true, Nat.add_comm 1] using h

/-- the accumulator starts at `1 mod n` (`a = 1; mod_n(a, n)`) -/
theorem exp_init (t : Nat) {n : Nat} (m : RU n) (hm : WF m) (hne : val m ≠ 0) :
    WF (div t (ofLimb n 1) m).2 ∧ val (div t (ofLimb n 1) m).2 = 1 % val m := by
  obtain ⟨h1w, h1e⟩ := ofLimb_ok n 1 (by decide)
  obtain ⟨-, hw, -, he⟩ := div_vals t (ofLimb n 1) m h1w hm hne
  exact ⟨hw, by rw [he, h1e]⟩

theorem exp_mod_ok (t : Nat) {n : Nat} (b c m : RU n) (hb : WF b) (hc : WF c) (hm : WF m) (hne : val m ≠ 0) :
    WF (exp_mod t b c m) ∧ val (exp_mod t b c m) = val b ^ val c % val m := by
  obtain ⟨hrw, hinit⟩ := exp_init t m hm hne
  have h := exp_fold t m hm hne (bitsLS (limbsLS c)) _ b 1 (val b) hrw hinit hb rfl
  rwa [bitsVal_bitsLS _ (limbs_lt c hc), limbsVal_limbsLS, Nat.one_mul] at h

theorem exp_mod_l_ok (t : Nat) {n : Nat} (b : RU n) (c : Nat) (m : RU n) (hb : WF b) (hc : c < B64) (hm : WF m) (hne : val m ≠ 0) :
    WF (exp_mod_l t b c m) ∧ val (exp_mod_l t b c m) = val b ^ c % val m := by
  obtain ⟨hrw, hinit⟩ := exp_init t m hm hne
  have h := exp_fold t m hm hne (bitsLS [c]) _ b 1 (val b) hrw hinit hb rfl
  rwa [bitsVal_bitsLS _ (by intro l hl; simp only [List.mem_singleton] at hl; subst hl; exact hc), limbsVal, limbsVal, Nat.mul_zero,
    Nat.add_zero, Nat.one_mul] at h

/-- fuel `f` suffices for Euclid's loop: once `b ≤ a` every step halves the product; if `a < b` the first step only swaps -/
def Fuel (a b f : Nat) : Prop := (b ≤ a ∧ a * b < 2 ^ f) ∨ (a < b ∧ ∃ f', f = f' + 1 ∧ a * b < 2 ^ f')

theorem Fuel.step {a b f : Nat} (h : Fuel a b f) (hb : 0 < b) : ∃ f', f = f' + 1 ∧ Fuel b (a % b) f' := by
  have hr := Nat.mod_lt a hb
  rcases h with ⟨hle, hlt⟩ | ⟨hab, f', hf, hlt⟩
  · have h1 := Nat.div_add_mod a b
    have h2 : b * 1 ≤ b * (a / b) := Nat.mul_le_mul_left _ ((Nat.one_le_div_iff hb).mpr hle)
    have h3 : b * (2 * (a % b)) < b * a := Nat.mul_lt_mul_of_pos_left (by omega) hb
    rw [Nat.mul_left_comm, Nat.mul_comm b a] at h3
    cases f with
    | zero => have := Nat.mul_pos (Nat.lt_of_lt_of_le hb hle) hb; rw [pow_zero] at hlt; omega
    | succ f' => exact ⟨f', rfl, Or.inl ⟨Nat.le_of_lt hr, by rw [pow_succ] at hlt; omega⟩⟩
  · exact ⟨f', hf, Or.inl ⟨by omega, by rw [Nat.mod_eq_of_lt hab, Nat.mul_comm]; exact hlt⟩⟩

/-- the fuel `2·bits + 2` of the model's loops (one unit is spent on the final zero test) -/
theorem Fuel.init {n : Nat} (a b : RU n) (ha : WF a) (hb : WF b) : Fuel (val a) (val b) (2 * bits n + 1) := by
  have h : val a * val b < 2 ^ (2 * bits n) := by
    rw [two_mul, pow_add, ← Bn_eq_two_pow]; exact Nat.mul_lt_mul'' (val_lt a ha) (val_lt b hb)
  by_cases hle : val b ≤ val a
  · exact Or.inl ⟨hle, by rw [pow_succ]; omega⟩
  · exact Or.inr ⟨by omega, _, rfl, h⟩

theorem gcd_mod_step (a b : Nat) : Nat.gcd b (a % b) = Nat.gcd a b := by
  rw [Nat.gcd_comm a b, Nat.gcd_rec b a, Nat.gcd_comm]

theorem gcdLoop_ok (t : Nat) {n : Nat} : ∀ (f : Nat) (c d : RU n), WF c → WF d → Fuel (val c) (val d) f →
    WF (gcdLoop t (f+1) c d) ∧ val (gcdLoop t (f+1) c d) = Nat.gcd (val c) (val d) := by
  intro f
  induction f using Nat.strong_induction_on with
  | _ f ih =>
    intro c d hc hd hf
    simp only [gcdLoop]
    by_cases hz : isZero d = true
    · rw [if_pos hz, (isZero_iff d).mp hz, Nat.gcd_zero_right]; exact ⟨hc, rfl⟩
    · rw [if_neg hz]
      have hne : val d ≠ 0 := fun h => hz ((isZero_iff d).mpr h)
      obtain ⟨-, hrw, -, hre⟩ := div_vals t c d hc hd hne
      obtain ⟨f', rfl, hf'⟩ := hf.step (Nat.pos_of_ne_zero hne)
      rw [← hre] at hf'
      have h := ih f' (Nat.lt_succ_self _) d (div t c d).2 hd hrw hf'
      rwa [hre, gcd_mod_step] at h

/-- the model's fuel suffices: `Fuel.init` -/
theorem gcd_ok (t : Nat) {n : Nat} (a b : RU n) (ha : WF a) (hb : WF b) :
    WF (gcd t a b) ∧ val (gcd t a b) = Nat.gcd (val a) (val b) :=
  gcdLoop_ok t (2 * bits n + 1) a b ha hb (Fuel.init a b ha hb)

end Givaro.Model.RecInt
