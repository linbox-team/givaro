/-
Two consecutive rows of the extended Euclidean scheme, stated once for the Euclid-type loops of the models.

* `Rows` (any commutative ring): both cofactor columns and their determinant. A round with any quotient and any
  scaling of the new row keeps it; a unit determinant gives the inputs back from the current pair, hence the common
  divisors, the gcd and the lcm at the exit, without cancellation. (The polynomial gcdext / lcm / invmod loops of C08;
  `invmodunit` keeps the second column as a ghost. C11's `Cof` of `Lemmas/RatReconLemmas.lean` is by definition
  `∃ sa sb, Rows …`: the code computes one cofactor column, the column of the modulus is a ghost; its lemmas are read off
  `Rows.init`, `Rows.step` and the three fields.)
* `ModRows` (`Int`): one cofactor column, only modulo `b`, for the loops that reduce the cofactor at every step
  (ruinvmod.h's `inv_mod` in its two `Int` models; the `RU n` model keeps the same rows as `Nat.ModEq` congruences in
  `RecIntInvMod`); the common divisors are carried, since reduction destroys the determinant.
* `SRows` (`Int`): the cofactors of one operand as magnitudes with a sign flag (`extended_euclid` of modular-general.inl
  in its integral, floating and two-variable forms); the determinant `U·r + V·d = b` bounds every intermediate of a
  pass by `b`, which is the whole no-overflow argument.
* the halving of `d·r` for loops whose fuel is logarithmic.
-/
import Mathlib.Tactic.Ring
import Mathlib.Tactic.LinearCombination
import Mathlib.Data.Int.Basic
import Mathlib.Data.Int.GCD
import Mathlib.Tactic.Linarith
import Mathlib.Algebra.Ring.Divisibility.Basic
namespace Givaro.Lemmas.Euclid

section ring
variable {R : Type} [CommRing R]

theorem dvd_rem_iff {g d r m : R} (q : R) (h : d = q * r + m) : (g ∣ r ∧ g ∣ m) ↔ (g ∣ d ∧ g ∣ r) := by
  rw [h]
  exact ⟨fun ⟨h1, h2⟩ => ⟨(dvd_add_right (h1.mul_left q)).2 h2, h1⟩,
    fun ⟨h1, h2⟩ => ⟨h2, (dvd_add_right (h2.mul_left q)).1 h1⟩⟩

/-- `(s0,t0)`, `(s1,t1)` are cofactor rows of `f`, `g` with respect to `a`, `b`, and `d` is their determinant -/
structure Rows (a b f g s0 t0 s1 t1 d : R) : Prop where
  row0 : s0 * a + t0 * b = f
  row1 : s1 * a + t1 * b = g
  det : s0 * t1 - s1 * t0 = d

namespace Rows
variable {a b f g s0 t0 s1 t1 d : R}

theorem init (a b : R) : Rows a b a b 1 0 0 1 1 := ⟨by ring, by ring, by ring⟩

theorem step (h : Rows a b f g s0 t0 s1 t1 d) (q u : R) :
    Rows a b g ((f - q * g) * u) s1 t1 ((s0 - q * s1) * u) ((t0 - q * t1) * u) (-(d * u)) :=
  ⟨h.row1, by rw [← h.row0, ← h.row1]; ring, by rw [← h.det]; ring⟩

/-- the cofactor matrix inverts up to its determinant: the inputs come back from the current pair -/
theorem mul_a (h : Rows a b f g s0 t0 s1 t1 d) : d * a = t1 * f - t0 * g := by
  rw [← h.det, ← h.row0, ← h.row1]; ring

theorem mul_b (h : Rows a b f g s0 t0 s1 t1 d) : d * b = s0 * g - s1 * f := by
  rw [← h.det, ← h.row0, ← h.row1]; ring

theorem dvd_iff (h : Rows a b f g s0 t0 s1 t1 d) (hd : IsUnit d) (e : R) : (e ∣ f ∧ e ∣ g) ↔ (e ∣ a ∧ e ∣ b) := by
  refine ⟨fun ⟨hf, hg⟩ => ⟨(hd.dvd_mul_left).mp ?_, (hd.dvd_mul_left).mp ?_⟩, fun ⟨ha, hb⟩ => ⟨?_, ?_⟩⟩
  · rw [h.mul_a]; exact dvd_sub (hf.mul_left _) (hg.mul_left _)
  · rw [h.mul_b]; exact dvd_sub (hg.mul_left _) (hf.mul_left _)
  · rw [← h.row0]; exact dvd_add (ha.mul_left _) (hb.mul_left _)
  · rw [← h.row1]; exact dvd_add (ha.mul_left _) (hb.mul_left _)

theorem isGcd (h : Rows a b f 0 s0 t0 s1 t1 d) (hd : IsUnit d) : f ∣ a ∧ f ∣ b ∧ ∀ e, e ∣ a → e ∣ b → e ∣ f :=
  ⟨((h.dvd_iff hd f).mp ⟨dvd_refl f, dvd_zero f⟩).1, ((h.dvd_iff hd f).mp ⟨dvd_refl f, dvd_zero f⟩).2,
    fun e ha hb => ((h.dvd_iff hd e).mpr ⟨ha, hb⟩).1⟩

/-- no cancellation, so also for `a = 0` -/
theorem isLcm (h : Rows a b f 0 s0 t0 s1 t1 d) (hd : IsUnit d) :
    a ∣ s1 * a ∧ b ∣ s1 * a ∧ ∀ m, a ∣ m → b ∣ m → s1 * a ∣ m := by
  have e : s1 * a = -(t1 * b) := eq_neg_of_add_eq_zero_left h.row1
  refine ⟨dvd_mul_left _ _, ⟨-t1, by rw [e]; ring⟩, ?_⟩
  rintro m ⟨a', rfl⟩ ⟨b', hb'⟩
  exact (hd.dvd_mul_left).mp
    ⟨-(s0 * b' + t0 * a'), by linear_combination (-(a * a')) * h.det + (s0 * t1) * hb' + (s0 * b') * h.row1⟩

end Rows

end ring

/-! ### one cofactor column, modulo `b` -/

/-- rows `c·a ≡ r (mod b)` of the scheme for `(b, a)`; the cofactors are signed and only determined modulo `b`; the
    remainders keep the common divisors of `b` and `a` -/
structure ModRows (a b r0 r1 c0 c1 : Int) : Prop where
  c0 : b ∣ c0 * a - r0
  c1 : b ∣ c1 * a - r1
  dv : ∀ g : Int, (g ∣ r0 ∧ g ∣ r1) ↔ (g ∣ b ∧ g ∣ a)

/-- the start of a loop whose first pass only swaps the pair (`inv_mod(a, b, c)` starts from `(b, c)`) -/
theorem ModRows.init_swap (a b : Int) : ModRows a b a b 1 0 := ⟨⟨0, by ring⟩, ⟨-1, by ring⟩, fun _ => and_comm⟩

theorem ModRows.step {a b r0 r1 c0 c1 : Int} (h : ModRows a b r0 r1 c0 c1) {q m c' : Int} (hm : r0 = q * r1 + m)
    (hc : b ∣ c' - (c0 - q * c1)) : ModRows a b r1 m c1 c' := by
  obtain ⟨⟨k0, h0⟩, ⟨k1, h1⟩, hdv⟩ := h
  obtain ⟨k, hk⟩ := hc
  exact ⟨⟨k1, h1⟩, ⟨k * a + k0 - q * k1, by linear_combination a * hk + h0 - q * h1 + hm⟩,
    fun g => (dvd_rem_iff q hm).trans (hdv g)⟩

theorem ModRows.gcd {a b r0 c0 c1 : Int} (h : ModRows a b r0 0 c0 c1) (h0 : 0 ≤ r0) :
    r0 = (Int.gcd a b : Int) ∧ b ∣ c0 * a - (Int.gcd a b : Int) := by
  have hd : r0 = (Int.gcd a b : Int) :=
    Int.gcd_greatest h0 ((h.dv r0).1 ⟨dvd_refl _, dvd_zero _⟩).2 ((h.dv r0).1 ⟨dvd_refl _, dvd_zero _⟩).1
      fun e h1 h2 => ((h.dv e).2 ⟨h2, h1⟩).1
  exact ⟨hd, hd ▸ h.c0⟩


/-! ### cofactor magnitudes with a sign flag -/

/-- Rows `(d, −σ·U)`, `(r, σ·V)` of the scheme for `(b, a)`, cofactors of `a` only: `σ = ±1` alternates, `U ≤ V` are the
    magnitudes, and `U·r + V·d = b` is the determinant of the two rows against `(b, 0)`. -/
structure SRows (a b σ d r U V : Int) : Prop where
  sg : σ = 1 ∨ σ = -1
  r0 : 0 ≤ r
  rd : r < d
  db : d ≤ b
  U0 : 0 ≤ U
  UV : U ≤ V
  det : U * r + V * d = b
  cd : b ∣ U * a + σ * d
  cr : b ∣ V * a - σ * r
  gcd : Int.gcd d r = Int.gcd a b

variable {a b σ d r U V : Int}

theorem SRows.init (hb : 0 < b) : SRows a b 1 b (a % b) 0 1 where
  sg := Or.inl rfl
  r0 := Int.emod_nonneg a (ne_of_gt hb)
  rd := Int.emod_lt_of_pos a hb
  db := le_refl b
  U0 := le_refl 0
  UV := Int.one_nonneg
  det := by ring
  cd := ⟨1, by ring⟩
  cr := ⟨a / b, by linear_combination -Int.emod_add_mul_ediv a b⟩
  gcd := by rw [Int.gcd_comm, Int.gcd_emod]

theorem SRows.init_lt (h0 : 0 ≤ a) (h1 : a < b) : SRows a b 1 b a 0 1 := by
  have := SRows.init (a := a) (lt_of_le_of_lt h0 h1)
  rwa [Int.emod_eq_of_lt h0 h1] at this

theorem SRows.V_le (h : SRows a b σ d r U V) : V ≤ b := by
  have h1 : V ≤ V * d := le_mul_of_one_le_right (le_trans h.U0 h.UV) (by have := h.r0; have := h.rd; omega)
  have h2 := Int.mul_nonneg h.U0 h.r0
  have := h.det
  omega

theorem SRows.step (h : SRows a b σ d r U V) (hr : r ≠ 0) : SRows a b (-σ) r (d % r) V (d / r * V + U) := by
  obtain ⟨hs, h0, hrd, hdb, hU, hUV, hdet, ⟨k1, hk1⟩, ⟨k2, hk2⟩, hg⟩ := h
  have hr' : 0 < r := by omega
  have hdm : d / r * r + d % r = d := Int.ediv_mul_add_emod d r
  have hV : V ≤ d / r * V := le_mul_of_one_le_left (le_trans hU hUV) (Int.le_ediv_of_mul_le hr' (by omega))
  exact {
    sg := by omega
    r0 := Int.emod_nonneg d hr
    rd := Int.emod_lt_of_pos d hr'
    db := by omega
    U0 := le_trans hU hUV
    UV := by omega
    det := by linear_combination hdet + V * hdm
    cd := ⟨k2, by linear_combination hk2⟩
    cr := ⟨d / r * k2 + k1, by linear_combination (d / r) * hk2 + hk1 + σ * hdm⟩
    gcd := by rw [← hg, Int.gcd_comm r, Int.gcd_emod] }

theorem SRows.bounds (h : SRows a b σ d r U V) (hr : r ≠ 0) :
    (0 ≤ d / r ∧ d / r ≤ b) ∧ (0 ≤ d / r * V ∧ d / r * V + U ≤ b) ∧ (0 ≤ d / r * r ∧ d / r * r ≤ b)
      ∧ d - d / r * r = d % r := by
  have hb := (h.step hr).V_le
  obtain ⟨_, h0, hrd, hdb, hU, hUV, _⟩ := h
  have hq : 0 ≤ d / r := Int.ediv_nonneg (by omega) h0
  have hdm : d / r * r + d % r = d := Int.ediv_mul_add_emod d r
  have := Int.emod_nonneg d hr
  have := Int.ediv_le_self r (by omega : 0 ≤ d)
  have := Int.mul_nonneg hq (le_trans hU hUV)
  have := Int.mul_nonneg hq h0
  omega

theorem SRows.exit (h : SRows a b σ d 0 U V) : d = (Int.gcd a b : Int) ∧ V * d = b := by
  have := h.rd
  refine ⟨?_, by have := h.det; omega⟩
  rw [← h.gcd, Int.gcd_zero_right, Int.natAbs_of_nonneg (by omega)]

theorem SRows.U_le (h : SRows a b σ d r U V) : U ≤ b := le_trans h.UV h.V_le

/-- `U = b` would force `V = b`, `d = 1` and `b ∣ 1` -/
theorem SRows.U_lt (h : SRows a b σ d 0 U V) (hb : 1 < b) : U < b := by
  have hVb := h.V_le
  have hVd := h.exit.2
  obtain ⟨hs, _, _, _, hU, hUV, _, ⟨k, hk⟩, _, _⟩ := h
  refine lt_of_le_of_ne (le_trans hUV hVb) fun hUb => ?_
  have hV : V = b := le_antisymm hVb (hUb ▸ hUV)
  have hd : d = 1 := by
    rw [hV] at hVd
    exact Int.eq_one_of_mul_eq_self_right (by omega) hVd
  rw [hUb, hd] at hk
  have : b ∣ 1 := by
    rcases hs with rfl | rfl
    · exact ⟨k - a, by linear_combination hk⟩
    · exact ⟨a - k, by linear_combination -hk⟩
  have := Int.le_of_dvd Int.one_pos this
  omega

/-- flag set: `U·a ≡ −d`; the integral code returns `b − U` unless `U = 0`, the floating one `−U` -/
theorem SRows.cof_flag (h : SRows a b 1 d r U V) :
    b ∣ (b - U) * a - d ∧ (U = 0 → b ∣ U * a - d) ∧ b ∣ -U * a - d := by
  obtain ⟨k, hk⟩ := h.cd
  exact ⟨⟨a - k, by linear_combination -hk⟩, fun h0 => ⟨-k, by rw [h0] at hk ⊢; linear_combination -hk⟩,
    ⟨-k, by linear_combination -hk⟩⟩

/-- flag clear: `U·a ≡ d` -/
theorem SRows.cof_noflag (h : SRows a b (-1) d r U V) : b ∣ U * a - d := by
  obtain ⟨k, hk⟩ := h.cd
  exact ⟨k, by linear_combination hk⟩

/-! ### logarithmic fuel -/

theorem two_mul_rem_lt {d r : Int} (h0 : 0 < r) (h1 : r ≤ d) : 2 * (r * (d % r)) < d * r := by
  have hm1 := Int.emod_lt_of_pos d h0
  have hm0 := Int.emod_nonneg d (by omega : r ≠ 0)
  have hdm : d / r * r + d % r = d := Int.ediv_mul_add_emod d r
  have hq : r ≤ d / r * r := le_mul_of_one_le_left (by omega) (Int.le_ediv_of_mul_le h0 (by omega))
  have := Int.mul_lt_mul_of_pos_right (show 2 * (d % r) < d by omega) h0
  linarith

end Givaro.Lemmas.Euclid
