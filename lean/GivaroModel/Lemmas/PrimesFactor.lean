/-
C12 — the factor-driver loops of givintfactor.h (model: Model/PrimesFactor.lean + the `set` loop of Model/Primes.lean):
the two trial-division cascades return a prime divisor whenever the gcd test sends them there, `factor` returns a
non-trivial divisor of every composite and `iffactorprime` a prime factor under the contract of the rho oracle for
`loops = 0` (`Lenstra` is `Pollard` around the guarded curves); the loop of `set(Lf, n)` follows the loop of `set(Lf, Lo, n)`.
-/
import GivaroModel.Model.PrimesFactor
import GivaroModel.Lemmas.PrimesLemmas
import Mathlib.Data.Int.GCD
namespace Givaro.Lemmas.Primes
open Givaro Givaro.Model.Primes Givaro.Spec.Primes

theorem cascade_eq_find (n : Int) : ∀ (ps : List Nat) (last : Nat),
    cascade n ps last = (ps.find? fun p : Nat => decide (n % (p : Int) = 0)).getD last
  | [], _ => rfl
  | p :: ps, last => by
    unfold cascade
    by_cases h : n % (p : Int) = 0
    · simp [h]
    · simp [h, cascade_eq_find n ps last]

theorem exists_listed_dvd (L : List Nat) (hL : ∀ p ∈ L, Nat.Prime p) (n : Int) (h : Int.gcd n ((L.prod : Nat) : Int) ≠ 1) :
    ∃ p ∈ L, n % (p : Int) = 0 := by
  set g := Int.gcd n ((L.prod : Nat) : Int) with hg
  have hq := Nat.minFac_prime h
  have hqg : g.minFac ∣ g := Nat.minFac_dvd g
  have h2 : g ∣ L.prod := Int.natCast_dvd_natCast.1 (Int.gcd_dvd_right _ _)
  obtain ⟨a, ha, hqa⟩ := (Prime.dvd_prod_iff (Nat.prime_iff.1 hq)).1 (Nat.dvd_trans hqg h2)
  refine ⟨a, ha, Int.emod_eq_zero_of_dvd ?_⟩
  rw [← (Nat.prime_dvd_prime_iff_eq hq (hL a ha)).1 hqa]
  exact Int.dvd_trans (Int.natCast_dvd_natCast.2 hqg) (Int.gcd_dvd_left _ _)

/-- some listed prime divides `n`, so the search finds one, or none of `ps` divides and it is `last` -/
theorem cascade_full (n : Int) (ps : List Nat) (last : Nat) (hL : (ps ++ [last]).all isPrimeDec = true)
    (hg : Int.gcd n (((ps ++ [last]).prod : Nat) : Int) ≠ 1) :
    Nat.Prime (cascade n ps last) ∧ ((cascade n ps last : Nat) : Int) ∣ n := by
  have hP := prime_of_all_isPrimeDec hL
  obtain ⟨p, hp, hpn⟩ := exists_listed_dvd _ hP n hg
  rw [cascade_eq_find]
  cases h : ps.find? fun p : Nat => decide (n % (p : Int) = 0) with
  | some q =>
    have hq : n % (q : Int) = 0 := by simpa using List.find?_some h
    exact ⟨hP q (List.mem_append_left _ (List.mem_of_find?_eq_some h)), Int.dvd_of_emod_eq_zero hq⟩
  | none =>
    rcases List.mem_append.1 hp with hps | hl
    · exact absurd (decide_eq_true hpn) (List.find?_eq_none.1 h p hps)
    · rw [List.mem_singleton.1 hl] at hpn
      exact ⟨hP last (by simp), Int.dvd_of_emod_eq_zero hpn⟩

theorem firstList_prod : (firstPrimesOrder ++ [13]).prod = PROD_first_primes := by decide +kernel
theorem secondList_prod : (secondPrimesOrder ++ [73]).prod = PROD_second_primes := by decide +kernel

/-- the value is a prime divisor of `n` found by one of the cascades, or what the inner routine returns on `n`, and then `n ≥ 3` -/
theorem factor_cases (inner : Int → Int) (n : Int) (hn : 1 < n) (P : Int → Prop)
    (hprime : ∀ c : Nat, Nat.Prime c → (c : Int) ∣ n → P c) (hinner : 3 ≤ n → P (inner n)) : P (factor inner n) := by
  unfold factor
  split
  · next h1 =>
    split
    · refine hinner ?_
      by_contra h3
      obtain rfl : n = 2 := by omega
      revert h1; decide
    · next h2 =>
      obtain ⟨hc, hd⟩ := cascade_full n secondPrimesOrder 73 (by decide +kernel)
        (by rwa [secondList_prod])
      exact hprime _ hc hd
  · next h1 =>
    obtain ⟨hc, hd⟩ := cascade_full n firstPrimesOrder 13 (by decide +kernel)
      (by rwa [firstList_prod])
    exact hprime _ hc hd

/-- what `factor` owes its callers on `n > 1`: a divisor `> 1`, proper when `n` is composite -/
def FactorOK (n r : Int) : Prop := r ∣ n ∧ 1 < r ∧ r ≤ n ∧ (¬ Nat.Prime n.toNat → r < n)

theorem FactorOK.of_prime_dvd {n : Int} (hn : 1 < n) {c : Nat} (hc : Nat.Prime c) (hd : (c : Int) ∣ n) : FactorOK n c := by
  have h2 := hc.two_le
  have hle : (c : Int) ≤ n := Int.le_of_dvd (by omega) hd
  refine ⟨hd, by omega, hle, fun hnp => lt_of_le_of_ne hle fun h => hnp ?_⟩
  rw [← h]; simpa using hc

theorem FactorOK.self {n : Int} (hn : 1 < n) (hp : Nat.Prime n.toNat) : FactorOK n n :=
  ⟨Int.dvd_refl n, hn, Int.le_refl n, fun h => absurd hp h⟩

theorem FactorOK.of_nontrivial {n r : Int} (h : 1 < r ∧ r < n ∧ r ∣ n) : FactorOK n r :=
  ⟨h.2.2, h.1, by omega, fun _ => h.2.1⟩

/-- contract of the rho iteration with `loops = 0` (it runs until it has a non-trivial divisor) -/
def RhoFull (rho : Int → Int) : Prop :=
  ∀ m : Int, 3 ≤ m → ¬ Nat.Prime m.toNat → 1 < rho m ∧ rho m < m ∧ rho m ∣ m

def ReturnsPrimeFactor (n : Int) (o : Option Int) : Prop := ∃ r, o = some r ∧ Nat.Prime r.toNat ∧ r ∣ n ∧ 1 < r

section
variable (isp : Int → Bool) (hisp : ∀ n : Int, isp n = true ↔ Nat.Prime n.toNat)
include hisp

theorem pollard_full (rho : Int → Int) (hrho : RhoFull rho) (n : Int) (hn : 3 ≤ n) : FactorOK n (pollard isp rho n) := by
  unfold pollard
  rw [if_neg (by omega)]
  split
  · next hp => exact .self (by omega) ((hisp n).1 hp)
  · next hp => exact .of_nontrivial (hrho n hn fun h => hp ((hisp n).2 h))

theorem factorP_full (rho : Int → Int) (hrho : RhoFull rho) (n : Int) (hn : 1 < n) : FactorOK n (factorP isp rho n) :=
  factor_cases _ n hn (FactorOK n) (fun _ hc hd => .of_prime_dvd hn hc hd) (pollard_full isp hisp rho hrho n)

variable (rho : Nat → Int → Int) (hrho : ∀ i, RhoFull (rho i)) (ecm : Int → Int)
include hrho

/-- the loop `while (!isprime(r))` descends through proper divisors of `n`; Lenstra is never reached -/
theorem ifpLoop_full (n : Int) (fuel i : Nat) (r : Int) (h1 : 1 < r) (h2 : r.toNat < fuel) (hd : r ∣ n) :
    ReturnsPrimeFactor n (ifpLoop isp rho ecm fuel i r) := by
  fun_induction ifpLoop isp rho ecm fuel i r with
  | case1 => omega
  | case2 f i r hp => exact ⟨r, rfl, (hisp r).1 hp, hd, h1⟩
  | case3 f i r hp nn r' heq =>
    exact absurd heq (Int.ne_of_lt ((factorP_full isp hisp (rho i) (hrho i) r h1).2.2.2 fun h => hp ((hisp r).2 h)))
  | case4 f i r hp nn r' hne ih =>
    obtain ⟨a, b, c, d⟩ := factorP_full isp hisp (rho i) (hrho i) r h1
    have hlt : factorP isp (rho i) r < r := d fun h => hp ((hisp r).2 h)
    exact ih b (show (factorP isp (rho i) r).toNat < f by omega) (Int.dvd_trans a hd)

/-- the part `iffactorprime` shares between the two builds (`f1` = the second `factor` call) -/
theorem ifp_tail (f1 : Int → Int) (hf1 : ∀ m, 1 < m → FactorOK m (f1 m)) {n r0 : Int} (h0 : FactorOK n r0)
    (fuel : Nat) (hfuel : n.toNat < fuel) :
    ReturnsPrimeFactor n (ifpLoop isp rho ecm fuel 2 (if !isp r0 then f1 r0 else r0)) := by
  obtain ⟨a, b, c, _⟩ := h0
  split
  · obtain ⟨a', b', c', _⟩ := hf1 r0 b
    exact ifpLoop_full isp hisp rho hrho ecm n fuel 2 _ b' (by omega) (Int.dvd_trans a' a)
  · exact ifpLoop_full isp hisp rho hrho ecm n fuel 2 r0 b (by omega) a

theorem iffactorprime_full (n : Int) (hn : 1 < n) (fuel : Nat) (hfuel : n.toNat < fuel) :
    ReturnsPrimeFactor n (iffactorprime isp rho ecm fuel n) := by
  have h0 := factorP_full isp hisp (rho 0) (hrho 0) n hn
  unfold iffactorprime
  rw [if_pos (by have := h0.2.1; omega)]
  exact ifp_tail isp hisp rho hrho ecm _ (factorP_full isp hisp (rho 1) (hrho 1)) h0 fuel hfuel

end

theorem pfOf_full (isp : Int → Bool) (hisp : ∀ n : Int, isp n = true ↔ Nat.Prime n.toNat)
    (rho : Nat → Nat → Int → Int) (hrho : ∀ k i, RhoFull (rho k i)) (ecm : Int → Int) (m : Nat) (hm : 1 < m) :
    Nat.Prime (pfOf isp rho ecm m) ∧ pfOf isp rho ecm m ∣ m := by
  unfold pfOf
  obtain ⟨r, h1, h2, h3, h4⟩ := iffactorprime_full isp hisp (rho m) (hrho m) ecm (m : Int) (by omega) (m + 2) (by simp)
  rw [h1]
  refine ⟨h2, Int.natCast_dvd_natCast.1 ?_⟩
  rwa [Int.toNat_of_nonneg (by omega)]

/-- the oracle never answers 1, so that both loops divide by the same `g` -/
theorem set1Loop_sim (pf : Nat → Nat) (hpf : ∀ m, 1 < m → pf m ≠ 1) :
    ∀ (fuel nn : Nat) (acc : List (Nat × Nat)) (c : Bool),
      set1Loop pf fuel nn (acc.map Prod.fst) = (setLoop pf fuel nn acc c).map (fun r => r.1.map Prod.fst) := by
  intro fuel
  induction fuel with
  | zero => intro nn acc c; rfl
  | succ f ih =>
    intro nn acc c
    unfold set1Loop setLoop
    by_cases hle : nn ≤ 1
    · simp [hle, List.map_reverse]
    · simp only [hle, ↓reduceIte]
      have h1 := hpf nn (by omega)
      simp only [h1, ↓reduceIte]
      rcases hd : divLoop (pf nn) (nn + 1) (nn / pf nn) 0 with _ | ⟨nn', k⟩
      · simp
      · simp only
        have := ih nn' ((pf nn, k) :: acc) c
        simpa using this

/-- contract of the curves of `Lenstra` one would like: a non-trivial divisor of every composite -/
def EcmFull (ecm : Int → Int) : Prop :=
  ∀ m : Int, 3 ≤ m → ¬ Nat.Prime m.toNat → 1 < ecm m ∧ ecm m < m ∧ ecm m ∣ m

/-- what the curves of the code as it is can end with: the failure value -1, or a divisor > 1 — possibly `m` itself (every
    prime factor met in the same step: the gcd of the accumulated product is `m`) -/
def EcmObserved (ecm : Int → Int) : Prop :=
  ∀ m : Int, 3 ≤ m → ecm m = -1 ∨ (1 < ecm m ∧ ecm m ≤ m ∧ ecm m ∣ m)

/-- the curves of `Lenstra` behind its two trial divisions: `lenstra isp ecm` is `pollard isp (ecmGuard ecm)` -/
def ecmGuard (ecm : Int → Int) (n : Int) : Int := if n % 2 = 0 then 2 else if n % 3 = 0 then 3 else ecm n

theorem factorLen_eq_factorP (isp : Int → Bool) (ecm : Int → Int) : factorLen isp ecm = factorP isp (ecmGuard ecm) := rfl

theorem ecmGuard_full {ecm : Int → Int} (h : EcmFull ecm) : RhoFull (ecmGuard ecm) := by
  intro m hm hnp
  have m3 : m ≠ 3 := fun h => hnp (h ▸ Nat.prime_three)
  unfold ecmGuard
  split
  · next h2 => exact ⟨by omega, by omega, Int.dvd_of_emod_eq_zero h2⟩
  split
  · next h3 => exact ⟨by omega, by omega, Int.dvd_of_emod_eq_zero h3⟩
  exact h m hm hnp  -- `EcmFull` and `RhoFull` are one contract

theorem factorLen_full (isp : Int → Bool) (hisp : ∀ n : Int, isp n = true ↔ Nat.Prime n.toNat)
    (ecm : Int → Int) (hecm : EcmFull ecm) (n : Int) (hn : 1 < n) : FactorOK n (factorLen isp ecm n) :=
  factorLen_eq_factorP isp ecm ▸ factorP_full isp hisp _ (ecmGuard_full hecm) n hn

theorem lenstra_partial (isp : Int → Bool) (ecm : Int → Int) (hecm : EcmObserved ecm) (n : Int) (hn : 3 ≤ n) :
    lenstra isp ecm n = -1 ∨ (lenstra isp ecm n ∣ n ∧ 1 < lenstra isp ecm n ∧ lenstra isp ecm n ≤ n) := by
  unfold lenstra
  rw [if_neg (by omega)]
  split
  · exact Or.inr ⟨Int.dvd_refl n, by omega, Int.le_refl n⟩
  split
  · next h2 => exact Or.inr ⟨Int.dvd_of_emod_eq_zero h2, by omega, by omega⟩
  split
  · next h3 => exact Or.inr ⟨Int.dvd_of_emod_eq_zero h3, by omega, by omega⟩
  exact (hecm n hn).imp_right fun ⟨a, b, c⟩ => ⟨c, a, b⟩

end Givaro.Lemmas.Primes
