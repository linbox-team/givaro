/- C13 — `sqrootmodprime`: its branches as equations, the closed-form algorithms (Euler, Atkin, Müller) as identities over a field,
   what each branch computes in `ZMod p`, and that the function returns under the draw hypotheses. -/
import GivaroModel.Lemmas.NumTheoLemmas
import Mathlib.NumberTheory.LegendreSymbol.Basic
import Mathlib.NumberTheory.LegendreSymbol.QuadraticReciprocity
namespace Givaro.Lemmas.NumTheo
open Givaro.Model.NumTheo

/-! ## the loop that splits `p - 1 = q·2^e` -/

theorem splitTwo_natCast : ∀ (fuel m e0 : Nat), 0 < m → m < 2 ^ fuel →
    ∃ q e : Nat, splitTwo fuel (m : Int) e0 = ((q : Int), e) ∧ q * 2 ^ e = m * 2 ^ e0 ∧ q % 2 = 1 := by
  intro fuel
  induction fuel with
  | zero => intro m e0 h0 h1; simp at h1; omega
  | succ n ih =>
    intro m e0 h0 h1
    rw [splitTwo]
    by_cases hc : m % 2 = 0
    · rw [if_pos (by omega), show (m : Int) / 2 = ((m / 2 : Nat) : Int) by omega]
      obtain ⟨q, e, hs, hqe, hq⟩ := ih (m / 2) (e0 + 1) (by omega) (by rw [pow_succ] at h1; omega)
      refine ⟨q, e, hs, ?_, hq⟩
      rw [hqe, pow_succ, ← Nat.mul_assoc, Nat.mul_right_comm, Nat.div_mul_cancel (Nat.dvd_of_mod_eq_zero hc)]
    · rw [if_neg (by omega)]
      exact ⟨m, e0, rfl, rfl, by omega⟩

/-! ## the branches of `sqrootmodprime` -/

section
variable {rnd : Nat → Int} {a p : Int}

theorem sqrootmodprime_early (h01 : a % p = 0 ∨ a % p = 1) : sqrootmodprime rnd a p = some (a % p) := by
  unfold sqrootmodprime
  simp only [h01, ↓reduceIte]

theorem sqrootmodprime_reports_nonresidue (h01 : ¬ (a % p = 0 ∨ a % p = 1)) (hleg : legendre (a % p) p = -1) :
    sqrootmodprime rnd a p = some (-1) := by
  unfold sqrootmodprime
  simp only [h01, hleg, ↓reduceIte]

variable (h01 : ¬ (a % p = 0 ∨ a % p = 1)) (hnl : legendre (a % p) p ≠ -1)
include h01 hnl

theorem sqrootmodprime_3mod4 (h3 : p % 4 = 3) :
    sqrootmodprime rnd a p = some (powmod (a % p) ((p + 1) / 4).toNat p) := by
  unfold sqrootmodprime
  simp only [h01, hnl, h3, ↓reduceIte]

/-- Atkin's branch -/
theorem sqrootmodprime_5mod8 (h5 : p % 8 = 5) :
    sqrootmodprime rnd a p = some (if powmod (a % p) ((p - 1) / 4).toNat p = 1 then powmod (a % p) ((p + 3) / 8).toNat p
      else Int.tmod (powmod (a % p * 4) ((p - 5) / 8).toNat p * (a % p) * 2) p) := by
  unfold sqrootmodprime
  simp only [h01, hnl, show ¬ p % 4 = 3 by omega, h5, ↓reduceIte]
  split <;> rfl

/-- Müller's branch -/
theorem sqrootmodprime_9mod16 (h9 : p % 16 = 9) :
    sqrootmodprime rnd a p =
      (firstDraw rnd (fun d => legendre d p != if powmod (a % p * 2) ((p - 1) / 4).toNat p ≠ 1 then -1 else 1) drawFuel 0).map
        (fun d =>
          let i := a % p * 2 * d * d
          let x := powmod i ((p - 9) / 16).toNat p
          Int.tmod (Int.tmod (Int.tmod (x * d) p * (Int.tmod (Int.tmod (i * x) p * x) p - 1)) p * (a % p)) p) := by
  unfold sqrootmodprime
  simp only [h01, hnl, show ¬ p % 4 = 3 by omega, show ¬ p % 8 = 5 by omega, h9, ↓reduceIte]
  split <;> simp only [*, Option.map_none, Option.map_some]

/-- Tonelli–Shanks -/
theorem sqrootmodprime_1mod16 (h1 : p % 16 = 1) :
    sqrootmodprime rnd a p =
      (firstDraw rnd (fun g => legendre g p == -1) drawFuel 0).bind
        (fun g =>
          let qe := splitTwo (p.natAbs.log2 + 2) (p - 1) 0
          let x := powmod (a % p) ((qe.1 - 1) / 2).toNat p
          tonelliLoop (qe.2 + 2) p (Int.tmod (x * (a % p)) p) (Int.tmod (x * x * (a % p)) p) (powmod g qe.1.toNat p) qe.2) := by
  unfold sqrootmodprime
  simp only [h01, hnl, show ¬ p % 4 = 3 by omega, show ¬ p % 8 = 5 by omega, show ¬ p % 16 = 9 by omega, ↓reduceIte]
  split <;> simp only [*, Option.bind_none, Option.bind_some]

end

/-! ## the three closed-form algorithms over a field; `m` is the quotient of `p` by 4, 8, 16 (`p = 4m+3`, `8m+5`, `16m+9`).
    Tonelli–Shanks has no such identity: its loop is treated over the integers (`tonelliLoop_sound`) and in `ZMod p`
    (`tonelliLoop_complete`). -/

section
variable {F : Type} [Field F] (z : F) (m : Nat)

/-- `p = 4m+3`: `z^((p-1)/2) = z^(2m+1) = 1`, the answer is `z^((p+1)/4) = z^(m+1)` -/
theorem euler_sqrt (hz : z ^ (2 * m + 1) = 1) : z ^ (m + 1) * z ^ (m + 1) = z := by
  rw [← pow_add, show m + 1 + (m + 1) = 2 * m + 1 + 1 by ring, pow_succ, hz, one_mul]

/-- Atkin, `p = 8m+5`, the sub-branch `z^((p-1)/4) = -1`; `2^((p-1)/2) = -1` -/
theorem atkin_sqrt (hz : z ^ (2 * m + 1) = -1) (h2 : (2 : F) ^ (4 * m + 2) = -1) :
    (z * 4) ^ m * z * 2 * ((z * 4) ^ m * z * 2) = z := by
  have e4 : (4 : F) ^ (2 * m + 1) = 2 ^ (4 * m + 2) := by
    rw [show (4 : F) = 2 ^ 2 by norm_num, ← pow_mul]; congr 1; ring
  calc (z * 4) ^ m * z * 2 * ((z * 4) ^ m * z * 2) = z * (z * 4) ^ (2 * m + 1) := by rw [pow_succ, two_mul, pow_add]; ring
    _ = z := by rw [mul_pow, hz, e4, h2]; ring

/-- Müller, `p = 16m+9`: with `u = 2 z d²`, `u^((p-1)/4) = -1` (the accepted draw `d` has the right symbol) and `X = u^m`,
    `I = u X²` squares to -1 and `X d (I - 1) z` to `z` -/
theorem mueller_sqrt (d : F) (hu : (z * 2 * d * d) ^ (4 * m + 2) = -1) :
    (z * 2 * d * d) ^ m * d * (z * 2 * d * d * (z * 2 * d * d) ^ m * (z * 2 * d * d) ^ m - 1) * z *
      ((z * 2 * d * d) ^ m * d * (z * 2 * d * d * (z * 2 * d * d) ^ m * (z * 2 * d * d) ^ m - 1) * z) = z := by
  have hI : z * 2 * d * d * (z * 2 * d * d) ^ m * (z * 2 * d * d) ^ m * (z * 2 * d * d * (z * 2 * d * d) ^ m * (z * 2 * d * d) ^ m) = -1 := by
    rw [← hu, show 4 * m + 2 = (m + m + 1) + (m + m + 1) by ring, pow_add, pow_succ, pow_add]; ring
  linear_combination (((z * 2 * d * d) ^ m) ^ 2 * d ^ 2 * z ^ 2 - z) * hI

end

/-! ## what the branches return -/

theorem tonelli_init (amp x0 p : Int) :
    Int.tmod (x0 * amp) p * Int.tmod (x0 * amp) p ≡ amp * Int.tmod (x0 * x0 * amp) p [ZMOD p] :=
  calc _ ≡ x0 * amp * (x0 * amp) [ZMOD p] := (tmod_modEq _ p).mul (tmod_modEq _ p)
    _ = amp * (x0 * x0 * amp) := by ring
    _ ≡ _ [ZMOD p] := ((tmod_modEq _ p).mul_left amp).symm

/-- Tonelli–Shanks main loop: the invariant is `x² = a·b`; primality is not needed -/
theorem tonelliLoop_sound (a p : Int) (fuel : Nat) (x b y : Int) (r : Nat) (res : Int)
    (hinv : x * x ≡ a * b [ZMOD p]) (h : tonelliLoop fuel p x b y r = some res) (hne : res ≠ -1) : res * res ≡ a [ZMOD p] := by
  fun_induction tonelliLoop fuel p x b y r with
  | case1 => cases h
  | case2 => cases h; simpa using hinv
  | case3 => cases h
  | case4 => exact absurd (Option.some.inj h).symm hne
  | case5 => cases h
  | case6 _ p x b y r _ m _ _ _ t _ _ _ ih =>
    refine ih ?_ h
    have hx := tmod_modEq (x * t) p
    calc _ ≡ x * t * (x * t) [ZMOD p] := hx.mul hx
      _ = x * x * (t * t) := by ring
      _ ≡ a * b * (t * t) [ZMOD p] := hinv.mul_right _
      _ = a * (b * (t * t)) := by ring
      _ ≡ _ [ZMOD p] := (((tmod_modEq (t * t) p).mul_left b).symm.trans (tmod_modEq _ p).symm).mul_left a


section
variable {p : Nat} [hp : Fact p.Prime]

theorem cast_eq_iff_root {res a : Int} : (res : ZMod p) * (res : ZMod p) = (a : ZMod p) ↔ res * res ≡ a [ZMOD p] := by
  rw [← Int.cast_mul, ZMod.intCast_eq_intCast_iff]

theorem euler_of_isSquare {a : Int} (hsq : IsSquare (a : ZMod p)) (h0 : a % (p : Int) ≠ 0) : (a : ZMod p) ^ (p / 2) = 1 := by
  refine (ZMod.euler_criterion p ?_).mp hsq
  intro hc
  rw [ZMod.intCast_zmod_eq_zero_iff_dvd] at hc
  exact h0 (Int.emod_eq_zero_of_dvd hc)

theorem two_pow_half (hodd : p % 2 = 1) : (2 : ZMod p) ^ (p / 2) = if p % 8 = 1 ∨ p % 8 = 7 then 1 else -1 := by
  have h := legendreSym.eq_pow p 2
  rw [legendreSym.at_two (by omega), ZMod.χ₈_nat_eq_if_mod_eight, if_neg (by omega)] at h
  rw [show (2 : ZMod p) = ((2 : Int) : ZMod p) by norm_num, ← h]
  split <;> simp

theorem sqrootmodprime_class {a : Int} (h01 : ¬ (a % (p : Int) = 0 ∨ a % (p : Int) = 1)) :
    p % 2 = 1 ∧ (p % 4 = 3 ∨ p % 8 = 5 ∨ p % 16 = 9 ∨ p % 16 = 1) := by
  have hodd : p % 2 = 1 := by
    rcases hp.out.eq_two_or_odd with h | h
    · exfalso; subst h; apply h01; omega
    · exact h
  exact ⟨hodd, by omega⟩

/-- `hMu`: Müller's class needs every draw non-zero modulo `p` and `mpz_legendre` exact (both are used for the accepted draw only); `hTo`: the Tonelli–Shanks loop did
    not answer -1 -/
theorem sqrootmodprime_cast_root (rnd : Nat → Int) (a : Int) (hsq : IsSquare (a : ZMod p))
    (h01 : ¬ (a % (p : Int) = 0 ∨ a % (p : Int) = 1)) (hnl : legendre (a % (p : Int)) p ≠ -1)
    (hMu : p % 16 = 9 → (∀ d : Int, legendre d p = legendreSym p d) ∧ ∀ j, ((rnd j : Int) : ZMod p) ≠ 0)
    (res : Int) (h : sqrootmodprime rnd a p = some res) (hTo : p % 16 = 1 → res ≠ -1) :
    (res : ZMod p) * (res : ZMod p) = (a : ZMod p) := by
  have hp2 : 2 ≤ p := hp.out.two_le
  have hz : ((a % (p : Int) : Int) : ZMod p) = (a : ZMod p) := ZMod.intCast_mod a p
  have heul := euler_of_isSquare hsq (fun h0 => h01 (Or.inl h0))
  obtain ⟨hodd, hcls⟩ := sqrootmodprime_class h01
  have h2 := two_pow_half (p := p) hodd
  rcases hcls with h3 | h5 | h9 | h1
  · rw [sqrootmodprime_3mod4 h01 hnl (by exact_mod_cast h3)] at h
    injection h with h; subst h
    obtain ⟨m, e1, e2⟩ : ∃ m, ((↑p + 1) / 4 : Int).toNat = m + 1 ∧ p / 2 = 2 * m + 1 := ⟨p / 4, by omega⟩
    rw [cast_powmod, hz, e1]
    exact euler_sqrt _ m (by rwa [e2] at heul)
  · rw [sqrootmodprime_5mod8 h01 hnl (by exact_mod_cast h5)] at h
    injection h with h; subst h
    rw [if_neg (by omega)] at h2
    obtain ⟨m, e1, e2, e3, e4⟩ : ∃ m, ((↑p - 1) / 4 : Int).toNat = 2 * m + 1 ∧ ((↑p + 3) / 8 : Int).toNat = m + 1 ∧
        ((↑p - 5) / 8 : Int).toNat = m ∧ p / 2 = 4 * m + 2 := ⟨p / 8, by omega⟩
    rw [e1, e2, e3]
    rw [e4] at heul h2
    split
    · next ht =>
      rw [powmod_eq_one_iff _ p hp2, hz] at ht
      rw [cast_powmod, hz]; exact euler_sqrt _ m ht
    · next ht =>
      rw [powmod_eq_one_iff _ p hp2, hz] at ht
      have hm1 := (mul_self_eq_one_iff.mp (by rw [← pow_add, ← heul]; congr 1; ring)).resolve_left ht
      rw [cast_tmod]; push_cast; rw [cast_powmod]; push_cast
      exact atkin_sqrt _ m hm1 h2
  · obtain ⟨hleg, hrnd⟩ := hMu h9
    rw [sqrootmodprime_9mod16 h01 hnl (by exact_mod_cast h9)] at h
    obtain ⟨d, hd, rfl⟩ := Option.map_eq_some_iff.mp h
    obtain ⟨hstop, j, hj⟩ := firstDraw_spec _ _ _ _ _ hd
    have hd0 : (d : ZMod p) ≠ 0 := by rw [hj]; exact hrnd j
    rw [if_pos (by omega)] at h2
    obtain ⟨m, e1, e2, e3⟩ : ∃ m, ((↑p - 1) / 4 : Int).toNat = 4 * m + 2 ∧ ((↑p - 9) / 16 : Int).toNat = m ∧
        p / 2 = (4 * m + 2) + (4 * m + 2) := ⟨p / 16, by omega⟩
    rw [e1] at hstop
    rw [e2]
    have hdE : ((legendreSym p d : Int) : ZMod p) = (d : ZMod p) ^ (4 * m + 2 + (4 * m + 2)) := by
      rw [legendreSym.eq_pow, e3]
    rw [e3] at heul h2
    -- w = (2a)^((p-1)/4) = ±1, and the draw was accepted when its Legendre symbol is -w
    have hw2 : ((a : ZMod p) * 2) ^ (4 * m + 2) * ((a : ZMod p) * 2) ^ (4 * m + 2) = 1 := by
      rw [← pow_add, mul_pow, heul, h2, one_mul]
    have hu : ((a : ZMod p) * 2 * d * d) ^ (4 * m + 2) = -1 := by
      rw [hleg d] at hstop
      simp only [bne_iff_ne, ne_eq, powmod_eq_one_iff _ p hp2, Int.cast_mul, hz, Int.cast_ofNat] at hstop
      rw [show ((a : ZMod p) * 2 * d * d) ^ (4 * m + 2) = ((a : ZMod p) * 2) ^ (4 * m + 2) * (d : ZMod p) ^ (4 * m + 2 + (4 * m + 2)) by
        rw [mul_assoc, mul_pow, ← pow_two, ← pow_mul, two_mul], ← hdE]
      rcases legendreSym.eq_one_or_neg_one p hd0 with hl | hl
      · rw [hl] at hstop ⊢
        have hw1 : ¬ ((a : ZMod p) * 2) ^ (4 * m + 2) = 1 := fun hc => hstop (by simp [hc])
        rw [(mul_self_eq_one_iff.mp hw2).resolve_left hw1]; simp
      · rw [hl] at hstop ⊢
        have hw1 : ((a : ZMod p) * 2) ^ (4 * m + 2) = 1 := by
          by_contra hc; exact hstop (by simp [hc])
        rw [hw1]; simp
    simp only [cast_tmod, Int.cast_mul, Int.cast_sub, Int.cast_one, cast_powmod, hz, Int.cast_ofNat]
    exact mueller_sqrt _ m _ hu
  · rw [sqrootmodprime_1mod16 h01 hnl (by exact_mod_cast h1)] at h
    obtain ⟨g, _, hloop⟩ := Option.bind_eq_some_iff.mp h
    rw [cast_eq_iff_root]
    exact (tonelliLoop_sound (a % (p : Int)) p _ _ _ _ _ res (tonelli_init _ _ _) hloop (hTo h1)).trans (Int.mod_modEq a p)

/-- `hsq`: `a` is a residue whenever `mpz_legendre` does not answer -1; contracts are needed in Müller's class only (`hMu`) -/
theorem sqrootmodprime_root (rnd : Nat → Int) (a : Int) (hsq : legendre (a % (p : Int)) p ≠ -1 → IsSquare (a : ZMod p))
    (hMu : p % 16 = 9 → (∀ d : Int, legendre d p = legendreSym p d) ∧ ∀ j, ((rnd j : Int) : ZMod p) ≠ 0)
    (res : Int) (h : sqrootmodprime rnd a p = some res) (hne : res ≠ -1) : (res * res - a) % (p : Int) = 0 := by
  by_cases h01 : a % (p : Int) = 0 ∨ a % (p : Int) = 1
  · rw [sqrootmodprime_early h01] at h
    injection h with h; subst h
    exact root_iff.mpr (root_of_emod_zero_one h01)
  by_cases hl : legendre (a % (p : Int)) p = -1
  · rw [sqrootmodprime_reports_nonresidue h01 hl] at h
    injection h with h; exact absurd h.symm hne
  · exact root_iff.mpr (cast_eq_iff_root.mp (sqrootmodprime_cast_root rnd a (hsq hl) h01 hl hMu res h (fun _ => hne)))

end

/-! ## completeness of `sqrootmodprime` (Tonelli–Shanks invariant: `y` has order exactly `2^r`, the order of `b` divides `2^(r-1)`) -/

theorem cast_sq_pow (p : Nat) (b : Int) (j : Nat) :
    ((Int.tmod (b * b) p : Int) : ZMod p) ^ (2 ^ j) = (b : ZMod p) ^ (2 ^ (j + 1)) := by
  rw [cast_tmod]; push_cast; rw [← pow_two, ← pow_mul, ← pow_succ']

theorem ordTwo_complete {p : Nat} [hp : Fact p.Prime] : ∀ (fuel : Nat) (b2k : Int) (m j : Nat), 0 ≤ b2k → b2k < p → j < fuel →
    ((b2k : Int) : ZMod p) ^ (2 ^ j) = 1 →
    ∃ m', m' ≤ j ∧ ordTwo fuel b2k p m = some (m + m') ∧ ((b2k : Int) : ZMod p) ^ (2 ^ m') = 1 ∧
      ∀ i < m', ((b2k : Int) : ZMod p) ^ (2 ^ i) ≠ 1 := by
  have hp2 : 2 ≤ p := hp.out.two_le
  intro fuel
  induction fuel with
  | zero => intro b2k m j _ _ hj; omega
  | succ n ih =>
    intro b2k m j h0 h1 hj hx
    rw [ordTwo]
    by_cases hb : b2k = 1
    · rw [if_pos hb]
      exact ⟨0, by omega, rfl, by rw [hb]; simp, by intro i hi; omega⟩
    · rw [if_neg hb]
      have hβ : ((b2k : Int) : ZMod p) ≠ 1 := fun hc => hb ((cast_eq_one_iff b2k p hp2 h0 h1).mp hc)
      obtain ⟨j, rfl⟩ : ∃ j', j = j' + 1 :=
        ⟨j - 1, by have : j ≠ 0 := fun h => hβ (by rwa [h, pow_zero, pow_one] at hx); omega⟩
      obtain ⟨r0, r1⟩ := tmod_range (b2k * b2k) p (mul_nonneg h0 h0) (by omega)
      obtain ⟨m'', h1', h2', h3', h4'⟩ :=
        ih (Int.tmod (b2k * b2k) p) (m + 1) j r0 r1 (by omega) (by rw [cast_sq_pow]; exact hx)
      rw [cast_sq_pow] at h3'
      refine ⟨m'' + 1, by omega, by rw [h2', Nat.add_assoc, Nat.add_comm 1], h3', fun i hi => ?_⟩
      rcases i with _ | i
      · rwa [pow_zero, pow_one]
      · have := h4' i (by omega)
        rwa [cast_sq_pow] at this

theorem tonelliLoop_complete {p : Nat} [hp : Fact p.Prime] : ∀ (fuel : Nat) (x b y : Int) (r : Nat), 0 ≤ x → 0 ≤ b → b < p → 1 ≤ r → r ≤ fuel →
    ((y : Int) : ZMod p) ^ (2 ^ (r - 1)) = -1 → ((b : Int) : ZMod p) ^ (2 ^ (r - 1)) = 1 →
    ∃ res, tonelliLoop fuel p x b y r = some res ∧ 0 ≤ res := by
  have hp2 : 2 ≤ p := hp.out.two_le
  have hpp : (0 : Int) < p := by exact_mod_cast (by omega : 0 < p)
  intro fuel
  induction fuel with
  | zero => intro x b y r _ _ _ hr hrf; omega
  | succ n ih =>
    intro x b y r hx0 hb0 hb1 hr hrf hy hb
    rw [tonelliLoop]
    by_cases hb' : b = 1
    · rw [if_pos hb']; exact ⟨x, rfl, hx0⟩
    · rw [if_neg hb']
      obtain ⟨m, hm1, hm2, hm3, hm4⟩ := ordTwo_complete (r + 2) b 0 (r - 1) hb0 hb1 (by omega) hb
      rw [hm2]
      simp only [Nat.zero_add]
      have hβ : ((b : Int) : ZMod p) ≠ 1 := fun hc => hb' ((cast_eq_one_iff b p hp2 hb0 hb1).mp hc)
      obtain ⟨m, rfl⟩ : ∃ m', m = m' + 1 :=
        ⟨m - 1, by have : m ≠ 0 := fun h => hβ (by rwa [h, pow_zero, pow_one] at hm3); omega⟩
      rw [if_neg (by omega), if_neg (by omega)]
      set t := powmod y (2 ^ (r - (m + 1) - 1)) p with ht
      obtain ⟨t0, t1⟩ := powmod_range y (2 ^ (r - (m + 1) - 1)) p hpp
      obtain ⟨y0, y1⟩ := tmod_range (t * t) p (mul_nonneg t0 t0) hpp
      obtain ⟨x0', _⟩ := tmod_range (x * t) p (mul_nonneg hx0 t0) hpp
      obtain ⟨b0', b1'⟩ := tmod_range (b * Int.tmod (t * t) p) p (mul_nonneg hb0 y0) hpp
      have hty : ((Int.tmod (t * t) p : Int) : ZMod p) ^ (2 ^ m) = -1 := by
        rw [cast_sq_pow, ht, cast_powmod, ← pow_mul, ← pow_add, show r - (m + 1) - 1 + (m + 1) = r - 1 by omega]
        exact hy
      have hbm : ((b : Int) : ZMod p) ^ (2 ^ m) = -1 :=
        (mul_self_eq_one_iff.mp (by rw [← pow_add, ← two_mul, ← pow_succ']; exact hm3)).resolve_left (hm4 m (by omega))
      apply ih _ _ _ (m + 1) x0' b0' b1' (by omega) (by omega) hty
      show _ ^ (2 ^ m) = 1
      rw [cast_tmod]; push_cast; rw [mul_pow, hbm, hty]; ring

theorem tonelli_shanks {p : Nat} [hp : Fact p.Prime] (q e : Nat) (hqe : q * 2 ^ e = p - 1) (hq : q % 2 = 1) (hodd : p % 2 = 1)
    (g a : Int) (ha0 : 0 ≤ a) (hg : (g : ZMod p) ^ (p / 2) = -1) (ha : (a : ZMod p) ^ (p / 2) = 1) :
    ∃ res, tonelliLoop (e + 2) p (Int.tmod (powmod a (((q : Int) - 1) / 2).toNat p * a) p)
      (Int.tmod (powmod a (((q : Int) - 1) / 2).toNat p * powmod a (((q : Int) - 1) / 2).toNat p * a) p) (powmod g q p) e = some res ∧
      0 ≤ res := by
  have hp2 : 2 ≤ p := hp.out.two_le
  have hpp : (0 : Int) < p := by exact_mod_cast (by omega : 0 < p)
  have he1 : 1 ≤ e := by
    by_contra hc
    rw [show e = 0 by omega, pow_zero, mul_one] at hqe
    omega
  have hexp : q * 2 ^ (e - 1) = p / 2 := by
    rw [show 2 ^ e = 2 * 2 ^ (e - 1) by rw [← pow_succ', Nat.sub_add_cancel he1], Nat.mul_left_comm] at hqe
    omega
  set x0 := powmod a (((q : Int) - 1) / 2).toNat p with hx0
  obtain ⟨x00, _⟩ := powmod_range a (((q : Int) - 1) / 2).toNat p hpp
  obtain ⟨b0, b1⟩ := tmod_range (x0 * x0 * a) p (mul_nonneg (mul_nonneg x00 x00) ha0) hpp
  obtain ⟨xx0, _⟩ := tmod_range (x0 * a) p (mul_nonneg x00 ha0) hpp
  refine tonelliLoop_complete (p := p) (e + 2) _ _ (powmod g q p) e xx0 b0 b1 he1 (by omega) ?_ ?_
  · rw [cast_powmod, ← pow_mul, hexp]; exact hg
  · rw [cast_tmod]; push_cast; rw [hx0, cast_powmod, ← pow_add, ← pow_succ,
      show (((q : Int) - 1) / 2).toNat + (((q : Int) - 1) / 2).toNat + 1 = q by omega, ← pow_mul, hexp]
    exact ha

theorem sqrootmodprime_returns (rnd : Nat → Int) (a : Int) (p : Nat) [hp : Fact p.Prime]
    (hsq : IsSquare (a : ZMod p)) (hleg : ∀ d : Int, legendre d p = legendreSym p d)
    (h01 : ¬ (a % (p : Int) = 0 ∨ a % (p : Int) = 1)) (hnl : legendre (a % (p : Int)) p ≠ -1)
    (hdrawN : ∃ j, j < drawFuel ∧ legendre (rnd j) p = -1) (hdrawR : ∃ j, j < drawFuel ∧ legendre (rnd j) p = 1) :
    ∃ res, sqrootmodprime rnd a p = some res ∧ (p % 16 = 1 → 0 ≤ res) := by
  have hp2 : 2 ≤ p := hp.out.two_le
  have heul := euler_of_isSquare hsq (fun h0 => h01 (Or.inl h0))
  obtain ⟨hodd, h3 | h5 | h9 | h1⟩ := sqrootmodprime_class h01
  · exact ⟨_, sqrootmodprime_3mod4 h01 hnl (by exact_mod_cast h3), fun h => by omega⟩
  · exact ⟨_, sqrootmodprime_5mod8 h01 hnl (by exact_mod_cast h5), fun h => by omega⟩
  · -- Müller: a suitable draw exists, whichever sign is looked for
    rw [sqrootmodprime_9mod16 h01 hnl (by exact_mod_cast h9)]
    obtain ⟨d, hd⟩ : ∃ d, firstDraw rnd (fun d => legendre d p != if powmod (a % (p : Int) * 2) ((↑p - 1) / 4 : Int).toNat p ≠ 1
        then -1 else 1) drawFuel 0 = some d := by
      by_cases hx0 : powmod (a % (p : Int) * 2) ((↑p - 1) / 4 : Int).toNat p ≠ 1
      · obtain ⟨j, hj, hl⟩ := hdrawR
        exact firstDraw_complete rnd _ drawFuel 0 j (by omega) (by omega) (by simp [hx0, hl])
      · obtain ⟨j, hj, hl⟩ := hdrawN
        exact firstDraw_complete rnd _ drawFuel 0 j (by omega) (by omega) (by simp [hx0, hl])
    rw [hd]
    exact ⟨_, rfl, fun h => by omega⟩
  · rw [sqrootmodprime_1mod16 h01 hnl (by exact_mod_cast h1)]
    obtain ⟨j, hj, hl⟩ := hdrawN
    obtain ⟨g, hg⟩ := firstDraw_complete rnd (fun g => legendre g p == -1) drawFuel 0 j (by omega) (by omega) (by simp [hl])
    obtain ⟨hstop, _⟩ := firstDraw_spec _ _ _ _ _ hg
    rw [hg, Option.bind_some]
    simp only [beq_iff_eq] at hstop
    have hfuel : p - 1 < 2 ^ ((p : Int).natAbs.log2 + 2) := by
      rw [Int.natAbs_natCast]
      exact (Nat.sub_lt (by omega) one_pos).trans
        (Nat.lt_log2_self.trans_le (Nat.pow_le_pow_right (by norm_num) (by omega)))
    obtain ⟨q, e, hs, hqe, hqo⟩ := splitTwo_natCast _ (p - 1) 0 (by omega) hfuel
    rw [show (p : Int) - 1 = ((p - 1 : Nat) : Int) by omega, hs]
    rw [pow_zero, mul_one] at hqe
    obtain ⟨res, hres, hres0⟩ := tonelli_shanks q e hqe hqo hodd g (a % (p : Int)) (Int.emod_nonneg _ (by omega))
      (by rw [← legendreSym.eq_pow, ← hleg, hstop]; simp) (by rw [ZMod.intCast_mod]; exact heul)
    exact ⟨res, by simpa only [Int.toNat_natCast] using hres, fun _ => hres0⟩

end Givaro.Lemmas.NumTheo
