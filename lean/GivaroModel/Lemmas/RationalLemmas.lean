/-
C10 — the model of Model/Rational.lean at the integer level: the operand invariant `Valid`, canonical form `Canon`, "denotes
`n/d`" by cross-multiplication (`Den`), and for every constructor, operator, comparison and rounding function of the model
what it returns in these terms.  The ℚ forms are in Lemmas/RationalValue.lean, the property theorems in Props/C10*.lean.
The section "conversions out" holds three facts about `mpz_get_si`, `mpz_get_ui` (Prim/Gmp.lean) and `ieeeFrac` (Spec/RationalSpec.lean)
that Props/C10Conv.lean rests on; the last section says what the driver's Bool checkers and reference functions decide.
-/
import Mathlib.Tactic.Ring
import Mathlib.Tactic.Linarith
import Mathlib.Tactic.LinearCombination
import Mathlib.Tactic.Positivity
import Mathlib.Data.Int.GCD
import Mathlib.RingTheory.Coprime.Basic
import Mathlib.RingTheory.Coprime.Lemmas
import GivaroModel.Spec.RationalSpec
import GivaroModel.Lemmas.WordLemmas
namespace Givaro.Lemmas.Rational
open Givaro Givaro.Model.Rational Givaro.Spec.Rational

/-- operands admissible in mode `red` (`true` = the default `Reduce`): positive denominator, and canonical when reducing -/
def Valid (red : Bool) (r : QRep) : Prop := 0 < r.den ∧ (red = true → Int.gcd r.num r.den = 1)
/-- canonical form: positive denominator, numerator and denominator coprime (so zero is stored as 0/1) -/
def Canon (r : QRep) : Prop := 0 < r.den ∧ Int.gcd r.num r.den = 1
/-- `r` denotes the fraction `n/d` (cross-multiplication over ℤ) -/
def Den (r : QRep) (n d : Int) : Prop := r.num * d = n * r.den

theorem canon_valid {r : QRep} (h : Canon r) (red : Bool) : Valid red r := ⟨h.1, fun _ => h.2⟩
theorem valid_true {r : QRep} (h : Valid true r) : Canon r := ⟨h.1, h.2 rfl⟩

theorem cop_iff (a b : Int) : Int.gcd a b = 1 ↔ IsCoprime a b := Int.isCoprime_iff_gcd_eq_one.symm

theorem Valid.pos {k : Bool} {n d : Int} (h : Valid k ⟨n, d⟩) : 0 < d := h.1
theorem Valid.cop {k : Bool} {n d : Int} (h : Valid k ⟨n, d⟩) (hk : k = true) : IsCoprime n d := (cop_iff _ _).mp (h.2 hk)
theorem valid_mk {k : Bool} {n d : Int} (hd : 0 < d) (hc : k = true → IsCoprime n d) : Valid k ⟨n, d⟩ :=
  ⟨hd, fun hk => (cop_iff _ _).mpr (hc hk)⟩
theorem valid_int (k : Bool) (n : Int) : Valid k ⟨n, 1⟩ := ⟨Int.one_pos, fun _ => Int.gcd_one_right n⟩
theorem valid_neg {k : Bool} {n d : Int} (h : Valid k ⟨n, d⟩) : Valid k ⟨-n, d⟩ := valid_mk h.pos fun hk => (h.cop hk).neg_left

/-! In every operator statement below, operands are valid at strength `k` and the mode is `m`, with `hkm : k = true → m = true`:
canonical operands (`k = true`) are only asked for in Reduce mode.  `k = m` is the invariant of one mode; `k = false` says that any
pairs with positive denominators stay exact in either mode. -/

/-- in a branch that does not reduce, `k` is `false` -/
theorem valid_of_pos {k m : Bool} (hkm : k = true → m = true) (hm : m = false) {r : QRep} (hd : 0 < r.den) : Valid k r :=
  ⟨hd, fun hk => by rw [hkm hk] at hm; cases hm⟩

/-- one `if` of a transcribed body: the operator specs (`add_spec`, `mul_spec`, `mulin_spec`, `div_spec`, `divin_spec`) walk the model's chain of C++ shortcuts with it, in source order -/
theorem spec_ite {k : Bool} {n d : Int} {c : Prop} [Decidable c] {A B : Option QRep}
    (ht : c → ∃ r, A = some r ∧ Valid k r ∧ Den r n d) (he : ¬ c → ∃ r, B = some r ∧ Valid k r ∧ Den r n d) :
    ∃ r, (if c then A else B) = some r ∧ Valid k r ∧ Den r n d := by
  by_cases h : c
  · rw [if_pos h]; exact ht h
  · rw [if_neg h]; exact he h

theorem iabs_eq (x : Int) : iabs x = |x| := by
  unfold iabs; split
  · rw [abs_of_neg (by assumption)]
  · rw [abs_of_nonneg (by omega)]

theorem idiv_mul_left {g : Int} (x : Int) (hg : g ≠ 0) : idiv (x * g) g = x := by
  unfold idiv; rw [Int.mul_comm]; exact Int.mul_tdiv_cancel_left x hg

theorem gcd_decomp (a b : Int) (h : a ≠ 0 ∨ b ≠ 0) :
    ∃ g a' b' : Int, igcd a b = g ∧ 0 < g ∧ a = a' * g ∧ b = b' * g ∧ IsCoprime a' b' := by
  have hpos : 0 < Int.gcd a b := by
    rcases Nat.eq_zero_or_pos (Int.gcd a b) with h0 | h0
    · rw [Int.gcd_eq_zero_iff] at h0; omega
    · exact h0
  obtain ⟨a', b', hc, ha, hb⟩ := Int.exists_gcd_one hpos
  exact ⟨(Int.gcd a b : Int), a', b', rfl, by exact_mod_cast hpos, ha, hb, (cop_iff _ _).mp hc⟩

/-! ### gcd and reduce -/
theorem reduce_spec (r : QRep) (h : 0 < r.den) :
    Canon (reduce r) ∧ Den (reduce r) r.num r.den := by
  obtain ⟨n, d⟩ := r
  obtain ⟨g, n', d', hg, hgpos, rfl, rfl, hc⟩ := gcd_decomp n d (Or.inr (Int.ne_of_gt h))
  -- dividing by a gcd of 1 changes nothing, so `reduce` divides in either branch
  have e : reduce ⟨n' * g, d' * g⟩ = ⟨n', d'⟩ := by
    simp only [reduce, hg, idiv_mul_left _ (Int.ne_of_gt hgpos)]
    split
    · rfl
    · rename_i h1
      rw [not_not.mp h1, Int.mul_one, Int.mul_one]
  rw [e]
  exact ⟨⟨pos_of_mul_pos_left h hgpos.le, (cop_iff _ _).mpr hc⟩, by simp only [Den]; ring⟩

/-! ### the constructors -/
theorem isign_cases (x : Int) : (isign x < 0 ↔ x < 0) ∧ (isign x = 0 ↔ x = 0) ∧ (isign x > 0 ↔ x > 0) := by
  unfold isign
  by_cases h1 : x < 0
  · rw [if_pos h1]; omega
  rw [if_neg h1]
  by_cases h2 : x = 0
  · rw [if_pos h2]; omega
  · rw [if_neg h2]; omega
theorem isign_neg_iff (x : Int) : isign x < 0 ↔ x < 0 := (isign_cases x).1

theorem mk3_zero (n : Int) (red : Int) : mk3 n 0 red = none := by simp [mk3]

theorem mk3_eq (n d red : Int) (h : d ≠ 0) :
    mk3 n d red = some (if red = 1 then reduce (if d < 0 then ⟨-n, -d⟩ else ⟨n, d⟩) else if d < 0 then ⟨-n, -d⟩ else ⟨n, d⟩) := by
  have hs : 0 < d ↔ ¬ d < 0 := by omega
  simp only [mk3, h, ↓reduceIte, gt_iff_lt, (isign_cases d).2.2, hs, ite_not]
theorem mk3_pos (n d : Int) (h : 0 < d) : mk3 n d 0 = some ⟨n, d⟩ := by
  rw [mk3_eq n d 0 (by omega), if_neg (by decide), if_neg (by omega)]
theorem mk3_neg (n d : Int) (h : d < 0) : mk3 n d 0 = some ⟨-n, -d⟩ := by
  rw [mk3_eq n d 0 (by omega), if_neg (by decide), if_pos h]
theorem mk3_red (n d : Int) (h : d ≠ 0) : mk3 n d 1 = some (reduce (if d < 0 then ⟨-n, -d⟩ else ⟨n, d⟩)) := by
  rw [mk3_eq n d 1 h, if_pos rfl]

/-- the sign of `y` moved to the numerator, tested on some `s` of the same sign: `Rational(n,d,red)`, `/=`, `QField::inv`, `normalize` -/
theorem sgn_pair {k : Bool} {s x y n d : Int} (hs : s < 0 ↔ y < 0) (hy : y ≠ 0) (hc : k = true → IsCoprime x y)
    (hv : x * d = n * y) :
    Valid k (if s < 0 then ⟨-x, -y⟩ else ⟨x, y⟩) ∧ Den (if s < 0 then ⟨-x, -y⟩ else ⟨x, y⟩) n d := by
  by_cases h : s < 0
  · rw [if_pos h]
    exact ⟨valid_mk (by omega) fun hk => (hc hk).neg_neg, by simp only [Den]; linear_combination (-1 : Int) * hv⟩
  · rw [if_neg h]
    exact ⟨valid_mk (by omega) hc, hv⟩

theorem den_trans {r q : QRep} {n d : Int} (hq : q.den ≠ 0) (h1 : Den r q.num q.den) (h2 : Den q n d) : Den r n d := by
  simp only [Den] at *
  apply Int.eq_of_mul_eq_mul_right hq
  linear_combination d * h1 + r.den * h2

/-- every reducing pair constructor: `Rational(Integer,Integer)`, `(int64_t,int64_t)`, `(int32_t,int32_t)` -/
theorem mk3_red_spec (n d : Int) (h : d ≠ 0) : ∃ r, mk3 n d 1 = some r ∧ Canon r ∧ Den r n d := by
  obtain ⟨v, e⟩ := sgn_pair (k := false) (n := n) Iff.rfl h nofun rfl
  obtain ⟨c, e'⟩ := reduce_spec _ v.1
  exact ⟨_, mk3_red n d h, c, den_trans (Int.ne_of_gt v.1) e' e⟩

/-- `mk3_red_spec` in the form Props/C20Rings.lean uses: the result named by its equation, a non-zero numerator kept -/
theorem mk3_canon (n d : Int) (hd : d ≠ 0) (q : QRep) (h : mk3 n d 1 = some q) : Canon q ∧ (n ≠ 0 → q.num ≠ 0) := by
  obtain ⟨r, hr, hc, hD⟩ := mk3_red_spec n d hd
  rw [hr] at h
  cases h
  refine ⟨hc, fun hn hq => ?_⟩
  -- `q.num * d = n * q.den` with `q.num = 0` and `q.den > 0`
  unfold Den at hD
  rw [hq, Int.zero_mul] at hD
  rcases Int.mul_eq_zero.mp hD.symm with h0 | h0
  · exact hn h0
  · have := hc.1; omega

theorem mk3_nored_spec {k : Bool} (n d red : Int) (h : d ≠ 0) (hr : red ≠ 1) (hc : k = true → IsCoprime n d) :
    ∃ r, mk3 n d red = some r ∧ Valid k r ∧ Den r n d := by
  obtain ⟨v, e⟩ := sgn_pair (n := n) Iff.rfl h hc rfl
  exact ⟨_, by rw [mk3_eq n d red h, if_neg hr], v, e⟩

theorem ofInteger_eq (n : Int) : ofInteger n = ⟨n, 1⟩ := by
  unfold ofInteger; split
  · rename_i h; rw [h]
  · rfl

theorem canon_int (n : Int) : Canon ⟨n, 1⟩ := ⟨Int.one_pos, Int.gcd_one_right n⟩

theorem mk2S_eq (n d : Int) : mk2S n d = mk3 n d 1 := by
  by_cases h : d = 0
  · rw [h, mk3_zero]; rfl
  · have hs : d > 0 ↔ ¬ d < 0 := by omega
    rw [mk3_red n d h]
    simp only [mk2S, h, ↓reduceIte, hs, ite_not]

theorem mk2U_spec (n d : Int) (hd : 0 < d) : ∃ r, mk2U n d = some r ∧ Canon r ∧ Den r n d := by
  unfold mk2U
  rw [if_neg (Int.ne_of_gt hd)]
  split
  · rename_i h0
    obtain ⟨c, e⟩ := reduce_spec ⟨0, 1⟩ Int.one_pos
    exact ⟨_, rfl, c, by simp only [Den, h0] at e ⊢; linear_combination d * e⟩
  · obtain ⟨c, e⟩ := reduce_spec ⟨n, d⟩ hd
    exact ⟨_, rfl, c, e⟩

theorem mk2U_zero (n : Int) : mk2U n 0 = none := by simp [mk2U]

/-! ### order -/
/-- `r` is a three-way comparison result of `x` against `y`: sign specified, magnitude free (as GMP leaves `mpz_cmpabs`) -/
def IsCmp (r x y : Int) : Prop := (r < 0 ↔ x < y) ∧ (r = 0 ↔ x = y)

theorem IsCmp.pos {r x y : Int} (h : IsCmp r x y) : 0 < r ↔ y < x := by
  obtain ⟨h1, h2⟩ := h; omega
theorem IsCmp.neg {r x y : Int} (h : IsCmp r x y) : IsCmp (-r) y x := by
  obtain ⟨h1, h2⟩ := h; constructor <;> omega
theorem IsCmp.neg_args {r x y : Int} (h : IsCmp r (-y) (-x)) : IsCmp r x y := by
  obtain ⟨h1, h2⟩ := h; constructor <;> omega
theorem IsCmp.mul_right {r x y p : Int} (h : IsCmp r x y) (hp : 0 < p) : IsCmp r (x * p) (y * p) :=
  ⟨h.1.trans (Int.mul_lt_mul_right hp).symm, h.2.trans (Int.mul_eq_mul_right_iff (Int.ne_of_gt hp)).symm⟩
theorem isCmp_of_lt {r x y : Int} (hr : r < 0) (h : x < y) : IsCmp r x y := by constructor <;> omega
theorem isCmp_of_gt {r x y : Int} (hr : 0 < r) (h : y < x) : IsCmp r x y := by constructor <;> omega
theorem isign_of_neg {x : Int} (h : x < 0) : isign x = -1 := if_pos h
theorem isign_of_pos {x : Int} (h : 0 < x) : isign x = 1 := by unfold isign; rw [if_neg (by omega), if_neg (by omega)]
theorem isCmp_isign (x : Int) : IsCmp (isign x) x 0 := ⟨(isign_cases x).1, (isign_cases x).2.1⟩
theorem isCmp_cmpSpec (a b : QRep) : IsCmp (cmpSpec a b) (a.num * b.den) (b.num * a.den) := by
  obtain ⟨h1, h2⟩ := isCmp_isign (a.num * b.den - b.num * a.den)
  unfold cmpSpec; constructor <;> omega
theorem cmpAbsOK_isCmp {c : Int → Int → Int} (hc : CmpAbsOK c) (x y : Int) : IsCmp (c x y) |x| |y| := by
  rw [← iabs_eq, ← iabs_eq]; exact hc x y

-- non-vacuity of `CmpAbsOK`: the ±1-normalised comparison
def cUnit (x y : Int) : Int := isign (iabs x - iabs y)
theorem cUnit_ok : CmpAbsOK cUnit := by
  intro x y
  obtain ⟨h1, h2⟩ := isCmp_isign (iabs x - iabs y)
  unfold cUnit
  constructor <;> omega

theorem absCompare_spec {c : Int → Int → Int} (hc : CmpAbsOK c) (a b : QRep) (ha : 0 < a.den) (hb : 0 < b.den)
    (hna : a.num ≠ 0) (hnb : b.num ≠ 0) : IsCmp (absCompare c a b) (|a.num| * b.den) (|b.num| * a.den) := by
  have h1 := cmpAbsOK_isCmp hc a.num b.num
  have h2 := cmpAbsOK_isCmp hc a.den b.den
  have h3 := cmpAbsOK_isCmp hc (a.num * b.den) (a.den * b.num)
  rw [abs_of_pos ha, abs_of_pos hb] at h2
  rw [abs_mul, abs_mul, abs_of_pos ha, abs_of_pos hb, Int.mul_comm a.den |b.num|] at h3
  have hX : 0 < |a.num| := abs_pos.mpr hna
  have hY : 0 < |b.num| := abs_pos.mpr hnb
  unfold absCompare
  simp only [Bool.and_eq_true, decide_eq_true_eq]
  by_cases k1 : c a.num b.num = -1 ∧ c a.den b.den = 1
  · -- |a.num| < |b.num| and a.den > b.den
    rw [if_pos k1]
    exact isCmp_of_lt (by omega)
      (Int.mul_lt_mul (h1.1.mp (by omega)) (Int.le_of_lt (h2.pos.mp (by omega))) hb (Int.le_of_lt hY))
  rw [if_neg k1]
  by_cases k2 : c a.num b.num = 1 ∧ c a.den b.den = -1
  · rw [if_pos k2]
    exact isCmp_of_gt (by omega)
      (Int.mul_lt_mul (h1.pos.mp (by omega)) (Int.le_of_lt (h2.1.mp (by omega))) ha (Int.le_of_lt hX))
  rw [if_neg k2]
  by_cases k3 : c a.num b.num = 0
  · -- equal numerators: the larger denominator is the smaller fraction
    rw [if_pos k3, h1.2.mp k3, Int.mul_comm _ b.den, Int.mul_comm _ a.den]
    exact (h2.mul_right hY).neg
  rw [if_neg k3]
  by_cases k4 : c a.den b.den = 0
  · rw [if_pos k4, h2.2.mp k4]
    exact h1.mul_right hb
  rw [if_neg k4]
  exact h3

theorem compare_spec {c : Int → Int → Int} (hc : CmpAbsOK c) (a b : QRep) (ha : 0 < a.den) (hb : 0 < b.den) :
    IsCmp (Model.Rational.compare c a b) (a.num * b.den) (b.num * a.den) := by
  unfold Model.Rational.compare
  simp only [Bool.and_eq_true, decide_eq_true_eq]
  by_cases hA : a.num = 0
  · by_cases hB : b.num = 0
    · rw [if_pos ⟨hA, hB⟩, hA, hB, Int.zero_mul, Int.zero_mul]
      exact ⟨by omega, by omega⟩
    · rw [if_neg (fun h => hB h.2), if_pos hA, hA, Int.zero_mul, ← Int.zero_mul a.den]
      exact ((isCmp_isign b.num).mul_right ha).neg
  rw [if_neg (fun h => hA h.1), if_neg hA]
  by_cases hB : b.num = 0
  · rw [if_pos hB, hB, Int.zero_mul, ← Int.zero_mul b.den]
    exact (isCmp_isign a.num).mul_right hb
  rw [if_neg hB]
  have abs := absCompare_spec hc a b ha hb hA hB
  rcases Int.lt_or_gt_of_ne hA with hA | hA <;> rcases Int.lt_or_gt_of_ne hB with hB | hB
  · -- both negative: the order of the absolute values, reversed
    rw [isign_of_neg hA, isign_of_neg hB, if_neg (by decide), if_neg (by decide)]
    rw [abs_of_neg hA, abs_of_neg hB, Int.neg_mul, Int.neg_mul] at abs
    exact abs.neg.neg_args
  · rw [isign_of_neg hA, isign_of_pos hB, if_pos (by decide), if_pos rfl]
    exact isCmp_of_lt (by decide) (Int.lt_trans (Int.mul_neg_of_neg_of_pos hA hb) (Int.mul_pos hB ha))
  · rw [isign_of_pos hA, isign_of_neg hB, if_pos (by decide), if_neg (by decide)]
    exact isCmp_of_gt (by decide) (Int.lt_trans (Int.mul_neg_of_neg_of_pos hB ha) (Int.mul_pos hA hb))
  · rw [isign_of_pos hA, isign_of_pos hB, if_neg (by decide), if_pos (by decide)]
    rwa [abs_of_pos hA, abs_of_pos hB] at abs

/-! ### addition and subtraction (Knuth 4.5.1) -/
/-- the general branch of `operator+`; `g' ∣ d2` is what lets `+=` divide `(d1/g) d2` by `g'` -/
theorem add_core {n1 d1 n2 d2 g t g' : Int} (h1 : 0 < d1) (h2 : 0 < d2)
    (hg : igcd d1 d2 = g) (ht : n1 * idiv d2 g + n2 * idiv d1 g = t) (hg' : igcd t g = g') :
    0 < idiv d1 g * idiv d2 g' ∧
    idiv t g' * (d1 * d2) = (n1 * d2 + n2 * d1) * (idiv d1 g * idiv d2 g') ∧
    g' ∣ d2 ∧
    (IsCoprime n1 d1 → IsCoprime n2 d2 → IsCoprime (idiv t g') (idiv d1 g * idiv d2 g')) := by
  obtain ⟨g0, u, v, hg0, hgpos, rfl, rfl, huv⟩ := gcd_decomp d1 d2 (Or.inl (by omega))
  obtain rfl : g = g0 := hg.symm.trans hg0
  have hg0 : g ≠ 0 := by omega
  have hu : 0 < u := pos_of_mul_pos_left h1 hgpos.le
  have hv : 0 < v := pos_of_mul_pos_left h2 hgpos.le
  rw [idiv_mul_left _ hg0, idiv_mul_left _ hg0] at ht
  rw [idiv_mul_left _ hg0]
  obtain ⟨g2, t', w, hg2, hg2pos, rfl, rfl, htw⟩ := gcd_decomp t g (Or.inr hg0)
  obtain rfl : g' = g2 := hg'.symm.trans hg2
  have hg'0 : g' ≠ 0 := by omega
  have hw : 0 < w := pos_of_mul_pos_left hgpos hg2pos.le
  rw [idiv_mul_left _ hg'0, show v * (w * g') = (v * w) * g' by ring, idiv_mul_left _ hg'0]
  refine ⟨Int.mul_pos hu (Int.mul_pos hv hw), ?_, ⟨v * w, by ring⟩, fun c1 c2 => ?_⟩
  · linear_combination (-(w * g' * u * v * w)) * ht
  · have ctu : IsCoprime (n1 * v + n2 * u) u := (c1.of_mul_right_left.mul_left huv.symm).add_mul_right_left n2
    have ctv : IsCoprime (n2 * u + n1 * v) v := (c2.of_mul_right_left.of_mul_right_left.mul_left huv).add_mul_right_left n1
    rw [Int.add_comm] at ctv
    rw [ht] at ctu ctv
    exact IsCoprime.mul_right ctu.of_mul_left_left (IsCoprime.mul_right ctv.of_mul_left_left htw)

theorem add_spec {k m : Bool} (hkm : k = true → m = true) (a b : QRep) (ha : Valid k a) (hb : Valid k b) :
    ∃ r, add m a b = some r ∧ Valid k r ∧ Den r (a.num * b.den + b.num * a.den) (a.den * b.den) := by
  obtain ⟨an, ad⟩ := a
  obtain ⟨bn, bd⟩ := b
  have hdd : 0 < ad * bd := Int.mul_pos ha.pos hb.pos
  unfold add
  simp only [isZero, isInteger, beq_iff_eq, Bool.and_eq_true, Bool.not_eq_true']
  refine spec_ite (fun k1 => ⟨_, rfl, ha, by simp only [Den, k1]; ring⟩) fun _ => ?_
  refine spec_ite (fun k2 => ⟨_, rfl, hb, by simp only [Den, k2]; ring⟩) fun _ => ?_
  refine spec_ite (fun k3 => ⟨_, congrArg some (ofInteger_eq _), valid_int k _, by simp only [Den, k3.1, k3.2]; ring⟩) fun _ => ?_
  refine spec_ite (fun k4 => ⟨_, mk3_pos _ _ hdd, valid_of_pos hkm k4 hdd, rfl⟩) fun _ => ?_
  obtain ⟨p, v, _, c⟩ := add_core (n1 := an) (d1 := ad) (n2 := bn) (d2 := bd) ha.pos hb.pos rfl rfl rfl
  refine spec_ite (fun k5 => ?_) fun _ => ⟨_, mk3_pos _ _ p, valid_mk p fun hk => c (ha.cop hk) (hb.cop hk), v⟩
  -- coprime denominators: the general branch at `g = g' = 1` is the cross product
  rw [k5] at c
  simp only [idiv, Int.tdiv_one, igcd, Int.gcd_one_right, Nat.cast_one] at c
  exact ⟨_, mk3_pos _ _ hdd, valid_mk hdd fun hk => c (ha.cop hk) (hb.cop hk), rfl⟩

/-- the two bodies unfold to the same text once `x - y` is written `x + -y` -/
theorem sub_eq_add_neg (red : Bool) (a b : QRep) (hb : 0 < b.den) :
    sub red a b = add red a ⟨-b.num, b.den⟩ := by
  simp only [sub, add, isZero, isInteger, beq_iff_eq, Int.neg_eq_zero, Int.sub_eq_add_neg, Int.neg_mul, mk3_pos _ _ hb]

theorem sub_spec {k m : Bool} (hkm : k = true → m = true) (a b : QRep) (ha : Valid k a) (hb : Valid k b) :
    ∃ r, sub m a b = some r ∧ Valid k r ∧ Den r (a.num * b.den - b.num * a.den) (a.den * b.den) := by
  rw [sub_eq_add_neg m a b hb.1]
  obtain ⟨r, h1, h2, h3⟩ := add_spec hkm a ⟨-b.num, b.den⟩ ha (valid_neg hb)
  exact ⟨r, h1, h2, by simp only [Den] at h3 ⊢; rw [h3]; ring⟩

/-! ### in-place sum and difference -/
theorem addin_eq_add (m : Bool) (a b : QRep) (ha : 0 < a.den) (hb : 0 < b.den) : addin m a b = add m a b := by
  obtain ⟨an, ad⟩ := a
  obtain ⟨bn, bd⟩ := b
  have hdd : 0 < ad * bd := Int.mul_pos ha hb
  unfold addin add
  simp only [isZero, isInteger, beq_iff_eq, Bool.and_eq_true, Bool.not_eq_true']
  refine if_ctx_congr Iff.rfl (fun _ => rfl) fun _ => ?_
  refine if_ctx_congr Iff.rfl (fun _ => rfl) fun _ => ?_
  refine if_ctx_congr Iff.rfl (fun k3 => by rw [ofInteger_eq, k3.1]) fun _ => ?_
  refine if_ctx_congr Iff.rfl (fun _ => (mk3_pos _ _ hdd).symm) fun _ => ?_
  refine if_ctx_congr Iff.rfl (fun _ => (mk3_pos _ _ hdd).symm) fun _ => ?_
  obtain ⟨p, _, dv, _⟩ := add_core (n1 := an) (d1 := ad) (n2 := bn) (d2 := bd) ha hb rfl rfl rfl
  rw [mk3_pos _ _ p]
  congr 2
  exact Int.mul_tdiv_assoc _ dv

theorem subin_eq_addin_neg (red : Bool) (a b : QRep) :
    subin red a b = addin red a ⟨-b.num, b.den⟩ := by
  simp only [subin, addin, isZero, isInteger, beq_iff_eq, Int.neg_eq_zero, Int.sub_eq_add_neg, Int.neg_mul]

theorem subin_eq_sub (m : Bool) (a b : QRep) (ha : 0 < a.den) (hb : 0 < b.den) : subin m a b = sub m a b := by
  rw [subin_eq_addin_neg, sub_eq_add_neg m a b hb, addin_eq_add m a ⟨-b.num, b.den⟩ ha hb]

/-! ### multiplication and division -/
/-- the general branch of `operator*`; `d2` may have either sign, so that `operator/` is this branch on the swapped pair `d2/n2` -/
theorem mul_core (n1 d1 n2 d2 : Int) (h1 : 0 < d1) (h2 : d2 ≠ 0) :
    (0 < idiv d1 (igcd d1 n2) * idiv d2 (igcd n1 d2) ↔ 0 < d2) ∧
    idiv d1 (igcd d1 n2) * idiv d2 (igcd n1 d2) ≠ 0 ∧
    (idiv n1 (igcd n1 d2) * idiv n2 (igcd d1 n2)) * (d1 * d2) = (n1 * n2) * (idiv d1 (igcd d1 n2) * idiv d2 (igcd n1 d2)) ∧
    (IsCoprime n1 d1 → IsCoprime n2 d2 →
      IsCoprime (idiv n1 (igcd n1 d2) * idiv n2 (igcd d1 n2)) (idiv d1 (igcd d1 n2) * idiv d2 (igcd n1 d2))) := by
  obtain ⟨g1, a, b, hg1, hg1pos, rfl, rfl, hab⟩ := gcd_decomp n1 d2 (Or.inr h2)
  obtain ⟨g2, c, e, hg2, hg2pos, rfl, rfl, hce⟩ := gcd_decomp d1 n2 (Or.inl (by omega))
  have hg10 : g1 ≠ 0 := by omega
  have hg20 : g2 ≠ 0 := by omega
  rw [hg1, hg2, idiv_mul_left _ hg10, idiv_mul_left _ hg10, idiv_mul_left _ hg20, idiv_mul_left _ hg20]
  have hc : 0 < c := pos_of_mul_pos_left h1 hg2pos.le
  have hb0 : b ≠ 0 := fun h => h2 (by rw [h]; ring)
  refine ⟨(mul_pos_iff_of_pos_left hc).trans (mul_pos_iff_of_pos_right hg1pos).symm, Int.mul_ne_zero (by omega) hb0, by ring,
    fun c1 c2 => ?_⟩
  have hac : IsCoprime a c := c1.of_mul_left_left.of_mul_right_left
  have heb : IsCoprime e b := c2.of_mul_left_left.of_mul_right_left
  exact IsCoprime.mul_left (IsCoprime.mul_right hac hab) (IsCoprime.mul_right hce.symm heb)

theorem cabs_zero_pos {c : Int → Int → Int} (hc : CmpAbsOK c) {x y : Int} (hx : 0 < x) (hy : 0 < y) :
    c x y = 0 ↔ x = y := by
  have := (cmpAbsOK_isCmp hc x y).2
  rwa [abs_of_pos hx, abs_of_pos hy] at this

theorem mul_spec {c : Int → Int → Int} (hc : CmpAbsOK c) {k m : Bool} (hkm : k = true → m = true) (a b : QRep)
    (ha : Valid k a) (hb : Valid k b) :
    ∃ r, mul c m a b = some r ∧ Valid k r ∧ Den r (a.num * b.num) (a.den * b.den) := by
  obtain ⟨an, ad⟩ := a
  obtain ⟨bn, bd⟩ := b
  have hdd : 0 < ad * bd := Int.mul_pos ha.pos hb.pos
  unfold mul
  simp only [isZero, isOne, isInteger, beq_iff_eq, Bool.and_eq_true, Bool.not_eq_true', cabs_zero_pos hc ha.pos hb.pos]
  refine spec_ite (fun k1 => ⟨_, rfl, valid_int k 0, by simp only [Den, ofWord, k1]; ring⟩) fun _ => ?_
  refine spec_ite (fun k2 => ⟨_, rfl, valid_int k 0, by simp only [Den, ofWord, k2]; ring⟩) fun _ => ?_
  refine spec_ite (fun k3 => ⟨_, rfl, ha, by simp only [Den, k3.1, k3.2]; ring⟩) fun _ => ?_
  refine spec_ite (fun k4 => ⟨_, rfl, hb, by simp only [Den, k4.1, k4.2]; ring⟩) fun _ => ?_
  refine spec_ite (fun k5 => ⟨_, congrArg some (ofInteger_eq _), valid_int k _, by simp only [Den, k5.1, k5.2]; ring⟩) fun _ => ?_
  refine spec_ite (fun k6 => ⟨_, mk3_pos _ _ hdd, valid_mk hdd fun hk => ?_, rfl⟩) fun _ => ?_
  · -- equal denominators: the product is formed without any gcd, in either mode
    have c1 := ha.cop hk
    have c2 := hb.cop hk
    rw [← k6] at c2 ⊢
    exact IsCoprime.mul_left (c1.mul_right c1) (c2.mul_right c2)
  refine spec_ite (fun k7 => ⟨_, mk3_pos _ _ hdd, valid_of_pos hkm k7 hdd, rfl⟩) fun _ => ?_
  obtain ⟨p, _, v, cp⟩ := mul_core an ad bn bd ha.pos (Int.ne_of_gt hb.pos)
  have p := p.mpr hb.pos
  exact ⟨_, mk3_pos _ _ p, valid_mk p fun hk => cp (ha.cop hk) (hb.cop hk), v⟩

theorem mulin_eq (c : Int → Int → Int) (m : Bool) (a b : QRep) (ha : 0 < a.den) (hb : 0 < b.den) :
    mulin c m a b = if b.num ≠ 0 ∧ a.num = 0 then some a else mul c m a b := by
  obtain ⟨an, ad⟩ := a
  obtain ⟨bn, bd⟩ := b
  simp only at ha hb
  have hdd : 0 < ad * bd := Int.mul_pos ha hb
  unfold mulin mul
  simp only [isZero, isOne, isInteger, beq_iff_eq, Bool.and_eq_true, Bool.not_eq_true', Bool.or_eq_true, decide_eq_true_eq]
  by_cases h0 : bn ≠ 0 ∧ an = 0
  · rw [if_pos h0, if_neg h0.1, if_pos h0.2]
  rw [if_neg h0]
  refine if_ctx_congr Iff.rfl (fun _ => rfl) fun k1 => ?_
  refine if_ctx_congr Iff.rfl (fun k2 => absurd ⟨k1, k2⟩ h0) fun _ => ?_
  refine if_ctx_congr Iff.rfl (fun _ => rfl) fun _ => ?_
  refine if_ctx_congr Iff.rfl (fun _ => rfl) fun _ => ?_
  refine if_ctx_congr Iff.rfl (fun k5 => by rw [ofInteger_eq, k5.1]) fun _ => ?_
  by_cases k6 : c ad bd = 0
  · rw [if_pos (Or.inl k6), if_pos k6, mk3_pos _ _ hdd]
  rw [if_neg k6]
  refine if_ctx_congr (or_iff_right k6) (fun _ => (mk3_pos _ _ hdd).symm) fun _ => ?_
  rw [mk3_pos _ _ ((mul_core an ad bn bd ha (Int.ne_of_gt hb)).1.mpr hb)]

theorem mulin_spec {c : Int → Int → Int} (hc : CmpAbsOK c) {k m : Bool} (hkm : k = true → m = true) (a b : QRep)
    (ha : Valid k a) (hb : Valid k b) :
    ∃ r, mulin c m a b = some r ∧ Valid k r ∧ Den r (a.num * b.num) (a.den * b.den) := by
  rw [mulin_eq c m a b ha.1 hb.1]
  exact spec_ite (fun h0 => ⟨a, rfl, ha, by simp only [Den, h0.2]; ring⟩) fun _ => mul_spec hc hkm a b ha hb

theorem div_zero (c : Int → Int → Int) (red : Bool) (a b : QRep) (h : b.num = 0) : div c red a b = none := by
  unfold div; simp [isZero, h]

theorem divin_zero (red : Bool) (a b : QRep) (h : b.num = 0) : divin red a b = none := by
  unfold divin; simp [isZero, h]

theorem sgn_some {k : Bool} {s x y n d : Int} (hs : s < 0 ↔ y < 0) (hy : y ≠ 0) (hc : k = true → IsCoprime x y)
    (hv : x * d = n * y) :
    ∃ r, (if s < 0 then some ⟨-x, -y⟩ else some (⟨x, y⟩ : QRep)) = some r ∧ Valid k r ∧ Den r n d :=
  have ⟨v, e⟩ := sgn_pair hs hy hc hv
  ⟨_, (apply_ite some _ _ _).symm, v, e⟩

theorem divin_spec {k m : Bool} (hkm : k = true → m = true) (a b : QRep) (ha : Valid k a) (hb : Valid k b) (hnz : b.num ≠ 0) :
    ∃ r, divin m a b = some r ∧ Valid k r ∧ Den r (a.num * b.den) (a.den * b.num) := by
  obtain ⟨an, ad⟩ := a
  obtain ⟨bn, bd⟩ := b
  simp only at hnz
  unfold divin
  simp only [isZero, isOne, beq_iff_eq, Bool.and_eq_true, Bool.not_eq_true', isign_neg_iff]
  rw [if_neg hnz]
  refine spec_ite (fun k2 => ⟨_, rfl, ha, by simp only [Den, k2]; ring⟩) fun _ => ?_
  refine spec_ite (fun k3 => ⟨_, rfl, ha, by simp only [Den, k3.1, k3.2]; ring⟩) fun _ => ?_
  refine spec_ite (fun k4 => ?_) fun _ => ?_
  · rw [k4.1, k4.2]
    exact sgn_some Iff.rfl hnz (fun hk => (hb.cop hk).symm) (by ring)
  refine spec_ite (fun k6 => ?_) fun _ => ?_
  · -- equal denominators: `reduce()` of `a.num / b.num`, in either mode
    by_cases k5 : bn < 0
    · rw [if_pos k5]
      obtain ⟨cn, dn⟩ := reduce_spec ⟨-an, -bn⟩ (by simp only; omega)
      exact ⟨_, rfl, canon_valid cn k, by simp only [Den, k6] at dn ⊢; linear_combination (-bd) * dn⟩
    · rw [if_neg k5]
      obtain ⟨cn, dn⟩ := reduce_spec ⟨an, bn⟩ (by simp only; omega)
      exact ⟨_, rfl, canon_valid cn k, by simp only [Den, k6] at dn ⊢; linear_combination bd * dn⟩
  refine spec_ite (fun k7 => ?_) fun _ => ?_
  · have hs : bn < 0 ↔ ad * bn < 0 := by rw [← not_le, ← not_le, mul_nonneg_iff_of_pos_left ha.pos]
    exact sgn_some hs (Int.mul_ne_zero (Int.ne_of_gt ha.pos) hnz) (fun hk => by rw [hkm hk] at k7; cases k7) rfl
  -- general branch: `operator*=` on the swapped pair `b.den / b.num`
  obtain ⟨_, q, v, cp⟩ := mul_core an ad bd bn ha.pos hnz
  exact sgn_some Iff.rfl q (fun hk => cp (ha.cop hk) (hb.cop hk).symm) v

theorem div_eq {c : Int → Int → Int} (hc : CmpAbsOK c) (m : Bool) (a b : QRep) (ha : 0 < a.den) (hb : 0 < b.den)
    (hnz : b.num ≠ 0) : div c m a b = if a.num = 0 then some ⟨0, 1⟩ else divin m a b := by
  obtain ⟨an, ad⟩ := a
  obtain ⟨bn, bd⟩ := b
  simp only at ha hb hnz
  unfold divin div
  simp only [isZero, isOne, sign, beq_iff_eq, Bool.and_eq_true, Bool.not_eq_true', cabs_zero_pos hc ha hb, isign_neg_iff]
  rw [if_neg hnz, if_neg hnz]
  refine if_ctx_congr Iff.rfl (fun _ => rfl) fun k2 => ?_
  rw [if_neg k2]
  refine if_ctx_congr Iff.rfl (fun _ => rfl) fun _ => ?_
  refine if_ctx_congr Iff.rfl (fun _ => ?_) fun _ => ?_
  · refine if_ctx_congr Iff.rfl (fun k5 => mk3_neg _ _ k5) fun _ => ?_
    rw [mk3_neg _ _ (by omega), Int.neg_neg, Int.neg_neg]
  refine if_ctx_congr Iff.rfl (fun _ => ?_) fun _ => ?_
  · rw [mk3_red _ _ hnz, apply_ite reduce, apply_ite some]
  refine if_ctx_congr Iff.rfl (fun _ => ?_) fun _ => ?_
  · by_cases k5 : bn < 0
    · rw [if_pos k5, mk3_neg _ _ (Int.mul_neg_of_pos_of_neg ha k5)]
    · rw [if_neg k5, mk3_pos _ _ (Int.mul_pos ha (by omega))]
  -- general branch: `/` goes by the sign of `b.num`, `/=` by the sign of the raw denominator
  obtain ⟨p, q, _, _⟩ := mul_core an ad bd bn ha hnz
  generalize idiv an (igcd an bn) * idiv bd (igcd ad bd) = x
  generalize idiv ad (igcd ad bd) * idiv bn (igcd an bn) = y at p q ⊢
  by_cases k8 : bn < 0
  · have hd : y < 0 := by have := mt p.mp (by omega : ¬ 0 < bn); omega
    rw [if_pos hd, if_pos k8, if_pos hd, iabs, if_pos hd, mk3_pos _ _ (by omega)]
  · have hd : ¬ y < 0 := by have := p.mpr (by omega); omega
    rw [if_neg k8, if_neg hd, if_neg hd, mk3_pos _ _ (by omega)]

theorem div_spec {c : Int → Int → Int} (hc : CmpAbsOK c) {k m : Bool} (hkm : k = true → m = true) (a b : QRep)
    (ha : Valid k a) (hb : Valid k b) (hnz : b.num ≠ 0) :
    ∃ r, div c m a b = some r ∧ Valid k r ∧ Den r (a.num * b.den) (a.den * b.num) := by
  rw [div_eq hc m a b ha.1 hb.1 hnz]
  exact spec_ite (fun h0 => ⟨_, rfl, valid_int k 0, by simp only [Den, h0]; ring⟩) fun _ => divin_spec hkm a b ha hb hnz

/-! ### negation, absolute value, inverse -/
theorem neg_spec (red : Bool) (a : QRep) (ha : Valid red a) :
    ∃ r, neg a = some r ∧ Valid red r ∧ Den r (-a.num) a.den :=
  ⟨_, mk3_pos _ _ ha.1, valid_neg ha, rfl⟩

theorem abs_spec (red : Bool) (a : QRep) (ha : Valid red a) :
    ∃ r, Model.Rational.abs a = some r ∧ Valid red r ∧ Den r |a.num| a.den := by
  refine ⟨_, mk3_pos _ _ ha.1, ?_, by simp only [Den, iabs_eq]⟩
  unfold iabs
  split
  · exact valid_neg ha
  · exact ha

theorem fneg_spec (red : Bool) (a : QRep) (ha : Valid red a) : Valid red (fneg a) ∧ Den (fneg a) (-a.num) a.den :=
  ⟨valid_neg ha, rfl⟩

theorem finv_spec (red : Bool) (a : QRep) (ha : Valid red a) (hnz : a.num ≠ 0) :
    Valid red (finv a) ∧ Den (finv a) a.den a.num := by
  obtain ⟨n, d⟩ := a
  unfold finv
  simp only [isign_neg_iff]
  exact sgn_pair Iff.rfl hnz (fun hk => (ha.cop hk).symm) rfl

/-! ### powers -/
theorem ipow_eq (b : Int) (e : Nat) : ipow b e = b ^ e := by
  unfold ipow
  split_ifs with h1 h2 h3 h4 h5
  · subst h1 h2; rfl
  · subst h1; exact (zero_pow h2).symm
  · subst h3; exact (one_pow e).symm
  · subst h4; exact (Even.neg_one_pow (Nat.even_iff.mpr h5)).symm
  · subst h4; exact (Odd.neg_one_pow (Nat.odd_iff.mpr (by omega))).symm
  · rfl

theorem absS64_toNat (y : Int) (h : InS64 y) : (wrapU64 (absS64 y)).toNat = y.natAbs := by
  rw [wrapU64_absS64 y h]; omega

theorem absS64_neg_toNat (y : Int) (h : InS64 y) : (wrapU64 (absS64 (wrapS64 (-y)))).toNat = y.natAbs := by
  by_cases hm : y = -9223372036854775808
  · subst hm; decide
  · have e : wrapS64 (-y) = -y := wrapS64_id (by unfold InS64 at *; omega)
    rw [e, absS64_toNat _ (by unfold InS64 at *; omega), Int.natAbs_neg]

theorem valid_pow (red : Bool) (n d : Int) (e : Nat) (h : Valid red ⟨n, d⟩) : Valid red ⟨n ^ e, d ^ e⟩ :=
  valid_mk (pow_pos h.pos e) fun hk => IsCoprime.pow (h.cop hk)

/-- `pow(const Rational&, int64_t)` for every `int64_t` exponent, `INT64_MIN` included: the power by `|y|`, inverted as
    `QField::inv` inverts when `y < 0` -/
theorem powS64_eq (x : QRep) (y : Int) (hy : InS64 y) :
    powS64 x y = if 0 ≤ y then ⟨x.num ^ y.natAbs, x.den ^ y.natAbs⟩ else finv ⟨x.num ^ y.natAbs, x.den ^ y.natAbs⟩ := by
  by_cases h0 : 0 ≤ y
  · simp only [powS64, ipowS64, ipow_eq, absS64_toNat y hy, ge_iff_le, h0, ↓reduceIte]
  · simp only [powS64, ipowS64, finv, ipow_eq, absS64_neg_toNat y hy, ge_iff_le, h0, ↓reduceIte]

theorem powU_eq (x : QRep) (l : Int) : powU x l = ⟨x.num ^ l.toNat, x.den ^ l.toNat⟩ := by
  unfold powU ipowU
  simp only [ipow_eq]
  split
  · rename_i h; subst h; simp
  · rfl

/-! ### Rational(double) -/
theorem pow2_pos (k : Int) : 0 < pow2 k := by unfold pow2; positivity

theorem ofDouble_spec (red : Bool) (s e m : Int) (hs : s = 0 ∨ s = 1) (he0 : 0 ≤ e) (he : e < 2047)
    (hm0 : 0 ≤ m) (hm : m < 4503599627370496) :
    ∃ r, ofDouble red s e m = some r ∧ Valid red r ∧ Den r (doubleFrac s e m).1 (doubleFrac s e m).2 := by
  -- the last step, `reduce()` when the mode asks for it, on a pair `q` that already denotes the fraction
  have fin : ∀ {q : QRep} {n d : Int}, 0 < q.den → Den q n d →
      ∃ r, some (if red = true then reduce q else q) = some r ∧ Valid red r ∧ Den r n d := fun hq hd => by
    cases red
    · exact ⟨_, rfl, ⟨hq, nofun⟩, hd⟩
    · obtain ⟨c, e⟩ := reduce_spec _ hq
      exact ⟨_, rfl, canon_valid c true, den_trans (Int.ne_of_gt hq) e hd⟩
  unfold ofDouble doubleFrac
  by_cases h0 : e = 0
  · -- subnormal: `±m / 2^1074` by the in-place division
    subst h0
    have hnum : (if (s == 1 && !((0 : Int) == 0 && m == 0)) = true then -m else m) = (if s = 1 then -1 else 1) * m := by
      rcases hs with rfl | rfl
      · simp
      · by_cases hm' : m = 0
        · subst hm'; simp
        · simp [hm']
    simp only [↓reduceIte, hnum, ofInteger_eq]
    obtain ⟨r0, h1, h2, h3⟩ := divin_spec (k := red) (m := red) id ⟨(if s = 1 then -1 else 1) * m, 1⟩ ⟨pow2 1074, 1⟩
      (valid_int _ _) (valid_int _ _) (Int.ne_of_gt (pow2_pos 1074))
    simp only [h1]
    refine fin h2.1 ?_
    simp only [Den, pow2, Int.mul_one, Int.one_mul] at h3 ⊢
    exact h3
  · have hneg : (s == 1 && !(e == 0 && m == 0)) = (s == 1) := by simp [h0]
    simp only [h0, ↓reduceIte, hneg, beq_iff_eq]
    by_cases hsh : 1075 - e > 0
    · have e1 : ¬ e ≥ 1075 := by omega
      simp only [hsh, e1, ↓reduceIte]
      refine fin (pow2_pos _) ?_
      simp only [Den, pow2]
      split <;> ring
    · have e1 : e ≥ 1075 := by omega
      simp only [hsh, e1, ↓reduceIte]
      refine fin Int.one_pos ?_
      simp only [Den, pow2, show -(1075 - e) = e - 1075 by ring]
      split <;> ring

theorem ofDouble_pos (red : Bool) (s e m : Int) (hs : s = 0 ∨ s = 1) (he0 : 0 ≤ e) (he : e < 2047)
    (hm0 : 0 ≤ m) (hm : m < 4503599627370496) :
    ∃ r, ofDouble red s e m = some r ∧ 0 < r.den ∧ Den r (doubleFrac s e m).1 (doubleFrac s e m).2 := by
  obtain ⟨r, h1, h2, h3⟩ := ofDouble_spec red s e m hs he0 he hm0 hm
  exact ⟨r, h1, h2.1, h3⟩

/-! ### conversions out -/
theorem mpz_get_si_id {t : Int} (h : InS64 t) : mpz_get_si t = t := by
  unfold InS64 at h; unfold mpz_get_si; split_ifs <;> omega
theorem mpz_get_ui_id {t : Int} (h : InU64 t) : mpz_get_ui t = t := by
  unfold InU64 at h; unfold mpz_get_ui iabs; rw [if_neg (by omega)]; omega

theorem ieeeFrac_pos {prec eb : Nat} {bits vn vd : Int} (h : ieeeFrac prec eb bits = some (vn, vd)) : 0 < vd := by
  unfold ieeeFrac at h
  simp only at h
  split_ifs at h <;> obtain ⟨⟩ := h <;> positivity

/-! ### rounding to Integer -/
theorem trunc_spec (a : QRep) (hd : 0 < a.den) :
    trunc a = if 0 ≤ a.num then floor a else ceil a := by
  unfold trunc floor ceil idiv
  rw [Int.fdiv_eq_ediv_of_nonneg _ (by omega), Int.fdiv_eq_ediv_of_nonneg _ (by omega)]
  split
  · rename_i h; exact Int.tdiv_eq_ediv_of_nonneg h
  · rename_i h
    have : a.num = -(-a.num) := by omega
    rw [this, Int.neg_tdiv, Int.tdiv_eq_ediv_of_nonneg (by omega)]
    simp

/-! ### the reference functions of the driver -/
theorem normalize_canon (n d : Int) (hd : d ≠ 0) : Canon (normalize n d) ∧ Den (normalize n d) n d := by
  obtain ⟨g, n', d', hg, hgpos, rfl, rfl, hc⟩ := gcd_decomp n d (Or.inr hd)
  have hg0 := Int.ne_of_gt hgpos
  have hs : d' * g < 0 ↔ d' < 0 := by rw [← not_le, ← not_le, mul_nonneg_iff_of_pos_right hgpos]
  unfold igcd at hg
  simp only [normalize, hg, Int.mul_ediv_cancel _ hg0]
  obtain ⟨v, e⟩ := sgn_pair (k := true) (n := n' * g) (d := d' * g) hs (fun h => hd (by rw [h, Int.zero_mul])) (fun _ => hc) (by ring)
  exact ⟨valid_true v, e⟩

-- the driver's Bool checkers (Spec/RationalSpec.lean) decide the predicates the theorems are stated with
theorem canonB_iff (r : QRep) : canonB r = true ↔ Canon r := by
  unfold canonB Canon; simp
theorem validB_iff (red : Bool) (r : QRep) : validB red r = true ↔ Valid red r := by
  unfold validB Valid; cases red <;> simp
theorem sameValueB_iff (r : QRep) (n d : Int) : sameValueB r n d = true ↔ Den r n d := by
  unfold sameValueB Den; simp

theorem floorSpec_eq (a : QRep) (hd : 0 < a.den) : floorSpec a.num a.den = floor a := by
  unfold floorSpec floor; rw [Int.fdiv_eq_ediv_of_nonneg _ (by omega)]

theorem ceilSpec_eq (a : QRep) (hd : 0 < a.den) : ceilSpec a.num a.den = ceil a := by
  unfold ceilSpec ceil; rw [Int.fdiv_eq_ediv_of_nonneg _ (by omega)]

theorem truncSpec_eq (a : QRep) (hd : 0 < a.den) : truncSpec a.num a.den = trunc a := by
  rw [trunc_spec a hd, ← floorSpec_eq a hd, ← ceilSpec_eq a hd]
  rfl

theorem half_up_div (N d : Int) (hd : 0 < d) :
    (2 * N + d) / (2 * d) = if d ≤ N % d * 2 then N / d + 1 else N / d := by
  have hr0 := Int.emod_nonneg N (Int.ne_of_gt hd)
  have hrd := Int.emod_lt_of_pos N hd
  have hN := Int.mul_ediv_add_emod N d
  split
  · rename_i h
    refine ((Int.ediv_emod_unique (r := N % d * 2 - d) (by omega : 0 < 2 * d)).mpr ⟨?_, ?_, ?_⟩).1
    · linear_combination 2 * hN
    · omega
    · omega
  · rename_i h
    refine ((Int.ediv_emod_unique (r := N % d * 2 + d) (by omega : 0 < 2 * d)).mpr ⟨?_, ?_, ?_⟩).1
    · linear_combination 2 * hN
    · omega
    · omega

theorem roundSpec_eq {c : Int → Int → Int} (hc : CmpAbsOK c) (a : QRep) (hd : 0 < a.den) :
    roundSpec a.num a.den = round c a := by
  obtain ⟨n, d⟩ := a
  simp only at hd ⊢
  have hN : 0 ≤ iabs n := by rw [iabs_eq]; exact abs_nonneg n
  have hr := Int.emod_nonneg (iabs n) (Int.ne_of_gt hd)
  have hdm : idivmod (iabs n) d = (iabs n / d, iabs n % d) := by
    unfold idivmod
    rw [Int.tdiv_eq_ediv_of_nonneg hN, Int.tmod_eq_emod_of_nonneg hN, if_neg (by omega)]
  have hcmp := cmpAbsOK_isCmp hc (iabs n % d * 2) d
  rw [abs_of_nonneg (by omega), abs_of_pos hd] at hcmp
  have hup : (if iabs n % d ≠ 0 ∧ c (iabs n % d * 2) d ≥ 0 then iabs n / d + 1 else iabs n / d) = (2 * iabs n + d) / (2 * d) := by
    rw [half_up_div _ _ hd]
    have := hcmp.1
    by_cases h : d ≤ iabs n % d * 2
    · rw [if_pos h, if_pos (by omega)]
    · rw [if_neg h, if_neg (by omega)]
  simp only [round, roundSpec, hdm, Bool.and_eq_true, decide_eq_true_eq, hup]
  by_cases hn : n < 0
  · rw [if_pos hn, if_neg (by omega), iabs, if_pos hn]
  · rw [if_neg hn, if_pos (by omega), iabs, if_neg hn]
end Givaro.Lemmas.Rational
