/-
C05 — the list facts behind `GFqDom::init(Rep&, const Vector&)` (model `Model/GFqInit.lean`, `Props.C05.init_from_polynomial_exact`):
a vector whose degree is below `k` is a list of at most `k` coefficients followed by stored zeros, and the look-up of a list of at most
`k` digits succeeds (the digit facts themselves are in `GFqDecoding`).
-/
import GivaroModel.Model.GFqInit
import GivaroModel.Lemmas.GFqDecoding
namespace Givaro.Lemmas.GFqZech
open Givaro.Model.Zech Givaro.Spec.GFq Givaro.Model.GFqInit

section
variable {K : Type*} [CommRing K] (x : K)

theorem split_of_degree_lt (cs : List Nat) (k : Nat) (h : degreeOf cs < (k : Int)) :
    ∃ l n, cs = l ++ List.replicate n 0 ∧ l.length ≤ k := by
  unfold degreeOf at h
  generalize htw : cs.reverse.takeWhile (· == 0) = tw
  generalize hdw : cs.reverse.dropWhile (· == 0) = dw at h
  have h1 : cs.reverse = tw ++ dw := by rw [← htw, ← hdw]; exact (List.takeWhile_append_dropWhile).symm
  have h2 : tw = List.replicate tw.length 0 := by
    apply List.eq_replicate_of_mem
    intro b hb
    have hall : tw.all (· == 0) = true := by rw [← htw]; exact List.all_takeWhile
    rw [List.all_eq_true] at hall
    simpa using hall b hb
  have h3 : cs = dw.reverse ++ tw.reverse := by
    have := congrArg List.reverse h1
    rwa [List.reverse_reverse, List.reverse_append] at this
  refine ⟨dw.reverse, tw.length, ?_, by simp; omega⟩
  calc cs = dw.reverse ++ tw.reverse := h3
    _ = dw.reverse ++ (List.replicate tw.length 0).reverse := by rw [← h2]
    _ = dw.reverse ++ List.replicate tw.length 0 := by rw [List.reverse_replicate]

theorem Valid.lookup_list {T : Tables} (V : Valid T) (l : List Nat) (hl : l.length ≤ T.F.k) (hll : ∀ d ∈ l, d < T.F.p) :
    ∃ r, (if undigits T.F.p l < T.pol2log.size then some (T.p2l (undigits T.F.p l)) else none) = some r ∧ r < T.q ∧
      ev x (digits T.F.p T.F.k (T.l2p r)) = ev x l := by
  have hp : 0 < T.F.p := V.prime.pos
  have hlt : undigits T.F.p l < T.q :=
    lt_of_lt_of_le (undigits_lt l hll) (Nat.pow_le_pow_right hp hl)
  obtain ⟨r1, r2⟩ := V.p2l_right _ hlt
  refine ⟨_, by rw [V.size_p2l, if_pos hlt], r1, ?_⟩
  rw [r2, ev_digits_undigits x hp T.F.k l hl hll]

end
end Givaro.Lemmas.GFqZech
