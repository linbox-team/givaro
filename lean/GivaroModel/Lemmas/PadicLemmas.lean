/-
C08 — givpoly1padic.h: `eval` and `radix` of `Model/Poly.lean` (namespace `Givaro.Model.Padic`) are inverse of each other
(`eval p` is `Nat.ofDigits p`, so a normalised vector of canonical residues is `Nat.digits` of its value);
the direct conversions `radixdirect` / `evaldirect` of `Model/PolyPadicDirect.lean`.
-/
import GivaroModel.Model.Poly
import GivaroModel.Model.PolyPadicDirect
import Mathlib.Algebra.Order.Ring.Nat
import Mathlib.Tactic.Ring
import Mathlib.Algebra.Order.Group.Nat
import Mathlib.Data.Nat.Digits.Defs

namespace Givaro.Lemmas.Padic
open Givaro.Model.Padic

/-- every digit is a canonical residue -/
def Digits (p : Nat) (L : List Nat) : Prop := ∀ d ∈ L, d < p
/-- no leading zero digit -/
def NormalN (L : List Nat) : Prop := L.getLast? ≠ some 0

theorem eval_setdegree (p : Nat) (L : List Nat) : eval p (setdegree L) = eval p L := by
  induction L with
  | nil => rfl
  | cons a L ih =>
    unfold setdegree
    split
    · next h =>
      rw [h] at ih
      simp only [eval] at ih ⊢
      by_cases ha : a = 0
      · simp [ha, eval, ← ih]
      · simp [ha, eval, ← ih]
    · next b Q h => rw [h] at ih; simp only [eval] at ih ⊢; rw [ih]

theorem setdegree_normal (L : List Nat) : NormalN (setdegree L) := by
  induction L with
  | nil => simp [setdegree, NormalN]
  | cons a L ih =>
    unfold setdegree
    split
    · by_cases ha : a = 0 <;> simp [ha, NormalN]
    · next b Q h => rw [h] at ih; simpa [NormalN, List.getLast?_cons_cons] using ih

theorem setdegree_digits (p : Nat) (L : List Nat) (h : Digits p L) : Digits p (setdegree L) := by
  induction L with
  | nil => simp [setdegree, Digits]
  | cons a L ih =>
    have hL : Digits p L := fun d hd => h d (List.mem_cons_of_mem _ hd)
    have ha : a < p := h a (List.mem_cons_self ..)
    unfold setdegree
    split
    · by_cases h0 : a = 0
      · simp [h0, Digits]
      · simp [h0, Digits]; exact ha
    · next b Q hq =>
      have := ih hL
      rw [hq] at this
      intro d hd
      rcases List.mem_cons.mp hd with rfl | hd
      · exact ha
      · exact this d hd

theorem setdegree_length_le (L : List Nat) : (setdegree L).length ≤ L.length := by
  induction L with
  | nil => simp [setdegree]
  | cons a L ih =>
    unfold setdegree
    split
    · split <;> simp
    · next b Q h => rw [h] at ih; simp at ih ⊢; omega

theorem eval_append (p : Nat) (A B : List Nat) : eval p (A ++ B) = eval p A + p ^ A.length * eval p B := by
  induction A with
  | nil => simp [eval]
  | cons a A ih => simp only [List.cons_append, eval, ih, List.length_cons, pow_succ]; ring

theorem eval_replicate_zero (p n : Nat) : eval p (List.replicate n 0) = 0 := by
  induction n with
  | zero => rfl
  | succ n ih => simp [List.replicate_succ, eval, ih]

theorem eval_lt (p : Nat) (L : List Nat) (h : Digits p L) : eval p L < p ^ L.length := by
  induction L with
  | nil => simp [eval]
  | cons a L ih =>
    have hL : Digits p L := fun d hd => h d (List.mem_cons_of_mem _ hd)
    have ha : a < p := h a (List.mem_cons_self ..)
    have := ih hL
    simp only [eval, List.length_cons, pow_succ]
    calc a + p * eval p L < p * (eval p L + 1) := by rw [Nat.mul_add, Nat.mul_one]; omega
      _ ≤ p ^ L.length * p := by rw [Nat.mul_comm]; exact Nat.mul_le_mul_right p this

/-- one digit: `init(P, Degree(0), E)` for `E < p` -/
theorem initConst_spec (p E : Nat) (hE : E < p) :
    eval p (initConst p E) = E ∧ Digits p (initConst p E) ∧ (initConst p E).length ≤ 1 ∧
    NormalN (initConst p E) := by
  unfold initConst
  rw [Nat.mod_eq_of_lt hE]
  split
  · next h => simp [eval, h, Digits, NormalN]
  · next h =>
    refine ⟨by simp [eval], ?_, by simp, by simp [NormalN, h]⟩
    intro d hd; simp at hd; rw [hd]; exact hE

/-- the joining step of `radix`: the `t` low digits (normalised, then padded with zeros up to `t`) followed by the high ones -/
theorem join_spec (p t : Nat) (hp : 0 < p) (Lo Hi : List Nat) (hLo : Digits p Lo) (hHi : Digits p Hi)
    (hl : Lo.length ≤ t) :
    eval p (setdegree (setdegree Lo ++ List.replicate (t - (setdegree Lo).length) 0 ++ Hi))
      = eval p Lo + p ^ t * eval p Hi ∧
    Digits p (setdegree (setdegree Lo ++ List.replicate (t - (setdegree Lo).length) 0 ++ Hi)) ∧
    (setdegree (setdegree Lo ++ List.replicate (t - (setdegree Lo).length) 0 ++ Hi)).length ≤ t + Hi.length := by
  have hPl := setdegree_length_le Lo
  refine ⟨?_, ?_, ?_⟩
  · rw [eval_setdegree, eval_append, eval_append, eval_setdegree, eval_replicate_zero]
    simp only [List.length_append, List.length_replicate]
    rw [show (setdegree Lo).length + (t - (setdegree Lo).length) = t by omega, Nat.mul_zero, Nat.add_zero]
  · apply setdegree_digits
    intro d hd
    rcases List.mem_append.mp hd with hd | hd
    · rcases List.mem_append.mp hd with hd | hd
      · exact setdegree_digits p _ hLo d hd
      · rw [List.mem_replicate] at hd; rw [hd.2]; exact hp
    · exact hHi d hd
  · refine le_trans (setdegree_length_le _) ?_
    simp only [List.length_append, List.length_replicate]
    omega

theorem radixN_spec (p : Nat) (hp : 2 ≤ p) : ∀ (fuel E n : Nat), n ≤ fuel + 1 → 1 ≤ n → E < p ^ n →
    eval p (radixN p fuel E n) = E ∧ Digits p (radixN p fuel E n) ∧ (radixN p fuel E n).length ≤ n ∧
    NormalN (radixN p fuel E n) := by
  intro fuel
  induction fuel with
  | zero =>
    intro E n hf hn hE
    obtain rfl : n = 1 := by omega
    exact initConst_spec p E (by simpa using hE)
  | succ fuel ih =>
    intro E n hf hn hE
    simp only [radixN]
    split
    · next h1 =>
      obtain rfl : n = 1 := by omega
      exact initConst_spec p E (by simpa using hE)
    · next h1 =>
      obtain ⟨t, ht⟩ : ∃ t, (n + 1) / 2 = t := ⟨_, rfl⟩
      rw [ht]
      have hpt : 0 < p ^ t := Nat.pow_pos (by omega)
      have hq : E / p ^ t < p ^ (n - t) := by
        rw [Nat.div_lt_iff_lt_mul hpt, ← pow_add, show n - t + t = n by omega]; exact hE
      obtain ⟨q1, q2, q3, _⟩ := ih (E / p ^ t) (n - t) (by omega) (by omega) hq
      obtain ⟨l1, l2, l3, _⟩ := ih (E % p ^ t) t (by omega) (by omega) (Nat.mod_lt _ hpt)
      obtain ⟨j1, j2, j3⟩ := join_spec p t (by omega) _ _ l2 q2 l3
      exact ⟨by rw [j1, l1, q1]; exact Nat.mod_add_div E (p ^ t), j2, by omega, setdegree_normal _⟩

theorem ndigits_spec (p : Nat) (hp : 2 ≤ p) : ∀ (fuel E : Nat), E ≤ fuel → 1 ≤ ndigits p fuel E ∧ E < p ^ ndigits p fuel E := by
  intro fuel
  induction fuel with
  | zero => intro E h; have : E = 0 := by omega
            subst this; simp [ndigits]; omega
  | succ fuel ih =>
    intro E h
    simp only [ndigits]
    split
    · next hlt => exact ⟨le_refl _, by simpa using hlt⟩
    · next hge =>
      have hdiv : E / p ≤ fuel := by
        have : E / p < E := Nat.div_lt_self (by omega) (by omega)
        omega
      obtain ⟨h1, h2⟩ := ih (E / p) hdiv
      refine ⟨by omega, ?_⟩
      rw [Nat.add_comm, pow_succ]
      have := (Nat.div_lt_iff_lt_mul (by omega : 0 < p)).mp h2
      exact this

theorem eval_radix (p : Nat) (hp : 2 ≤ p) (E : Nat) :
    eval p (radix p E) = E ∧ Digits p (radix p E) ∧ NormalN (radix p E) := by
  unfold radix
  obtain ⟨h1, h2⟩ := ndigits_spec p hp E E (le_refl _)
  obtain ⟨r1, r2, _, r4⟩ := radixN_spec p hp (ndigits p E E) E (ndigits p E E) (by omega) h1 h2
  exact ⟨r1, r2, r4⟩

theorem eval_eq_ofDigits (p : Nat) (L : List Nat) : eval p L = Nat.ofDigits p L := by
  induction L with
  | nil => rfl
  | cons a L ih => rw [eval, ih, Nat.ofDigits_cons]

theorem digits_eval (p : Nat) (hp : 2 ≤ p) (L : List Nat) (hd : Digits p L) (hn : NormalN L) :
    Nat.digits p (eval p L) = L := by
  rw [eval_eq_ofDigits]
  exact Nat.digits_ofDigits p hp L hd fun hne e => hn (by rw [List.getLast?_eq_some_getLast hne, e])

theorem radix_eval (p : Nat) (hp : 2 ≤ p) (P : List Nat) (hd : Digits p P) (hn : NormalN P) :
    radix p (eval p P) = P := by
  obtain ⟨h1, h2, h3⟩ := eval_radix p hp (eval p P)
  rw [← digits_eval p hp _ h2 h3, h1, digits_eval p hp P hd hn]

/-! ### `Poly1PadicDom::radixdirect` / `evaldirect` -/

theorem evalDirect_eq (p : Nat) (P : List Nat) : evalDirect p P = eval p P := by
  unfold evalDirect
  induction P with
  | nil => rfl
  | cons a P ih => simp only [List.foldr_cons, eval]; rw [ih]; ring

theorem radixDirect_spec (p : Nat) (hp : 1 ≤ p) : ∀ (n E : Nat),
    (radixDirect p n E).length = n ∧ Digits p (radixDirect p n E) ∧
    eval p (radixDirect p n E) = E % p ^ n := by
  intro n
  induction n with
  | zero => intro E; simp [radixDirect, eval, Nat.mod_one, Digits]
  | succ n ih =>
    intro E
    obtain ⟨h1, h2, h3⟩ := ih (E / p)
    have hm : E - E / p * p = E % p := by
      have := Nat.div_add_mod E p
      rw [Nat.mul_comm] at this
      omega
    simp only [radixDirect, eval, List.length_cons, hm]
    refine ⟨by omega, ?_, ?_⟩
    · intro d hd
      rcases List.mem_cons.mp hd with rfl | hd
      · exact Nat.mod_lt _ (by omega)
      · exact h2 d hd
    · rw [h3, Nat.pow_succ', Nat.mod_mul]

end Givaro.Lemmas.Padic
