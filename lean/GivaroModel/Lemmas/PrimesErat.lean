/- C12 — the sieve `IntFactorDom::Erathostene` (Model/PrimesErat.lean) returns exactly the primes dividing n, in increasing order:
   loop invariant of the outer walk (every prime below i has been divided out of n and pushed; marked numbers are composite),
   the marking loop detects divisibility, the walk over unmarked odd numbers skips no prime. -/
import GivaroModel.Model.PrimesErat
import GivaroModel.Lemmas.PrimesStrip
import Mathlib.Data.Nat.Sqrt
import Mathlib.Data.Nat.Prime.Basic
import Mathlib.Tactic.Ring
namespace Givaro.Lemmas.Primes
open Givaro.Model.Primes

theorem erat_getD_set (ip : Array Bool) (j k : Nat) (h : (ip.setIfInBounds j true).getD k false = true) :
    k = j ∨ ip.getD k false = true := by
  by_cases hjk : j = k
  · exact Or.inl hjk.symm
  · right
    simpa [Array.getD_eq_getD_getElem?, Array.getElem?_setIfInBounds, hjk] using h

theorem eratMark_spec (ii n : Nat) (hii : 1 ≤ ii) (fuel : Nat) (ip : Array Bool) (j : Nat) (h : n + 1 ≤ fuel + j) :
    (∀ k, (eratMark ii n fuel ip j).1.getD k false = true → ip.getD k false = true ∨ ∃ t, k = j + t * ii) ∧
    (∃ t, (eratMark ii n fuel ip j).2 = j + t * ii ∧ n < (eratMark ii n fuel ip j).2 ∧
      (t = 0 ∨ (eratMark ii n fuel ip j).2 ≤ n + ii)) := by
  fun_induction eratMark ii n fuel ip j with
  | case1 ip j => exact ⟨fun k hk => Or.inl hk, 0, by simp, by omega, Or.inl rfl⟩
  | case2 f ip j hj ih =>
    obtain ⟨h1, t, h2, h3, h4⟩ := ih (by omega)
    refine ⟨fun k hk => ?_, t + 1, by rw [h2]; ring, h3, Or.inr ?_⟩
    · rcases h1 k hk with h5 | ⟨t', h5⟩
      · rcases erat_getD_set ip j k h5 with h6 | h6
        · exact Or.inr ⟨0, by simp [h6]⟩
        · exact Or.inl h6
      · exact Or.inr ⟨t' + 1, by rw [h5]; ring⟩
    · rcases h4 with h4 | h4
      · rw [h2, h4]; simp; omega
      · exact h4
  | case3 f ip j hj => exact ⟨fun k hk => Or.inl hk, 0, by simp, by omega, Or.inl rfl⟩

theorem erat_detect (i n t j : Nat) (hi : 0 < i) (hn : n % 2 = 1) (hj : j = (i + 2 * i) + t * (2 * i)) (hlt : n < j)
    (hle : t = 0 ∨ j ≤ n + 2 * i) : j - 2 * i = n ↔ i ∣ n := by
  have hjj : j - 2 * i = i * (1 + 2 * t) := by
    apply Nat.sub_eq_of_eq_add; rw [hj]; ring
  constructor
  · intro h; rw [← h, hjj]; exact Dvd.intro _ rfl
  · rintro ⟨m, rfl⟩
    rw [hjj]
    have hm : m % 2 = 1 := by
      rcases Nat.mod_two_eq_zero_or_one m with h0 | h1
      · rw [Nat.mul_mod, h0] at hn; simp at hn
      · exact h1
    have hj3 : j = i * (3 + 2 * t) := by rw [hj]; ring
    have hlt' : m < 3 + 2 * t := by
      rw [hj3] at hlt; exact Nat.lt_of_mul_lt_mul_left hlt
    have hge : 1 + 2 * t ≤ m := by
      rcases hle with h0 | h1
      · subst h0; omega
      · have : i * (3 + 2 * t) ≤ i * (m + 2) := by rw [← hj3]; calc j ≤ i * m + 2 * i := h1
                                                            _ = i * (m + 2) := by ring
        have := Nat.le_of_mul_le_mul_left this hi
        omega
    have : m = 1 + 2 * t := by omega
    rw [this]

theorem eratNext_spec (ip : Array Bool) (fuel j : Nat) :
    ∃ c, eratNext ip fuel j = j + 1 + 2 * c ∧ ∀ d, d < c → ip.getD (j + 1 + 2 * d) false = true := by
  fun_induction eratNext ip fuel j with
  | case1 j => exact ⟨0, rfl, fun d hd => absurd hd (Nat.not_lt_zero d)⟩
  | case2 f j hm ih =>
    obtain ⟨c, h1, h2⟩ := ih
    refine ⟨c + 1, by rw [h1]; ring, fun d hd => ?_⟩
    obtain _ | d := d
    · exact hm
    · rw [show j + 1 + 2 * (d + 1) = j + 2 + 1 + 2 * d by ring]
      exact h2 d (by omega)
  | case3 f j hm => exact ⟨0, rfl, fun d hd => absurd hd (Nat.not_lt_zero d)⟩

/-- `do n /= i; while (!(n%i));` divides before it tests: it is entered with at least one factor `i` -/
theorem eratStrip_pow {i r : Nat} (hi : 2 ≤ i) (hr : ¬ i ∣ r) : ∀ (k fuel : Nat), r * i ^ k < fuel →
    eratStrip i fuel (r * i ^ (k + 1)) = r
  | 0, f + 1, _ => by
    have hq := (strip_step hi hr 0).2.1
    rw [pow_zero, Nat.mul_one] at hq
    rw [eratStrip]
    simp only [hq]
    exact if_neg (mt Nat.dvd_of_mod_eq_zero hr)
  | k + 1, f + 1, h => by
    obtain ⟨h0, _, hlt⟩ := strip_step hi hr k
    rw [eratStrip]
    simp only [(strip_step hi hr (k + 1)).2.1, h0, ↓reduceIte]
    exact eratStrip_pow hi hr k f (by omega)

theorem eratStrip_spec {i n : Nat} (hi : 2 ≤ i) (h1 : 1 ≤ n) (hd : i ∣ n) :
    1 ≤ eratStrip i n n ∧ ¬ i ∣ eratStrip i n n ∧ ∃ k, n = i ^ k * eratStrip i n n := by
  obtain ⟨r, k, hr, rfl⟩ := exists_split hi h1
  obtain ⟨k, rfl⟩ := Nat.exists_eq_add_one_of_ne_zero fun h : k = 0 => hr (by simpa [h] using hd)
  rw [eratStrip_pow hi hr k _ (strip_step hi hr k).2.2]
  exact ⟨Nat.pos_of_ne_zero fun h => hr (h ▸ dvd_zero i), hr, k + 1, Nat.mul_comm _ _⟩

theorem erat_prime_dvd_strip {i q n r k : Nat} (hi : Nat.Prime i) (hq : Nat.Prime q) (hn : n = i ^ k * r) (hin : i ∣ n) :
    q ∣ n ↔ q = i ∨ q ∣ r := by
  constructor
  · intro h
    rw [hn] at h
    rcases (Nat.Prime.dvd_mul hq).1 h with h1 | h1
    · exact Or.inl (Nat.prime_eq_prime_of_dvd_pow hq hi h1)
    · exact Or.inr h1
  · rintro (h | h)
    · rw [h]; exact hin
    · rw [hn]; exact Dvd.dvd.mul_left h _

/-- the loop invariant of the outer walk: `N` is the input, `i` the current candidate, `n` what is left to factor, `ip` the marks,
    `out` the primes pushed so far -/
structure EInv (N i n : Nat) (ip : Array Bool) (out : List Nat) : Prop where
  npos : 1 ≤ n
  nodd : n % 2 = 1
  iodd : i % 2 = 1
  i3 : 3 ≤ i
  -- every prime below `i` has been divided out of `n`
  low : ∀ q, Nat.Prime q → q ∣ n → i ≤ q
  -- a prime divides the input iff it has been pushed or still divides `n`
  fac : ∀ q, Nat.Prime q → (q ∣ N ↔ q ∈ out ∨ q ∣ n)
  outp : ∀ q ∈ out, Nat.Prime q ∧ q < i
  sorted : out.Pairwise (· < ·)
  -- only odd composites are marked
  marks : ∀ k, ip.getD k false = true → ∃ d m, 3 ≤ d ∧ 3 ≤ m ∧ k = d * m

theorem erat_marked_not_prime {k : Nat} (h : ∃ d m, 3 ≤ d ∧ 3 ≤ m ∧ k = d * m) : ¬ Nat.Prime k := by
  obtain ⟨d, m, hd, hm, rfl⟩ := h
  exact Nat.not_prime_mul (by omega) (by omega)

theorem pairwise_append_singleton {out : List Nat} {x : Nat} (sorted : out.Pairwise (· < ·)) (h : ∀ a ∈ out, a < x) :
    (out ++ [x]).Pairwise (· < ·) := by
  rw [List.pairwise_append]
  exact ⟨sorted, List.pairwise_singleton _ _, fun a ha b hb => List.mem_singleton.1 hb ▸ h a ha⟩

theorem EInv.start {N r : Nat} {out : List Nat} (sz : Nat) (hr : 1 ≤ r) (hodd : r % 2 = 1)
    (fac : ∀ q, Nat.Prime q → (q ∣ N ↔ q ∈ out ∨ q ∣ r)) (hout : out = [2] ∨ out = []) :
    EInv N 3 r (Array.replicate sz false) out := by
  refine ⟨hr, hodd, by decide, le_refl 3, fun q hq hqr => ?_, fac, ?_, ?_, fun k hk => ?_⟩
  · have := hq.two_le
    by_contra h
    obtain rfl : q = 2 := by omega
    omega
  · rcases hout with rfl | rfl
    · intro q hq; rw [List.mem_singleton.1 hq]; exact ⟨Nat.prime_two, by decide⟩
    · intro q hq; exact absurd hq List.not_mem_nil
  · rcases hout with rfl | rfl
    · exact List.pairwise_singleton _ _
    · exact List.Pairwise.nil
  · exfalso
    simp [Array.getD_eq_getD_getElem?, Array.getElem?_replicate] at hk
    split at hk <;> simp at hk

variable {N i n i1 : Nat} {ip ip' : Array Bool} {out : List Nat}

theorem erat_round (inv : EInv N i n ip out)
    {mj : Array Bool × Nat} (hmj : eratMark (2 * i) n (n + 1) ip (i + 2 * i) = mj)
    {i1 : Nat} (hi1 : eratNext mj.1 mj.1.size (i + 1) = i1) :
    (mj.2 - 2 * i = n ↔ i ∣ n) ∧ (∀ k, mj.1.getD k false = true → ∃ d m, 3 ≤ d ∧ 3 ≤ m ∧ k = d * m) ∧
      i < i1 ∧ i1 % 2 = 1 ∧ ∀ q, Nat.Prime q → i < q → q < i1 → False := by
  have i3 := inv.i3
  have iodd := inv.iodd
  obtain ⟨hmarks, t, hj, hjn, hjle⟩ := eratMark_spec (2 * i) n (by omega) (n + 1) ip (i + 2 * i) (by omega)
  rw [hmj] at hmarks hj hjn hjle
  have marks' : ∀ k, mj.1.getD k false = true → ∃ d m, 3 ≤ d ∧ 3 ≤ m ∧ k = d * m := by
    intro k hk
    rcases hmarks k hk with h | ⟨t', h⟩
    · exact inv.marks k h
    · exact ⟨i, 3 + 2 * t', i3, by omega, by rw [h]; ring⟩
  obtain ⟨c, hc, hskip⟩ := eratNext_spec mj.1 mj.1.size (i + 1)
  rw [hi1] at hc
  refine ⟨erat_detect i n t mj.2 (by omega) inv.nodd hj hjn hjle, marks', by omega, by omega, fun q hq h1 h2 => ?_⟩
  -- an odd `q` strictly between `i` and `i1` is one of the numbers the walk stepped over, hence marked, hence composite
  rcases hq.eq_two_or_odd with h | h
  · omega
  · have := hskip ((q - i - 2) / 2) (by omega)
    rw [show i + 1 + 1 + 2 * ((q - i - 2) / 2) = q by omega] at this
    exact erat_marked_not_prime (marks' q this) hq

theorem erat_low {i i1 n : Nat} (low : ∀ q, Nat.Prime q → q ∣ n → i ≤ q) (hin : ¬ i ∣ n)
    (noprime : ∀ q, Nat.Prime q → i < q → q < i1 → False) : ∀ q, Nat.Prime q → q ∣ n → i1 ≤ q := by
  intro q hq hqn
  have h1 := low q hq hqn
  by_contra hlt
  rcases Nat.lt_or_ge i q with h2 | h2
  · exact noprime q hq h2 (by omega)
  · exact hin ((by omega : q = i) ▸ hqn)

theorem EInv.step_ndvd (inv : EInv N i n ip out)
    (marks' : ∀ k, ip'.getD k false = true → ∃ d m, 3 ≤ d ∧ 3 ≤ m ∧ k = d * m) (hi : i < i1) (hodd : i1 % 2 = 1)
    (noprime : ∀ q, Nat.Prime q → i < q → q < i1 → False) (hin : ¬ i ∣ n) : EInv N i1 n ip' out :=
  have i3 := inv.i3
  ⟨inv.npos, inv.nodd, hodd, by omega, erat_low inv.low hin noprime, inv.fac,
    fun q hq => ⟨(inv.outp q hq).1, Nat.lt_trans (inv.outp q hq).2 hi⟩, inv.sorted, marks'⟩

/-- `i` is prime: its least prime factor divides `n`, so is not below `i` -/
theorem EInv.step_dvd (inv : EInv N i n ip out)
    (marks' : ∀ k, ip'.getD k false = true → ∃ d m, 3 ≤ d ∧ 3 ≤ m ∧ k = d * m) (hi : i < i1) (hodd : i1 % 2 = 1)
    (noprime : ∀ q, Nat.Prime q → i < q → q < i1 → False) (hin : i ∣ n) :
    EInv N i1 (eratStrip i n n) ip' (out ++ [i]) ∧ eratStrip i n n ≤ n := by
  obtain ⟨npos, nodd, iodd, i3, low, fac, outp, sorted, marks⟩ := inv
  have hip : Nat.Prime i := by
    have h1 : Nat.Prime (Nat.minFac i) := Nat.minFac_prime (by omega)
    have h3 := low _ h1 (Nat.dvd_trans (Nat.minFac_dvd i) hin)
    have h4 := Nat.minFac_le (n := i) (by omega)
    exact (by omega : Nat.minFac i = i) ▸ h1
  obtain ⟨s1, s2, k, s3⟩ := eratStrip_spec (by omega) npos hin
  generalize eratStrip i n n = r at s1 s2 s3 ⊢
  have hrn : r ∣ n := ⟨i ^ k, by rw [s3, Nat.mul_comm]⟩
  refine ⟨⟨s1, ?_, hodd, by omega, erat_low (fun q hq h => low q hq (Nat.dvd_trans h hrn)) s2 noprime, ?_, ?_, ?_, marks'⟩,
    Nat.le_of_dvd (by omega) hrn⟩
  · rcases Nat.mod_two_eq_zero_or_one r with h0 | h1
    · have : 2 ∣ n := Nat.dvd_trans (Nat.dvd_of_mod_eq_zero h0) hrn
      omega
    · exact h1
  · intro q hq
    rw [fac q hq, erat_prime_dvd_strip hip hq s3 hin, List.mem_append, List.mem_singleton, or_assoc]
  · intro q hq
    rcases List.mem_append.1 hq with h | h
    · exact ⟨(outp q h).1, Nat.lt_trans (outp q h).2 hi⟩
    · rw [List.mem_singleton.1 h]; exact ⟨hip, hi⟩
  · exact pairwise_append_singleton sorted fun a ha => (outp a ha).2

theorem eratLoop_spec (N fuel i n : Nat) (ip : Array Bool) (out : List Nat) (inv : EInv N i n ip out) (h : n + 2 ≤ fuel + i) :
    ∃ i', EInv N i' (eratLoop fuel i n ip out).1 (eratLoop fuel i n ip out).2.1 (eratLoop fuel i n ip out).2.2 ∧
      ¬ i' ≤ Nat.sqrt (eratLoop fuel i n ip out).1 := by
  fun_induction eratLoop fuel i n ip out with
  | case1 i n ip out =>
    refine ⟨i, inv, ?_⟩
    rw [Nat.le_sqrt]
    have : i * 1 ≤ i * i := Nat.mul_le_mul_left i (by omega)
    omega
  | case2 f i n ip out hle mj no i1 ih =>
    obtain ⟨hdet, marks', hi, hodd, noprime⟩ := erat_round inv (mj := mj) rfl (i1 := i1) rfl
    by_cases hd : mj.2 - 2 * i = n
    · obtain ⟨inv', hle'⟩ := inv.step_dvd marks' hi hodd noprime (hdet.1 hd)
      simp only [no, if_pos hd] at ih ⊢
      exact ih inv' (by omega)
    · simp only [no, if_neg hd] at ih ⊢
      exact ih (inv.step_ndvd marks' hi hodd noprime (mt hdet.2 hd)) (by omega)
  | case3 f i n ip out hle => exact ⟨i, inv, hle⟩

theorem EInv.mem_iff {L : List Nat} (inv : EInv N i n ip out)
    (hL : ∀ q, Nat.Prime q → (q ∈ L ↔ q ∈ out ∨ q ∣ n)) (hP : ∀ q ∈ L, Nat.Prime q) (q : Nat) :
    q ∈ L ↔ Nat.Prime q ∧ q ∣ N :=
  ⟨fun h => ⟨hP q h, (inv.fac q (hP q h)).2 ((hL q (hP q h)).1 h)⟩, fun ⟨hq, hd⟩ => (hL q hq).2 ((inv.fac q hq).1 hd)⟩

/-- what is left of `n` is 1 or a prime: its least prime factor `q ≥ i` would have `q² ≤ n < i²` -/
theorem erat_final (inv : EInv N i n ip out) (hgt : ¬ i ≤ Nat.sqrt n) :
    let L := if !(ip.getD n false) && decide (1 < n) then out ++ [n] else out
    (∀ q, q ∈ L ↔ Nat.Prime q ∧ q ∣ N) ∧ L.Pairwise (· < ·) := by
  intro L
  rw [Nat.le_sqrt] at hgt
  have hout : ∀ q ∈ out, Nat.Prime q := fun q h => (inv.outp q h).1
  by_cases h1 : 1 < n
  · have hp : Nat.Prime n := by
      by_contra hnp
      have h2 := Nat.minFac_sq_le_self (by omega : 0 < n) hnp
      have h3 := inv.low _ (Nat.minFac_prime (by omega)) (Nat.minFac_dvd n)
      have : i * i ≤ Nat.minFac n * Nat.minFac n := Nat.mul_le_mul h3 h3
      rw [pow_two] at h2
      omega
    have hum : ip.getD n false = false :=
      Bool.eq_false_iff.2 fun hb => erat_marked_not_prime (inv.marks n hb) hp
    have hL : L = out ++ [n] := if_pos (by rw [hum, decide_eq_true h1]; rfl)
    rw [hL]
    refine ⟨inv.mem_iff (fun q hq => by rw [List.mem_append, List.mem_singleton, Nat.prime_dvd_prime_iff_eq hq hp])
      fun q h => ?_, pairwise_append_singleton inv.sorted fun a ha => ?_⟩
    · rcases List.mem_append.1 h with h | h
      · exact hout q h
      · exact List.mem_singleton.1 h ▸ hp
    · exact lt_of_lt_of_le (inv.outp a ha).2 (inv.low n hp (dvd_refl n))
  · obtain rfl : n = 1 := by have := inv.npos; omega
    have hL : L = out := if_neg (by simp)
    rw [hL]
    exact ⟨inv.mem_iff (fun q hq => ⟨Or.inl, fun h => h.resolve_right fun hd => hq.ne_one (Nat.dvd_one.1 hd)⟩) hout,
      inv.sorted⟩

end Givaro.Lemmas.Primes
