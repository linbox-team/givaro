/- C06 helper lemmas: values and well-formedness of `RU n`, two-digit arithmetic on numbers, the comparisons of rucmp.h
   (Model/RecInt.lean). -/
import GivaroModel.Model.RecInt
import Mathlib.Tactic.Ring
import Mathlib.Tactic.Linarith
import Mathlib.Tactic.LinearCombination
import Mathlib.Tactic.SplitIfs
namespace Givaro.Model.RecInt

/-- a `bool` carry as a number -/
def c2n (b : Bool) : Nat := if b then 1 else 0

@[simp] theorem c2n_true : c2n true = 1 := rfl
@[simp] theorem c2n_false : c2n false = 0 := rfl
theorem c2n_le (b : Bool) : c2n b ≤ 1 := by cases b <;> simp
theorem c2n_decide (p : Prop) [Decidable p] : c2n (decide p) = if p then 1 else 0 := by
  by_cases h : p <;> simp [h, c2n]

theorem c2n_or (a b : Bool) (h : c2n a + c2n b ≤ 1) : c2n (a || b) = c2n a + c2n b := by
  cases a <;> cases b <;> simp_all [c2n]

theorem c2n_or_le (a b : Bool) : c2n (a || b) ≤ c2n a + c2n b := by
  cases a <;> cases b <;> simp [c2n]

theorem c2n_and (a b : Bool) : c2n (a && b) = c2n a * c2n b := by
  cases a <;> cases b <;> simp [c2n]

theorem c2n_or5 (a b c d e : Bool) (h : c2n a + c2n b + c2n c + c2n d + c2n e ≤ 1) :
    c2n (a || b || c || d || e) = c2n a + c2n b + c2n c + c2n d + c2n e := by
  have h1 := c2n_or_le a b
  have h2 := c2n_or_le (a || b) c
  have h3 := c2n_or_le (a || b || c) d
  rw [c2n_or _ e (by omega), c2n_or _ d (by omega), c2n_or _ c (by omega), c2n_or a b (by omega)]

theorem c2n_cast (b : Bool) : (if b = true then 1 else 0 : Int) = ((c2n b : Nat) : Int) := by cases b <;> rfl

theorem Bn_zero : Bn 0 = B64 := by norm_num [Bn, bits, B64]
theorem Bn_succ (n : Nat) : Bn (n+1) = Bn n * Bn n := by
  simp only [Bn, bits]; rw [two_mul, pow_add]
theorem Bn_pos (n : Nat) : 0 < Bn n := by unfold Bn; positivity
theorem Bn_one : Bn 1 = B64 * B64 := by rw [Bn_succ, Bn_zero]

theorem Bn_eq_two_pow (n : Nat) : Bn n = 2 ^ bits n := rfl

theorem bits_pos (n : Nat) : 0 < bits n := by
  induction n with
  | zero => decide
  | succ n ih => simp only [bits]; omega

theorem bits_ge (n : Nat) : 64 ≤ bits n := by
  induction n with
  | zero => exact Nat.le_refl _
  | succ k ih => simp only [bits]; omega

theorem Bn_even (n : Nat) : ∃ h, Bn n = 2 * h ∧ 0 < h := by
  refine ⟨2 ^ (bits n - 1), ?_, by positivity⟩
  unfold Bn
  have := bits_pos n
  rw [← pow_succ']; congr 1; omega

theorem digit_lt {W a0 a1 b : Nat} (h0 : a0 < W) (h1 : a1 < b) : a0 + W * a1 < W * b := by
  have := Nat.mul_le_mul_left W h1
  rw [Nat.mul_succ] at this
  omega

theorem lex_lt_iff {W x0 x1 y0 y1 : Nat} (hx : x0 < W) (hy : y0 < W) :
    x0 + W * x1 < y0 + W * y1 ↔ x1 < y1 ∨ (x1 = y1 ∧ x0 < y0) := by
  rcases Nat.lt_trichotomy x1 y1 with h | h | h
  · have := digit_lt hx h
    exact ⟨fun _ => Or.inl h, fun _ => by omega⟩
  · subst h
    exact ⟨fun h' => Or.inr ⟨rfl, by omega⟩, fun h' => by omega⟩
  · have := digit_lt hy h
    exact ⟨fun h' => by omega, fun h' => by omega⟩

theorem mod_of_add_mul {R M Q p : Nat} (h : R + M * Q = p) (hR : R < M) : R = p % M := by
  rw [← h, Nat.add_mul_mod_self_left, Nat.mod_eq_of_lt hR]

theorem no_carry {x K M p : Nat} (h : x + K * M = p) (hp : p < M) : x = p ∧ K = 0 := by
  have hK : K = 0 := by
    by_contra hne
    have : 1 ≤ K := Nat.one_le_iff_ne_zero.mpr hne
    have : M ≤ K * M := Nat.le_mul_of_pos_left M this
    omega
  subst hK; exact ⟨by omega, rfl⟩

theorem carry_le_one {x S M T : Nat} (h : x + S * M = T) (hT : T < 2 * M) : S ≤ 1 := by
  by_contra hne
  have : 2 ≤ S := by omega
  have : 2 * M ≤ S * M := Nat.mul_le_mul_right M this
  omega

theorem mul_add_lt_sq {b c d M : Nat} (hb : b < M) (hc : c < M) (hd : d < M) : b * c + d < M * M := by
  have := digit_lt hd hc
  have := Nat.mul_le_mul_right c (Nat.le_of_lt hb)
  omega

theorem val_node {n : Nat} (l h : RU n) : val (RU.node l h) = val l + Bn n * val h := by simp [val]
theorem WF_node {n : Nat} (l h : RU n) : WF (RU.node l h) ↔ WF l ∧ WF h := by simp [WF]
theorem val_limb (v : Nat) : val (RU.limb v) = v := by simp [val]
theorem WF_limb (v : Nat) : WF (RU.limb v) ↔ v < B64 := by simp [WF]

theorem val_lt : ∀ {n : Nat} (x : RU n), WF x → val x < Bn n
  | _, .limb v, h => by rw [Bn_zero]; simpa [WF, val] using h
  | _, .node (n := n) l h, hw => by
      rw [val_node, Bn_succ]
      exact digit_lt (val_lt l hw.1) (val_lt h hw.2)

theorem B64_le_Bn (n : Nat) : B64 ≤ Bn n := by
  induction n with
  | zero => rw [Bn_zero]
  | succ k ih => rw [Bn_succ]; exact Nat.le_trans ih (Nat.le_mul_of_pos_left _ (Bn_pos k))

theorem node_lo_hi {n : Nat} (x : RU (n+1)) : RU.node (lo x) (hi x) = x := by cases x; rfl
theorem val_lo_hi {n : Nat} (x : RU (n+1)) : val x = val (lo x) + Bn n * val (hi x) := by cases x; simp [val, lo, hi]
theorem WF_lo_hi {n : Nat} (x : RU (n+1)) : WF x ↔ WF (lo x) ∧ WF (hi x) := by cases x; simp [WF, lo, hi]

theorem WF.digits {n : Nat} {x : RU (n+1)} (h : WF x) : WF (lo x) ∧ WF (hi x) ∧ val x = val (lo x) + Bn n * val (hi x) :=
  ⟨((WF_lo_hi x).mp h).1, ((WF_lo_hi x).mp h).2, val_lo_hi x⟩

theorem val_mk1 (p : Nat × Nat) : val (mk1 p) = p.2 + B64 * p.1 := by
  simp [mk1, val, Bn_zero]
theorem WF_mk1 (p : Nat × Nat) : WF (mk1 p) ↔ p.2 < B64 ∧ p.1 < B64 := by simp [mk1, WF]

theorem val_zero : ∀ (n : Nat), WF (zero n) ∧ val (zero n) = 0
  | 0 => by simp [zero, WF, val, B64]
  | n+1 => by
      have := val_zero n
      simp only [zero, WF_node, val_node, this.2]; exact ⟨⟨this.1, this.1⟩, by simp⟩

theorem ones_ok : ∀ (n : Nat), WF (ones n) ∧ val (ones n) + 1 = Bn n
  | 0 => by rw [Bn_zero]; simp [ones, WF, val, B64]
  | n+1 => by
      have ih := ones_ok n
      simp only [ones, WF_node, val_node, Bn_succ]
      exact ⟨⟨ih.1, ih.1⟩, by linear_combination (1 + Bn n) * ih.2⟩

theorem ofLimb_ok : ∀ (n v : Nat), v < B64 → WF (ofLimb n v) ∧ val (ofLimb n v) = v
  | 0, v, h => by simp [ofLimb, WF, val, h]
  | n+1, v, h => by
      have ih := ofLimb_ok n v h
      have hz := val_zero n
      simp only [ofLimb, WF_node, val_node, ih.2, hz.2]; exact ⟨⟨ih.1, hz.1⟩, by simp⟩

theorem ofNat_ok : ∀ (n v : Nat), WF (ofNat n v) ∧ val (ofNat n v) = v % Bn n
  | 0, v => by
      rw [Bn_zero]; simp only [ofNat, WF, val]; exact ⟨Nat.mod_lt _ (by decide), trivial⟩
  | n+1, v => by
      have h1 := ofNat_ok n (v % Bn n)
      have h2 := ofNat_ok n (v / Bn n)
      simp only [ofNat, WF_node, val_node]
      refine ⟨⟨h1.1, h2.1⟩, ?_⟩
      rw [h1.2, h2.2, Bn_succ, Nat.mod_mod, Nat.mod_mul]

theorem ofNat_mod : ∀ (n v : Nat), ofNat n (v % Bn n) = ofNat n v
  | 0, v => by simp only [ofNat, Bn_zero, Nat.mod_mod]
  | n+1, v => by
      simp only [ofNat, Bn_succ]
      rw [Nat.mod_mul_right_mod, Nat.mod_mul_right_div_self, ofNat_mod n (v / Bn n)]

theorem cmp_spec : ∀ {n : Nat} (a b : RU n), WF a → WF b →
    (cmp a b = -1 ∧ val a < val b) ∨ (cmp a b = 0 ∧ val a = val b) ∨ (cmp a b = 1 ∧ val a > val b)
  | _, .limb a, .limb b, _, _ => by
      simp only [cmp, val]
      rcases Nat.lt_trichotomy a b with h | h | h
      · left; simp [h]
      · right; left; simp [h]
      · right; right; have h1 : ¬ a < b := by omega
        have h2 : ¬ a = b := by omega
        simp [h1, h2, h]
  | _, .node (n := n) al ah, .node bl bh, ha, hb => by
      have hlt := lex_lt_iff (x1 := val ah) (y1 := val bh) (val_lt al ha.1) (val_lt bl hb.1)
      have hgt := lex_lt_iff (x1 := val bh) (y1 := val ah) (val_lt bl hb.1) (val_lt al ha.1)
      simp only [cmp, val]
      rcases cmp_spec ah bh ha.2 hb.2 with ⟨e, h⟩ | ⟨e, h⟩ | ⟨e, h⟩
      · left; rw [e]; exact ⟨by simp, hlt.mpr (Or.inl h)⟩
      · rw [e, h]; simp only [↓reduceIte]
        rcases cmp_spec al bl ha.1 hb.1 with ⟨e', h'⟩ | ⟨e', h'⟩ | ⟨e', h'⟩
        · left; exact ⟨e', by omega⟩
        · right; left; exact ⟨e', by rw [h']⟩
        · right; right; exact ⟨e', by omega⟩
      · right; right; rw [e]; exact ⟨by simp, hgt.mpr (Or.inl h)⟩

theorem cmp_lt {n : Nat} (a b : RU n) (ha : WF a) (hb : WF b) : cmp a b < 0 ↔ val a < val b := by
  rcases cmp_spec a b ha hb with ⟨e, h⟩ | ⟨e, h⟩ | ⟨e, h⟩
  all_goals (rw [e]; constructor <;> intro h' <;> omega)
theorem cmp_le {n : Nat} (a b : RU n) (ha : WF a) (hb : WF b) : cmp a b ≤ 0 ↔ val a ≤ val b := by
  rcases cmp_spec a b ha hb with ⟨e, h⟩ | ⟨e, h⟩ | ⟨e, h⟩
  all_goals (rw [e]; constructor <;> intro h' <;> omega)
theorem cmp_eq {n : Nat} (a b : RU n) (ha : WF a) (hb : WF b) : cmp a b = 0 ↔ val a = val b := by
  rcases cmp_spec a b ha hb with ⟨e, h⟩ | ⟨e, h⟩ | ⟨e, h⟩
  all_goals (rw [e]; constructor <;> intro h' <;> omega)

theorem isZero_iff : ∀ {n : Nat} (a : RU n), isZero a = true ↔ val a = 0
  | _, .limb a => by simp [isZero, val]
  | _, .node (n := n) l h => by
      have hB := Bn_pos n
      simp only [isZero, val, Bool.and_eq_true, isZero_iff l, isZero_iff h]
      constructor
      · rintro ⟨h1, h2⟩; rw [h1, h2]; simp
      · intro h0
        have : Bn n * val h = 0 := by omega
        rcases Nat.mul_eq_zero.mp this with h' | h'
        · omega
        · exact ⟨h', by omega⟩

theorem cmp_zero : ∀ {n : Nat} (h : RU n), cmp h (zero n) = if isZero h then 0 else 1
  | _, .limb a => by
      simp only [cmp, zero, isZero, Nat.not_lt_zero, ↓reduceIte, beq_iff_eq]
  | _, .node l h => by
      simp only [cmp, zero, isZero, cmp_zero l, cmp_zero h, Bool.and_eq_true]
      cases isZero h <;> cases isZero l <;> rfl

theorem cmp_l_eq : ∀ {n : Nat} (a : RU n) (c : Nat), cmp_l a c = cmp a (ofLimb n c)
  | _, .limb a, c => rfl
  | _, .node l h, c => by
      simp only [cmp_l, ofLimb, cmp, cmp_zero h, cmp_l_eq l c]
      cases isZero h <;> rfl

theorem cmp_l_spec {n : Nat} (a : RU n) (c : Nat) (ha : WF a) (hc : c < B64) :
    (cmp_l a c = -1 ∧ val a < c) ∨ (cmp_l a c = 0 ∧ val a = c) ∨ (cmp_l a c = 1 ∧ val a > c) := by
  have h := cmp_spec a (ofLimb n c) ha (ofLimb_ok n c hc).1
  rwa [← cmp_l_eq, (ofLimb_ok n c hc).2] at h

theorem cmp_l_lt {n : Nat} (a : RU n) (c : Nat) (ha : WF a) (hc : c < B64) : cmp_l a c < 0 ↔ val a < c := by
  rcases cmp_l_spec a c ha hc with ⟨e, h⟩ | ⟨e, h⟩ | ⟨e, h⟩
  all_goals (rw [e]; constructor <;> intro h' <;> omega)

end Givaro.Model.RecInt
