/-
Proof scripts for the generated per-overload theorems (C01/C02/C15).  For a body that is not an instance
of another overload's theorem the generator emits `unfold <body> <spec>` (for a certificate statement `unfold <body>`
and the checker is unfolded by `gmp_cert`), one `wrap_id x` per machine-word parameter `x` that the body converts directly, and one of the scripts
below, so a regenerated body is re-proved without human help or reported as a broken obligation.
-/
import GivaroModel.Prim.Gmp
import GivaroModel.Spec.IntegerSpec
import GivaroModel.Lemmas.GmpLemmas
import GivaroModel.Lemmas.WordLemmas
import Mathlib.Tactic.Ring
namespace Givaro

/-! ### what a three-way comparison result tells (for *every* admissible magnitude) -/
theorem cmp3_lt0 (a b : Int) : cmp3 a b < 0 ↔ a < b := by unfold cmp3; split <;> [skip; split] <;> omega
theorem cmp3_gt0 (a b : Int) : 0 < cmp3 a b ↔ b < a := by unfold cmp3; split <;> [skip; split] <;> omega
theorem cmp3_eq0 (a b : Int) : cmp3 a b = 0 ↔ a = b := by unfold cmp3; split <;> [skip; split] <;> omega
theorem cmp3_le0 (a b : Int) : cmp3 a b ≤ 0 ↔ a ≤ b := by unfold cmp3; split <;> [skip; split] <;> omega
theorem cmp3_ge0 (a b : Int) : 0 ≤ cmp3 a b ↔ b ≤ a := by unfold cmp3; split <;> [skip; split] <;> omega
theorem mp_size_lt0 (a : Int) : mp_size a < 0 ↔ a < 0 := by unfold mp_size; split <;> [skip; split] <;> omega
theorem mp_size_gt0 (a : Int) : 0 < mp_size a ↔ 0 < a := by unfold mp_size; split <;> [skip; split] <;> omega
theorem mp_size_eq0 (a : Int) : mp_size a = 0 ↔ a = 0 := by unfold mp_size; split <;> [skip; split] <;> omega
theorem mp_size_le0 (a : Int) : mp_size a ≤ 0 ↔ a ≤ 0 := by unfold mp_size; split <;> [skip; split] <;> omega
theorem mp_size_ge0 (a : Int) : 0 ≤ mp_size a ↔ 0 ≤ a := by unfold mp_size; split <;> [skip; split] <;> omega

/-- unfold the GMP contracts that are linear, the range predicates and the linear specification functions; read comparisons through the sign lemmas above;
    a condition on literals (the translated bodies keep `mpz_cmp_ui 1 0 ≠ 0` and the like) is decided here, so that no script splits on it -/
macro "gmp_unfold" : tactic => `(tactic| simp only [
  mpz_add, mpz_add_ui, mpz_sub, mpz_sub_ui, mpz_ui_sub, mpz_neg, mpz_abs, mpz_swap_d0, mpz_swap_d1,
  mpz_cmp, mpz_cmp_ui, mpz_cmp_si, mpz_cmpabs, mpz_cmpabs_ui, mpz_com, mpz_sgn,
  mpz_fits_slong_p, mpz_fits_ulong_p, mpz_fits_sint_p, mpz_fits_uint_p, mpz_fits_sshort_p, mpz_fits_ushort_p,
  cmp3_lt0, cmp3_gt0, cmp3_eq0, cmp3_le0, cmp3_ge0, mp_size_lt0, mp_size_gt0, mp_size_eq0, mp_size_le0, mp_size_ge0,
  gt_iff_lt, ge_iff_le, ne_eq, not_not, Int.reduceEq, not_false_eq_true, not_true_eq_false, ↓reduceIte,
  InU8, InU16, InU32, InU64, InS8, InS16, InS32, InS64,
  Spec.add, Spec.sub, Spec.neg, Spec.sgn, Spec.b2i, Spec.lnot] at *)

macro "word_unfold" : tactic => `(tactic| simp only [
  wrapU8, wrapU16, wrapU32, wrapU64, wrapS8, wrapS16, wrapS32, wrapS64, absS32, absS64, absS16, absS8,
  iabs, Spec.iabs, cmp3, mp_size] at *)

/-- a leaf of the decision tree: two `Res` built alike, so the components must agree (linear arithmetic, or a ring identity) -/
syntax "gmp_leaf" : tactic
macro_rules | `(tactic| gmp_leaf) => `(tactic| first
  | rfl
  | (simp only [Res.mk.injEq, List.cons.injEq, and_true, true_and, and_self]; first | omega | (constructor <;> omega))
  | omega
  | (and_intros <;> first | rfl | omega | (simp_all; done))
  | (simp_all; done)
  | (subst_vars; simp only [Res.mk.injEq, List.cons.injEq, and_true, true_and, and_self]; ring_nf; done)
  | (simp only [Res.mk.injEq, List.cons.injEq, and_true, true_and, and_self]; ring_nf; done)
  | (simp only [Res.mk.injEq, List.cons.injEq, and_true, true_and, and_self]; constructor <;> ring_nf; done))

syntax "gmp_go" : tactic
macro_rules | `(tactic| gmp_go) => `(tactic| first | done | (split <;> gmp_go) | gmp_leaf)

macro "gmp_lin" : tactic => `(tactic| ((try gmp_unfold); (try word_unfold); gmp_go))

macro "gmp_ring" : tactic => `(tactic| (
  try simp only [mpz_mul, mpz_mul_ui, mpz_mul_si, mpz_addmul, mpz_addmul_ui, mpz_submul, mpz_submul_ui, Spec.mul] at *
  (try gmp_unfold); (try word_unfold)
  gmp_go))

/-- rewrite the conversion `f x` when it is the identity under the hypotheses in scope -/
macro "wrap_id1" f:ident x:ident : tactic => `(tactic|
  try (
    have hw : $f $x = $x := by
      simp only [$f:ident, InU8, InU16, InU32, InU64, InS8, InS16, InS32, InS64] at *
      omega
    simp only [hw] at *
    clear hw))

/-- same for `std::abs` of a non-negative word -/
macro "abs_id1" f:ident x:ident : tactic => `(tactic|
  try (
    have hw : $f $x = $x := by
      simp only [$f:ident, wrapS64, wrapS32, InU8, InU16, InU32, InU64, InS8, InS16, InS32, InS64] at *
      split <;> omega
    simp only [hw] at *
    clear hw))

/-- every conversion of the word parameter `x` that is the identity on its range (the hypothesis `In… x` of the theorem) is rewritten away -/
macro "wrap_id" x:ident : tactic => `(tactic| (
  abs_id1 absS64 $x
  abs_id1 absS32 $x
  wrap_id1 wrapU64 $x
  wrap_id1 wrapS64 $x
  wrap_id1 wrapU32 $x
  wrap_id1 wrapS32 $x))

/-- forwards to a GMP primitive whose contract is the specification function itself -/
macro "gmp_misc" : tactic => `(tactic| (
  (try simp only [mpz_powm_spec _ _ _ (by assumption), mpz_powm_ui_spec _ _ _ (by assumption)] at *)
  try simp only [mpz_mul, mpz_mul_ui, mpz_mul_si, Spec.mul,
    mpz_and, mpz_ior, mpz_xor, Spec.land, Spec.lor, Spec.lxor, wland, wlor, wlxor,
    mpz_mul_2exp, mpz_tdiv_q_2exp, mpz_fdiv_q_2exp, Spec.shl, Spec.shr,
    mpz_gcd, mpz_lcm, Spec.gcd, Spec.lcm, mpz_pow_ui, mpz_ui_pow_ui, Spec.pow,
    mpz_sqrt, mpz_sqrtrem_d0, mpz_sqrtrem_d1, Spec.isqrt,
    mpz_get_ui, mpz_get_si, mpz_sizeinbase, Spec.bitsize, (show Int.toNat 2 = 2 from rfl)] at *
  (try gmp_unfold); (try word_unfold); gmp_go))

/-! ### division: every rounding against `a / b`, `a % b` (non-negative remainder), as linear facts -/
theorem sign_ite (b : Int) : Int.sign b = if 0 < b then 1 else if b < 0 then -1 else 0 := by
  rcases Int.lt_trichotomy b 0 with h | h | h
  · simp [Int.sign_eq_neg_one_of_neg h]; omega
  · subst h; simp
  · simp [Int.sign_eq_one_of_pos h, h]

theorem tdiv_ediv (a b : Int) :
    a.tdiv b = a / b + (if 0 ≤ a ∨ a % b = 0 then 0 else if 0 < b then 1 else if b < 0 then -1 else 0) := by
  rw [Int.tdiv_eq_ediv]; simp only [Int.dvd_iff_emod_eq_zero, sign_ite]
theorem tmod_emod (a b : Int) :
    a.tmod b = a % b - (if 0 ≤ a ∨ a % b = 0 then 0 else if b < 0 then -b else b) := by
  rw [Int.tmod_eq_emod]; simp only [Int.dvd_iff_emod_eq_zero]
  split <;> [rfl; (split <;> omega)]
theorem fdiv_ediv (a b : Int) : a.fdiv b = a / b - (if 0 ≤ b ∨ a % b = 0 then 0 else 1) := by
  rw [Int.fdiv_eq_ediv]; simp only [Int.dvd_iff_emod_eq_zero]
theorem fmod_emod (a b : Int) : a.fmod b = a % b + (if 0 ≤ b ∨ a % b = 0 then 0 else b) := by
  rw [Int.fmod_eq_emod]; simp only [Int.dvd_iff_emod_eq_zero]
theorem neg_ediv' (a b : Int) :
    (-a) / b = -(a / b) - (if a % b = 0 then 0 else if 0 < b then 1 else if b < 0 then -1 else 0) := by
  rw [Int.neg_ediv]; simp only [Int.dvd_iff_emod_eq_zero, sign_ite]
theorem neg_emod' (a b : Int) :
    (-a) % b = if a % b = 0 then 0 else (if b < 0 then -b else b) - a % b := by
  rw [Int.neg_emod]; simp only [Int.dvd_iff_emod_eq_zero]
  split <;> [rfl; (split <;> omega)]
theorem emod_bounds (a b : Int) (h : b ≠ 0) : 0 ≤ a % b ∧ a % b < (if b < 0 then -b else b) := by
  have h1 := Int.emod_nonneg a h
  have h2 := Int.emod_lt a h
  constructor
  · exact h1
  · split <;> omega
theorem dvd_emod (a b : Int) : b ∣ a ↔ a % b = 0 := Int.dvd_iff_emod_eq_zero

theorem ediv_facts (a b : Int) (hb : b ≠ 0) :
    0 ≤ a % b ∧ (a % b < b ∨ a % b < -b) ∧ (a = 0 → a / b = 0 ∧ a % b = 0) := by
  have h1 := Int.emod_nonneg a hb
  have h2 := Int.emod_lt a hb
  exact ⟨h1, by omega, fun h => by subst h; exact ⟨Int.zero_ediv b, Int.zero_emod b⟩⟩

/-- truncation differs from `a / b`, `a % b` by one divisor when the dividend is negative and the division inexact -/
theorem tdiv_facts (a b : Int) (hb : b ≠ 0) :
    (0 ≤ a ∨ a % b = 0) ∧ a.tdiv b = a / b ∧ a.tmod b = a % b ∨
    a < 0 ∧ a % b ≠ 0 ∧ 0 < b ∧ a.tdiv b = a / b + 1 ∧ a.tmod b = a % b - b ∨
    a < 0 ∧ a % b ≠ 0 ∧ b < 0 ∧ a.tdiv b = a / b - 1 ∧ a.tmod b = a % b + b := by
  by_cases c1 : 0 ≤ a ∨ a % b = 0
  · exact Or.inl ⟨c1, by rw [tdiv_ediv, if_pos c1, Int.add_zero], by rw [tmod_emod, if_pos c1, Int.sub_zero]⟩
  · obtain ⟨ha, hm⟩ := not_or.1 c1
    rw [tdiv_ediv, tmod_emod, if_neg c1, if_neg c1]
    rcases Int.lt_or_gt_of_ne hb with c | c
    · exact Or.inr (Or.inr ⟨by omega, hm, c, by rw [if_neg (by omega), if_pos c]; rfl, by rw [if_pos c, Int.sub_neg]⟩)
    · exact Or.inr (Or.inl ⟨by omega, hm, c, by rw [if_pos c], by rw [if_neg (by omega)]⟩)

/-- floor: when the divisor is negative and the division inexact (`_hb` is not needed: it keeps the three lemmas of one shape for `div_close`) -/
theorem fdiv_facts (a b : Int) (_hb : b ≠ 0) :
    (0 ≤ b ∨ a % b = 0) ∧ a.fdiv b = a / b ∧ a.fmod b = a % b ∨
    b < 0 ∧ a % b ≠ 0 ∧ a.fdiv b = a / b - 1 ∧ a.fmod b = a % b + b := by
  rw [fdiv_ediv, fmod_emod]
  by_cases c1 : 0 ≤ b ∨ a % b = 0
  · exact Or.inl ⟨c1, by rw [if_pos c1, Int.sub_zero], by rw [if_pos c1, Int.add_zero]⟩
  · obtain ⟨hb', hm⟩ := not_or.1 c1
    exact Or.inr ⟨by omega, hm, by rw [if_neg c1], by rw [if_neg c1]⟩

/-- ceiling (GMP's `cdiv`, modelled as the floor of the negated dividend): when the divisor is positive and the division inexact -/
theorem cdiv_facts (a b : Int) (hb : b ≠ 0) :
    (b < 0 ∨ a % b = 0) ∧ -((-a).fdiv b) = a / b ∧ -((-a).fmod b) = a % b ∨
    0 < b ∧ a % b ≠ 0 ∧ -((-a).fdiv b) = a / b + 1 ∧ -((-a).fmod b) = a % b - b := by
  have h1 := Int.emod_nonneg a hb
  have h2 := Int.emod_lt a hb
  rw [fdiv_ediv, fmod_emod, neg_ediv', neg_emod']
  by_cases c0 : a % b = 0
  · refine Or.inl ⟨Or.inr c0, ?_, ?_⟩ <;> simp only [c0, ↓reduceIte, or_true] <;> omega
  · rcases Int.lt_or_gt_of_ne hb with c | c
    · refine Or.inl ⟨Or.inl c, ?_, ?_⟩
      · have : ¬ (0 ≤ b ∨ (-b - a % b) = 0) := by omega
        simp only [c0, c, ↓reduceIte, show ¬ 0 < b by omega, this]; omega
      · have : ¬ (0 ≤ b ∨ (-b - a % b) = 0) := by omega
        simp only [c0, c, ↓reduceIte, this]; omega
    · refine Or.inr ⟨c, c0, ?_, ?_⟩ <;>
        simp only [c0, c, ↓reduceIte, show ¬ b < 0 by omega, show (0 ≤ b ∨ b - a % b = 0) by omega] <;> omega

macro "div_norm" : tactic => `(tactic| (
  try simp only [mpz_tdiv_q, mpz_tdiv_r, mpz_tdiv_qr_d0, mpz_tdiv_qr_d1, mpz_fdiv_q, mpz_fdiv_r, mpz_cdiv_q, mpz_cdiv_r,
    mpz_fdiv_qr_d0, mpz_fdiv_qr_d1, mpz_cdiv_qr_d0, mpz_cdiv_qr_d1, mpz_tdiv_qr_ui_d0, mpz_tdiv_qr_ui_d1, mpz_tdiv_qr_ui_ret,
    mpz_fdiv_qr_ui_d0, mpz_fdiv_qr_ui_d1, mpz_fdiv_qr_ui_ret, mpz_cdiv_qr_ui_d0, mpz_cdiv_qr_ui_d1, mpz_cdiv_qr_ui_ret,
    mpz_tdiv_q_ui_d0, mpz_tdiv_q_ui_ret, mpz_tdiv_r_ui_d0, mpz_tdiv_r_ui_ret, mpz_tdiv_ui,
    mpz_fdiv_q_ui_d0, mpz_fdiv_q_ui_ret, mpz_fdiv_r_ui_d0, mpz_fdiv_r_ui_ret, mpz_fdiv_ui,
    mpz_cdiv_q_ui_d0, mpz_cdiv_q_ui_ret, mpz_cdiv_r_ui_d0, mpz_cdiv_r_ui_ret, mpz_cdiv_ui,
    mpz_mod, mpz_mod_ui_d0, mpz_mod_ui_ret, mpz_divexact, mpz_divexact_ui,
    Spec.tdivQ, Spec.tmodR, Spec.fdivQ, Spec.fmodR, Spec.cdivQ, Spec.cmodR, Spec.edivQ, Spec.emodR] at *))

/-- Division family, dividend `n`, divisor `d`; `facts` is the lemma for the rounding the body uses.  Quotients and remainders
    become variables tied by the linear facts (in hypotheses named `hdiv…`), so that every leaf of the body is linear arithmetic. -/
macro "div_close" facts:ident n:ident d:ident : tactic => `(tactic| (
  have hdivE := ediv_facts $n $d (by assumption)
  have hdiv := $facts $n $d (by assumption)
  (try simp only [dvd_emod, Int.tdiv_neg, Int.tmod_neg] at *)
  generalize Int.tdiv $n $d = qt at *
  generalize Int.tmod $n $d = rt at *
  generalize Int.fdiv $n $d = qf at *
  generalize Int.fmod $n $d = rf at *
  generalize Int.fdiv $n (-$d) = qf' at *
  generalize Int.fmod $n (-$d) = rf' at *
  generalize Int.fdiv (-$n) $d = qc at *
  generalize Int.fmod (-$n) $d = rc at *
  generalize $n / $d = qe at *
  generalize $n % $d = re at *
  (try word_unfold)
  gmp_go))

/-- divisor an `Integer` or an unsigned word (already the identity under `wrap_id`) -/
macro "gmp_udiv" facts:ident n:ident d:ident : tactic => `(tactic| (
  div_norm
  first | done | ((try gmp_unfold); div_close $facts $n $d)))

/-- divisor a signed word: the body divides by `|d|`, written `wrapU64 (absS64 d)`, `wrapU64 d` or `wrapU64 (wrapS64 (-d))`
    (`std::abs` and the conversion to `unsigned long` give the absolute value also at the minimum of the signed type);
    for `d < 0` the facts about the division by `-d` are added, stated in `n / d` and `n % d` -/
macro "gmp_sdiv" facts:ident n:ident d:ident : tactic => `(tactic| (
  div_norm
  (try gmp_unfold)
  by_cases hd : $d < 0
  · have e1 : wrapU64 (wrapS64 (-$d)) = -$d := by (simp only [wrapU64, wrapS64] at *; omega)
    have e2 : wrapU64 (absS64 $d) = -$d := by (simp only [wrapU64, absS64, wrapS64] at *; split <;> omega)
    (try simp only [e1, e2] at *)
    have hdiv' := $facts $n (-$d) (by omega)
    simp only [Int.ediv_neg, Int.emod_neg] at hdiv'
    div_close $facts $n $d
  · have e1 : wrapU64 $d = $d := by (simp only [wrapU64] at *; omega)
    have e2 : wrapU64 (absS64 $d) = $d := by (simp only [wrapU64, absS64, wrapS64] at *; split <;> omega)
    (try simp only [e1, e2] at *)
    div_close $facts $n $d))

/-- Division family with dividend `n` and divisor `d` (parameters of the overload), for bodies that mix roundings: everything is
    rewritten to `n / d`, `n % d` and the three facts every rounding depends on are decided by cases.  Covers any body of the family, but is much slower to check
    than `gmp_udiv` / `gmp_sdiv`; no body of the present sources needs it. -/
macro "gmp_div" n:ident d:ident : tactic => `(tactic| (
  have hbnd := emod_bounds $n $d (by assumption)
  div_norm
  first | done | (
  (try gmp_unfold)
  (try simp only [tdiv_ediv, tmod_emod, fdiv_ediv, fmod_emod, dvd_emod] at *)
  by_cases c1 : 0 ≤ $n <;> by_cases c2 : $n % $d = 0 <;> by_cases c3 : $d < 0 <;>
    (try simp only [wrapU64_absS64 $d (by first | assumption | (simp only [InU8, InU16, InU32, InU64, InS8, InS16, InS32, InS64] at *; omega))] at hbnd ⊢) <;>
    (try simp only [wrapU64_absS32 $d (by assumption) (by first | assumption | omega)] at hbnd ⊢) <;>
    (try (have e1 : wrapU64 (wrapS64 (-$d)) = -$d := by
            (simp only [wrapU64, wrapS64, InU8, InU16, InU32, InU64, InS8, InS16, InS32, InS64] at *; omega)
          simp only [e1] at hbnd ⊢)) <;>
    (try (have e2 : wrapU64 $d = $d := by
            (simp only [wrapU64, wrapS64, InU8, InU16, InU32, InU64, InS8, InS16, InS32, InS64] at *; omega)
          simp only [e2] at hbnd ⊢)) <;>
    (try (have e3 : wrapU64 (-$d) = -$d := by
            (simp only [wrapU64, wrapS64, InU8, InU16, InU32, InU64, InS8, InS16, InS32, InS64] at *; omega)
          simp only [e3] at hbnd ⊢)) <;>
    (try simp only [c1, c2, c3, ↓reduceIte, not_true_eq_false, not_false_eq_true, or_true, true_or, or_false, false_or,
      Int.ediv_neg, Int.emod_neg, neg_ediv', neg_emod', Int.neg_neg] at hbnd ⊢) <;>
    (try simp only [c1, c2, c3, ↓reduceIte, not_true_eq_false, not_false_eq_true, or_true, true_or, or_false, false_or] at hbnd ⊢) <;>
    (try word_unfold) <;>
    gmp_go)))

/-! ### certificate-style statements `chk args (f args) = true` -/
theorem not_neg_of_nonneg {x : Int} (h : 0 ≤ x) : x < 0 ↔ False := ⟨fun hl => by omega, False.elim⟩
theorem gcdext_d0_lt0 (a b : Int) : (mpz_gcdext_d0 a b < 0) ↔ False := not_neg_of_nonneg (mpz_gcdext_d0_nonneg a b)
theorem gcd_lt0 (a b : Int) : (mpz_gcd a b < 0) ↔ False := not_neg_of_nonneg (mpz_gcd_nonneg a b)
theorem lcm_lt0 (a b : Int) : (mpz_lcm a b < 0) ↔ False := not_neg_of_nonneg (mpz_lcm_nonneg a b)

syntax "cert_leaf" : tactic
macro_rules | `(tactic| cert_leaf) => `(tactic| (
  simp only [decide_eq_true_eq, Spec.isBezout, List.getD_cons_zero, List.getD_cons_succ, List.length_cons, List.length_nil,
    List.getD_eq_getElem?_getD, List.getElem?_cons_zero, List.getElem?_cons_succ, Option.getD_some]
  and_intros <;> first
    | rfl
    | omega
    | exact mpz_gcdext_bezout _ _
    | (apply mpz_invert_spec <;> assumption)
    | (simp only [mpz_neg]; linear_combination (-1 : Int) * mpz_gcdext_bezout _ _)
    | ((try gmp_unfold); (try word_unfold); gmp_go)
    | (simp_all; done)))

syntax "cert_go" ident : tactic
macro_rules | `(tactic| cert_go $c) => `(tactic| first | done | (split <;> cert_go $c) | (unfold $c; cert_leaf))

macro "gmp_cert" c:ident : tactic => `(tactic| (
  (try gmp_unfold)
  (try simp only [gcdext_d0_lt0, gcd_lt0, lcm_lt0, ↓reduceIte, mpz_tstbit, mpz_get_ui, mpz_get_si,
    Int.toNat_zero, Int.pow_zero, Int.ediv_one] at *)
  first
    | (cert_go $c)
    | (unfold $c; simp only [decide_eq_true_eq]; (try gmp_unfold); (try word_unfold); gmp_go)))

end Givaro
