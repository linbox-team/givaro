/-
C04 — init/convert implement the canonical map Z → Z/m.

Theorems about the model (`Model/ModRing.lean`, `ICfg.initInt`, tied to /repo by the correspondence of
`checks/c04.py`) of `Modular<Storage_t,Compute_t>::init` from every machine-integer source type
(signed/unsigned 8/16/32/64 bits) for every instantiated configuration, every modulus up to
`maxCardinality()` and every value of the source type, the minimum of a signed type included
(the repaired code negates in the unsigned type, fixes/C04_2.patch); then convert, the constants, the `Integer` and
floating sources, and the init overloads of the other rings, one section per ring (those of the RecInt rings are in Props/C03.lean).
-/
import GivaroModel.Lemmas.ModRingFloat
import GivaroModel.Model.ModRingInit
import GivaroModel.Lemmas.ModRingLog16
import GivaroModel.Lemmas.ModRingGeneric
namespace Givaro.Props.C04
open Givaro.Model.ModRing Givaro.Spec.ModRing

def SrcW (w : Nat) : Prop := w = 8 ∨ w = 16 ∨ w = 32 ∨ w = 64
/-- `y` is a value of the source type -/
def InSrc (w : Nat) (ss : Bool) (y : Int) : Prop :=
  if ss then -((2 : Int) ^ (w - 1)) ≤ y ∧ y < (2 : Int) ^ (w - 1) else 0 ≤ y ∧ y < (2 : Int) ^ w

theorem init_wide_exact (k : ICfg) (hv : k.valid) (w : Nat) (hw : SrcW w) (hws : w > k.s) (ss : Bool)
    (p y : Int) (hp : 2 ≤ p) (hm : p ≤ k.maxCard) (hy : InSrc w ss y) :
    k.initInt w ss p y = canonU p y := by
  have ok := iok_of_valid k hv p hp hm
  obtain ⟨hs, hpE, _⟩ := hv.bounds (by omega) hm
  have hpw : wrapUw w p = p :=
    wrapUw_id (by omega) (by have := k.eTop_le; have := two_pow_mono (show k.s ≤ w by omega); omega)
  have h2 := two_pow_pred (show 1 ≤ w by omega)
  unfold InSrc at hy
  unfold ICfg.initInt canonU
  rw [if_pos hws]
  cases ss
  · simp only [Bool.false_eq_true, if_false, ICfg.toSrc] at hy ⊢
    rw [hpw, Int.tmod_eq_emod_of_nonneg hy.1]
    exact ok.toE_emod (by omega) y
  · simp only [if_true] at hy ⊢
    rw [hpw]
    by_cases hneg : y < 0
    · rw [if_pos hneg, if_pos hneg, wrapUw_arUSrc, wrapUw_neg_wrapUw (by omega) (by omega),
        Int.tmod_eq_emod_of_nonneg (by omega), ok.toE_emod (by omega), negin_model ok hp (emod_canon (by omega) _), neg_emod_emod, Int.neg_neg]
    · rw [if_neg hneg, if_neg hneg, wrapUw_id (by omega) (by omega), Int.tmod_eq_emod_of_nonneg (by omega)]
      exact ok.toE_emod (by omega) y
example : SrcW 64 ∧ InSrc 64 true (-9223372036854775808) ∧ (ICfg.mk 32 true 32).valid := by
  refine ⟨by unfold SrcW; decide, by unfold InSrc; decide, by decide⟩
/-- the point the unrepaired code got wrong: `Modular<int32_t>(101).init(e, INT64_MIN)` -/
example : (ICfg.mk 32 true 32).initInt 64 true 101 (-9223372036854775808) = 11 := by decide

/-- reduce(x, y) for any value `y` of the storage type (used by the small-source overloads) -/
theorem reduce_exact (k : ICfg) (hv : k.valid) (p y : Int) (hp : 2 ≤ p) (hm : p ≤ k.maxCard)
    (hy : k.toE y = y) : k.reduce p y = canonU p y := by
  have ok := iok_of_valid k hv p hp hm
  obtain ⟨hs, hpE, _⟩ := hv.bounds (by omega) hm
  have hE : ∀ x, 0 ≤ x → x < p → k.toE x = x := fun x h0 h1 => ok.toE_id x h0 (by omega)
  have ht := tmod_range y p (by omega)
  unfold ICfg.reduce canonU
  split
  · next hsg =>
    -- signed storage holds every value between `-p` and `p`
    rw [ok.toE_id p (by omega) (by omega)]
    exact reduce_store (by omega) hE hE fun hneg => ICfg.toE_id (by omega) (by rw [if_pos hsg]; omega) (by omega)
  · next hsg =>
    have hy0 : 0 ≤ y := by
      unfold ICfg.toE at hy; rw [if_neg hsg] at hy
      rw [← hy]; exact Int.emod_nonneg _ (Int.ne_of_gt (two_pow_pos _))
    rw [Int.tmod_eq_emod_of_nonneg hy0]
    exact ok.toE_emod (by omega) y
example : (ICfg.mk 8 true 8).reduce 13 (-128) = canonU 13 (-128) := by decide

/-- init from a source not wider than the storage type (signed or unsigned source, signed or unsigned
    storage: the four bodies of `_init_small_s` / `_init_small_u`) -/
theorem init_small_exact (k : ICfg) (hv : k.valid) (w : Nat) (hw : SrcW w) (hws : ¬ w > k.s) (ss : Bool)
    (p y : Int) (hp : 2 ≤ p) (hm : p ≤ k.maxCard) (hy : InSrc w ss y) :
    k.initInt w ss p y = canonU p y := by
  have ok := iok_of_valid k hv p hp hm
  have hs := hv.width.1
  have hw1 : 1 ≤ w := by rcases hw with h | h | h | h <;> omega
  -- the storage type holds every source value of its own signedness, the unsigned one every non-negative value
  have hws1 := two_pow_mono (show w - 1 ≤ k.s - 1 by omega)
  have hws2 := two_pow_mono (show w ≤ k.s by omega)
  have h2w := two_pow_pred hw1
  have h2s := two_pow_pred (show 1 ≤ k.s by omega)
  unfold InSrc at hy
  unfold ICfg.initInt
  rw [if_neg hws]
  by_cases hsg : k.sg = true
  · rw [if_pos hsg]
    have hT : k.eTop = (2 : Int) ^ (k.s - 1) := if_pos hsg
    cases ss
    · simp only [Bool.false_eq_true, if_false] at hy ⊢
      unfold canonU
      rw [ICfg.arU_id hy.1 (by omega), ok.arU_id p (by omega) (by omega), Int.tmod_eq_emod_of_nonneg hy.1]
      exact ok.toE_emod (by omega) y
    · simp only [if_true] at hy ⊢
      have hE : k.toE y = y := ICfg.toE_id (by omega) (by rw [if_pos hsg]; omega) (by omega)
      rw [hE]
      exact reduce_exact k hv p y hp hm hE
  · have hsf : k.sg = false := by simpa using hsg
    have hT : k.eTop = (2 : Int) ^ k.s := if_neg hsg
    rw [if_neg hsg]
    simp only
    by_cases hneg : y < 0
    · -- a negative source value is signed: `|y|` is formed in the unsigned storage type
      have hy' : -((2 : Int) ^ (w - 1)) ≤ y := by cases ss <;> simp at hy <;> omega
      have hU : k.toE (k.arE (0 - k.toE y)) = -y := by
        rw [ICfg.toE_arE_unsigned hsf]
        unfold ICfg.toE; rw [if_neg hsg]
        exact wrapUw_neg_wrapUw (by omega) (by omega)
      have hny : k.toE (-y) = -y := ICfg.toE_nn (by omega) (by omega) (by omega)
      rw [if_pos hneg, if_pos hneg, hU, reduce_exact k hv p (-y) hp hm hny]
      unfold canonU
      rw [negin_model ok hp (emod_canon (by omega) _), neg_emod_emod, Int.neg_neg]
    · have hy' : y < (2 : Int) ^ w := by cases ss <;> simp at hy <;> omega
      have hE : k.toE y = y := ICfg.toE_nn (by omega) (by omega) (by omega)
      rw [if_neg hneg, if_neg hneg, hE]
      exact reduce_exact k hv p y hp hm hE
example : SrcW 32 ∧ InSrc 32 false 4294967295 ∧ ¬ (32 > (ICfg.mk 32 true 64).s) := by
  refine ⟨by unfold SrcW; decide, by unfold InSrc; decide, by decide⟩
/-- the points the unrepaired code got wrong: unsigned source ≥ 2^(N-1) into signed storage; INT32_MIN into uint64_t -/
example : (ICfg.mk 32 true 32).initInt 32 false 3 2147483648 = 2 := by decide
example : (ICfg.mk 64 false 64).initInt 32 true 101 (-2147483648) = canonU 101 (-2147483648) := by decide

/-- integral family, machine-integer sources: the canonical image of every value
    of every source type, for every admissible modulus -/
theorem init_canonical (k : ICfg) (hv : k.valid) (w : Nat) (hw : SrcW w) (ss : Bool)
    (p y : Int) (hp : 2 ≤ p) (hm : p ≤ k.maxCard) (hy : InSrc w ss y) :
    k.initInt w ss p y = canonU p y ∧ isCanonU p (k.initInt w ss p y) := by
  have e : k.initInt w ss p y = canonU p y := by
    by_cases hws : w > k.s
    · exact init_wide_exact k hv w hw hws ss p y hp hm hy
    · exact init_small_exact k hv w hw hws ss p y hp hm hy
  refine ⟨e, ?_⟩
  rw [e]; unfold isCanonU canonU
  exact (emod_canon (by omega) _)

/-- convert is the identity on the representation (`Caster<T>(a)`), so `init (convert e) = e` for every
    canonical element whose value the source type holds -/
theorem init_convert (k : ICfg) (hv : k.valid) (w : Nat) (hw : SrcW w) (ss : Bool)
    (p e : Int) (hp : 2 ≤ p) (hm : p ≤ k.maxCard) (he : isCanonU p e) (hy : InSrc w ss e) :
    k.initInt w ss p e = e := by
  rw [(init_canonical k hv w hw ss p e hp hm hy).1]
  exact Int.emod_eq_of_lt he.1 he.2

theorem convert_init (k : ICfg) (hv : k.valid) (w : Nat) (hw : SrcW w) (ss : Bool)
    (p y : Int) (hp : 2 ≤ p) (hm : p ≤ k.maxCard) (hy : InSrc w ss y) :
    (k.initInt w ss p y - y) % p = 0 := by
  rw [(init_canonical k hv w hw ss p y hp hm hy).1]
  exact canonU_sub_emod p y

/-- zero, one, mOne as computed by the constructor are the images of 0, 1, -1 -/
theorem constants_are_images (k : ICfg) (hv : k.valid) (p : Int) (hp : 2 ≤ p) (hm : p ≤ k.maxCard) :
    k.zero = canonU p 0 ∧ k.one = canonU p 1 ∧ k.mOne p = canonU p (-1) := by
  have ok := iok_of_valid k hv p hp hm
  unfold ICfg.zero ICfg.one ICfg.mOne canonU
  rw [ok.toE_id 0 (by omega) (by omega), ok.toE_id 1 (by omega) (by omega),
    ok.arU_id _ (by omega) (by omega), ok.toE_id _ (by omega) (by omega)]
  refine ⟨by simp, (Int.emod_eq_of_lt (by omega) (by omega)).symm, ?_⟩
  exact (emod_unique (by omega) (by omega) (-1) (by ring)).symm
example : (ICfg.mk 8 false 16).mOne 255 = 254 := by decide

/-! ## integral rings: `Integer` and floating sources -/

/-- init from an `Integer` of any size and either sign -/
theorem init_integer_canonical (k : ICfg) (hv : k.valid) (p y : Int) (hp : 2 ≤ p) (hm : p ≤ k.maxCard) :
    k.initZ p y = canonU p y := by
  have ok := iok_of_valid k hv p hp hm
  unfold ICfg.initZ canonU
  exact ok.toE_emod (by omega) y

/-- init from a finite `float` / `double` `y`, `t = trunc(y)` (so `t = y` for an integer-valued source, `±0 ↦ 0`,
    any magnitude: below 2^63 through `int64_t`, beyond through `Integer`): the canonical image of `t`.
    (For a non-integer `y` the code truncates toward zero; a non-finite `y` gives `zero`.) -/
theorem init_float_canonical (k : ICfg) (hv : k.valid) (p t : Int) (hp : 2 ≤ p) (hm : p ≤ k.maxCard) :
    k.initFloat p t = canonU p t := by
  unfold ICfg.initFloat
  split
  · next h =>
    have hy : InSrc 64 true t := by
      unfold InSrc
      simp only [if_true]
      norm_num at h ⊢
      omega
    exact (init_canonical k hv 64 (by unfold SrcW; decide) true p t hp hm hy).1
  · exact init_integer_canonical k hv p t hp hm
example : (ICfg.mk 8 true 8).initFloat 13 (-(2 ^ 100)) = canonU 13 (-(2 ^ 100)) := by decide

/-- the constants of a ring object that was assigned from another ring (`operator=`, also onto a
    default-constructed object) are the images of 0, 1, −1 modulo the new modulus -/
theorem constants_after_assign (k : ICfg) (hv : k.valid) (a : ICfg.Obj) (p : Int) (hp : 2 ≤ p) (hm : p ≤ k.maxCard) :
    (k.assign a (k.construct p)).zero = canonU p 0 ∧ (k.assign a (k.construct p)).one = canonU p 1
      ∧ (k.assign a (k.construct p)).mOne = canonU p (-1) ∧ (k.assign a (k.construct p)).p = p := by
  obtain ⟨h0, h1, h2⟩ := constants_are_images k hv p hp hm
  obtain ⟨hs, hpE, _⟩ := hv.bounds (by omega) hm
  exact ⟨h0, h1, h2, ICfg.toR_id (by omega) (by have := k.eTop_le; omega)⟩
example : (ICfg.mk 32 true 32).assign (ICfg.mk 32 true 32).default ((ICfg.mk 32 true 32).construct 101) = ⟨0, 1, 100, 101⟩ := by decide

/-! ## `Modular<float>`, `Modular<double>`, `Modular<float,double>` -/

section floatInit
variable (k : FCfg) (hv : k.valid) (p : Int) (hp : 2 ≤ p) (hm : p ≤ k.maxCard)
include hv hp hm

/-- reduce(x) for any integer-valued `x` of the element type (any magnitude: `fmod` is exact) -/
theorem float_reduce_exact (y : Int) : k.reduce p y = some (canonU p y) := by
  obtain ⟨t0, t1, tn, tp⟩ := tmod_range y p (by omega)
  unfold FCfg.reduce canonU
  simp only
  split
  · next hneg => rw [tn hneg]; exact (fok_of_valid k hv p hp hm).fS_emod y
  · next hneg => rw [tp (by omega)]

/-- signed 32/64-bit sources (the overload for `sizeof(Source) ≥ sizeof(Storage_t)`), the minimum included:
    reduced in integer arithmetic before the conversion to the element type, so values beyond 2^24 / 2^53 are exact -/
theorem float_init_sint_exact (w : Nat) (hw : w = 32 ∨ w = 64) (a : Int)
    (ha : -((2 : Int) ^ (w - 1)) ≤ a ∧ a < (2 : Int) ^ (w - 1)) :
    k.initSInt w p a = some (canonU p a) := by
  have h2 := two_pow_pred (show 1 ≤ w by omega)
  have hpw : wrapUw w p = p := FCfg.wrapUw_p hv hm (by omega) (by omega)
  unfold FCfg.initSInt
  simp only [wrapUw_arUSrc, uabs_eq (show -((2 : Int) ^ w) < a by omega) (by omega), hpw]
  have ok := fok_of_valid k hv p hp hm
  exact sint_reduce (by omega) (fun x h0 h1 => ok.fS_id x (by omega) (by omega)) fun r => ok.neg_eq

theorem float_init_uint_exact (w : Nat) (hw : w = 32 ∨ w = 64) (a : Int) (ha : 0 ≤ a) :
    k.initUInt w p a = some (canonU p a) := by
  have hpw : wrapUw w p = p := FCfg.wrapUw_p hv hm (by omega) (by omega)
  unfold FCfg.initUInt canonU
  rw [hpw, Int.tmod_eq_emod_of_nonneg ha]
  exact (fok_of_valid k hv p hp hm).fS_emod a

/-- `Integer` source, any size and sign -/
theorem float_init_integer_exact (a : Int) : k.initZ p a = some (canonU p a) := by
  have ok := fok_of_valid k hv p hp hm
  obtain ⟨t0, t1, tn, tp⟩ := tmod_range a p (by omega)
  unfold FCfg.initZ canonU
  rw [ok.fS_id _ (by omega) (by omega)]
  simp only [Option.bind_eq_bind, Option.bind_some]
  split
  · next hneg => rw [tn hneg]; exact ok.fS_emod a
  · next hneg => rw [tp (by omega)]; rfl

/-- every finite integer-valued `float` / `double` source, of any magnitude -/
theorem float_init_float_exact (y : Int) : k.initFloat p y = some (canonU p y) :=
  float_reduce_exact k hv p hp hm y

/-- machine integers narrower than the storage type: the conversion to the element type is exact for them -/
theorem float_init_small_exact (a : Int) (ha : -((2 : Int) ^ k.ms) ≤ a ∧ a ≤ (2 : Int) ^ k.ms) :
    k.initSmall p a = some (canonU p a) := by
  unfold FCfg.initSmall
  rw [show k.fS a = some a from fit_some ha.1 ha.2]
  simp only [Option.bind_eq_bind, Option.bind_some]
  exact float_reduce_exact k hv p hp hm a

/-- init ∘ convert = id, through the floating and through the `Integer` overload; and `mOne` is the image of −1 -/
theorem float_roundtrip_constants (e : Int) (he : isCanonU p e) :
    k.initFloat p (k.convert e) = some e ∧ k.initZ p (k.convert e) = some e
      ∧ k.mOne p = some (canonU p (-1)) := by
  refine ⟨?_, ?_, ?_⟩
  · rw [float_init_float_exact k hv p hp hm]; unfold FCfg.convert canonU; rw [Int.emod_eq_of_lt he.1 he.2]
  · rw [float_init_integer_exact k hv p hp hm]; unfold FCfg.convert canonU; rw [Int.emod_eq_of_lt he.1 he.2]
  · unfold FCfg.mOne canonU
    rw [(fok_of_valid k hv p hp hm).fS_id _ (by omega) (by omega)]
    congr 1
    exact (emod_unique (by omega) (by omega) (-1) (by ring)).symm

end floatInit
example : (FCfg.mk 53 53).initSInt 64 94906266 (-9223372036854775808) = some (canonU 94906266 (-9223372036854775808)) := by decide
example : (FCfg.mk 24 24).initFloat 4096 (2 ^ 100) = some 0 ∧ (FCfg.mk 24 24).initUInt 64 4093 18446744073709551615 = some (canonU 4093 18446744073709551615) := by decide

/-! ## `ModularBalanced<float|double>` -/

section balancedInit
variable (k : BFCfg) (hv : k.valid) (p : Int) (hp : 3 ≤ p) (hm : p ≤ k.maxCard)
include hv hp hm

/-- signed machine integers with an overload, `Integer`, every floating source: `%` / `fmod`, NORMALISE -/
theorem balanced_init_signed_exact (y : Int) : k.initS p y = some (canonB p y) :=
  BFCfg.reduce_eq hv (by omega) hm y

/-- unsigned machine integers with an overload: `%`, NORMALISE_HI -/
theorem balanced_init_unsigned_exact (y : Int) (hy : 0 ≤ y) : k.initU p y = some (canonB p y) := by
  unfold BFCfg.initU
  simp only
  rw [Int.tmod_eq_emod_of_nonneg hy]
  exact BFCfg.f_canonB hv (by omega) hm y

/-- the template (narrow machine integers): exact conversion, then reduce -/
theorem balanced_init_small_exact (a : Int) (ha : -p ≤ a ∧ a ≤ p ∨ k.f a = some a) : k.initSmall p a = some (canonB p a) := by
  have hfa : k.f a = some a := by
    rcases ha with h | h
    · exact BFCfg.f_id hv (by omega) hm h.1 h.2
    · exact h
  unfold BFCfg.initSmall
  rw [hfa]
  simp only [Option.bind_eq_bind, Option.bind_some]
  exact balanced_init_signed_exact k hv p hp hm a

theorem balanced_roundtrip (e : Int) (he : isCanonB p e) : k.initS p (k.convert e) = some e := by
  rw [balanced_init_signed_exact k hv p hp hm]
  congr 1
  unfold BFCfg.convert
  unfold isCanonB at he
  exact canonB_unique (by omega) (by unfold isCanonB; omega) 0 (by ring)

end balancedInit
example : (BFCfg.mk 24).initU 8191 4294967295 = some (canonB 8191 4294967295) := by decide

/-! ## `ModularBalanced<int32_t|int64_t>` -/

section balancedIntInit
variable (k : BICfg) (hv : k.valid) (p : Int) (hp : 3 ≤ p) (hm : p ≤ k.maxCard)
include hv hp hm

theorem balanced_int_init_signed_exact (y : Int) : k.initS p y = canonB p y := by
  obtain ⟨t0, t1, _⟩ := tmod_range y p (by omega)
  unfold BICfg.initS
  rw [BICfg.wr_id hv hm (by omega) (by omega)]
  exact normB_tmod y p (by omega)

theorem balanced_int_init_unsigned_exact (y : Int) (hy : 0 ≤ y) : k.initU p y = canonB p y := by
  obtain ⟨h0, h1⟩ := emod_canon (by omega : 0 < p) y
  unfold BICfg.initU canonB
  simp only
  rw [Int.tmod_eq_emod_of_nonneg hy, BICfg.wr_id hv hm (by omega) (by omega)]

/-- the template, for a source value the element type holds -/
theorem balanced_int_init_small_exact (a : Int) (ha : k.wr a = a) : k.initSmall p a = canonB p a := by
  unfold BICfg.initSmall BICfg.reduce
  rw [ha]
  exact normB_tmod a p (by omega)

end balancedIntInit
example : (BICfg.mk 64).initU 6074000999 18446744073709551615 = canonB 6074000999 18446744073709551615 := by decide

/-! ## `ModularExtended<float|double>` -/

section extendedInit
variable (k : ECfg) (hv : k.valid) (p : Int) (hp : 2 ≤ p) (hm : p ≤ k.maxCard)
include hv hp hm

theorem extended_init_uint_integer_float_exact (y : Int) :
    (0 ≤ y → k.initUInt p y = some (canonU p y)) ∧ k.initZ p y = some (canonU p y)
      ∧ k.initFloat p y = some (canonU p y) := by
  have hpow := two_pow_pos (k.mant - 4)
  have hf : ∀ x, -p ≤ x → x ≤ p → k.f x = some x := fun x h0 h1 => ECfg.f_id hv hm (by omega) (by omega)
  obtain ⟨h0, h1⟩ := emod_canon (by omega : 0 < p) y
  refine ⟨?_, ?_, ?_⟩
  · intro hy
    unfold ECfg.initUInt canonU
    rw [Int.tmod_eq_emod_of_nonneg hy]; exact hf _ (by omega) (by omega)
  · unfold ECfg.initZ canonU; exact hf _ (by omega) (by omega)
  · obtain ⟨t0, t1, tn, tp⟩ := tmod_range y p (by omega)
    unfold ECfg.initFloat canonU
    simp only
    split
    · next hneg => rw [tn hneg]; exact hf _ (by omega) (by omega)
    · next hneg => rw [tp (by omega)]; exact hf _ (by omega) (by omega)

theorem extended_init_sint_exact (w : Nat) (hw : w = 32 ∨ w = 64) (a : Int)
    (ha : -((2 : Int) ^ (w - 1)) ≤ a ∧ a < (2 : Int) ^ (w - 1)) :
    k.initSInt w p a = some (canonU p a) := by
  have hpow := two_pow_pos (k.mant - 4)
  have hf : ∀ x, 0 ≤ x → x ≤ p → k.f x = some x := fun x h0 h1 => ECfg.f_id hv hm (by omega) (by omega)
  have h2 := two_pow_pred (show 1 ≤ w by omega)
  unfold ECfg.initSInt
  simp only [uabs_eq (show -((2 : Int) ^ w) < a by omega) (by omega)]
  exact sint_reduce (by omega) (fun x h0 h1 => hf x h0 (by omega)) (fun r hr => ECfg.neg_eq hf hr)

end extendedInit
example : (ECfg.mk 53).initSInt 64 1125899906842623 (-9223372036854775808) = some (canonU 1125899906842623 (-9223372036854775808)) := by decide

/-! ## `Modular<Integer>` -/
theorem integer_init_exact (p a : Int) (hp : 2 ≤ p) : ZMod'.init p a = canonU p a := by
  unfold ZMod'.init ZMod'.reduce canonU
  simp only
  exact tmod_fix a p (by omega)

/-! ## `Modular<Log16>`: init on the table model, for any valid generator chain -/

theorem log16_init_unsigned_exact (T : L16) (h : T.Valid) (a : Int) (ha : 0 ≤ a) :
    T.okR (T.initU a) ∧ T.val (T.initU a) = canonU T.p a := by
  have hp := h.p2
  unfold L16.initU canonU
  rw [emod_if_ge ha]
  exact log16_val_log T h _ (emod_canon (by omega) _)

/-- init from signed machine integers (the `int64_t` body; `int32_t`, `int16_t`, `double` after `fmod`, `float` forward to it),
    the minimum included -/
theorem log16_init_signed_exact (T : L16) (h : T.Valid) (a : Int)
    (ha : -((2 : Int) ^ 63) ≤ a ∧ a < (2 : Int) ^ 63) :
    T.okR (T.initS a) ∧ T.val (T.initS a) = canonU T.p a := by
  have hp := h.p2
  have hua := uabs_cast_eq (w := 64) (by norm_num) ha.1 (Int.lt_trans ha.2 (by norm_num))
  unfold L16.initS canonU
  simp only [hua]
  by_cases hneg : a < 0
  · simp only [if_pos hneg]
    rw [emod_if_ge (by omega : 0 ≤ -a)]
    have hif : (if a < 0 ∧ (-a) % T.p ≠ 0 then T.p - (-a) % T.p else (-a) % T.p) = a % T.p := by
      by_cases hz : (-a) % T.p = 0
      · rw [if_neg (fun hh => hh.2 hz), hz, (emod_of_neg_emod (by omega)).2 hz]
      · rw [if_pos ⟨hneg, hz⟩, (emod_of_neg_emod (by omega)).1 hz]
    rw [hif]
    exact log16_val_log T h _ (emod_canon (by omega) _)
  · simp only [if_neg hneg]
    rw [emod_if_ge (by omega : 0 ≤ a)]
    have hif : (if a < 0 ∧ a % T.p ≠ 0 then T.p - a % T.p else a % T.p) = a % T.p := by
      rw [if_neg (by intro hh; exact hneg hh.1)]
    rw [hif]
    exact log16_val_log T h _ (emod_canon (by omega) _)

theorem log16_init_integer_exact (T : L16) (h : T.Valid) (a : Int) :
    T.okR (T.initZ a) ∧ T.val (T.initZ a) = canonU T.p a := by
  have hp := h.p2
  unfold L16.initZ canonU
  split
  · next hneg =>
    simp only
    have htr : (if a ≤ -T.p then (-a) % T.p else -a) = (-a) % T.p := by
      split
      · rfl
      · exact (Int.emod_eq_of_lt (by omega) (by omega)).symm
    rw [htr]
    split
    · next hne =>
      rw [(emod_of_neg_emod (by omega)).1 hne]
      exact log16_val_log T h _ (emod_canon (by omega) _)
    · next hz =>
      rw [(emod_of_neg_emod (by omega)).2 (by simpa using hz)]
      exact ⟨Or.inr rfl, L16.val_Z h⟩
  · next hnn =>
    rw [emod_if_ge (by omega : 0 ≤ a)]
    exact log16_val_log T h _ (emod_canon (by omega) _)

/-- `init(convert e)` denotes the same element as `e` (init ∘ convert) -/
theorem log16_convert_init (T : L16) (h : T.Valid) (e : Int) (he : T.okR e) :
    T.val (T.initU (T.val e)) = T.val e := by
  have hv := L16.val_range h he
  rw [(log16_init_unsigned_exact T h _ hv.1).2]
  exact Int.emod_eq_of_lt hv.1 hv.2


/-! ## the generic `Modular<IntType,Compute_t>` (modular-inttype.h, with fixes/C03_3.patch) -/

/-- init from an `Integer`, and from every machine number the element type need not hold (those go through `Integer`) -/
theorem generic_init_integer_exact (k : GCfg) (hv : k.valid) (p y : Int) (hp : 2 ≤ p) (hm : p ≤ k.maxCard) :
    k.initZ p y = canonU p y := by
  have ok := gok_of_valid k hv p hp hm
  unfold GCfg.initZ canonU
  exact (ok.small (Int.emod_nonneg _ (by omega)) (by have := Int.emod_lt_of_pos y (by omega : 0 < p); omega)).1

/-- init from a source the element type holds (`Caster<Element>(a)`, then reduce) -/
theorem generic_init_fit_exact (k : GCfg) (hv : k.valid) (p a : Int) (hp : 2 ≤ p) (hm : p ≤ k.maxCard)
    (ha : k.E a = a) (hsg : k.sg = false → 0 ≤ a) : k.initFit p a = canonU p a := by
  unfold GCfg.initFit
  rw [ha]
  exact greduce_model (gok_of_valid k hv p hp hm) a hsg
example : (GCfg.mk 16 true).initFit 101 (-32768) = canonU 101 (-32768) ∧ (GCfg.mk 16 false).initZ 101 (-1) = 100 := by decide

end Givaro.Props.C04
