/-
C05 — algebra behind the Zech-logarithm macros.

`ZechHyp F q γ elt` is what a `GFqDom` object must satisfy for its arithmetic to be that of a ring `K`:
index 0 decodes to 0, index `i ∈ [1,q-1]` to `γ^i`, `γ^(q-1) = 1`, `γ^mOne = -1`, and the table `plus1`
is the pre-shifted successor logarithm (`γ^i + 1 = 0` if `plus1 i = 0`, else `γ^(plus1 i + (q-1)) = γ^i + 1`).
`Spec.GFq.Tables.tablesValid` checks exactly these facts on the dumped tables of every constructed object.
-/
import GivaroModel.Model.Zech
import Mathlib.Algebra.Ring.Units
import Mathlib.Algebra.Group.Units.Basic
import Mathlib.Tactic.Ring
import Mathlib.Tactic.Linarith
namespace Givaro.Lemmas.GFqZech
open Givaro.Model.Zech

structure ZechHyp {K : Type*} [CommRing K] (F : Dom) (q : Int) (γ : K) (elt : Int → K) : Prop where
  q_ge : 2 ≤ q
  mun_eq : F.mun = q - 1
  elt_zero : elt 0 = 0
  elt_pow : ∀ i, 1 ≤ i → i ≤ q - 1 → elt i = γ ^ i.toNat
  pow_card : γ ^ (q - 1).toNat = 1
  mo_lo : 1 ≤ F.mo
  mo_hi : F.mo ≤ q - 1
  mo_neg : γ ^ F.mo.toNat = -1
  pl_zero : ∀ i, 1 ≤ i → i ≤ q - 1 → F.pl i = 0 → γ ^ i.toNat + 1 = 0
  pl_lo : ∀ i, 1 ≤ i → i ≤ q - 1 → F.pl i ≠ 0 → -(q - 1) < F.pl i
  pl_hi : ∀ i, 1 ≤ i → i ≤ q - 1 → F.pl i ≠ 0 → F.pl i < 0
  pl_pow : ∀ i, 1 ≤ i → i ≤ q - 1 → F.pl i ≠ 0 → γ ^ (F.pl i + (q - 1)).toNat = γ ^ i.toNat + 1

def Canon (q x : Int) : Prop := 0 ≤ x ∧ x ≤ q - 1

section
variable {K : Type*} [CommRing K] {F : Dom} {q : Int} {γ : K} {elt : Int → K} (H : ZechHyp F q γ elt)
include H

noncomputable def ZechHyp.u : Kˣ :=
  Units.mkOfMulEqOne γ (γ ^ ((q - 1).toNat - 1)) (by
    have h := H.pow_card
    have hq := H.q_ge
    have : (q - 1).toNat = ((q - 1).toNat - 1) + 1 := by omega
    rw [this, pow_succ'] at h
    exact h)

/-- `γ^n` for an arbitrary integer exponent -/
noncomputable def ZechHyp.g (n : Int) : K := ((H.u ^ n : Kˣ) : K)

theorem g_nat (n : Int) (hn : 0 ≤ n) : H.g n = γ ^ n.toNat := by
  unfold ZechHyp.g
  obtain ⟨m, rfl⟩ := Int.eq_ofNat_of_zero_le hn
  rw [zpow_natCast, Units.val_pow_eq_pow_val, Int.toNat_natCast]
  rfl

theorem g_add (a b : Int) : H.g (a + b) = H.g a * H.g b := by
  unfold ZechHyp.g; rw [zpow_add]; simp

theorem g_mun : H.g (q - 1) = 1 := by
  rw [g_nat H _ (by have := H.q_ge; omega)]; exact H.pow_card

theorem g_sub_mul (a b : Int) : H.g (a - b) * H.g b = H.g a := by
  rw [← g_add, sub_add_cancel]

theorem g_mun' : H.g F.mun = 1 := by rw [H.mun_eq]; exact g_mun H

theorem g_add_mun (n : Int) : H.g (n + F.mun) = H.g n := by
  rw [g_add, g_mun', mul_one]

theorem g_sub_mun (n : Int) : H.g (n - F.mun) = H.g n := by
  have h := g_sub_mul H n F.mun
  rwa [g_mun', mul_one] at h

theorem g_mo : H.g F.mo = -1 := by
  rw [g_nat H _ (by have := H.mo_lo; omega)]; exact H.mo_neg

theorem g_add_mo (n : Int) : H.g (n + F.mo) = - H.g n := by
  rw [g_add, g_mo, mul_neg_one]

theorem g_sub_mo (n : Int) : H.g (n - F.mo) = - H.g n := by
  have h := g_sub_mul H n F.mo
  rw [g_mo, mul_neg_one] at h
  rw [← h, neg_neg]

theorem elt_g (i : Int) (h1 : 1 ≤ i) (h2 : i ≤ q - 1) : elt i = H.g i := by
  rw [g_nat H _ (by omega)]; exact H.elt_pow i h1 h2

theorem canon_zero : Canon q 0 := ⟨le_refl 0, by have := H.q_ge; omega⟩

theorem elt_g_of_canon {a : Int} (ha : Canon q a) (ha0 : a ≠ 0) : elt a = H.g a ∧ 1 ≤ a :=
  have h1 : 1 ≤ a := by have := ha.1; omega
  ⟨elt_g H a h1 ha.2, h1⟩

/-- the canonical index `x` stands for the ring element `v`: what every operation is shown to preserve.  The first argument is
    not used by the body: it fixes `q` and `elt`, and lets `ha.add hb` find them. -/
def Rep (_ : ZechHyp F q γ elt) (x : Int) (v : K) : Prop := elt x = v ∧ Canon q x

theorem Rep.of_canon {a : Int} (ha : Canon q a) : Rep H a (elt a) := ⟨rfl, ha⟩

omit H in
theorem Rep.congr {H : ZechHyp F q γ elt} {a : Int} {u v : K} (ha : Rep H a u) (e : u = v) : Rep H a v := e ▸ ha

theorem pl_g (i : Int) (h1 : 1 ≤ i) (h2 : i ≤ q - 1) (h : F.pl i ≠ 0) : H.g (F.pl i) = H.g i + 1 := by
  have hl := H.pl_lo i h1 h2 h
  rw [← g_add_mun H (F.pl i), H.mun_eq, g_nat H _ (by omega), g_nat H i (by omega)]
  exact H.pl_pow i h1 h2 h

theorem pl_g0 (i : Int) (h1 : 1 ≤ i) (h2 : i ≤ q - 1) (h : F.pl i = 0) : H.g i + 1 = 0 := by
  rw [g_nat H i (by omega)]; exact H.pl_zero i h1 h2 h

/-- `wrapPos` brings an exponent of `(-(q-1), q-1]` into the canonical range `[1, q-1]` without changing the power -/
theorem elt_wrapPos (c : Int) (h1 : -(q - 1) < c) (h2 : c ≤ q - 1) :
    elt (wrapPos F.mun c) = H.g c ∧ 1 ≤ wrapPos F.mun c ∧ wrapPos F.mun c ≤ q - 1 := by
  have hm := H.mun_eq
  unfold wrapPos
  split
  · exact ⟨elt_g H c (by omega) h2, by omega, h2⟩
  · refine ⟨?_, by omega, by omega⟩
    rw [elt_g H _ (by omega) (by omega), g_add_mun]

theorem elt_wrapPos2 (c : Int) (h1 : -(2 * (q - 1)) < c) (h2 : c ≤ q - 1) :
    elt (wrapPos F.mun (wrapPos F.mun c)) = H.g c ∧
      1 ≤ wrapPos F.mun (wrapPos F.mun c) ∧ wrapPos F.mun (wrapPos F.mun c) ≤ q - 1 := by
  have hm := H.mun_eq
  have hg : H.g (wrapPos F.mun c) = H.g c := by
    unfold wrapPos; split
    · rfl
    · exact g_add_mun H c
  have hr : -(q - 1) < wrapPos F.mun c ∧ wrapPos F.mun c ≤ q - 1 := by
    unfold wrapPos; split <;> omega
  rw [← hg]
  exact elt_wrapPos H _ hr.1 hr.2

end
end Givaro.Lemmas.GFqZech
