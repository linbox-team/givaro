/-
C11 — the Poly1Dom primitives instantiated with Mathlib's `Polynomial F` over an arbitrary field `F`:
`degree` (−1 for 0), `divmodin` = (`/`, `%`), `maxpyin` = `r − a b`, `gcd` = `EuclideanDomain.gcd`,
`leadcoef`/`divin` = multiplication by the inverse leading coefficient.  `mathlibOps_laws` proves every law the
generic theorems of `RatReconPolyFull.lean` assume: the law structures are inhabited.
-/
import GivaroModel.Lemmas.RatReconPolyFull
import Mathlib.Algebra.Polynomial.FieldDivision
import Mathlib.RingTheory.EuclideanDomain
namespace Givaro.Lemmas.RatRecon
open Givaro.Model.RatRecon Polynomial
open scoped Classical

noncomputable section

variable {F : Type} [Field F]

/-- Givaro's `Degree`: −1 for the zero polynomial -/
def pdeg (a : F[X]) : Int := if a = 0 then -1 else (a.natDegree : Int)

def mathlibOps (F : Type) [Field F] : PolyOps F[X] where
  zero := 0
  one := 1
  deg := pdeg
  divmod := fun a b => (a / b, a % b)
  maxpy := fun r a b => r - a * b
  gcdDeg := fun a b => pdeg (EuclideanDomain.gcd a b)
  lcIsOne := fun d => decide (d.leadingCoeff = 1)
  divLc := fun x d => C (d.leadingCoeff)⁻¹ * x

/-- rewriting with this (right to left) puts a statement about `pdeg` into the form the generic theorems expect -/
theorem mathlibOps_deg (a : F[X]) : (mathlibOps F).deg a = pdeg a := rfl

theorem pdeg_zero : pdeg (0 : F[X]) = -1 := by simp [pdeg]
theorem pdeg_of_ne {a : F[X]} (h : a ≠ 0) : pdeg a = (a.natDegree : Int) := by simp [pdeg, h]
theorem pdeg_ge (a : F[X]) : -1 ≤ pdeg a := by unfold pdeg; split <;> omega

theorem pdeg_eq_of_dvd_dvd (a b : F[X]) (h1 : a ∣ b) (h2 : b ∣ a) : pdeg a = pdeg b := by
  by_cases ha : a = 0
  · have hb : b = 0 := by rw [ha] at h1; exact zero_dvd_iff.mp h1
    rw [ha, hb]
  · have hb : b ≠ 0 := by intro hb; rw [hb] at h2; exact ha (zero_dvd_iff.mp h2)
    rw [pdeg_of_ne ha, pdeg_of_ne hb]
    have := natDegree_le_of_dvd h1 hb
    have := natDegree_le_of_dvd h2 ha
    omega

theorem mathlibOps_lawful (F : Type) [Field F] : LawfulOps (mathlibOps F) where
  zero_eq := rfl
  one_eq := rfl
  deg_one := by simp [mathlibOps, pdeg]
  deg_neg_iff := by
    intro a
    simp only [mathlibOps]
    unfold pdeg; split
    · simp [*]
    · simp only [*, iff_false]; omega
  deg_mul := by
    intro a b ha hb
    simp only [mathlibOps]
    rw [pdeg_of_ne ha, pdeg_of_ne hb, pdeg_of_ne (mul_ne_zero ha hb), natDegree_mul ha hb]; push_cast; ring
  divmod_eq := by
    intro a b _
    simp only [mathlibOps]
    have := EuclideanDomain.div_add_mod a b
    rw [mul_comm] at this; exact this.symm
  maxpy_eq := fun _ _ _ => rfl
  divLc_eq := by
    intro d hd
    have hl : d.leadingCoeff ≠ 0 := leadingCoeff_ne_zero.mpr hd
    exact ⟨C d.leadingCoeff, C (d.leadingCoeff)⁻¹, by rw [← C_mul, mul_inv_cancel₀ hl, C_1], fun _ => rfl⟩
  gcdDeg_unit := by
    intro c ci x y hc
    simp only [mathlibOps]
    have hx : ci * x ∣ x := ⟨c, by rw [mul_comm (ci * x) c, ← mul_assoc, hc, one_mul]⟩
    have hy : ci * y ∣ y := ⟨c, by rw [mul_comm (ci * y) c, ← mul_assoc, hc, one_mul]⟩
    apply pdeg_eq_of_dvd_dvd
    · exact EuclideanDomain.dvd_gcd ((EuclideanDomain.gcd_dvd_left _ _).trans hx)
        ((EuclideanDomain.gcd_dvd_right _ _).trans hy)
    · exact EuclideanDomain.dvd_gcd ((EuclideanDomain.gcd_dvd_left _ _).trans (Dvd.intro_left ci rfl))
        ((EuclideanDomain.gcd_dvd_right _ _).trans (Dvd.intro_left ci rfl))

theorem mathlibOps_laws (F : Type) [Field F] : EuclidLaws (mathlibOps F) where
  base := mathlibOps_lawful F
  deg_ge := pdeg_ge
  deg_add_le := by
    intro a b c ha hb
    simp only [mathlibOps] at ha hb ⊢
    by_cases hab : a + b = 0
    · rw [hab, pdeg_zero]; have := pdeg_ge a; omega
    by_cases ha0 : a = 0
    · rw [ha0, zero_add]; exact hb
    by_cases hb0 : b = 0
    · rw [hb0, add_zero]; exact ha
    rw [pdeg_of_ne hab]
    rw [pdeg_of_ne ha0] at ha; rw [pdeg_of_ne hb0] at hb
    have := natDegree_add_le a b
    omega
  deg_neg := by
    intro a
    simp only [mathlibOps]
    unfold pdeg; simp [natDegree_neg]
  divmod_deg := by
    intro a b hb
    simp only [mathlibOps]
    have h := degree_mod_lt a hb
    rw [pdeg_of_ne hb]
    by_cases h0 : a % b = 0
    · rw [h0, pdeg_zero]; omega
    · rw [pdeg_of_ne h0]
      have := natDegree_lt_natDegree h0 h
      omega
  gcdDeg_iff := by
    intro a b hb
    simp only [mathlibOps]
    have hg : EuclideanDomain.gcd a b ≠ 0 := by
      intro h; exact hb (EuclideanDomain.gcd_eq_zero_iff.mp h).2
    rw [← EuclideanDomain.gcd_isUnit_iff, isUnit_iff_degree_eq_zero, pdeg_of_ne hg, degree_eq_natDegree hg]
    constructor
    · intro h; have : (EuclideanDomain.gcd a b).natDegree = 0 := by omega
      rw [this]; rfl
    · intro h
      have : (EuclideanDomain.gcd a b).natDegree = 0 := by exact_mod_cast h
      omega
  lcIsOne_divLc := by
    intro d hd
    have hl : d.leadingCoeff ≠ 0 := leadingCoeff_ne_zero.mpr hd
    simp only [mathlibOps]
    rw [leadingCoeff_mul, leadingCoeff_C, inv_mul_cancel₀ hl]; simp

end

end Givaro.Lemmas.RatRecon
