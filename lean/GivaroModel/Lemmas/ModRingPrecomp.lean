/-
C03, modular-mulprecomp.inl: the quotient estimates from the precomputed reciprocals are never above and at most one below the
true quotient, so the one conditional subtraction yields the canonical residue, on the domain the file's asserts state
(`bitsizep ≤ hbits − 2` for the `_p` variant, `≤ hbits − 1` for the `_b` variant; `hbits` is half the bits of `Compute_t`).
-/
import GivaroModel.Model.ModRingPrecomp
import GivaroModel.Lemmas.ModRingLemmas
namespace Givaro.Model.ModRing
open Givaro.Spec.ModRing

theorem bitsize_spec (k : ICfg) (p : Int) (hp : 1 ≤ p) :
    1 ≤ k.bitsize p ∧ (2 : Int) ^ (k.bitsize p - 1) ≤ p ∧ p < (2 : Int) ^ (k.bitsize p) := by
  unfold ICfg.bitsize
  rw [if_neg (by omega)]
  have hn : p.toNat ≠ 0 := by omega
  have h1 := Nat.log2_self_le hn
  have h2 := @Nat.lt_log2_self p.toNat
  have hc : ((p.toNat : Nat) : Int) = p := Int.toNat_of_nonneg (by omega)
  refine ⟨by omega, ?_, ?_⟩
  · simp only [Nat.add_sub_cancel]
    rw [← hc]; exact_mod_cast h1
  · rw [← hc]; exact_mod_cast h2

/-- the estimate `q = ⌊u·m / N⌋` of `u·v / p` through the precomputed reciprocal `m = ⌊N·v / p⌋` is never above the
    true quotient and below it by less than `1 + u/N` -/
theorem recip_estimate {u v p N m q : Int} (hu : 0 ≤ u) (hv : 0 ≤ v) (hp : 0 < p) (hN : 0 < N)
    (hm : m = (N * v) / p) (hq : q = (u * m) / N) :
    0 ≤ m ∧ m * p ≤ N * v ∧ 0 ≤ q ∧ q * p ≤ u * v ∧ N * (u * v) < N * ((q + 1) * p) + u * p := by
  subst hq; subst hm
  have hm1 : N * v / p * p ≤ N * v := Int.ediv_mul_le _ (by omega)
  have hm2 : N * v < (N * v / p + 1) * p := Int.lt_ediv_add_one_mul_self _ hp
  have hm0 : 0 ≤ N * v / p := Int.ediv_nonneg (Int.mul_nonneg (by omega) hv) (by omega)
  have hq1 : u * (N * v / p) / N * N ≤ u * (N * v / p) := Int.ediv_mul_le _ (by omega)
  have hq2 : u * (N * v / p) < (u * (N * v / p) / N + 1) * N := Int.lt_ediv_add_one_mul_self _ hN
  have hq0 : 0 ≤ u * (N * v / p) / N := Int.ediv_nonneg (Int.mul_nonneg hu hm0) (by omega)
  generalize u * (N * v / p) / N = q at *
  generalize N * v / p = m at *
  -- `N·(q·p) ≤ (u·m)·p ≤ u·(N·v)`
  have h1 : u * (m * p) ≤ u * (N * v) := Int.mul_le_mul_of_nonneg_left hm1 hu
  have h2 : (q * N) * p ≤ (u * m) * p := Int.mul_le_mul_of_nonneg_right hq1 (by omega)
  have hup : q * p ≤ u * v := Int.le_of_mul_le_mul_left (by linarith only [h1, h2] : N * (q * p) ≤ N * (u * v)) hN
  -- `u·(N·v) < u·(m+1)·p = (u·m)·p + u·p < (q+1)·N·p + u·p`
  have h3 : u * (N * v) ≤ u * ((m + 1) * p) := Int.mul_le_mul_of_nonneg_left (Int.le_of_lt hm2) hu
  have h4 : (u * m) * p < ((q + 1) * N) * p := Int.mul_lt_mul_of_pos_right hq2 hp
  exact ⟨hm0, hm1, hq0, hup, by linarith only [h3, h4]⟩

/-- Barrett with reciprocal `m = ⌊2·H·P2 / p⌋` (`P2 = 2^(n-2)`, `H = 2^h`): for `X ≤ (p−1)²` the estimate
    `⌊⌊X/P2⌋·m / 2H⌋` is `⌊X/p⌋` or one less, and `⌊X/P2⌋·m < H²` -/
theorem barrett_p {p P2 H X : Int} (hP : 1 ≤ P2) (hp0 : 2 * P2 ≤ p) (hp1 : p < 4 * P2) (hH : 16 * P2 ≤ H)
    (hX0 : 0 ≤ X) (hX1 : X ≤ (p - 1) * (p - 1)) :
    let m := (2 * H * P2) / p
    let hi := X / P2
    let qh := (hi * m) / (2 * H)
    0 ≤ X - qh * p ∧ X - qh * p < 2 * p ∧ 0 ≤ hi * m ∧ hi * m < H * H ∧ 0 ≤ qh ∧ 0 ≤ m ∧ m ≤ H ∧ hi < H := by
  intro m hi qh
  have hh1 : hi * P2 ≤ X := Int.ediv_mul_le _ (by omega)
  have hh2 : X < hi * P2 + P2 := by
    have := Int.lt_ediv_add_one_mul_self X (by omega : 0 < P2)
    rwa [Int.add_mul, Int.one_mul] at this
  have hh0 : 0 ≤ hi := Int.ediv_nonneg hX0 (by omega)
  obtain ⟨hm0, hm1, hq0, hup, hlow⟩ :=
    recip_estimate (N := 2 * H) (m := m) (q := qh) hh0 (by omega : 0 ≤ P2) (by omega : 0 < p) (by omega) rfl rfl
  generalize m = m at *
  generalize hi = hi at *
  generalize qh = qh at *
  -- `hi < H` because `X < p² < 16·P2² ≤ H·P2`
  have hhiH : hi < H := by
    have h1 : (p - 1) * (p - 1) < 4 * P2 * (4 * P2) := mul_lt_mul'' (by omega) (by omega) (by omega) (by omega)
    have h2 : 16 * P2 * P2 ≤ H * P2 := Int.mul_le_mul_of_nonneg_right hH (by omega)
    exact Int.lt_of_mul_lt_mul_right (by linarith only [h1, h2, hh1, hX1] : hi * P2 < H * P2) (by omega)
  -- `m ≤ H` because `m·p ≤ 2·H·P2 ≤ H·p`
  have hmH : m ≤ H := by
    have h1 : H * (2 * P2) ≤ H * p := Int.mul_le_mul_of_nonneg_left hp0 (by omega)
    exact Int.le_of_mul_le_mul_right (by linarith only [h1, hm1] : m * p ≤ H * p) (by omega)
  refine ⟨by omega, ?_, Int.mul_nonneg hh0 hm0, ?_, hq0, hm0, hmH, hhiH⟩
  · -- the reciprocal loses less than `1/2` (as `hi < H`), the truncation to `hi` less than `P2 ≤ p/2`
    have h1 : hi * p < H * p := Int.mul_lt_mul_of_pos_right hhiH (by omega)
    have h2 : H * (2 * (hi * P2)) < H * (2 * (qh * p) + 3 * p) := by linarith only [hlow, h1]
    have := Int.lt_of_mul_lt_mul_left h2 (by omega)
    omega
  · have h1 : hi * m ≤ hi * H := Int.mul_le_mul_of_nonneg_left hmH hh0
    have h2 : hi * H < H * H := Int.mul_lt_mul_of_pos_right hhiH (by omega)
    omega

/-- Shoup with reciprocal `invb = ⌊H·b / p⌋` of the fixed operand: `⌊a·invb / H⌋` is `⌊a·b/p⌋` or one less -/
theorem barrett_b {p H a b : Int} (hp : 2 ≤ p) (hH : p ≤ H) (ha : 0 ≤ a ∧ a < p) (hb : 0 ≤ b ∧ b < p) :
    let invb := (H * b) / p
    let q := (a * invb) / H
    0 ≤ a * b - q * p ∧ a * b - q * p < 2 * p ∧ 0 ≤ invb ∧ invb < H ∧ 0 ≤ a * invb ∧ a * invb < H * H ∧ 0 ≤ q ∧ q < p := by
  intro invb q
  obtain ⟨hi0, hi1, hq0, hup, hlow⟩ :=
    recip_estimate (N := H) (m := invb) (q := q) ha.1 hb.1 (by omega : 0 < p) (by omega) rfl rfl
  generalize invb = invb at *
  generalize q = q at *
  have hinvH : invb < H := by
    have h1 : H * b < H * p := Int.mul_lt_mul_of_pos_left hb.2 (by omega)
    exact Int.lt_of_mul_lt_mul_right (by omega : invb * p < H * p) (by omega)
  have hab : a * b < p * p := mul_lt_mul'' ha.2 hb.2 ha.1 hb.1
  refine ⟨by omega, ?_, hi0, hinvH, Int.mul_nonneg ha.1 hi0, mul_lt_mul'' (by omega) hinvH ha.1 hi0, hq0, ?_⟩
  · -- the reciprocal loses less than `a/H < 1`
    have h1 : a * p < H * p := Int.mul_lt_mul_of_pos_right (by omega) (by omega)
    have h2 : H * (a * b) < H * (q * p + 2 * p) := by linarith only [hlow, h1]
    have := Int.lt_of_mul_lt_mul_left h2 (by omega)
    omega
  · exact Int.lt_of_mul_lt_mul_right (by omega : q * p < p * p) (by omega)

/-- with `H = 2^hbits`: stores below `H²` (`Compute_t`) resp. `H` (`Residu_t`) change nothing; differences are exact modulo `Residu_t` -/
structure POk (k : ICfg) (H : Int) : Prop where
  toC_id : ∀ x, 0 ≤ x → x < H * H → k.toC x = x
  arC_id : ∀ x, 0 ≤ x → x < H * H → k.arC x = x
  toR_id : ∀ x, 0 ≤ x → x < H → k.toR x = x
  arU_id : ∀ x, 0 ≤ x → x < H → k.arU x = x
  toE_id : ∀ x, 0 ≤ x → 2 * x < H → k.toE x = x
  subR : ∀ X Y, 0 ≤ X - Y → X - Y < H → k.toR (k.arU (k.toR X - k.arU Y)) = X - Y
  subU : ∀ X Y, 0 ≤ X - Y → X - Y < H → k.toR (k.arU (k.arU X - k.arU Y)) = X - Y

theorem pok_of_width {k : ICfg} (hs : 1 ≤ k.s) (hc : k.c / 2 ≤ k.s) : POk k ((2 : Int) ^ k.hbits) := by
  unfold ICfg.hbits
  have hHH : (2 : Int) ^ (k.c / 2) * (2 : Int) ^ (k.c / 2) ≤ (2 : Int) ^ k.c := by
    rw [← pow_add]; exact two_pow_mono (by omega)
  have hHs : (2 : Int) ^ (k.c / 2) ≤ (2 : Int) ^ k.s := two_pow_mono hc
  have hs2 := two_pow_pred hs
  have hsub : ∀ Z, 0 ≤ Z → Z < (2 : Int) ^ (k.c / 2) → wrapUw k.s Z = Z := fun Z h0 h1 => wrapUw_id h0 (by omega)
  refine ⟨fun x h0 h1 => ICfg.toC_id h0 (by omega), fun x h0 h1 => ICfg.arC_id h0 (by omega),
    fun x h0 h1 => ICfg.toR_id h0 (by omega), fun x h0 h1 => ICfg.arU_id h0 (by omega), ?_, ?_, ?_⟩
  · intro x h0 h1
    exact ICfg.toE_nn hs h0 (by unfold ICfg.eTop; split <;> omega)
  · intro X Y h0 h1
    unfold ICfg.toR
    rw [k.wrapUw_arU, wrapUw_sub_congr (wrapUw_wrapUw k.s X) (k.wrapUw_arU Y)]
    exact hsub _ h0 h1
  · intro X Y h0 h1
    unfold ICfg.toR
    rw [k.wrapUw_arU, wrapUw_sub_congr (k.wrapUw_arU X) (k.wrapUw_arU Y)]
    exact hsub _ h0 h1

theorem pok_of_valid (k : ICfg) (hv : k.valid) : POk k ((2 : Int) ^ k.hbits) := by
  obtain ⟨hs, hc⟩ := hv.width
  exact pok_of_width (by omega) (by omega)

theorem POk.toC_le {k : ICfg} {H : Int} (ok : POk k H) (hH : 2 ≤ H) (x : Int) (h0 : 0 ≤ x) (h1 : x ≤ H) : k.toC x = x := by
  have : H * 2 ≤ H * H := Int.mul_le_mul_of_nonneg_left hH (by omega)
  exact ok.toC_id x h0 (by omega)

/-- the one conditional subtraction at the end of both routines -/
theorem final_correct {k : ICfg} {H p X qp : Int} (ok : POk k H) (hpH : 2 * p ≤ H)
    (h0 : 0 ≤ X - qp) (h1 : X - qp < 2 * p) (q : Int) (hq : qp = q * p) :
    k.toE (k.toR (k.arU ((X - qp) - (if X - qp ≥ p then p else 0)))) = X % p := by
  split
  · next hge =>
    rw [ok.arU_id _ (by omega) (by omega), ok.toR_id _ (by omega) (by omega), ok.toE_id _ (by omega) (by omega)]
    exact (emod_unique (by omega) (by omega) (q + 1) (by rw [hq]; ring)).symm
  · next hlt =>
    rw [Int.sub_zero, ok.arU_id _ (by omega) (by omega), ok.toR_id _ (by omega) (by omega), ok.toE_id _ (by omega) (by omega)]
    exact (emod_unique (by omega) (by omega) q (by rw [hq]; ring)).symm

section precomp
variable {k : ICfg} {p a b : Int} {n : Nat}

/-- the powers of two in `precomp_p` / `mul_precomp_p` written in `P2 = 2^(n−2)` and `H = 2^h` -/
theorem pow_facts {n h : Nat} (hn2 : 2 ≤ n) (hnh : n + 2 ≤ h) :
    (2 : Int) ^ (n - 1) = 2 * (2 : Int) ^ (n - 2) ∧ (2 : Int) ^ n = 4 * (2 : Int) ^ (n - 2)
    ∧ (2 : Int) ^ (h + n - 1) = 2 * (2 : Int) ^ h * (2 : Int) ^ (n - 2)
    ∧ (2 : Int) ^ (h + 1) = 2 * (2 : Int) ^ h
    ∧ 16 * (2 : Int) ^ (n - 2) ≤ (2 : Int) ^ h ∧ 1 ≤ (2 : Int) ^ (n - 2) := by
  have e1 : (2 : Int) ^ (n - 1) = (2 : Int) ^ (n - 2) * (2 : Int) ^ 1 := by rw [← pow_add]; congr 1; omega
  have e2 : (2 : Int) ^ n = (2 : Int) ^ (n - 2) * (2 : Int) ^ 2 := by rw [← pow_add]; congr 1; omega
  have e3 : (2 : Int) ^ (h + n - 1) = (2 : Int) ^ (n - 2) * (2 : Int) ^ 1 * (2 : Int) ^ h := by
    rw [← pow_add, ← pow_add]; congr 1; omega
  have h16 : (2 : Int) ^ (n - 2) * (2 : Int) ^ 4 ≤ (2 : Int) ^ h := by
    rw [← pow_add]; exact pow_le_pow_right₀ (by norm_num) (by omega)
  refine ⟨by rw [e1]; ring, by rw [e2]; ring, by rw [e3]; ring, by rw [pow_succ]; ring, by linarith,
    one_le_pow₀ (by norm_num)⟩

theorem mulPrecompP_model (hv : k.valid) (hn2 : 2 ≤ n) (hnh : n + 2 ≤ k.hbits)
    (hp0 : (2 : Int) ^ (n - 1) ≤ p) (hp1 : p < (2 : Int) ^ n) (ha : 0 ≤ a ∧ a < p) (hb : 0 ≤ b ∧ b < p) :
    k.mulPrecompP p n (k.precompP p n) a b = (a * b) % p := by
  obtain ⟨e1, e2, e3, e4, h16, hP⟩ := pow_facts hn2 hnh
  rw [e1] at hp0; rw [e2] at hp1
  have ok := pok_of_valid k hv
  generalize hP2 : (2 : Int) ^ (n - 2) = P2 at hp0 hp1 e3 h16 hP
  generalize hH : (2 : Int) ^ k.hbits = H at ok e3 e4 h16
  have hH2 : 2 ≤ H := by omega
  have hX := mul_lt_sq (by omega : 2 ≤ p) ha hb
  obtain ⟨r0, r2p, him0, himH, qh0, m0, mH, hiH⟩ := barrett_p hP hp0 hp1 h16 hX.1 hX.2
  have hXH : a * b < H * H := mul_lt_mul'' (by omega) (by omega) ha.1 hb.1
  have hPH0 : 0 ≤ 2 * H * P2 := Int.mul_nonneg (by omega) (by omega)
  have hPH1 : 2 * H * P2 < H * H := by
    rw [Int.mul_assoc, Int.mul_left_comm]; exact Int.mul_lt_mul_of_pos_left (by omega) (by omega)
  have hinv : k.precompP p n = (2 * H * P2) / p := by
    unfold ICfg.precompP
    rw [e3, ok.toC_id (2 * H * P2) hPH0 hPH1, ok.toC_le hH2 p (by omega) (by omega),
      Int.tdiv_eq_ediv_of_nonneg hPH0]
    exact ok.toC_le hH2 _ m0 mH
  rw [hinv]
  unfold ICfg.mulPrecompP
  simp only
  rw [hP2, e4]
  rw [ok.toR_id a ha.1 (by omega), ok.toR_id b hb.1 (by omega), ok.toR_id p (by omega) (by omega),
    ok.toC_le hH2 a ha.1 (by omega), ok.toC_le hH2 b hb.1 (by omega), ok.arC_id (a * b) hX.1 hXH]
  have hhi0 : 0 ≤ a * b / P2 := Int.ediv_nonneg hX.1 (by omega)
  rw [ok.toC_le hH2 (a * b / P2) hhi0 (by omega), ok.arC_id _ him0 himH]
  generalize a * b / P2 * (2 * H * P2 / p) / (2 * H) = qh at *
  have hqp : qh < H := by
    have h1 : a * b < p * p := mul_lt_mul'' ha.2 hb.2 ha.1 hb.1
    have := Int.lt_of_mul_lt_mul_right (by omega : qh * p < p * p) (by omega)
    omega
  rw [ok.toR_id _ qh0 hqp, ok.subR (a * b) _ r0 (by omega)]
  exact final_correct ok (by omega) r0 r2p qh rfl

theorem mulPrecompB_model (hv : k.valid) (hp : 2 ≤ p) (hpH : 2 * p ≤ (2 : Int) ^ k.hbits)
    (ha : 0 ≤ a ∧ a < p) (hb : 0 ≤ b ∧ b < p) :
    k.mulPrecompB p (k.precompB p b) a b = (a * b) % p
      ∧ (0 ≤ k.mulPrecompBNoRed p (k.precompB p b) a b ∧ k.mulPrecompBNoRed p (k.precompB p b) a b < 2 * p
          ∧ p ∣ k.mulPrecompBNoRed p (k.precompB p b) a b - a * b) := by
  have ok := pok_of_valid k hv
  generalize hH : (2 : Int) ^ k.hbits = H at *
  have hH2 : 2 ≤ H := by omega
  obtain ⟨r0, r2p, i0, iH, ai0, aiH, q0, qp⟩ := barrett_b hp (by omega : p ≤ H) ha hb
  have hHb0 : 0 ≤ H * b := Int.mul_nonneg (by omega) hb.1
  have hHb1 : H * b < H * H := Int.mul_lt_mul_of_pos_left (by omega) (by omega)
  have hinv : k.precompB p b = (H * b) / p := by
    unfold ICfg.precompB
    rw [hH, ok.toR_id b hb.1 (by omega), ok.toC_le hH2 H (by omega) (Int.le_refl H),
      ok.toC_le hH2 b hb.1 (by omega), ok.arC_id (H * b) hHb0 hHb1,
      ok.toC_le hH2 p (by omega) (by omega), Int.tdiv_eq_ediv_of_nonneg hHb0]
    exact ok.toC_le hH2 _ i0 (by omega)
  have hnr : k.mulPrecompBNoRed p ((H * b) / p) a b = a * b - (a * ((H * b) / p)) / H * p := by
    unfold ICfg.mulPrecompBNoRed
    simp only
    rw [hH, ok.toC_le hH2 a ha.1 (by omega), ok.arC_id _ ai0 aiH, ok.toR_id _ q0 (by omega),
      ok.toR_id a ha.1 (by omega), ok.toR_id b hb.1 (by omega), ok.toR_id p (by omega) (by omega)]
    exact ok.subU (a * b) _ r0 (by omega)
  rw [hinv]
  refine ⟨?_, ?_⟩
  · unfold ICfg.mulPrecompB
    simp only
    rw [hnr, ok.toR_id p (by omega) (by omega)]
    generalize (a * ((H * b) / p)) / H = q at *
    exact final_correct ok (by omega) r0 r2p q rfl
  · rw [hnr]
    refine ⟨r0, r2p, ⟨-((a * ((H * b) / p)) / H), by ring⟩⟩

end precomp
end Givaro.Model.ModRing
