/-
C19 — decimal digits; a decimal numeral followed by text that does not continue it (`Numeral`, `Numeral.scan`); GMP's reader on a
numeral.  The printed form of an integer is a numeral (`numeral_showInt`): the integer readers meet the printer only there.
-/
import GivaroModel.Model.Text
import GivaroModel.Spec.TextSpec
namespace Givaro.Lemmas.Text
open Givaro.Model.Text Givaro.Spec.Text

theorem digitChar_ok : ∀ d, d < 10 → (isDigit (digitChar d) = true ∧ digitVal (digitChar d) = d) := by decide

theorem isDigit_facts (c : Char) (h : isDigit c = true) :
    isSpace c = false ∧ c ≠ '-' ∧ c ≠ '+' ∧ c ≠ '/' ∧ c ≠ ' ' := by
  have hc : 48 ≤ c.toNat ∧ c.toNat ≤ 57 := by simpa [isDigit] using h
  refine ⟨?_, ?_, ?_, ?_, ?_⟩
  · simp only [isSpace, Bool.or_eq_false_iff, decide_eq_false_iff_not, Bool.and_eq_false_imp, decide_eq_true_eq]
    omega
  all_goals (intro e; subst e; revert hc; decide)

/-- value denoted by a digit string, continuing from `v` -/
def valOf (v : Nat) (l : List Char) : Nat := l.foldl (fun acc c => acc * 10 + digitVal c) v

def AllDigits (l : List Char) : Prop := ∀ c ∈ l, isDigit c = true

theorem AllDigits.head {d : Char} {ds : List Char} (h : AllDigits (d :: ds)) : isDigit d = true := h d (by simp)

theorem AllDigits.tail {d : Char} {ds : List Char} (h : AllDigits (d :: ds)) : AllDigits ds := fun x hx => h x (by simp [hx])

theorem digitsValue_eq (ds : List Char) : digitsValue ds = valOf 0 ds := rfl

theorem valOf_append (v : Nat) (a b : List Char) : valOf v (a ++ b) = valOf (valOf v a) b := by
  simp [valOf, List.foldl_append]

theorem emod_of_neg {x p : Int} (hlo : -p ≤ x) (hneg : x < 0) : x % p = x + p := by
  rw [← Int.add_emod_right, Int.emod_eq_of_lt (by omega) (by omega)]

/-! ### decimal digits -/

theorem decDigitsF_fuel : ∀ f1 f2 n, n < f1 → n < f2 → decDigitsF f1 n = decDigitsF f2 n := by
  intro f1
  induction f1 with
  | zero => intro f2 n h; omega
  | succ f1 ih =>
    intro f2 n h1 h2
    cases f2 with
    | zero => omega
    | succ f2 =>
      simp only [decDigitsF]
      split
      · rfl
      · rw [ih f2 (n / 10) (by omega) (by omega)]

theorem decDigits_lt (n : Nat) (h : n < 10) : decDigits n = [digitChar n] := by
  simp [decDigits, decDigitsF, h]

theorem decDigits_ge (n : Nat) (h : 10 ≤ n) : decDigits n = decDigits (n / 10) ++ [digitChar (n % 10)] := by
  have : ¬ n < 10 := by omega
  unfold decDigits
  rw [decDigitsF, if_neg this, decDigitsF_fuel n (n / 10 + 1) (n / 10) (by omega) (by omega)]

theorem decDigits_spec (n : Nat) : decDigits n ≠ [] ∧ AllDigits (decDigits n) ∧ valOf 0 (decDigits n) = n := by
  induction n using Nat.strongRecOn with
  | ind n ih =>
    by_cases h : n < 10
    · rw [decDigits_lt n h]
      have := digitChar_ok n h
      refine ⟨by simp, ?_, ?_⟩
      · intro c hc; simp at hc; subst hc; exact this.1
      · simp [valOf, this.2]
    · have hge : 10 ≤ n := by omega
      rw [decDigits_ge n hge]
      have ih' := ih (n / 10) (by omega)
      have hd := digitChar_ok (n % 10) (by omega)
      refine ⟨by simp, ?_, ?_⟩
      · intro c hc
        rcases List.mem_append.mp hc with hc | hc
        · exact ih'.2.1 c hc
        · simp at hc; subst hc; exact hd.1
      · rw [valOf_append, ih'.2.2]
        simp only [valOf, List.foldl_cons, List.foldl_nil, hd.2]
        omega

theorem decDigits_head (n : Nat) (h : 0 < n) : (decDigits n).head? ≠ some '0' := by
  induction n using Nat.strongRecOn with
  | ind n ih =>
    by_cases h10 : n < 10
    · rw [decDigits_lt n h10]
      have : ∀ d, d < 10 → 0 < d → digitChar d ≠ '0' := by decide
      simpa using this n h10 h
    · rw [decDigits_ge n (by omega)]
      have ih' := ih (n / 10) (by omega) (by omega)
      have hne := (decDigits_spec (n / 10)).1
      cases hd : decDigits (n / 10) with
      | nil => exact absurd hd hne
      | cons a l => rw [hd] at ih'; simpa using ih'

/-! ### numerals -/

/-- `t` is an optional `-` and a non-empty digit string denoting `n`, followed by `rest` which does not continue it (leading zeros allowed) -/
inductive Numeral : List Char → Int → List Char → Prop
  | pos (d0 : Char) (ds rest : List Char) : AllDigits (d0 :: ds) → startsWithDigit rest = false →
      Numeral (d0 :: (ds ++ rest)) (valOf 0 (d0 :: ds) : Nat) rest
  | neg (d0 : Char) (ds rest : List Char) : AllDigits (d0 :: ds) → startsWithDigit rest = false →
      Numeral ('-' :: d0 :: (ds ++ rest)) (-(valOf 0 (d0 :: ds) : Nat)) rest

theorem numeral_showInt (n : Int) (rest : List Char) (h : startsWithDigit rest = false) :
    Numeral (showInt n ++ rest) n rest := by
  obtain ⟨hne, hall, hval⟩ := decDigits_spec n.natAbs
  cases hd : decDigits n.natAbs with
  | nil => exact absurd hd hne
  | cons d0 ds =>
    rw [hd] at hall hval
    by_cases hn : n < 0
    · have e : n = -(valOf 0 (d0 :: ds) : Nat) := by omega
      have : showInt n ++ rest = '-' :: d0 :: (ds ++ rest) := by simp [showInt, hn, hd]
      rw [this, e]
      exact .neg d0 ds rest hall h
    · have e : n = (valOf 0 (d0 :: ds) : Nat) := by omega
      have : showInt n ++ rest = d0 :: (ds ++ rest) := by simp [showInt, hn, hd]
      rw [this, e]
      exact .pos d0 ds rest hall h

theorem Numeral.head {t : List Char} {n : Int} {rest : List Char} (h : Numeral t n rest) :
    ∃ c l, t = c :: l ∧ c ≠ ' ' ∧ c ≠ '/' := by
  cases h with
  | pos d0 ds rest hds _ =>
    obtain ⟨_, _, _, hsl, hbl⟩ := isDigit_facts d0 hds.head
    exact ⟨d0, ds ++ rest, rfl, hbl, hsl⟩
  | neg d0 ds rest _ _ => exact ⟨'-', d0 :: (ds ++ rest), rfl, by decide, by decide⟩

theorem takeWhile_digits (ds rest : List Char) (hds : AllDigits ds) (h : startsWithDigit rest = false) :
    (ds ++ rest).takeWhile isDigit = ds ∧ (ds ++ rest).dropWhile isDigit = rest := by
  induction ds with
  | nil =>
    cases rest with
    | nil => simp
    | cons r rs =>
      have : isDigit r = false := by simpa [startsWithDigit] using h
      simp [this]
  | cons d ds ih =>
    simp [hds.head, ih hds.tail]

/-- a numeral as the scanning readers take it apart: sign flag, digit run, rest (propositional equalities, for `simp only`).
    Beside what every reader needs: `isSpace` is for the sentry and `mpz_set_str`, `(c = '+') = False` for the two libstdc++ readers,
    `AllDigits` for `mpz_set_str`, `takeWhile`/`dropWhile` for the others. -/
theorem Numeral.scan {t : List Char} {n : Int} {rest : List Char} (h : Numeral t n rest) :
    ∃ (neg : Bool) (c : Char) (l ds : List Char), t = c :: l ∧ isSpace c = false ∧ (c = '-') = (neg = true) ∧ (c = '+') = False ∧
      (if neg = true then l else c :: l) = ds ++ rest ∧ (∃ d0 ds', ds = d0 :: ds') ∧ AllDigits ds ∧
      (ds ++ rest).takeWhile isDigit = ds ∧ (ds ++ rest).dropWhile isDigit = rest ∧
      n = if neg = true then -(valOf 0 ds : Int) else valOf 0 ds := by
  cases h with
  | neg d0 ds rest hds hrest =>
    have htw := takeWhile_digits (d0 :: ds) rest hds hrest
    exact ⟨true, '-', _, d0 :: ds, rfl, by decide, by simp, by simp, rfl, ⟨d0, ds, rfl⟩, hds, htw.1, htw.2, by simp⟩
  | pos d0 ds rest hds hrest =>
    have htw := takeWhile_digits (d0 :: ds) rest hds hrest
    obtain ⟨hsp, hm, hp, _, _⟩ := isDigit_facts d0 hds.head
    exact ⟨false, d0, _, d0 :: ds, rfl, hsp, by simp [hm], by simp [hp], rfl, ⟨d0, ds, rfl⟩, hds, htw.1, htw.2, by simp⟩

/-! ### the loops of GMP's reader -/

theorem skipWsG_nonspace (c : Char) (buf : List Char) (h : isSpace c = false) :
    skipWsG c buf = (c, ⟨buf, false, false⟩) := by
  cases buf <;> simp [skipWsG, h]

theorem digitsG_nondigit (c : Char) (ok : Bool) (v : Nat) (buf : List Char) (h : isDigit c = false) :
    digitsG c ok v buf = (ok, v, c, ⟨buf, false, false⟩) := by
  cases buf <;> simp [digitsG, h]

/-- the stream state after a successful read that stopped in front of `rest` -/
def after (rest : List Char) : IStream := ⟨rest, false, rest.isEmpty⟩

/-- the digit loop of `gmpRead` and the repositioning after it: the stopping character is put back, or at the end of the stream eofbit alone stays set -/
theorem digitsG_run (ds rest : List Char) (hds : AllDigits ds) (hrest : startsWithDigit rest = false) :
    ∀ (c : Char) (ok : Bool) (v : Nat), isDigit c = true →
      ∃ c3 s4, digitsG c ok v (ds ++ rest) = (true, valOf v (c :: ds), c3, s4) ∧
        (if s4.good then putback c3 s4 else if s4.eof then { s4 with fail := false } else s4) = after rest := by
  induction ds with
  | nil =>
    intro c ok v hc
    cases rest with
    | nil => exact ⟨c, ⟨[], true, true⟩, by simp [digitsG, hc, valOf], rfl⟩
    | cons r rs =>
      have hr : isDigit r = false := by simpa [startsWithDigit] using hrest
      exact ⟨r, ⟨rs, false, false⟩, by simp [digitsG, hc, digitsG_nondigit r true _ rs hr, valOf], rfl⟩
  | cons d ds ih =>
    intro c ok v hc
    obtain ⟨c3, s4, h3, h5⟩ := ih hds.tail d true (v * 10 + digitVal c) hds.head
    exact ⟨c3, s4, by simp only [List.cons_append, digitsG, hc, ↓reduceIte]; rw [h3]; simp [valOf], h5⟩

theorem gmpRead_numeral {t : List Char} {n : Int} {rest : List Char} (h : Numeral t n rest) :
    gmpRead (IStream.ofList t) = (some n, after rest) := by
  cases h with
  | pos d0 ds rest hds hrest =>
    obtain ⟨hsp, hm, hp, _, _⟩ := isDigit_facts d0 hds.head
    obtain ⟨c3, s4, h3, h5⟩ := digitsG_run ds rest hds.tail hrest d0 false 0 hds.head
    simp [gmpRead, getc, IStream.ofList, IStream.good, skipWs, skipWsG_nonspace _ _ hsp, hm, hp, digits, h3]
    simpa [IStream.good] using h5
  | neg d0 ds rest hds hrest =>
    have hsm : isSpace '-' = false := by decide
    obtain ⟨c3, s4, h3, h5⟩ := digitsG_run ds rest hds.tail hrest d0 false 0 hds.head
    simp [gmpRead, getc, IStream.ofList, IStream.good, skipWs, skipWsG_nonspace _ _ hsm, digits, h3]
    simpa [IStream.good] using h5

end Givaro.Lemmas.Text
