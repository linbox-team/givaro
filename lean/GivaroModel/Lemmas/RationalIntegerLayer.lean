/-
C10 — the `Integer` layer used by the Rational model is the translated gmp++ code (the translation tie for that layer: regenerated body = what the hand model writes).

Model/Rational.lean writes the `Integer` operations that givrat*.C call as plain `Int` operations.  This file
proves, against the bodies regenerated from /repo by translate/gen_integer.py (`Generated/IntegerOps.lean`) and
their per-overload theorems (`Generated/IntegerThms*.lean`, C01/C02), that each of them is what the translated
function returns; and that the framework's model of `mpz_cmpabs` (whose magnitude is opaque) meets `CmpAbsOK`.
Not linked to the model in this file: `Integer::operator<<`, unary minus, `operator=`.
-/
import GivaroModel.Generated.IntegerThms
import GivaroModel.Lemmas.RationalLemmas
namespace Givaro.Lemmas.Rational
open Givaro Givaro.Model.Rational

/-! `gcdT … mulinT` are stated in the direction in which the body lemmas below rewrite (translated function = model operation). -/

/-- `gcd(const Integer&, const Integer&)` (gmp++_int_gcd.C) -/
theorem gcdT (a b : Int) : (Gen.gcd_Zc_Zc a b).ret = igcd a b := by rw [Gen.gcd_Zc_Zc_exact]; rfl

/-- `Integer::operator/(const Integer&) const` and `operator/=(const Integer&)` (gmp++_int_div.C) -/
theorem divT (a b : Int) (hb : b ≠ 0) : (Gen.Integer_op_div_Zc_const a b).ret = idiv a b := by
  rw [Gen.Integer_op_div_Zc_const_exact a b hb]; rfl
theorem divinT (a b : Int) (hb : b ≠ 0) : (Gen.Integer_op_divin_Zc a b).ret = idiv a b := by
  rw [Gen.Integer_op_divin_Zc_exact a b hb]; rfl

/-- `Integer::operator+ - *` and `operator*=` -/
theorem addT (a b : Int) : (Gen.Integer_op_add_Zc_const a b).ret = a + b := by rw [Gen.Integer_op_add_Zc_const_exact]; rfl
theorem subT (a b : Int) : (Gen.Integer_op_sub_Zc_const a b).ret = a - b := by rw [Gen.Integer_op_sub_Zc_const_exact]; rfl
theorem mulT (a b : Int) : (Gen.Integer_op_mul_Zc_const a b).ret = a * b := by rw [Gen.Integer_op_mul_Zc_const_exact]; rfl
theorem mulinT (a b : Int) : (Gen.Integer_op_mulin_Zc a b).ret = a * b := by rw [Gen.Integer_op_mulin_Zc_exact]; rfl

theorem isign_translated (a : Int) : isign a = (Gen.sign_Zc a).ret := by
  rw [Gen.sign_Zc_exact]; rfl

/-- `Integer::floor(n,d)`, `Integer::ceil(n,d)` (value-returning statics used by `floor`/`ceil` of a Rational) -/
theorem floor_ceil_translated (a : QRep) (hd : a.den ≠ 0) :
    floor a = (Gen.Integer_floor_Zc_Zc a.num a.den).ret ∧ ceil a = (Gen.Integer_ceil_Zc_Zc a.num a.den).ret := by
  rw [Gen.Integer_floor_Zc_Zc_exact _ _ hd, Gen.Integer_ceil_Zc_Zc_exact _ _ hd]; exact ⟨rfl, rfl⟩

theorem iabs_translated (a : Int) : iabs a = (Gen.abs_Zc a).ret := by
  rw [Gen.abs_Zc_exact]; rfl

/-- `pow(const Integer&, int64_t)` / `pow(const Integer&, uint64_t)`: the translated bodies, with `mpz_pow_ui b e = b ^ e` -/
theorem ipow_translated (n l : Int) :
    ipowS64 n l = (Gen.pow_Zc_s64 n l).ret ∧ ipowU n l = (Gen.pow_Zc_u64 n l).ret := by
  unfold ipowS64 ipowU Gen.pow_Zc_s64 Gen.pow_Zc_u64 mpz_pow_ui
  simp only [ipow_eq]
  refine ⟨by trivial, ?_⟩
  split <;> rfl

/-- `absCompare(const Integer&, const Integer&)` is `mpz_cmpabs`, and the framework's GMP model of it — sign specified,
    magnitude opaque (`cmpMag`) — is an admissible comparison in the sense of the order theorems -/
theorem cmpabs_translated : (∀ a b, (Gen.absCompare_Zc_Zc a b).ret = mpz_cmpabs a b) ∧ CmpAbsOK mpz_cmpabs :=
  ⟨fun _ _ => rfl, fun _ _ => ⟨cmp3_lt0 _ _, cmp3_eq0 _ _⟩⟩

/-- `Integer::divmod(q, r, a, b)` on the operands `round` passes (`|num| ≥ 0`, `den > 0`) -/
theorem idivmod_translated (a b q r : Int) (ha : 0 ≤ a) (hb : 0 < b) :
    (Gen.Integer_divmod_Z_Z_Zc_Zc q r a b).outs = [(idivmod a b).1, (idivmod a b).2] := by
  rw [Gen.Integer_divmod_Z_Z_Zc_Zc_exact q r a b (by omega)]
  unfold Gen.Integer_divmod_Z_Z_Zc_Zc_spec Spec.edivQ Spec.emodR idivmod
  rw [Int.tdiv_eq_ediv_of_nonneg ha, Int.tmod_eq_emod_of_nonneg ha]
  have : ¬ a % b < 0 := by have := Int.emod_nonneg a (by omega : b ≠ 0); omega
  simp [this]

/-! ### whole straight-line bodies as compositions of the translated functions

The bodies are rewritten with `gcdT … mulinT` above and `isOneT`.  `reduceT`, `addGeneralT`, `mulGeneralT`, `mulinGeneralT` are the C++ bodies
written with the generated gmp++ definitions; a change of the gmp++ layer or of the model re-checks the equalities next to them. -/

theorem isOneT (t : Int) : (Gen.isOne_Zc t).ret ≠ 0 ↔ t = 1 := by
  have h := Gen.isOne_Zc_exact t
  unfold Gen.isOne_Zc_chk Spec.b2i at h
  simp only [decide_eq_true_eq] at h
  obtain ⟨_, h2, _⟩ := h
  by_cases h1 : t = 1 <;> by_cases h3 : (Gen.isOne_Zc t).ret = 0 <;> simp_all

theorem igcd_ne_zero_left {a b : Int} (h : a ≠ 0) : igcd a b ≠ 0 := by
  unfold igcd; intro h0
  have : Int.gcd a b = 0 := by exact_mod_cast h0
  rw [Int.gcd_eq_zero_iff] at this; exact h this.1
theorem igcd_ne_zero_right {a b : Int} (h : b ≠ 0) : igcd a b ≠ 0 := by
  unfold igcd; intro h0
  have : Int.gcd a b = 0 := by exact_mod_cast h0
  rw [Int.gcd_eq_zero_iff] at this; exact h this.2

/-- `Rational::reduce()`: `t = gcd(num, den); if (!isOne(t)) { num /= t; den /= t; }` -/
def reduceT (r : QRep) : QRep :=
  let t := (Gen.gcd_Zc_Zc r.num r.den).ret
  if (Gen.isOne_Zc t).ret = 0 then ⟨(Gen.Integer_op_divin_Zc r.num t).ret, (Gen.Integer_op_divin_Zc r.den t).ret⟩ else r

theorem reduce_body_translated (r : QRep) (h : r.den ≠ 0) : reduce r = reduceT r := by
  unfold reduce reduceT
  simp only [gcdT]
  have hg := igcd_ne_zero_right (a := r.num) h
  by_cases h1 : igcd r.num r.den = 1
  · have : ¬ (Gen.isOne_Zc (igcd r.num r.den)).ret = 0 := (isOneT _).mpr h1
    rw [if_neg this, if_neg (by simpa using h1)]
  · have : (Gen.isOne_Zc (igcd r.num r.den)).ret = 0 := by
      by_contra hh; exact h1 ((isOneT _).mp hh)
    rw [if_pos this, if_pos h1, divinT _ _ hg, divinT _ _ hg]

/-- the general branch of `operator+`: `d1 = gcd(den, r.den); t = num*(r.den/d1) + r.num*(den/d1); d2 = gcd(t, d1);
    Rational(t/d2, (den/d1)*(r.den/d2), 0)` -/
def addGeneralT (a r : QRep) : QRep :=
  let d1 := (Gen.gcd_Zc_Zc a.den r.den).ret
  let t := (Gen.Integer_op_add_Zc_const
              (Gen.Integer_op_mul_Zc_const a.num (Gen.Integer_op_div_Zc_const r.den d1).ret).ret
              (Gen.Integer_op_mul_Zc_const r.num (Gen.Integer_op_div_Zc_const a.den d1).ret).ret).ret
  let d2 := (Gen.gcd_Zc_Zc t d1).ret
  ⟨(Gen.Integer_op_div_Zc_const t d2).ret,
   (Gen.Integer_op_mul_Zc_const (Gen.Integer_op_div_Zc_const a.den d1).ret (Gen.Integer_op_div_Zc_const r.den d2).ret).ret⟩

theorem add_general_translated (a r : QRep) (ha : a.den ≠ 0)
    (h1 : r.num ≠ 0) (h2 : a.num ≠ 0) (h3 : ¬ (a.den = 1 ∧ r.den = 1)) (h4 : igcd a.den r.den ≠ 1) :
    add true a r = mk3 (addGeneralT a r).num (addGeneralT a r).den 0 := by
  have hd1 := igcd_ne_zero_left (b := r.den) ha
  unfold add addGeneralT
  simp only [isZero, isInteger, beq_iff_eq, Bool.and_eq_true, h1, h2, h3, h4, ↓reduceIte, Bool.not_true, Bool.false_eq_true,
    gcdT, mulT, addT, divT _ _ hd1]
  have hd2 := igcd_ne_zero_right (a := a.num * idiv r.den (igcd a.den r.den) + r.num * idiv a.den (igcd a.den r.den)) hd1
  rw [divT _ _ hd2, divT _ _ hd2]

/-- the general branch of `operator*`: `d1 = gcd(num, r.den); d2 = gcd(den, r.num);
    Rational((num/d1)*(r.num/d2), (den/d2)*(r.den/d1), 0)` -/
def mulGeneralT (a r : QRep) : QRep :=
  let d1 := (Gen.gcd_Zc_Zc a.num r.den).ret
  let d2 := (Gen.gcd_Zc_Zc a.den r.num).ret
  ⟨(Gen.Integer_op_mul_Zc_const (Gen.Integer_op_div_Zc_const a.num d1).ret (Gen.Integer_op_div_Zc_const r.num d2).ret).ret,
   (Gen.Integer_op_mul_Zc_const (Gen.Integer_op_div_Zc_const a.den d2).ret (Gen.Integer_op_div_Zc_const r.den d1).ret).ret⟩

theorem mul_general_translated (a r : QRep) (ha : a.den ≠ 0) (hr : r.den ≠ 0) :
    mulGeneralT a r = ⟨idiv a.num (igcd a.num r.den) * idiv r.num (igcd a.den r.num),
                       idiv a.den (igcd a.den r.num) * idiv r.den (igcd a.num r.den)⟩ := by
  unfold mulGeneralT
  simp only [gcdT, mulT, divT _ _ (igcd_ne_zero_right (a := a.num) hr), divT _ _ (igcd_ne_zero_left (b := r.num) ha)]

/-- the in-place general branch of `operator*=`: `num /= d1; num *= (r.num/d2); den /= d2; den *= (r.den/d1)` -/
def mulinGeneralT (a r : QRep) : QRep :=
  let d1 := (Gen.gcd_Zc_Zc a.num r.den).ret
  let d2 := (Gen.gcd_Zc_Zc a.den r.num).ret
  ⟨(Gen.Integer_op_mulin_Zc (Gen.Integer_op_divin_Zc a.num d1).ret (Gen.Integer_op_div_Zc_const r.num d2).ret).ret,
   (Gen.Integer_op_mulin_Zc (Gen.Integer_op_divin_Zc a.den d2).ret (Gen.Integer_op_div_Zc_const r.den d1).ret).ret⟩

theorem mulin_general_translated (a r : QRep) (ha : a.den ≠ 0) (hr : r.den ≠ 0) : mulinGeneralT a r = mulGeneralT a r := by
  unfold mulinGeneralT mulGeneralT
  simp only [gcdT, mulT, mulinT, divT _ _ (igcd_ne_zero_right (a := a.num) hr), divT _ _ (igcd_ne_zero_left (b := r.num) ha),
    divinT _ _ (igcd_ne_zero_right (a := a.num) hr), divinT _ _ (igcd_ne_zero_left (b := r.num) ha)]

/-- the cross-multiplication at the end of `absCompare(Rational, Rational)`: `absCompare(a.num*b.den, a.den*b.num)` -/
theorem abscompare_cross_translated (a b : QRep) :
    (Gen.absCompare_Zc_Zc (Gen.Integer_op_mul_Zc_const a.num b.den).ret (Gen.Integer_op_mul_Zc_const a.den b.num).ret).ret
      = mpz_cmpabs (a.num * b.den) (a.den * b.num) := by
  simp only [mulT]; rfl

theorem trunc_body_translated (a : QRep) (h : a.den ≠ 0) : trunc a = (Gen.Integer_op_div_Zc_const a.num a.den).ret := by
  unfold trunc; rw [divT _ _ h]

end Givaro.Lemmas.Rational
