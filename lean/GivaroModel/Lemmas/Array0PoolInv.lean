/-
C17 — Array0 over the pool: which slots of the pool client are occupied after the pool calls of an Array0 step (`Link`:
exactly those of the live blocks).  The pool calls being client calls, the pool keeps the client invariant of
`FreeListInv.lean` whatever the container does.
-/
import GivaroModel.Lemmas.Array0Ops
import GivaroModel.Lemmas.FreeListInv
import GivaroModel.Model.Array0Pool
namespace Givaro.Model.Array0Pool
open Givaro.Model.Array0 Givaro.Model.FreeList

def occ (c : Client) (k : Nat) : Bool := (c.slot k).isSome

theorem crun_append (c : Client) (xs ys : List FreeList.Op) : crun c (xs ++ ys) = crun (crun c xs) ys := by
  unfold crun; rw [List.foldl_append]

theorem crun_cons (c : Client) (x : FreeList.Op) (xs : List FreeList.Op) : crun c (x :: xs) = crun (cstep c x).1 xs := rfl

theorem allocate_some (p : Pool) {sz : Nat} (h : sz ≤ tab 511) : ∃ r, FreeList.allocate p sz = some r := by
  unfold FreeList.allocate
  have sp := searchBinary_spec sz
  cases hs : searchBinary sz with
  | none => rw [hs] at sp; dsimp only at sp; omega
  | some i =>
    dsimp only
    cases p.free i with
    | nil => exact ⟨_, rfl⟩
    | cons b r => exact ⟨_, rfl⟩

theorem occ_free (c : Client) (k : Nat) :
    occ (cstep c (.free k)).1 k = false ∧ ∀ j, j ≠ k → occ (cstep c (.free k)).1 j = occ c j := by
  simp only [cstep]
  cases hk : c.slot k with
  | none => exact ⟨by unfold occ; rw [hk]; rfl, fun _ _ => rfl⟩
  | some b =>
    exact ⟨congrArg Option.isSome (updF_same c.slot k none), fun j hj => congrArg Option.isSome (updF_other c.slot k none hj)⟩

theorem occ_alloc (c : Client) (k : Nat) {sz : Nat} (h : sz ≤ tab 511) :
    occ (cstep c (.alloc k sz)).1 k = true ∧ ∀ j, j ≠ k → occ (cstep c (.alloc k sz)).1 j = occ c j := by
  simp only [cstep]
  cases hk : c.slot k with
  | some b => exact ⟨by unfold occ; rw [hk]; rfl, fun _ _ => rfl⟩
  | none =>
    obtain ⟨⟨p', b⟩, hr⟩ := allocate_some c.pool h
    rw [hr]
    exact ⟨congrArg Option.isSome (updF_same c.slot k (some b)), fun j hj => congrArg Option.isSome (updF_other c.slot k (some b) hj)⟩

theorem occ_run {β : Type} (ev : β → FreeList.Op) (key : β → Nat) (v : Bool) : ∀ (l : List β),
    (∀ c b, b ∈ l → occ (cstep c (ev b)).1 (key b) = v ∧ ∀ j, j ≠ key b → occ (cstep c (ev b)).1 j = occ c j) →
    ∀ (c : Client) (j : Nat), occ (crun c (l.map ev)) j = if j ∈ l.map key then v else occ c j
  | [], _, c, j => by simp [crun]
  | b :: rest, hstep, c, j => by
    rw [List.map_cons, crun_cons, occ_run ev key v rest (fun c x hx => hstep c x (List.mem_cons_of_mem _ hx))]
    have A := hstep c b List.mem_cons_self
    by_cases e : j ∈ rest.map key
    · simp [e]
    · by_cases e2 : j = key b
      · subst e2; simp [A.1]
      · simp [e, e2, A.2 j e2]

theorem occ_frees (key : Nat → Nat) (l : List Nat) (c : Client) (j : Nat) :
    occ (crun c (l.map (fun b => FreeList.Op.free (key b)))) j = if j ∈ l.map key then false else occ c j :=
  occ_run _ key false l (fun c b _ => occ_free c (key b)) c j

theorem occ_allocs {β : Type} (key szf : β → Nat) (ids : List β) (hsz : ∀ b, b ∈ ids → szf b ≤ tab 511) (c : Client) (j : Nat) :
    occ (crun c (ids.map (fun b => FreeList.Op.alloc (key b) (szf b)))) j = if j ∈ ids.map key then true else occ c j :=
  occ_run _ key true ids (fun c b hb => occ_alloc c (key b) (hsz b hb)) c j

variable {α : Type}

theorem mem_idsFrom (lo hi b : Nat) : b ∈ idsFrom lo hi ↔ lo ≤ b ∧ b < hi := by
  unfold idsFrom
  rw [List.mem_map]
  constructor
  · intro ⟨x, hx, e⟩; have := List.mem_range.mp hx; omega
  · intro ⟨h1, h2⟩; exact ⟨b - lo, List.mem_range.mpr (by omega), by omega⟩

theorem mem_map_inj {f : Nat → Nat} (inj : ∀ x y, f x = f y → x = y) (l : List Nat) (b : Nat) : f b ∈ l.map f ↔ b ∈ l := by
  rw [List.mem_map]
  exact ⟨fun ⟨x, hx, e⟩ => inj x b e ▸ hx, fun h => ⟨b, h, rfl⟩⟩

theorem keyD_mem (l : List Nat) (b : Nat) : keyD b ∈ l.map keyD ↔ b ∈ l :=
  mem_map_inj (fun x y e => by unfold keyD at e; omega) l b

theorem keyC_mem (l : List Nat) (b : Nat) : keyC b ∈ l.map keyC ↔ b ∈ l :=
  mem_map_inj (fun x y e => by unfold keyC at e; omega) l b

theorem keyD_not_C (l : List Nat) (b : Nat) : ¬ keyD b ∈ l.map keyC := by
  rw [List.mem_map]; intro ⟨x, _, e⟩; unfold keyD keyC at e; omega

theorem keyC_not_D (l : List Nat) (b : Nat) : ¬ keyC b ∈ l.map keyD := by
  rw [List.mem_map]; intro ⟨x, _, e⟩; unfold keyD keyC at e; omega

theorem occ_newD (w : Nat) (s s' : State α) (hsz : ∀ b, s.dnext ≤ b → b < s'.dnext → (s'.ddata b).length * w ≤ tab 511)
    (c : Client) (j : Nat) :
    occ (crun c (newD w s s')) j = if j ∈ (idsFrom s.dnext s'.dnext).map keyD then true else occ c j := by
  unfold newD
  exact occ_allocs keyD (fun b => (s'.ddata b).length * w) _
    (fun b hb => hsz b ((mem_idsFrom _ _ _).mp hb).1 ((mem_idsFrom _ _ _).mp hb).2) c j

theorem occ_newC (s s' : State α) (c : Client) (j : Nat) :
    occ (crun c (newC s s')) j = if j ∈ (idsFrom s.cnext s'.cnext).map keyC then true else occ c j := by
  unfold newC
  exact occ_allocs keyC (fun _ => 4) _ (fun _ _ => by have := tab_last; omega) c j

structure Link (s : State α) (c : Client) : Prop where
  d : ∀ b, occ c (keyD b) = s.dlive b
  c : ∀ x, occ c (keyC x) = s.clive x

theorem link_init (n : Nat) : Link (init α n) Client.init := ⟨fun _ => rfl, fun _ => rfl⟩

/-- `occ0`, `live`, `next` before the step, the primed ones after it -/
theorem live_after {occ0 live live' : Bool} {b next next' : Nat} (L : occ0 = live) (M : b < next → live' = true → live = true)
    (B : live = true → b < next) (B' : live' = true → b < next') :
    (if next ≤ b ∧ b < next' then live'
      else if b < next ∧ (live && !live') = true then false else occ0) = live' := by
  by_cases h1 : next ≤ b ∧ b < next'
  · rw [if_pos h1]
  · rw [if_neg h1, L]
    by_cases h2 : b < next
    · cases live'
      · cases live <;> simp [h2]
      · rw [M h2 rfl]; simp
    · have l1 : live = false := by cases live; rfl; exact absurd (B rfl) h2
      have l2 : live' = false := by cases live'; rfl; exact absurd (B' rfl) (by omega)
      rw [l1, l2]; simp

/-- `A`: the block appeared in this step, `R`: it was there and died; the new blocks obtained after (`seg_rel_first`) or
    before (`seg_new_first`) the releases -/
theorem seg_rel_first {A R : Prop} [Decidable A] [Decidable R] (live' x : Bool) :
    (if A ∧ (!live') = true then false else if A then true else if R then false else x) =
      if A then live' else if R then false else x := by
  by_cases a : A
  · cases live' <;> simp [a]
  · simp [a]

theorem seg_new_first {A R : Prop} [Decidable A] [Decidable R] (hAR : A → ¬ R) (live' x : Bool) :
    (if A ∧ (!live') = true then false else if R then false else if A then true else x) =
      if A then live' else if R then false else x := by
  by_cases a : A
  · cases live' <;> simp [a, hAR a]
  · simp [a]

theorem link_events (w : Nat) (af : Bool) {s s' : State α} {c : Client} (L : Link s c) (I : Inv s) (I' : Inv s')
    (M : Mono s s') (hsz : ∀ b, s.dnext ≤ b → b < s'.dnext → (s'.ddata b).length * w ≤ tab 511) :
    Link s' (crun c (events w af s s')) := by
  constructor
  · intro b
    have key : occ (crun c (events w af s s')) (keyD b) =
        if s.dnext ≤ b ∧ b < s'.dnext then s'.dlive b
        else if b < s.dnext ∧ (s.dlive b && !s'.dlive b) = true then false else occ c (keyD b) := by
      -- segment by segment; what is left is the nested `if` of `seg_rel_first` / `seg_new_first`
      unfold events
      cases af <;>
        simp only [Bool.false_eq_true, ↓reduceIte, crun_append, relD, relC, lateD, lateC, occ_frees, occ_newC,
          occ_newD w s s' hsz, keyD_mem, keyD_not_C, List.mem_filter, List.mem_range, mem_idsFrom]
      · exact seg_rel_first _ _
      · apply seg_new_first
        intro a r; omega
    rw [key]
    exact live_after (L.d b) (M.dd b) (I.dbound b) (I'.dbound b)
  · intro b
    have key : occ (crun c (events w af s s')) (keyC b) =
        if s.cnext ≤ b ∧ b < s'.cnext then s'.clive b
        else if b < s.cnext ∧ (s.clive b && !s'.clive b) = true then false else occ c (keyC b) := by
      unfold events
      cases af <;>
        simp only [Bool.false_eq_true, ↓reduceIte, crun_append, relD, relC, lateD, lateC, occ_frees, occ_newC,
          occ_newD w s s' hsz, keyC_mem, keyC_not_D, List.mem_filter, List.mem_range, mem_idsFrom]
      all_goals exact seg_rel_first _ _
    rw [key]
    exact live_after (L.c b) (M.cd b) (I.cbound b) (I'.cbound b)

structure PInv (p : PState α) : Prop where
  inv : Inv p.arr
  link : Link p.arr p.pool

theorem pinv_init (n : Nat) : PInv (pinit α n) := ⟨inv_init n, link_init n⟩

theorem prun_pool_ci [Inhabited α] (w : Nat) (ops : List (Op α)) : ∀ p : PState α, CI p.pool → CI (prun w p ops).pool := by
  induction ops with
  | nil => intro p I; exact I
  | cons op rest ih => intro p I; exact ih (pstep w p op) (crun_ci _ I)

theorem pstep_pinv_plain [Inhabited α] (w : Nat) {p : PState α} (P : PInv p) (op : Op α)
    (e : opEvents w p.arr op = events w (allocFirst op) p.arr (step p.arr op))
    (hsz : ∀ b, b < (step p.arr op).dnext → ((step p.arr op).ddata b).length * w ≤ tab 511) : PInv (pstep w p op) := by
  obtain ⟨I1, _, M⟩ := step_inv P.inv op
  refine ⟨I1, ?_⟩
  show Link (step p.arr op) (crun p.pool (opEvents w p.arr op))
  rw [e]
  exact link_events w _ P.link P.inv I1 M (fun b _ hb => hsz b hb)

theorem pstep_reserve [Inhabited α] (w : Nat) {p : PState α} (I : Inv p.arr) (h sz : Nat) :
    pstep w p (.reserve h sz) = pstep w (pstep w p (.resize h sz)) (.resize h 0) := by
  have e : opEvents w p.arr (.reserve h sz) =
      opEvents w p.arr (.resize h sz) ++ opEvents w (step p.arr (.resize h sz)) (.resize h 0) := rfl
  unfold pstep
  rw [e, crun_append, step_reserve I]

theorem pstep_pinv [Inhabited α] (w : Nat) {p : PState α} (P : PInv p) (op : Op α)
    (hsz : ∀ b, b < (step p.arr op).dnext → ((step p.arr op).ddata b).length * w ≤ tab 511) : PInv (pstep w p op) := by
  cases op with
  | reserve h sz =>
    rw [step_reserve P.inv] at hsz
    rw [pstep_reserve w P.inv]
    -- the block of the first `reallocate` keeps its length in the second
    have M := (step_inv (step_inv P.inv (.resize h sz)).1 (.resize h 0)).2.2
    refine pstep_pinv_plain w (pstep_pinv_plain w P _ rfl (fun b hb => ?_)) _ rfl hsz
    rw [← M.len b hb]; exact hsz b (Nat.lt_of_lt_of_le hb M.dn)
  | _ => exact pstep_pinv_plain w P _ rfl hsz

theorem prun_arr [Inhabited α] (w : Nat) (ops : List (Op α)) : ∀ p : PState α, (prun w p ops).arr = run p.arr ops := by
  induction ops with
  | nil => intro p; rfl
  | cons op rest ih => intro p; exact ih (pstep w p op)

theorem prun_pinv [Inhabited α] (w : Nat) (ops : List (Op α)) : ∀ {p : PState α}, PInv p →
    (∀ b, b < (run p.arr ops).dnext → ((run p.arr ops).ddata b).length * w ≤ tab 511) → PInv (prun w p ops) := by
  induction ops with
  | nil => intro p P _; exact P
  | cons op rest ih =>
    intro p P hsz
    have M := (run_inv rest (step_inv P.inv op).1).2.2
    have hsz1 : ∀ b, b < (step p.arr op).dnext → ((step p.arr op).ddata b).length * w ≤ tab 511 := by
      intro b hb
      rw [← M.len b hb]; exact hsz b (Nat.lt_of_lt_of_le hb M.dn)
    exact ih (pstep_pinv w P op hsz1) hsz

theorem quiescent {p : PState α} (P : PInv p) (C : CI p.pool) (emp : ∀ h, h < p.arr.n → p.arr.hs h = Handle.empty) :
    (∀ k, p.pool.slot k = none) ∧ (∀ b, b < p.pool.pool.next → ∃ i, b ∈ p.pool.pool.free i) := by
  have none : ∀ k, p.pool.slot k = none := by
    intro k
    -- slot `k` is that of the data block or of the counter cell `k / 2`, which is dead
    have dead := all_empty_dead P.inv emp (k / 2)
    have : occ p.pool k = false := by
      rcases Nat.mod_two_eq_zero_or_one k with e | e
      · have e2 : keyD (k / 2) = k := by unfold keyD; omega
        rw [← e2, P.link.d, dead.1]
      · have e2 : keyC (k / 2) = k := by unfold keyC; omega
        rw [← e2, P.link.c, dead.2]
    cases hk : p.pool.slot k
    · rfl
    · unfold occ at this; rw [hk] at this; cases this
  refine ⟨none, fun b hb => ?_⟩
  rcases (C.pi.acct b).mp hb with ⟨k, hk⟩ | q
  · rw [none k] at hk; cases hk
  · exact q

end Givaro.Model.Array0Pool
