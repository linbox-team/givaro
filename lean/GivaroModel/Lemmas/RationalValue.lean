/-
C10 — the value `val : QRep → ℚ` of a stored pair, the bridges between the integer-level statements of
Lemmas/RationalLemmas.lean (cross-multiplication) and Mathlib's `ℚ`, and the operator theorems in their ℚ form
(for both strengths of the operand invariant and both modes; Props/C10.lean and Props/C10State.lean take their instances).
-/
import Mathlib.Algebra.Order.Floor.Ring
import Mathlib.Data.Rat.Floor
import Mathlib.Data.Rat.Lemmas
import Mathlib.Tactic.FieldSimp
import Mathlib.Tactic.Ring
import Mathlib.Tactic.Linarith
import GivaroModel.Lemmas.RationalLemmas
namespace Givaro.Lemmas.Rational
open Givaro Givaro.Model.Rational Givaro.Spec.Rational

/-- the rational number denoted by a stored pair -/
def val (r : QRep) : ℚ := (r.num : ℚ) / (r.den : ℚ)

theorem val_eq_iff_den {r : QRep} {n d : Int} (hr : r.den ≠ 0) (hd : d ≠ 0) : val r = (n : ℚ) / (d : ℚ) ↔ Den r n d := by
  unfold val Den
  rw [div_eq_div_iff (by exact_mod_cast hr) (by exact_mod_cast hd)]
  exact_mod_cast Iff.rfl

theorem val_of_den {r : QRep} {n d : Int} (hr : r.den ≠ 0) (hd : d ≠ 0) (h : Den r n d) :
    val r = (n : ℚ) / (d : ℚ) := (val_eq_iff_den hr hd).mpr h

/-- the denominator of a valid pair is not zero: the side condition of `val_of_den` and of the `val_*` identities -/
theorem ine {r : QRep} {red : Bool} (h : Valid red r) : r.den ≠ 0 := by have := h.1; omega

theorem val_lt_iff (a b : QRep) (ha : 0 < a.den) (hb : 0 < b.den) :
    val a < val b ↔ a.num * b.den < b.num * a.den := by
  unfold val
  have h1 : (0 : ℚ) < a.den := by exact_mod_cast ha
  have h2 : (0 : ℚ) < b.den := by exact_mod_cast hb
  rw [div_lt_iff₀ h1, div_mul_eq_mul_div, lt_div_iff₀ h2]
  exact_mod_cast Iff.rfl

theorem val_eq_iff (a b : QRep) (ha : 0 < a.den) (hb : 0 < b.den) :
    val a = val b ↔ a.num * b.den = b.num * a.den :=
  val_eq_iff_den (Int.ne_of_gt ha) (Int.ne_of_gt hb)

theorem isCmp_val {r : Int} {a b : QRep} (ha : 0 < a.den) (hb : 0 < b.den) (h : IsCmp r (a.num * b.den) (b.num * a.den)) :
    (r < 0 ↔ val a < val b) ∧ (r = 0 ↔ val a = val b) ∧ (r > 0 ↔ val a > val b) :=
  ⟨h.1.trans (val_lt_iff a b ha hb).symm, h.2.trans (val_eq_iff a b ha hb).symm, h.pos.trans (val_lt_iff b a hb ha).symm⟩

theorem val_int (n : Int) : val ⟨n, 1⟩ = n := by unfold val; rw [Int.cast_one, div_one]

theorem val_eq_zero_iff {a : QRep} (h : a.den ≠ 0) : val a = 0 ↔ a.num = 0 := by
  have := val_eq_iff_den (n := 0) h Int.one_ne_zero
  rwa [Int.cast_zero, zero_div, Den, Int.mul_one, Int.zero_mul] at this
theorem val_pos_iff {a : QRep} (h : 0 < a.den) : 0 < val a ↔ 0 < a.num := by
  have := val_lt_iff ⟨0, 1⟩ a Int.one_pos h
  rwa [val_int, Int.cast_zero, Int.zero_mul, Int.mul_one] at this
theorem val_neg_iff {a : QRep} (h : 0 < a.den) : val a < 0 ↔ a.num < 0 := by
  have := val_lt_iff a ⟨0, 1⟩ h Int.one_pos
  rwa [val_int, Int.cast_zero, Int.zero_mul, Int.mul_one] at this
theorem val_nonneg_iff {a : QRep} (h : 0 < a.den) : 0 ≤ val a ↔ 0 ≤ a.num := by
  rw [← not_lt, ← not_lt, val_neg_iff h]

/-! ### canonical form -/
/-- a canonical pair is the numerator and denominator of its value in Mathlib's `ℚ`, which are unique -/
theorem canon_unique {r s : QRep} (hr : Canon r) (hs : Canon s) (h : val r = val s) : r = s := by
  obtain ⟨rn, rd⟩ := r
  obtain ⟨sn, sd⟩ := s
  obtain ⟨rfl, rfl⟩ := Rat.div_int_inj hr.1 hs.1 hr.2 hs.2 h
  rfl

theorem normalize_val (n d : Int) (hd : d ≠ 0) : Canon (normalize n d) ∧ val (normalize n d) = (n : ℚ) / (d : ℚ) :=
  have ⟨c, e⟩ := normalize_canon n d hd
  ⟨c, val_of_den (Int.ne_of_gt c.1) hd e⟩

theorem reduce_is_normalize (n d : Int) (hd : d ≠ 0) :
    reduce (if d < 0 then ⟨-n, -d⟩ else ⟨n, d⟩) = normalize n d := by
  obtain ⟨r, e, c, dn⟩ := mk3_red_spec n d hd
  obtain ⟨c', e'⟩ := normalize_val n d hd
  rw [mk3_red n d hd] at e
  rw [Option.some.inj e]
  exact canon_unique c c' ((val_of_den (Int.ne_of_gt c.1) hd dn).trans e'.symm)

/-! ### rounding in ℚ -/
theorem ediv_eq_floor (n d : Int) (hd : 0 < d) : n / d = ⌊(n : ℚ) / (d : ℚ)⌋ := by
  obtain ⟨k, rfl⟩ := Int.eq_ofNat_of_zero_le hd.le
  rw [Int.cast_natCast, Rat.floor_intCast_div_natCast]

theorem floor_half (v : ℚ) : |(⌊v + 1 / 2⌋ : ℚ) - v| ≤ 1 / 2 ∧ v - (⌊v + 1 / 2⌋ : ℚ) ≠ 1 / 2 := by
  have h1 := Int.floor_le (v + 1 / 2)
  have h2 := Int.lt_floor_add_one (v + 1 / 2)
  exact ⟨abs_le.mpr ⟨by linarith, by linarith⟩, fun e => by linarith⟩

theorem roundSpec_val (a : QRep) (hd : 0 < a.den) :
    roundSpec a.num a.den = if 0 ≤ a.num then ⌊val a + 1 / 2⌋ else -⌊-val a + 1 / 2⌋ := by
  have hq : (a.den : ℚ) ≠ 0 := by exact_mod_cast Int.ne_of_gt hd
  have key : ∀ m : Int, (2 * m + a.den) / (2 * a.den) = ⌊(m : ℚ) / a.den + 1 / 2⌋ := fun m => by
    rw [ediv_eq_floor _ _ (by omega)]; congr 1; push_cast; field_simp
  unfold roundSpec val
  by_cases h : 0 ≤ a.num
  · rw [if_pos h, if_pos h, key]
  · rw [if_neg h, if_neg h, key, Int.cast_neg, neg_div]

theorem rel_err_of_cross (vn vd n d : ℚ) (k : Nat) (hd : 0 < d) (hvd : 0 < vd) (h : |vn * d - n * vd| * 2 ^ k ≤ |n| * vd) :
    |vn / vd - n / d| ≤ 2⁻¹ ^ k * |n / d| := by
  have h2k : (0 : ℚ) < 2 ^ k := by positivity
  have e1 : vn / vd - n / d = (vn * d - n * vd) / (vd * d) := by field_simp
  have e2 : (2 ^ k)⁻¹ * (|n| / d) * (vd * d) = |n| * vd / 2 ^ k := by field_simp
  rw [e1, abs_div, abs_div, abs_of_pos (mul_pos hvd hd), abs_of_pos hd, inv_pow, div_le_iff₀ (mul_pos hvd hd), e2, le_div_iff₀ h2k]
  exact h

/-! ### the operators in ℚ -/
theorem exact_of_spec {f : Option QRep} {k : Bool} {n d : Int} {q : ℚ} (hd : d ≠ 0) (hq : (n : ℚ) / (d : ℚ) = q)
    (h : ∃ r, f = some r ∧ Valid k r ∧ Den r n d) : ∃ r, f = some r ∧ Valid k r ∧ val r = q := by
  obtain ⟨r, h1, h2, h3⟩ := h
  exact ⟨r, h1, h2, (val_of_den (ine h2) hd h3).trans hq⟩

theorem val_add (a b : QRep) (ha : a.den ≠ 0) (hb : b.den ≠ 0) :
    ((a.num * b.den + b.num * a.den : Int) : ℚ) / ((a.den * b.den : Int) : ℚ) = val a + val b := by
  have : (a.den : ℚ) ≠ 0 := by exact_mod_cast ha
  have : (b.den : ℚ) ≠ 0 := by exact_mod_cast hb
  unfold val; push_cast; field_simp
theorem val_sub (a b : QRep) (ha : a.den ≠ 0) (hb : b.den ≠ 0) :
    ((a.num * b.den - b.num * a.den : Int) : ℚ) / ((a.den * b.den : Int) : ℚ) = val a - val b := by
  have : (a.den : ℚ) ≠ 0 := by exact_mod_cast ha
  have : (b.den : ℚ) ≠ 0 := by exact_mod_cast hb
  unfold val; push_cast; field_simp
theorem val_mul (a b : QRep) : ((a.num * b.num : Int) : ℚ) / ((a.den * b.den : Int) : ℚ) = val a * val b := by
  unfold val; push_cast; rw [mul_div_mul_comm]
theorem val_div (a b : QRep) : ((a.num * b.den : Int) : ℚ) / ((a.den * b.num : Int) : ℚ) = val a / val b := by
  unfold val; push_cast; rw [div_div_div_eq]

theorem val_neg (a : QRep) : ((-a.num : Int) : ℚ) / (a.den : ℚ) = -val a := by
  unfold val; push_cast; rw [neg_div]
theorem val_abs (a : QRep) (ha : 0 < a.den) : ((|a.num| : Int) : ℚ) / (a.den : ℚ) = |val a| := by
  unfold val; rw [abs_div, abs_of_pos (by exact_mod_cast ha : (0 : ℚ) < a.den)]; push_cast; rfl
theorem val_pow (a : QRep) (e : Nat) : val ⟨a.num ^ e, a.den ^ e⟩ = val a ^ e := by
  unfold val; rw [div_pow]; push_cast; rfl
theorem val_inv (a : QRep) : ((a.den : Int) : ℚ) / (a.num : ℚ) = (val a)⁻¹ := by
  unfold val; rw [inv_div]

theorem bind2_exact {k : Bool} {f : QRep → QRep → Option QRep} {g : ℚ → ℚ → ℚ}
    (hf : ∀ a b, Valid k a → Valid k b → ∃ r, f a b = some r ∧ Valid k r ∧ val r = g (val a) (val b))
    {x y : Option QRep} {p q : ℚ} (hx : ∃ r, x = some r ∧ Valid k r ∧ val r = p) (hy : ∃ r, y = some r ∧ Valid k r ∧ val r = q) :
    ∃ r, bind2 f x y = some r ∧ Valid k r ∧ val r = g p q := by
  obtain ⟨ra, rfl, va, rfl⟩ := hx
  obtain ⟨rb, rfl, vb, rfl⟩ := hy
  exact hf ra rb va vb

/-! Every operator, at strength `k` and mode `m` (see the note before `valid_of_pos`): no throw, result valid at strength `k`, exact value. -/
section
variable {k m : Bool} (hkm : k = true → m = true) (a b : QRep) (ha : Valid k a) (hb : Valid k b)
include hkm ha hb

theorem add_val : ∃ r, add m a b = some r ∧ Valid k r ∧ val r = val a + val b :=
  exact_of_spec (Int.mul_ne_zero (ine ha) (ine hb)) (val_add a b (ine ha) (ine hb)) (add_spec hkm a b ha hb)
theorem sub_val : ∃ r, sub m a b = some r ∧ Valid k r ∧ val r = val a - val b :=
  exact_of_spec (Int.mul_ne_zero (ine ha) (ine hb)) (val_sub a b (ine ha) (ine hb)) (sub_spec hkm a b ha hb)
theorem addin_val : ∃ r, addin m a b = some r ∧ Valid k r ∧ val r = val a + val b := by
  rw [addin_eq_add m a b ha.1 hb.1]; exact add_val hkm a b ha hb
theorem subin_val : ∃ r, subin m a b = some r ∧ Valid k r ∧ val r = val a - val b := by
  rw [subin_eq_sub m a b ha.1 hb.1]; exact sub_val hkm a b ha hb

variable {c : Int → Int → Int} (hc : CmpAbsOK c)
include hc

theorem mul_val : ∃ r, mul c m a b = some r ∧ Valid k r ∧ val r = val a * val b :=
  exact_of_spec (Int.mul_ne_zero (ine ha) (ine hb)) (val_mul a b) (mul_spec hc hkm a b ha hb)
theorem mulin_val : ∃ r, mulin c m a b = some r ∧ Valid k r ∧ val r = val a * val b :=
  exact_of_spec (Int.mul_ne_zero (ine ha) (ine hb)) (val_mul a b) (mulin_spec hc hkm a b ha hb)
theorem div_val (hnz : val b ≠ 0) : ∃ r, div c m a b = some r ∧ Valid k r ∧ val r = val a / val b :=
  have hbn := mt (val_eq_zero_iff (ine hb)).mpr hnz
  exact_of_spec (Int.mul_ne_zero (ine ha) hbn) (val_div a b) (div_spec hc hkm a b ha hb hbn)
theorem fused_val (z : QRep) (hz : Valid k z) :
    (∃ r, axpy c m a b z = some r ∧ Valid k r ∧ val r = val a * val b + val z) ∧
    (∃ r, axpyin c m z a b = some r ∧ Valid k r ∧ val r = val z + val a * val b) ∧
    (∃ r, maxpy c m a b z = some r ∧ Valid k r ∧ val r = val z - val a * val b) ∧
    (∃ r, axmy c m a b z = some r ∧ Valid k r ∧ val r = val a * val b - val z) ∧
    (∃ r, axmyin c m z a b = some r ∧ Valid k r ∧ val r = val a * val b - val z) ∧
    (∃ r, maxpyin c m z a b = some r ∧ Valid k r ∧ val r = val z - val a * val b) := by
  have hm := mul_val hkm a b ha hb hc
  have hz' : ∃ r, some z = some r ∧ Valid k r ∧ val r = val z := ⟨z, rfl, hz, rfl⟩
  exact ⟨bind2_exact (g := (· + ·)) (add_val hkm) hm hz', bind2_exact (g := (· + ·)) (addin_val hkm) hz' hm,
    bind2_exact (g := (· - ·)) (sub_val hkm) hz' hm, bind2_exact (g := (· - ·)) (sub_val hkm) hm hz',
    bind2_exact (g := (· - ·)) (sub_val hkm) hm hz', bind2_exact (g := (· - ·)) (subin_val hkm) hz' hm⟩
omit hc in
theorem divin_val (hnz : val b ≠ 0) : ∃ r, divin m a b = some r ∧ Valid k r ∧ val r = val a / val b :=
  have hbn := mt (val_eq_zero_iff (ine hb)).mpr hnz
  exact_of_spec (Int.mul_ne_zero (ine ha) hbn) (val_div a b) (divin_spec hkm a b ha hb hbn)
end

end Givaro.Lemmas.Rational
