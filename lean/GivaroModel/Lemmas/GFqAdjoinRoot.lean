/-
C05 — instantiation of the table soundness chain in Mathlib's quotient ring `(ZMod p)[X] ⧸ (f)` (`AdjoinRoot f`),
`f = X^k + Σ flow_i X^i` the polynomial whose p-adic code the object reports as `irreducible()`.
-/
import GivaroModel.Lemmas.GFqDecoding
import Mathlib.RingTheory.AdjoinRoot
namespace Givaro.Lemmas.GFqZech
open Givaro.Model.Zech Givaro.Spec.GFq Polynomial

variable {p : Nat}

/-- the polynomial over `ZMod p` with coefficient list `l` (low degree first).  Not `Lemmas.Poly.toPoly (l.map (↑))`: that one
    asks for a field, and `modulus_monic` is for every `p`. -/
noncomputable def toPoly (p : Nat) : List Nat → (ZMod p)[X]
  | [] => 0
  | d :: ds => C (d : ZMod p) + X * toPoly p ds

noncomputable def modulus (F : Field) : (ZMod F.p)[X] := X ^ F.k + toPoly F.p F.flow

noncomputable def decA (F : Field) (a : Nat) : AdjoinRoot (modulus F) :=
  AdjoinRoot.mk (modulus F) (toPoly F.p (digits F.p F.k a))

theorem mk_toPoly (f : (ZMod p)[X]) : ∀ l : List Nat, AdjoinRoot.mk f (toPoly p l) = ev (AdjoinRoot.root f) l
  | [] => RingHom.map_zero _
  | d :: ds => by
    simp only [toPoly, ev, RingHom.map_add, RingHom.map_mul, AdjoinRoot.mk_X, mk_toPoly f ds]
    congr 1

theorem root_modulus (F : Field) :
    ev (AdjoinRoot.root (modulus F)) F.flow + (AdjoinRoot.root (modulus F)) ^ F.k = 0 := by
  have h : AdjoinRoot.mk (modulus F) (X ^ F.k + toPoly F.p F.flow) = 0 := AdjoinRoot.mk_self
  rw [RingHom.map_add, RingHom.map_pow, AdjoinRoot.mk_X, mk_toPoly] at h
  rw [add_comm]; exact h

theorem p_zero (F : Field) [Fact (Nat.Prime F.p)] : ((F.p : Nat) : AdjoinRoot (modulus F)) = 0 := by
  have : ((F.p : Nat) : AdjoinRoot (modulus F)) = AdjoinRoot.of (modulus F) ((F.p : Nat) : ZMod F.p) :=
    (map_natCast (AdjoinRoot.of (modulus F)) F.p).symm
  rw [this, ZMod.natCast_self, RingHom.map_zero]

theorem decoding_adjoinRoot (F : Field) [Fact (Nat.Prime F.p)] (hk : 1 ≤ F.k) :
    Decoding (AdjoinRoot (modulus F)) F (decA F) := by
  have hp : 2 ≤ F.p := (Fact.out : Nat.Prime F.p).two_le
  have D := decoding_of_root (AdjoinRoot.root (modulus F)) F (p_zero F) hp hk (fun _ => root_modulus F)
  have e : decA F = fun a => ev (AdjoinRoot.root (modulus F)) (digits F.p F.k a) := by
    funext a; exact mk_toPoly _ _
  rw [e]; exact D

end Givaro.Lemmas.GFqZech
