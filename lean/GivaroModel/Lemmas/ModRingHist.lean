/-
Histories (C03): if every operation of a ring is exact on canonical operands, then every program computes on the
representation exactly what the same program computes on plain residues.
-/
import GivaroModel.Model.ModRingHist
import GivaroModel.Lemmas.ModRingLemmas
namespace Givaro.Model.ModRing
open Givaro.Spec.ModRing

/-! `ExactOps O cn ok`: `cn` is the canonical map, `ok` the canonical range; every API call of `O` on `ok` operands returns `cn` of the
    exact integer result. -/

structure ExactOps (O : RingOps) (cn : Int → Int) (ok : Int → Prop) : Prop where
  cn_ok : ∀ x, ok (cn x)
  add : ∀ a b, ok a → ok b → O.add a b = some (cn (a + b))
  sub : ∀ a b, ok a → ok b → O.sub a b = some (cn (a - b))
  mul : ∀ a b, ok a → ok b → O.mul a b = some (cn (a * b))
  neg : ∀ a, ok a → O.neg a = some (cn (-a))
  axpy : ∀ a x y, ok a → ok x → ok y → O.axpy a x y = some (cn (a * x + y))
  axmy : ∀ a x y, ok a → ok x → ok y → O.axmy a x y = some (cn (a * x - y))
  maxpy : ∀ a x y, ok a → ok x → ok y → O.maxpy a x y = some (cn (y - a * x))
  axpyin : ∀ r a x, ok r → ok a → ok x → O.axpyin r a x = some (cn (a * x + r))
  axmyin : ∀ r a x, ok r → ok a → ok x → O.axmyin r a x = some (cn (a * x - r))
  maxpyin : ∀ r a x, ok r → ok a → ok x → O.maxpyin r a x = some (cn (r - a * x))
  addin : ∀ r a, ok r → ok a → O.addin r a = some (cn (r + a))
  subin : ∀ r a, ok r → ok a → O.subin r a = some (cn (r - a))
  mulin : ∀ r a, ok r → ok a → O.mulin r a = some (cn (r * a))
  negin : ∀ r, ok r → O.negin r = some (cn (-r))

/-- for a ring whose in-place forms run the out-of-place bodies with the destination as an operand -/
theorem ExactOps.of_shared {O : RingOps} {cn : Int → Int} {ok : Int → Prop} (cn_ok : ∀ x, ok (cn x))
    (add : ∀ a b, ok a → ok b → O.add a b = some (cn (a + b)))
    (sub : ∀ a b, ok a → ok b → O.sub a b = some (cn (a - b)))
    (mul : ∀ a b, ok a → ok b → O.mul a b = some (cn (a * b)))
    (neg : ∀ a, ok a → O.neg a = some (cn (-a)))
    (axpy : ∀ a x y, ok a → ok x → ok y → O.axpy a x y = some (cn (a * x + y)))
    (axmy : ∀ a x y, ok a → ok x → ok y → O.axmy a x y = some (cn (a * x - y)))
    (maxpy : ∀ a x y, ok a → ok x → ok y → O.maxpy a x y = some (cn (y - a * x)))
    (h2 : O.addin = O.add ∧ O.subin = O.sub ∧ O.mulin = O.mul ∧ O.negin = O.neg)
    (h3 : ∀ r a x, O.axpyin r a x = O.axpy a x r ∧ O.axmyin r a x = O.axmy a x r ∧ O.maxpyin r a x = O.maxpy a x r) :
    ExactOps O cn ok where
  cn_ok := cn_ok
  add := add
  sub := sub
  mul := mul
  neg := neg
  axpy := axpy
  axmy := axmy
  maxpy := maxpy
  axpyin r a x hr ha hx := (h3 r a x).1 ▸ axpy a x r ha hx hr
  axmyin r a x hr ha hx := (h3 r a x).2.1 ▸ axmy a x r ha hx hr
  maxpyin r a x hr ha hx := (h3 r a x).2.2 ▸ maxpy a x r ha hx hr
  addin := h2.1 ▸ add
  subin := h2.2.1 ▸ sub
  mulin := h2.2.2.1 ▸ mul
  negin := h2.2.2.2 ▸ neg

theorem ICfg.exactOps {k : ICfg} {p : Int} (hs : 1 ≤ k.s) (hp : 2 ≤ p) (hE : p < k.eTop) (hC : p * p ≤ (2 : Int) ^ k.c) :
    ExactOps (k.ops p) (canonU p) (isCanonU p) :=
  have ok := iok_of_bounds hs hE hC
  .of_shared (fun x => canonU_isCanon p x (by omega))
    (fun _ _ ha hb => congrArg some (add_model hs hE ha hb))
    (fun _ _ ha hb => congrArg some (sub_model ok hp ha hb))
    (fun _ _ ha hb => congrArg some (mul_model ok hp ha hb))
    (fun _ ha => congrArg some (neg_model ok hp ha))
    (fun _ _ _ ha hx hy => congrArg some (axpy_model ok hp ha hx hy))
    (fun _ _ _ ha hx hy => congrArg some (axmy_model ok hp ha hx hy))
    (fun _ _ _ ha hx hy => congrArg some (maxpy_model ok hp ha hx hy))
    ⟨rfl, rfl, rfl, rfl⟩ (fun _ _ _ => ⟨rfl, rfl, rfl⟩)

/-- `div = mul ∘ inv` -/
theorem ExactOps.quot {O : RingOps} {p : Int} (h : ExactOps O (canonU p) (isCanonU p)) (hp : 0 < p) {a b i : Int}
    (ha : isCanonU p a) (hi : isCanonU p i) (hc : (i * b) % p = 1 % p) {r : Int} (hr : O.mul a i = some r) :
    isQuot false p a b r = true := by
  rw [← Option.some.inj ((h.mul a i ha hi).symm.trans hr), Int.mul_comm]
  exact isQuot_of_inverse hp hc

theorem set_ok {ok : Int → Prop} {r : Regs} (hr : ∀ i, ok (r i)) (d : Nat) {v : Int} (hv : ok v) :
    ∀ i, ok (r.set d v i) := by
  intro i
  have h0 := hr 0; have h1 := hr 1; have h2 := hr 2; have h3 := hr 3
  match d, i with
  | 0, 0 | 1, 1 | 2, 2 => exact hv
  | 0, 1 => exact h1 | 0, 2 => exact h2 | 0, (_ + 3) => exact h3
  | 1, 0 => exact h0 | 1, 2 => exact h2 | 1, (_ + 3) => exact h3
  | 2, 0 => exact h0 | 2, 1 => exact h1 | 2, (_ + 3) => exact h3
  | (_ + 3), 0 => exact h0 | (_ + 3), 1 => exact h1 | (_ + 3), 2 => exact h2 | (_ + 3), (_ + 3) => exact hv

theorem step_exact {O : RingOps} {cn : Int → Int} {ok : Int → Prop} (h : ExactOps O cn ok)
    (r : Regs) (hr : ∀ i, ok (r i)) (ins : Instr) :
    O.step r ins = some (stepZ cn r ins) ∧ ∀ i, ok (stepZ cn r ins i) := by
  -- an exact result written to register `d`
  have put : ∀ {X : Option Int} {e : Int} (d : Nat), X = some (cn e) →
      X.map (r.set d) = some (r.set d (cn e)) ∧ ∀ i, ok (r.set d (cn e) i) :=
    fun d hX => ⟨hX ▸ rfl, set_ok hr d (h.cn_ok _)⟩
  cases ins
  case add d a b => exact put d (h.add _ _ (hr a) (hr b))
  case sub d a b => exact put d (h.sub _ _ (hr a) (hr b))
  case mul d a b => exact put d (h.mul _ _ (hr a) (hr b))
  case neg d a => exact put d (h.neg _ (hr a))
  case axpy d a x y => exact put d (h.axpy _ _ _ (hr a) (hr x) (hr y))
  case axmy d a x y => exact put d (h.axmy _ _ _ (hr a) (hr x) (hr y))
  case maxpy d a x y => exact put d (h.maxpy _ _ _ (hr a) (hr x) (hr y))
  case addin d a => exact put d (h.addin _ _ (hr d) (hr a))
  case subin d a => exact put d (h.subin _ _ (hr d) (hr a))
  case mulin d a => exact put d (h.mulin _ _ (hr d) (hr a))
  case negin d => exact put d (h.negin _ (hr d))
  case axpyin d a x => exact put d (h.axpyin _ _ _ (hr d) (hr a) (hr x))
  case axmyin d a x => exact put d (h.axmyin _ _ _ (hr d) (hr a) (hr x))
  case maxpyin d a x => exact put d (h.maxpyin _ _ _ (hr d) (hr a) (hr x))

theorem run_exact {O : RingOps} {cn : Int → Int} {ok : Int → Prop} (h : ExactOps O cn ok) :
    ∀ (prog : List Instr) (r : Regs), (∀ i, ok (r i)) →
      O.run prog r = some (runZ cn prog r) ∧ ∀ i, ok (runZ cn prog r i) := by
  intro prog
  induction prog with
  | nil => intro r hr; exact ⟨rfl, hr⟩
  | cons ins is ih =>
    intro r hr
    obtain ⟨h1, h2⟩ := step_exact h r hr ins
    simp only [RingOps.run, runZ, h1, Option.bind_some]
    exact ih _ h2

end Givaro.Model.ModRing
