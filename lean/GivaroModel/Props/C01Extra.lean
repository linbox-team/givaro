/-
C01 (part 2) — the overloads outside the translator's dialect: comparisons of an Integer with a float/double (24 operators),
conversion from and to double, `fact`, limbs and the limb-vector constructor, `pp`.  The bodies are transcribed by hand in
Model/IntegerExtra.lean and tied to the code by the harness `h_integer_x.cpp`; here: what the transcriptions compute.
-/
import GivaroModel.Model.IntegerExtra
import GivaroModel.Lemmas.IntegerExtraLemmas
import Mathlib.Tactic.Ring
import Mathlib.Tactic.Linarith
import Mathlib.Tactic.Positivity
import Mathlib.Tactic.NormNum
import Mathlib.Tactic.Push
import Mathlib.Data.Nat.Factorial.Basic
import Mathlib.Data.Int.GCD
import Mathlib.Data.Nat.Prime.Basic
import Mathlib.Algebra.Order.Field.Power
import Mathlib.Data.Rat.Cast.Order
namespace Givaro.Props.C01X
open Givaro.Model.IntegerExtra Givaro.Lemmas.IntegerExtra

/-- the rational number a finite floating-point operand denotes -/
noncomputable def val (m e : Int) : ℚ := (m : ℚ) * (2 : ℚ) ^ e

/-- `mpz_cmp_d` contract as modelled = the exact comparison of the integer with the rational value of the double:
    for every integer a and every finite double m·2^e (no rounding of a, whatever its size) -/
theorem cmpD_exact (a m e : Int) :
    ∃ c, cmpD a (.fin m e) = some c ∧ (c < 0 ↔ (a : ℚ) < val m e) ∧ (c = 0 ↔ (a : ℚ) = val m e) ∧ (0 < c ↔ val m e < (a : ℚ)) := by
  unfold cmpD val
  by_cases h : 0 ≤ e
  · -- the double is the integer m·2^e
    obtain ⟨h1, h2, h3⟩ := cmp_scaled a (m * 2 ^ e.toNat) 1 ((m : ℚ) * (2 : ℚ) ^ e) Int.one_pos
      (by rw [two_zpow_nonneg e h]; push_cast; ring)
    rw [Int.mul_one] at h1 h2 h3
    obtain ⟨s1, s2, s3⟩ := sgn_sub a (m * 2 ^ e.toNat)
    exact ⟨_, by simp [h], s1.trans h1, s2.trans h2, s3.trans h3⟩
  · -- scale both sides by K = 2^(-e)
    have hK : (0 : Int) < 2 ^ (-e).toNat := by positivity
    obtain ⟨h1, h2, h3⟩ := cmp_scaled a m (2 ^ (-e).toNat) ((m : ℚ) * (2 : ℚ) ^ e) hK
      (by rw [mul_assoc, two_zpow_neg e (by omega), mul_one])
    obtain ⟨s1, s2, s3⟩ := sgn_sub (a * 2 ^ (-e).toNat) m
    exact ⟨_, by simp [h], s1.trans h1, s2.trans h2, s3.trans h3⟩

/-- the six member operators `Integer OP double` decide the mathematical relation between a and the value of the double -/
theorem member_operators_exact (a m e : Int) :
    opMember .lt a (.fin m e) = some (decide ((a : ℚ) < val m e)) ∧
    opMember .le a (.fin m e) = some (decide ((a : ℚ) ≤ val m e)) ∧
    opMember .gt a (.fin m e) = some (decide (val m e < (a : ℚ))) ∧
    opMember .ge a (.fin m e) = some (decide (val m e ≤ (a : ℚ))) ∧
    opMember .eq a (.fin m e) = some (decide ((a : ℚ) = val m e)) ∧
    opMember .ne a (.fin m e) = some (decide ((a : ℚ) ≠ val m e)) := by
  obtain ⟨c, hc, hlt, heq, hgt⟩ := cmpD_exact a m e
  have hle : c ≤ 0 ↔ (a : ℚ) ≤ val m e := by rw [← not_lt, ← not_lt, hgt]
  have hge : 0 ≤ c ↔ val m e ≤ (a : ℚ) := by rw [← not_lt, ← not_lt, hlt]
  simp only [opMember, hc, Option.map_some, Rel.holds, Option.some.injEq, bne, Bool.beq_eq_decide_eq, ← decide_not,
    decide_eq_decide]
  exact ⟨hlt, hle, hgt, hge, heq, not_congr heq⟩

/-- the free operators `double OP Integer` are written as the mirrored member operator; they decide `value OP a` -/
theorem free_operators_exact (a m e : Int) :
    opFree .lt (.fin m e) a = some (decide (val m e < (a : ℚ))) ∧
    opFree .le (.fin m e) a = some (decide (val m e ≤ (a : ℚ))) ∧
    opFree .gt (.fin m e) a = some (decide ((a : ℚ) < val m e)) ∧
    opFree .ge (.fin m e) a = some (decide ((a : ℚ) ≤ val m e)) ∧
    opFree .eq (.fin m e) a = some (decide (val m e = (a : ℚ))) ∧
    opFree .ne (.fin m e) a = some (decide (val m e ≠ (a : ℚ))) := by
  obtain ⟨h1, h2, h3, h4, h5, h6⟩ := member_operators_exact a m e
  refine ⟨h3, h4, h1, h2, ?_, ?_⟩
  · simp only [opFree, Rel.swap, h5]; congr 1; exact decide_eq_decide.mpr eq_comm
  · simp only [opFree, Rel.swap, h6]; congr 1; exact decide_eq_decide.mpr ⟨fun h => h.symm, fun h => h.symm⟩

/-- "identically across all overloads": on an integer-valued double the floating overload answers exactly like the Integer overload
    on the integer b = m·2^e (any size: no 53-bit restriction on a) -/
theorem double_overload_agrees_with_integer_overload (r : Rel) (a m : Int) (k : Nat) :
    opMember r a (.fin m k) = some (r.holds (sgn (a - m * 2 ^ k))) := by
  simp [opMember, cmpD]

/-- infinities: every Integer is below +∞ and above −∞ -/
theorem infinities (a : Int) : cmpD a (.inf false) = some (-1) ∧ cmpD a (.inf true) = some 1 := by simp [cmpD]

/-- `Integer(double)` is the truncation toward zero of the exact value: the integer z with |z| ≤ |value| < |z| + 1 and the sign of
    the value — for every finite double, in particular for ±2^63, ±2^64 and beyond (no machine-word detour) -/
theorem ofFl_is_truncation (m e : Int) :
    ∃ z, ofFl (.fin m e) = some z ∧
      (0 ≤ e → z = m * 2 ^ e.toNat) ∧
      (e < 0 → z = Int.tdiv m (2 ^ (-e).toNat) ∧ z.natAbs * 2 ^ (-e).toNat ≤ m.natAbs ∧ m.natAbs < (z.natAbs + 1) * 2 ^ (-e).toNat) := by
  by_cases h : 0 ≤ e
  · exact ⟨m * 2 ^ e.toNat, by simp [ofFl, h], fun _ => rfl, fun h' => absurd h (by omega)⟩
  · refine ⟨Int.tdiv m (2 ^ (-e).toNat), by simp [ofFl, h], fun h' => absurd h' h, fun _ => ⟨rfl, ?_⟩⟩
    rw [Int.natAbs_tdiv, Int.natAbs_pow]
    exact shift_bracket m.natAbs (-e).toNat

/-- conversion to double keeps the leading bits: 0 ≤ |a| − mantissa·2^exponent < 2^exponent, and it is exact below 2^53 -/
theorem toDyTrunc_spec (a : Int) :
    (toDyTrunc a).2.1 * 2 ^ (toDyTrunc a).2.2 ≤ a.natAbs ∧ a.natAbs < ((toDyTrunc a).2.1 + 1) * 2 ^ (toDyTrunc a).2.2 ∧
    (a.natAbs < 2 ^ 53 → (toDyTrunc a).2.1 = a.natAbs ∧ (toDyTrunc a).2.2 = 0) ∧ (toDyTrunc a).1 = decide (a < 0) := by
  simp only [toDyTrunc]
  set sh := (if a.natAbs = 0 then 0 else a.natAbs.log2 + 1) - 53 with hsh
  refine ⟨(shift_bracket a.natAbs sh).1, (shift_bracket a.natAbs sh).2, ?_, trivial⟩
  intro hlt
  -- below 2^53 the bit length is at most 53: nothing is shifted out
  have hbits : (if a.natAbs = 0 then 0 else a.natAbs.log2 + 1) ≤ 53 := by
    split
    · omega
    · rename_i hne
      have := (Nat.log2_lt hne).mpr hlt
      omega
  have h0 : sh = 0 := by omega
  rw [h0]; simp

theorem fact_eq_factorial (n : Nat) : fact n = n.factorial := by
  induction n with
  | zero => rfl
  | succ n ih => simp [fact, Nat.factorial_succ, ih]

/-! ### limbs -/

/-- the top limb is non-zero: GMP's normal form -/
theorem limbs_top_nonzero (n : Nat) : ∀ l, (limbs n).getLast? = some l → l ≠ 0 := by
  refine limbs_induction (P := fun _ ls => ∀ l, ls.getLast? = some l → l ≠ 0) (by simp) (fun n hn ih l hl => ?_) n
  cases hq : limbs (n / 2^64) with
  | nil =>
    -- no higher limb: `n` itself is below 2^64, and it is not zero
    have hq0 : n / 2^64 = 0 := by
      by_contra hc
      rw [limbs_of_ne_zero hc] at hq
      cases hq
    rw [hq, List.getLast?_singleton, Option.some.injEq] at hl
    omega
  | cons b bs =>
    rw [hq] at hl ih
    rw [List.getLast?_cons_cons] at hl
    exact ih l hl

/-- the limb-vector constructor applied to the limbs of a magnitude gives the magnitude back -/
theorem vector_roundtrip (a : Int) : ofVector (limbs a.natAbs) = (a.natAbs : Int) := by
  unfold ofVector
  have : (limbs a.natAbs).map (· % 2^64) = limbs a.natAbs := by
    conv_rhs => rw [← List.map_id (limbs a.natAbs)]
    exact List.map_congr_left (fun l hl => Nat.mod_eq_of_lt (limbs_lt _ l hl))
  rw [this, ofLimbs_limbs]

/-! ### `pp(P,Q)`: the part of P prime to Q -/

/-- `pp(P,Q)` for P ≠ 0: the result divides P and is coprime to Q (the loop as written, with the fuel the model gives it) -/
theorem pp_sound (p q : Int) (hp : p ≠ 0) : pp p q ∣ p ∧ Int.gcd (pp p q) q = 1 := by
  unfold pp
  apply ppLoop_sound p q
  · refine ⟨dvd_refl p, hp, Int.gcd_dvd_left _ _, ?_⟩
    intro r _ hrp hrq
    rw [Int.gcd_eq_natAbs_gcd_natAbs]
    exact Nat.dvd_gcd hrp hrq
  · have := Nat.lt_log2_self (n := p.natAbs)
    calc p.natAbs < 2 ^ (p.natAbs.log2 + 1) := this
      _ ≤ 2 ^ (p.natAbs.log2 + 2) := Nat.pow_le_pow_right (by decide) (by omega)

example : pp 360 6 = 5 ∧ pp (-360) 14 = -45 ∧ pp 7 0 = 1 := by decide

end Givaro.Props.C01X
