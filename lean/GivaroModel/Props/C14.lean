/-
C14 — Chinese remaindering and residue number systems reconstruct the unique integer.

All theorems are about the executable model `GivaroModel/Model/CRT.lean`, which mirrors the loops of
`IntRNSsystem` (givintrns*.{h,inl}), `RNSsystem<RING,Domain>` (givrns*.{h,inl}) and `ChineseRemainder`
(chineseremainder.h) and is tied to the compiled library by `harness/h_crt.cpp` / `Driver/CRT.lean`.

Quantifiers: every list of moduli (any length ≥ 0, any order, any size — `Int` is unbounded), every canonical residue
vector, every integer, every cofactor function `cof` satisfying the Bezout contract `CofOK` (what `mpz_gcdext` and
`Domain::inv` guarantee), and every *history* of the system object (`IntHist` / `RnsHist`: default construction,
construction from primes, copy construction, assignment over any other object, `setPrimes`, and any number of
earlier conversions that filled the caches).  Further sections: the functor over any residue domain (`ResidueDom`), `RNSsystemFixed`
(model in Model/CRT.lean after givrnsfixed.inl), programs over several objects (`IntOp`/`RnsOp`), `Poly1CRT<Field>` over `Z/p`.

Hypotheses are exactly the documented contract: moduli pairwise coprime
(`PairwiseCoprime ps := ps.Pairwise (fun a b => Int.gcd a b = 1)`) and residues canonical
(`Canon ps rs := Forall₂ (fun p r => 0 ≤ r ∧ r < p) ps rs`, which also says `0 < p_i`).  Defined in Lemmas/: `CofOK`, `Canon`,
`PairwiseCoprime`, `mrDigits`, `natPairs` (CRTGarner); `IntHist`, `RnsHist` (CRTSys); `DomOK` (CRTDom); `FixedHist`, `levelsFrom`, `encode`,
`pairProd` (CRTFixed); `PolyHist`, `DistinctMod`, `CanonCoeffs` (CRTPoly).
-/
import GivaroModel.Lemmas.CRTSys
import GivaroModel.Lemmas.CRTPoly
import GivaroModel.Lemmas.CRTDom
import GivaroModel.Lemmas.CRTFixed
namespace Givaro.Props.C14
open Givaro.Model.CRT
open Givaro.Lemmas.CRT
open Givaro.Spec.CRT (prod mrValue)

/-- the Bezout-cofactor contract is satisfiable: the extended Euclid used by the driver meets it -/
theorem cof_contract_satisfiable : CofOK cofEuclid := cofEuclid_ok

/-! ## IntRNSsystem -/

/-- *cache invariant*: whatever the history, `_ck` is empty or holds the reciprocals of the *current* primes,
    and `_prod` is 1 or the product of the current primes. -/
theorem int_cache_invariant (cof : Int → Int → Int) (h : IntHist) :
    ((h.eval cof).ck = [] ∨ (h.eval cof).ck = intComputeCk cof (h.eval cof).primes) ∧
    ((h.eval cof).prod = 1 ∨ (h.eval cof).prod = prod (h.eval cof).primes) :=
  intHist_good cof h

/-- *the result does not depend on which constructor, copy or assignment produced the system object*:
    two objects with the same primes give identical answers to every query. -/
theorem int_history_independent (cof : Int → Int → Int) (h1 h2 : IntHist)
    (hp : (h1.eval cof).primes = (h2.eval cof).primes) (rs : List Int) (a : Int) :
    ((h1.eval cof).rnsToRing cof rs).2 = ((h2.eval cof).rnsToRing cof rs).2 ∧
    ((h1.eval cof).rnsToMixedRadix cof rs).2 = ((h2.eval cof).rnsToMixedRadix cof rs).2 ∧
    ((h1.eval cof).reciprocals cof).2 = ((h2.eval cof).reciprocals cof).2 ∧
    (h1.eval cof).product.2 = (h2.eval cof).product.2 ∧
    (h1.eval cof).toRns a = (h2.eval cof).toRns a := by
  obtain ⟨a1, a2, a3, a4, a5⟩ := (intHist_good cof h1).answers rs a
  obtain ⟨b1, b2, b3, b4, b5⟩ := (intHist_good cof h2).answers rs a
  rw [a1, a2, a3, a4, a5, b1, b2, b3, b4, b5, hp]
  exact ⟨rfl, rfl, rfl, rfl, rfl⟩

/-- the copy constructor as it stood before fixes/C14_1.patch (`_ck(R._primes)`) violates history independence:
    primes (7,11,13), residues of 500: the original answers 500, its copy answers 3. -/
theorem int_copy_unrepaired_counterexample :
    ((IntSys.ofPrimes [7, 11, 13]).rnsToRing cofEuclid [3, 5, 6]).2 = 500 ∧
    ((IntSys.ofPrimes [7, 11, 13]).copyUnrepaired.rnsToRing cofEuclid [3, 5, 6]).2 = 3 := by
  decide

/-- *mixed-radix digits are each below their modulus*, and they are the digits of the converted value -/
theorem int_garner_digits_bounded (cof : Int → Int → Int) (hcof : CofOK cof) (h : IntHist) (rs : List Int)
    (hco : PairwiseCoprime (h.eval cof).primes) (hcan : Canon (h.eval cof).primes rs) :
    Canon (h.eval cof).primes ((h.eval cof).rnsToMixedRadix cof rs).2 ∧
    mrValue (h.eval cof).primes ((h.eval cof).rnsToMixedRadix cof rs).2 = ((h.eval cof).rnsToRing cof rs).2 := by
  have r := (intHist_good cof h).garner hcof hco hcan
  exact ⟨r.digits, r.value⟩

/-- *conversion from the residue representation returns the unique integer in [0, ∏ moduli) having those residues* -/
theorem int_mixed_radix_exact (cof : Int → Int → Int) (hcof : CofOK cof) (h : IntHist) (rs : List Int)
    (hco : PairwiseCoprime (h.eval cof).primes) (hcan : Canon (h.eval cof).primes rs) :
    let ps := (h.eval cof).primes
    let x := ((h.eval cof).rnsToRing cof rs).2
    (0 ≤ x ∧ x < prod ps) ∧ List.Forall₂ (fun p r => x % p = r) ps rs ∧
    (∀ y : Int, 0 ≤ y ∧ y < prod ps → (∀ p ∈ ps, y % p = x % p) → y = x) :=
  -- `PairwiseCoprime` (gcd form) is for the statements; the lemma files work with `Pairwise IsCoprime`
  ((intHist_good cof h).garner hcof hco hcan).isCRT.exact hco.isCoprime

/-- *conversion of an integer to residues returns its canonical remainders* -/
theorem int_ring_to_rns_canonical (cof : Int → Int → Int) (h : IntHist) (a : Int)
    (hpos : ∀ p ∈ (h.eval cof).primes, 0 < p) :
    (h.eval cof).toRns a = (h.eval cof).primes.map (fun p => a % p) ∧ Canon (h.eval cof).primes ((h.eval cof).toRns a) :=
  ⟨rfl, canon_ringToRns _ a hpos⟩

/-- *the two conversions are mutually inverse* -/
theorem int_rns_round_trip (cof : Int → Int → Int) (hcof : CofOK cof) (h : IntHist)
    (hco : PairwiseCoprime (h.eval cof).primes) :
    (∀ rs, Canon (h.eval cof).primes rs → (h.eval cof).toRns ((h.eval cof).rnsToRing cof rs).2 = rs) ∧
    (∀ a : Int, (∀ p ∈ (h.eval cof).primes, 0 < p) →
      ((h.eval cof).rnsToRing cof ((h.eval cof).toRns a)).2 = a % prod (h.eval cof).primes) :=
  ⟨fun _ hcan => ((intHist_good cof h).garner hcof hco hcan).isCRT.toRns,
    fun a hpos => ((intHist_good cof h).garner hcof hco (canon_ringToRns _ a hpos)).isCRT.unique hco.isCoprime
      (isCRT_emod hpos a)⟩

/-! ## RNSsystem<RING, Domain> -/

theorem rns_cache_invariant (cof : Int → Int → Int) (h : RnsHist) :
    (h.eval cof).ck = [] ∨ (h.eval cof).ck = rnsComputeCk cof (h.eval cof).primes :=
  rnsHist_good cof h

theorem rns_history_independent (cof : Int → Int → Int) (h1 h2 : RnsHist)
    (hp : (h1.eval cof).primes = (h2.eval cof).primes) (rs : List Int) (a : Int) :
    ((h1.eval cof).rnsToRing cof rs).2 = ((h2.eval cof).rnsToRing cof rs).2 ∧
    ((h1.eval cof).rnsToMixedRadix cof rs).2 = ((h2.eval cof).rnsToMixedRadix cof rs).2 ∧
    ((h1.eval cof).reciprocals cof).2 = ((h2.eval cof).reciprocals cof).2 ∧
    (h1.eval cof).toRns a = (h2.eval cof).toRns a := by
  obtain ⟨a1, a2, a3, a4⟩ := (rnsHist_good cof h1).answers rs a
  obtain ⟨b1, b2, b3, b4⟩ := (rnsHist_good cof h2).answers rs a
  rw [a1, a2, a3, a4, b1, b2, b3, b4, hp]
  exact ⟨rfl, rfl, rfl, rfl⟩

/-- dropping `_ck.resize(0)` from `setPrimes` (the representative breaking change of DESIGN §2.9) is *not* harmless:
    a system moved from primes (3,5) to (7,11,13) after one conversion would answer 276 instead of 500. -/
theorem rns_setPrimes_must_clear_cache :
    let s := ((RnsSys.ofPrimes [3, 5]).computeCk cofEuclid)
    ((s.setPrimes [7, 11, 13]).rnsToRing cofEuclid [3, 5, 6]).2 = 500 ∧
    ((RnsSys.mk [7, 11, 13] s.ck).rnsToRing cofEuclid [3, 5, 6]).2 ≠ 500 := by
  decide

theorem rns_garner_digits_bounded (cof : Int → Int → Int) (hcof : CofOK cof) (h : RnsHist) (rs : List Int)
    (hco : PairwiseCoprime (h.eval cof).primes) (hcan : Canon (h.eval cof).primes rs) :
    Canon (h.eval cof).primes ((h.eval cof).rnsToMixedRadix cof rs).2 ∧
    mrValue (h.eval cof).primes ((h.eval cof).rnsToMixedRadix cof rs).2 = ((h.eval cof).rnsToRing cof rs).2 := by
  have r := (rnsHist_good cof h).garner hcof hco hcan
  exact ⟨r.digits, r.value⟩

theorem rns_mixed_radix_exact (cof : Int → Int → Int) (hcof : CofOK cof) (h : RnsHist) (rs : List Int)
    (hco : PairwiseCoprime (h.eval cof).primes) (hcan : Canon (h.eval cof).primes rs) :
    let ps := (h.eval cof).primes
    let x := ((h.eval cof).rnsToRing cof rs).2
    (0 ≤ x ∧ x < prod ps) ∧ List.Forall₂ (fun p r => x % p = r) ps rs ∧
    (∀ y : Int, 0 ≤ y ∧ y < prod ps → (∀ p ∈ ps, y % p = x % p) → y = x) :=
  ((rnsHist_good cof h).garner hcof hco hcan).isCRT.exact hco.isCoprime

theorem rns_ring_to_rns_canonical (cof : Int → Int → Int) (h : RnsHist) (a : Int)
    (hpos : ∀ p ∈ (h.eval cof).primes, 0 < p) :
    (h.eval cof).toRns a = (h.eval cof).primes.map (fun p => a % p) ∧ Canon (h.eval cof).primes ((h.eval cof).toRns a) :=
  ⟨rfl, canon_ringToRns _ a hpos⟩

theorem rns_rns_round_trip (cof : Int → Int → Int) (hcof : CofOK cof) (h : RnsHist)
    (hco : PairwiseCoprime (h.eval cof).primes) :
    (∀ rs, Canon (h.eval cof).primes rs → (h.eval cof).toRns ((h.eval cof).rnsToRing cof rs).2 = rs) ∧
    (∀ a : Int, (∀ p ∈ (h.eval cof).primes, 0 < p) →
      ((h.eval cof).rnsToRing cof ((h.eval cof).toRns a)).2 = a % prod (h.eval cof).primes) :=
  ⟨fun _ hcan => ((rnsHist_good cof h).garner hcof hco hcan).isCRT.toRns,
    fun a hpos => ((rnsHist_good cof h).garner hcof hco (canon_ringToRns _ a hpos)).isCRT.unique hco.isCoprime
      (isCRT_emod hpos a)⟩

/-- the two systems agree with each other (same primes, same residues ⇒ same integer), whatever their histories -/
theorem int_rns_agree (cof : Int → Int → Int) (hcof : CofOK cof) (hi : IntHist) (hr : RnsHist) (rs : List Int)
    (hp : (hi.eval cof).primes = (hr.eval cof).primes)
    (hco : PairwiseCoprime (hi.eval cof).primes) (hcan : Canon (hi.eval cof).primes rs) :
    ((hi.eval cof).rnsToRing cof rs).2 = ((hr.eval cof).rnsToRing cof rs).2 :=
  ((intHist_good cof hi).garner hcof hco hcan).isCRT.unique hco.isCoprime
    (hp ▸ ((rnsHist_good cof hr).garner hcof (hp ▸ hco) (hp ▸ hcan)).isCRT)

/-! ## ChineseRemainder functor -/

/-- the law the functor documents: `res ≡ A (mod M)` and `res ≡ e (mod D)`, for both `REDUCE` variants
    (the result is not reduced into `[0, M·D)`, and the documentation does not claim it is). -/
theorem functor_congruences (cof : Int → Int → Int) (hcof : CofOK cof) (M d A e : Int)
    (hd : 0 < d) (hco : Int.gcd d M = 1) :
    (craApply (craInit cof M d) d A e - A) % M = 0 ∧ (craApply (craInit cof M d) d A e - e) % d = 0 ∧
    (craApplyNoReduce (craInit cof M d) A e - A) % M = 0 ∧ (craApplyNoReduce (craInit cof M d) A e - e) % d = 0 :=
  cra_congruences hcof hd (Int.isCoprime_iff_gcd_eq_one.mpr hco) A e

/-! ## ChineseRemainder over any residue domain meeting the init/convert contract, whatever its storage

`ResidueDom` (Model/CRT.lean): the functor reaches its `Domain` only through `init`, `convert`, `sub`, `inv` on opaque element codes
(Montgomery form, discrete logarithms, …).  `DomOK D` is the contract: `convert` returns canonical integers, `convert ∘ init` is
reduction mod `d` (C04), `sub`/`inv` are subtraction / inversion of the residues the codes stand for (C03/C05/C07). -/

/-- both variants: the lift is `≡ A (mod M)` and its canonical remainder mod `d` *is* `convert e` -/
theorem functor_congruences_any_domain (D : ResidueDom) (hD : DomOK D) (M A e : Int) (hco : Int.gcd D.d M = 1) :
    (craApplyD D (craInitD D M) A e - A) % M = 0 ∧ craApplyD D (craInitD D M) A e % D.d = D.convert e ∧
    (craApplyNoReduceD D (craInitD D M) A e - A) % M = 0 ∧ craApplyNoReduceD D (craInitD D M) A e % D.d = D.convert e :=
  cra_congruences_dom hD (Int.isCoprime_iff_gcd_eq_one.mpr hco) A e

/-- the integer returned does not depend on the storage: it is what the canonical-storage model returns for the residue `convert e` -/
theorem functor_any_domain_is_canonical_model (D : ResidueDom) (hD : DomOK D) (cof : Int → Int → Int) (hcof : CofOK cof)
    (M A e : Int) (hco : Int.gcd D.d M = 1) :
    craInitD D M = craInit cof M D.d ∧
    craApplyD D (craInitD D M) A e = craApply (craInit cof M D.d) D.d A (D.convert e) ∧
    craApplyNoReduceD D (craInitD D M) A e = craApplyNoReduce (craInit cof M D.d) A (D.convert e) :=
  cra_dom_eq_canonical hD hcof (Int.isCoprime_iff_gcd_eq_one.mpr hco) A e

/-- the contract is met by canonical storage and by Montgomery storage with any radix `R` invertible mod `d` -/
theorem residue_domain_contract_instances (cof : Int → Int → Int) (hcof : CofOK cof) (d R Rinv : Int) (hd : 0 < d)
    (hR : (Rinv * R) % d = 1 % d) : DomOK (canonicalDom cof d) ∧ DomOK (montgomeryDom cof d R Rinv) :=
  ⟨canonicalDom_ok hcof hd, montgomeryDom_ok hcof hd hR⟩

/-! ## RNSsystemFixed: the constructor's table, the recombination tree, the final Garner step

`FixedHist`: construction from primes, copy construction, assignment, earlier conversions; `h.primes` the moduli it was built from. -/

/-- for every number of moduli (complete trees — 2, 4, 8, 16, … — included): the result is the integer of `[0, ∏m)` with the given
    residues, it is the only one, and it is what `RNSsystem`'s Garner conversion returns on the same input -/
theorem fixed_crt_exact (cof : Int → Int → Int) (hcof : CofOK cof) (h : FixedHist) (rs : List Int) (hne : h.primes ≠ [])
    (hco : PairwiseCoprime h.primes) (hcan : Canon h.primes rs) :
    let x := ((h.eval cof).rnsToRing cof rs).2
    (0 ≤ x ∧ x < prod h.primes) ∧ List.Forall₂ (fun p r => x % p = r) h.primes rs ∧
    (∀ y : Int, 0 ≤ y ∧ y < prod h.primes → (∀ p ∈ h.primes, y % p = x % p) → y = x) ∧
    x = ((RnsSys.ofPrimes h.primes).rnsToRing cof rs).2 := by
  intro x
  rw [show x = _ from (fixedHist_good cof h).eq_garner hcof hne hco.isCoprime hcan]
  obtain ⟨e1, e2, e3⟩ := ((RnsGood.fresh cof h.primes).garner hcof hco hcan).isCRT.exact hco.isCoprime
  exact ⟨e1, e2, e3, rfl⟩

/-- the answer does not depend on how the object was obtained -/
theorem fixed_history_independent (cof : Int → Int → Int) (h1 h2 : FixedHist) (hp : h1.primes = h2.primes) (rs : List Int) :
    ((h1.eval cof).rnsToRing cof rs).2 = ((h2.eval cof).rnsToRing cof rs).2 := by
  rw [(fixedHist_good cof h1).answer rs, (fixedHist_good cof h2).answer rs, hp]

/-- the table the constructor builds by carries is the closed form: level `L` stores the `L`-fold pairwise products at even
    positions and the recombination constants `(p0⁻¹ mod p1)·p0` at odd positions -/
theorem fixed_table_closed_form (cof : Int → Int → Int) (ps : List Int) (hne : ps ≠ []) :
    fixedBuild cof ps = levelsFrom cof ps ∧ ∀ L, (fixedBuild cof ps).getD L [] = encode cof (pairProd^[L] ps) := by
  refine ⟨fixedBuild_eq cof hne, fun L => ?_⟩
  rw [fixedBuild_eq cof hne, levelsFrom_getD]

/-! ## mixed-radix digits: range, uniqueness, canonical expansion; the value is Mathlib's Chinese remainder -/

/-- for every list of radices (any length, any sizes; they need not be coprime) a digit string with `0 ≤ d_i < m_i` is determined by
    its value -/
theorem mixed_radix_digits_unique (ps ms ms' : List Int) (h : Canon ps ms) (h' : Canon ps ms')
    (hv : mrValue ps ms = mrValue ps ms') : ms = ms' :=
  mr_digits_unique h h' hv

/-- the digits Garner's algorithm produces are *the* mixed-radix expansion of the converted value
    (`mrDigits ps x = [x mod p_0, (x / p_0) mod p_1, …]`), for both classes and every history; recombination is exact -/
theorem garner_digits_are_the_expansion (cof : Int → Int → Int) (hcof : CofOK cof) (hi : IntHist) (hr : RnsHist) (rs : List Int) :
    (PairwiseCoprime (hi.eval cof).primes → Canon (hi.eval cof).primes rs →
      ((hi.eval cof).rnsToMixedRadix cof rs).2 = mrDigits (hi.eval cof).primes ((hi.eval cof).rnsToRing cof rs).2 ∧
      mixedRadixToRing (hi.eval cof).primes ((hi.eval cof).rnsToMixedRadix cof rs).2 = ((hi.eval cof).rnsToRing cof rs).2) ∧
    (PairwiseCoprime (hr.eval cof).primes → Canon (hr.eval cof).primes rs →
      ((hr.eval cof).rnsToMixedRadix cof rs).2 = mrDigits (hr.eval cof).primes ((hr.eval cof).rnsToRing cof rs).2 ∧
      mixedRadixToRing (hr.eval cof).primes ((hr.eval cof).rnsToMixedRadix cof rs).2 = ((hr.eval cof).rnsToRing cof rs).2) :=
  ⟨fun hco hcan => ⟨((intHist_good cof hi).garner hcof hco hcan).digits_eq, (IntSys.rnsToRing_snd cof _ rs).symm⟩,
    fun hco hcan => ⟨((rnsHist_good cof hr).garner hcof hco hcan).digits_eq, (RnsSys.rnsToRing_snd cof _ rs).symm⟩⟩

/-! ## programs: operation lists of any length over any number of objects

`IntOp` / `RnsOp` (Model/CRT.lean): construct, default-construct, copy-construct from another object, assign from another object
(or itself), `setPrimes`, conversions in both directions, `Reciprocals`, `product` — each naming the object(s) it acts on.
`intRun cof IntEnv.init ops s` is object `s` after the program `ops`; `intPrimesRun (fun _ => []) ops s` is the moduli list the
cache-free reading of the program gives that object (its *last moduli set*). -/

/-- the cache invariant holds for every object after every program -/
theorem int_ops_cache_invariant (cof : Int → Int → Int) (ops : List IntOp) (s : Nat) :
    let o := intRun cof IntEnv.init ops s
    (o.ck = [] ∨ o.ck = intComputeCk cof o.primes) ∧ (o.prod = 1 ∨ o.prod = prod o.primes) :=
  intRun_good cof ops IntEnv.init (fun _ => IntGood.fresh cof []) s

theorem rns_ops_cache_invariant (cof : Int → Int → Int) (ops : List RnsOp) (s : Nat) :
    let o := rnsRun cof RnsEnv.init ops s
    o.ck = [] ∨ o.ck = rnsComputeCk cof o.primes :=
  rnsRun_good cof ops RnsEnv.init (fun _ => RnsGood.fresh cof []) s

/-- the state after any program depends only on the last moduli set: the object's primes are those of the cache-free reading,
    and every answer is a fixed function of them (so any two objects, in any two programs, with the same last moduli set answer alike) -/
theorem int_ops_depend_only_on_last_moduli (cof : Int → Int → Int) (ops : List IntOp) (s : Nat) (rs : List Int) (a : Int) :
    let o := intRun cof IntEnv.init ops s
    let ps := intPrimesRun (fun _ => []) ops s
    o.primes = ps ∧
    (o.rnsToMixedRadix cof rs).2 = intRnsToMixedRadix ps (intComputeCk cof ps) rs ∧
    (o.rnsToRing cof rs).2 = mixedRadixToRing ps (intRnsToMixedRadix ps (intComputeCk cof ps) rs) ∧
    (o.reciprocals cof).2 = intComputeCk cof ps ∧ o.product.2 = prod ps ∧ o.toRns a = ringToRns ps a := by
  simp only
  rw [← intRun_init_primes cof ops s]
  exact ⟨rfl, IntGood.answers (int_ops_cache_invariant cof ops s) rs a⟩

theorem rns_ops_depend_only_on_last_moduli (cof : Int → Int → Int) (ops : List RnsOp) (s : Nat) (rs : List Int) (a : Int) :
    let o := rnsRun cof RnsEnv.init ops s
    let ps := rnsPrimesRun (fun _ => []) ops s
    o.primes = ps ∧
    (o.rnsToMixedRadix cof rs).2 = rnsRnsToMixedRadix ps (rnsComputeCk cof ps) rs ∧
    (o.rnsToRing cof rs).2 = mixedRadixToRing ps (rnsRnsToMixedRadix ps (rnsComputeCk cof ps) rs) ∧
    (o.reciprocals cof).2 = rnsComputeCk cof ps ∧ o.toRns a = ringToRns ps a := by
  simp only
  rw [← rnsRun_init_primes cof ops s]
  exact ⟨rfl, RnsGood.answers (rns_ops_cache_invariant cof ops s) rs a⟩

/-- after any program, on any object whose last moduli set is pairwise coprime, the conversions meet the CRT specification:
    `RnsToRing` is Mathlib's `Nat.chineseRemainderOfList` of the (modulus, residue) pairs, the digits are its mixed-radix expansion,
    and the two conversions are mutually inverse -/
theorem int_ops_conversions_meet_crt_spec (cof : Int → Int → Int) (hcof : CofOK cof) (ops : List IntOp) (s : Nat) (rs : List Int)
    (hco : PairwiseCoprime (intPrimesRun (fun _ => []) ops s)) (hcan : Canon (intPrimesRun (fun _ => []) ops s) rs)
    (co : (natPairs (intPrimesRun (fun _ => []) ops s) rs).Pairwise (Function.onFun Nat.Coprime Prod.fst)) :
    let o := intRun cof IntEnv.init ops s
    let ps := intPrimesRun (fun _ => []) ops s
    let x := (o.rnsToRing cof rs).2
    x = ((Nat.chineseRemainderOfList Prod.snd Prod.fst (natPairs ps rs) co : ℕ) : Int) ∧
    (o.rnsToMixedRadix cof rs).2 = mrDigits ps x ∧ o.toRns x = rs ∧
    (∀ a : Int, (o.rnsToRing cof (o.toRns a)).2 = a % prod ps) := by
  have hg := int_ops_cache_invariant cof ops s
  have hp := intRun_init_primes cof ops s
  generalize intPrimesRun (fun _ => []) ops s = ps at hp hco hcan co ⊢
  subst hp
  intro o
  exact conversions_meet_spec (D := fun rs => (o.rnsToMixedRadix cof rs).2) (V := fun rs => (o.rnsToRing cof rs).2)
    hco (fun _ hc => IntGood.garner hcof hg hco hc) hcan

theorem rns_ops_conversions_meet_crt_spec (cof : Int → Int → Int) (hcof : CofOK cof) (ops : List RnsOp) (s : Nat) (rs : List Int)
    (hco : PairwiseCoprime (rnsPrimesRun (fun _ => []) ops s)) (hcan : Canon (rnsPrimesRun (fun _ => []) ops s) rs)
    (co : (natPairs (rnsPrimesRun (fun _ => []) ops s) rs).Pairwise (Function.onFun Nat.Coprime Prod.fst)) :
    let o := rnsRun cof RnsEnv.init ops s
    let ps := rnsPrimesRun (fun _ => []) ops s
    let x := (o.rnsToRing cof rs).2
    x = ((Nat.chineseRemainderOfList Prod.snd Prod.fst (natPairs ps rs) co : ℕ) : Int) ∧
    (o.rnsToMixedRadix cof rs).2 = mrDigits ps x ∧ o.toRns x = rs ∧
    (∀ a : Int, (o.rnsToRing cof (o.toRns a)).2 = a % prod ps) := by
  have hg := rns_ops_cache_invariant cof ops s
  have hp := rnsRun_init_primes cof ops s
  generalize rnsPrimesRun (fun _ => []) ops s = ps at hp hco hcan co ⊢
  subst hp
  intro o
  exact conversions_meet_spec (D := fun rs => (o.rnsToMixedRadix cof rs).2) (V := fun rs => (o.rnsToRing cof rs).2)
    hco (fun _ hc => RnsGood.garner hcof hg hco hc) hcan

/-! ## Poly1CRT<Field> (polynomial CRT with the moduli `X - a_i`), `Field = Z/p`, `p` prime

`DistinctMod p as := as.Pairwise (fun a b => a % p ≠ b % p)` — the moduli `X - a_i` are pairwise coprime;
`CanonCoeffs p P` — every coefficient in `[0, p)`; a polynomial is its coefficient list (low degree first), two lists denote the
same polynomial when they agree at every index (`getD i 0`: missing high coefficients are 0). -/

theorem poly_cache_invariant (cof : Int → Int → Int) (h : PolyHist) :
    (h.eval cof).ck = [] ∨ (h.eval cof).ck = polyComputeCk cof (h.eval cof).p (h.eval cof).points :=
  polyHist_good cof h

theorem poly_history_independent (cof : Int → Int → Int) (h1 h2 : PolyHist)
    (hp : (h1.eval cof).p = (h2.eval cof).p) (hpts : (h1.eval cof).points = (h2.eval cof).points) (rs P : List Int) :
    ((h1.eval cof).rnsToRing cof rs).2 = ((h2.eval cof).rnsToRing cof rs).2 ∧
    (h1.eval cof).toRns P = (h2.eval cof).toRns P := by
  rw [(polyHist_good cof h1).answer rs, (polyHist_good cof h2).answer rs, hp, hpts]
  simp [PolySys.toRns, hp, hpts]

/-- `RnsToRing` returns a polynomial of degree `< n` with canonical coefficients whose value at `a_i` is `r_i`
    (so `RingToRns ∘ RnsToRing` is the identity on canonical residue vectors) -/
theorem poly_crt_interpolates (p : ℕ) [Fact p.Prime] (cof : Int → Int → Int) (hcof : CofOK cof) (h : PolyHist)
    (hq : (h.eval cof).p = (p : Int)) (rs : List Int) (hlen : rs.length = (h.eval cof).points.length)
    (hd : DistinctMod (p : Int) (h.eval cof).points) :
    (h.eval cof).toRns ((h.eval cof).rnsToRing cof rs).2 = rs.map (fun r => r % (p : Int)) ∧
    (((h.eval cof).rnsToRing cof rs).2).length ≤ (h.eval cof).points.length ∧
    CanonCoeffs (p : Int) ((h.eval cof).rnsToRing cof rs).2 := by
  rw [(polyHist_good cof h).answer rs, PolySys.toRns, hq]
  obtain ⟨r1, r23⟩ := polyRnsToRing_spec (p := p) hcof (h.eval cof).points rs hlen hd.cast
  exact ⟨(toRns_eq_iff _ hlen).mpr r1, r23⟩

/-- … and it is the *unique* such polynomial: any `Q` of degree `< n` with the same values has the same coefficients mod `p` -/
theorem poly_crt_unique (p : ℕ) [Fact p.Prime] (cof : Int → Int → Int) (hcof : CofOK cof) (h : PolyHist)
    (hq : (h.eval cof).p = (p : Int)) (rs : List Int) (hlen : rs.length = (h.eval cof).points.length)
    (hd : DistinctMod (p : Int) (h.eval cof).points)
    (Q : List Int) (hQ : Q.length ≤ (h.eval cof).points.length)
    (hQr : (h.eval cof).toRns Q = rs.map (fun r => r % (p : Int))) :
    ∀ i : ℕ, (Q.getD i 0) % (p : Int) = (((h.eval cof).rnsToRing cof rs).2).getD i 0 := by
  obtain ⟨e1, e2, e3⟩ := poly_crt_interpolates p cof hcof h hq rs hlen hd
  rw [PolySys.toRns, hq] at hQr e1
  intro i
  rw [coeff_unique hlen hd.cast hQ e2 ((toRns_eq_iff Q hlen).mp hQr) ((toRns_eq_iff _ hlen).mp e1) i,
    getD_emod_of_canon prime_cast_pos e3]

/-- `RingToRns` then `RnsToRing` is the identity on polynomials of degree `<` the number of points -/
theorem poly_crt_round_trip (p : ℕ) [Fact p.Prime] (cof : Int → Int → Int) (hcof : CofOK cof) (h : PolyHist)
    (hq : (h.eval cof).p = (p : Int)) (hd : DistinctMod (p : Int) (h.eval cof).points)
    (P : List Int) (hP : P.length ≤ (h.eval cof).points.length) (hc : CanonCoeffs (p : Int) P) :
    ∀ i : ℕ, (((h.eval cof).rnsToRing cof ((h.eval cof).toRns P)).2).getD i 0 = P.getD i 0 := by
  have hpos : (0 : Int) < p := prime_cast_pos
  intro i
  have hlen : ((h.eval cof).toRns P).length = (h.eval cof).points.length := by
    rw [PolySys.toRns, polyRingToRns, List.length_map]
  have hres : (h.eval cof).toRns P = ((h.eval cof).toRns P).map (fun r => r % (p : Int)) := by
    rw [PolySys.toRns, hq]
    exact (polyRingToRns_emod hpos _ P).symm
  rw [← poly_crt_unique p cof hcof h hq _ hlen hd P hP hres i, getD_emod_of_canon hpos hc]

/-- the same in terms of the observable (normalised) coefficient list the harness compares -/
theorem poly_crt_round_trip_normalised (p : ℕ) [Fact p.Prime] (cof : Int → Int → Int) (hcof : CofOK cof) (h : PolyHist)
    (hq : (h.eval cof).p = (p : Int)) (hd : DistinctMod (p : Int) (h.eval cof).points)
    (P : List Int) (hP : P.length ≤ (h.eval cof).points.length) (hc : CanonCoeffs (p : Int) P) :
    polyNorm ((h.eval cof).rnsToRing cof ((h.eval cof).toRns P)).2 = polyNorm P :=
  polyNorm_eq_of_getD_eq _ _ (poly_crt_round_trip p cof hcof h hq hd P hP hc)

/-! ## non-vacuity: the hypotheses are satisfiable and the conclusions are the expected numbers -/

example : CofOK cofEuclid := cof_contract_satisfiable
example : PairwiseCoprime [7, 11, 13] := by unfold PairwiseCoprime; decide
example : PairwiseCoprime ((IntHist.copy (.useCk (.mk [7, 11, 13]))).eval cofEuclid).primes := by
  unfold PairwiseCoprime; decide
example : Canon ((IntHist.copy (.useCk (.mk [7, 11, 13]))).eval cofEuclid).primes [3, 5, 6] := by
  unfold Canon; exact .cons (by decide) (.cons (by decide) (.cons (by decide) .nil))
example : (((IntHist.copy (.useCk (.mk [7, 11, 13]))).eval cofEuclid).rnsToRing cofEuclid [3, 5, 6]).2 = 500 := by decide
example : (((IntHist.assign (.useCk (.mk [3, 5])) (.useProd (.mk [7, 11, 13]))).eval cofEuclid).rnsToRing cofEuclid [3, 5, 6]).2 = 500 := by
  decide
example : PairwiseCoprime ((RnsHist.setPrimes (.useCk (.mk [3, 5])) [13, 7, 11]).eval cofEuclid).primes := by
  unfold PairwiseCoprime; decide
example : Canon ((RnsHist.setPrimes (.useCk (.mk [3, 5])) [13, 7, 11]).eval cofEuclid).primes [6, 3, 5] := by
  unfold Canon; exact .cons (by decide) (.cons (by decide) (.cons (by decide) .nil))
example : (((RnsHist.setPrimes (.useCk (.mk [3, 5])) [13, 7, 11]).eval cofEuclid).rnsToRing cofEuclid [6, 3, 5]).2 = 500 := by decide
example : (((RnsHist.assign (.useCk (.mk [3, 5])) (.copy (.useCk (.mk [13, 7, 11])))).eval cofEuclid).rnsToMixedRadix cofEuclid [6, 3, 5]).2 = [6, 3, 5] := by
  decide
example : (0 : Int) < 13 ∧ Int.gcd 13 77 = 1 := by decide
example : craApply (craInit cofEuclid 77 13) 13 38 6 = 6506 ∧ (6506 : Int) % (77 * 13) = 500 := by decide

-- a program over three objects: object 2 ends on (7,11,13) after copies, a self-assignment and stale caches everywhere
example :
    let ops : List IntOp := [.construct 0 [3, 5], .toRing 0 [1, 2], .construct 1 [7, 11, 13], .product 1, .copyConstruct 2 0,
      .toRing 2 [2, 4], .assign 2 1, .assign 2 2, .assign 0 2, .reciprocals 0]
    intPrimesRun (fun _ => []) ops 2 = [7, 11, 13] ∧ ((intRun cofEuclid IntEnv.init ops 2).rnsToRing cofEuclid [3, 5, 6]).2 = 500 ∧
    ((intRun cofEuclid IntEnv.init ops 0).rnsToMixedRadix cofEuclid [3, 5, 6]).2 = mrDigits [7, 11, 13] 500 := by decide
example :
    let ops : List RnsOp := [.construct 0 [3, 5], .toRing 0 [1, 2], .copyConstruct 1 0, .setPrimes 1 [13, 7, 11], .assign 0 1,
      .toRing 1 [6, 3, 5], .setPrimes 1 [2, 9], .assign 2 0]
    rnsPrimesRun (fun _ => []) ops 2 = [13, 7, 11] ∧ ((rnsRun cofEuclid RnsEnv.init ops 2).rnsToRing cofEuclid [6, 3, 5]).2 = 500 := by
  decide
example : PairwiseCoprime [7, 11, 13] ∧ natPairs [7, 11, 13] [3, 5, 6] = [(7, 3), (11, 5), (13, 6)] := by
  unfold PairwiseCoprime; decide

-- RNSsystemFixed on 4 (complete tree), 3 and 5 moduli, through copies and earlier conversions
example : ((FixedHist.copy (.use (.mk [7, 11, 13, 17]) [1, 2, 3, 4])).eval cofEuclid |>.rnsToRing cofEuclid [3, 5, 6, 7]).2 = 500 := by
  decide
example : ((FixedHist.assign (.mk [2, 3]) (.mk [7, 11, 13])).eval cofEuclid |>.rnsToRing cofEuclid [3, 5, 6]).2 = 500 := by decide
example : ((FixedHist.mk [2, 3, 5, 7, 11]).eval cofEuclid |>.rnsToRing cofEuclid [0, 2, 0, 3, 5]).2 = 500 := by decide
example : fixedBuild cofEuclid [2, 5, 7, 3] = [[2, 6, 7, 7], [10, 190], [210]] := by decide
-- Montgomery storage, d = 13, R = 16 ≡ 3, R⁻¹ = 9: lifting A = 38 (mod 77) with the element whose value is 6
example : ((9 : Int) * 3) % 13 = 1 % 13 := by decide
example : craApplyD (montgomeryDom cofEuclid 13 3 9) (craInitD (montgomeryDom cofEuclid 13 3 9) 77) 38
    ((montgomeryDom cofEuclid 13 3 9).init 6) = 6506 ∧ (montgomeryDom cofEuclid 13 3 9).convert ((montgomeryDom cofEuclid 13 3 9).init 6) = 6 := by
  decide

-- Poly1CRT over Z/7, points 1,2,4, residues of 3X²+5X+2
instance : Fact (Nat.Prime 7) := ⟨by decide⟩
example : DistinctMod ((7 : ℕ) : Int) ((PolyHist.copy (.useCk (.mk 7 [1, 2, 4]))).eval cofEuclid).points := by
  unfold DistinctMod; decide
example : CanonCoeffs ((7 : ℕ) : Int) [2, 5, 3] := by unfold CanonCoeffs; decide
example : ((PolyHist.mk 7 [1, 2, 4]).eval cofEuclid).toRns [2, 5, 3] = [3, 3, 0] := by decide
example : (((PolyHist.copy (.useCk (.mk 7 [1, 2, 4]))).eval cofEuclid).rnsToRing cofEuclid [3, 3, 0]).2 = [2, 5, 3] := by decide

end Givaro.Props.C14
