/-
C05 — what `Props.C05.valid_implies_field` rests on.  For `K = (ZMod p)[X] ⧸ (f)`, `f = X^k + flow`: the codes `< p^k` decode
bijectively onto `K` (injective: two polynomials of degree `< k` congruent modulo `f` are equal; onto by counting, `|K| = p^k` from the
power basis); if the non-zero elements are the powers of one `γ` with `γ^n = 1` then `K` is a field, `(f)` maximal, `f` irreducible.
Also: `0 ↦ 0, i ↦ γ^i` is injective below the order of `γ` (`pow_inj_range`, `zeroPow_inj`), and the case `k = 1`.
-/
import GivaroModel.Lemmas.GFqAdjoinRoot
import Mathlib.FieldTheory.Finiteness
import Mathlib.FieldTheory.Finite.Basic
import Mathlib.RingTheory.PowerBasis
import Mathlib.Data.Nat.Prime.Basic
import Mathlib.RingTheory.Ideal.Quotient.Basic
namespace Givaro.Lemmas.GFqZech
open Givaro.Model.Zech Givaro.Spec.GFq Polynomial

variable {p : Nat}

theorem coeff_toPoly : ∀ (l : List Nat) (i : Nat), (toPoly p l).coeff i = ((l.getD i 0 : Nat) : ZMod p)
  | [], i => by simp [toPoly]
  | d :: ds, 0 => by simp [toPoly]
  | d :: ds, i + 1 => by
    simp only [toPoly, coeff_add, coeff_C_succ, zero_add, coeff_X_mul, List.getD_cons_succ]
    exact coeff_toPoly ds i

theorem degree_toPoly_lt (l : List Nat) : (toPoly p l).degree < l.length := by
  rw [degree_lt_iff_coeff_zero]
  intro m hm
  rw [coeff_toPoly]
  have : l.getD m 0 = 0 := by simp [List.getD_eq_getElem?_getD, List.getElem?_eq_none hm]
  rw [this]; simp

theorem modulus_monic (F : Field) : (modulus F).Monic := by
  unfold modulus
  apply monic_X_pow_add
  have := degree_toPoly_lt (p := F.p) F.flow
  rwa [len_flow] at this

theorem modulus_natDegree (F : Field) [Fact (Nat.Prime F.p)] : (modulus F).natDegree = F.k := by
  unfold modulus
  have h := degree_toPoly_lt (p := F.p) F.flow
  rw [len_flow] at h
  rw [natDegree_add_eq_left_of_degree_lt (by rwa [degree_X_pow]), natDegree_X_pow]

theorem decA_injective (F : Field) [Fact (Nat.Prime F.p)] (a b : Nat) (ha : a < F.q) (hb : b < F.q)
    (h : decA F a = decA F b) : a = b := by
  have hp : 0 < F.p := (Fact.out : Nat.Prime F.p).pos
  unfold decA at h
  rw [AdjoinRoot.mk_eq_mk] at h
  have hdeg : (toPoly F.p (digits F.p F.k a) - toPoly F.p (digits F.p F.k b)).degree < (modulus F).degree := by
    rw [degree_eq_natDegree (modulus_monic F).ne_zero, modulus_natDegree]
    refine lt_of_le_of_lt (degree_sub_le _ _) (max_lt ?_ ?_)
    · have := degree_toPoly_lt (p := F.p) (digits F.p F.k a); rwa [len_digits] at this
    · have := degree_toPoly_lt (p := F.p) (digits F.p F.k b); rwa [len_digits] at this
  have h0 := eq_zero_of_dvd_of_degree_lt h hdeg
  have heq : toPoly F.p (digits F.p F.k a) = toPoly F.p (digits F.p F.k b) := sub_eq_zero.mp h0
  have hd : digits F.p F.k a = digits F.p F.k b := by
    apply List.ext_getElem (by rw [len_digits, len_digits])
    intro i h1 h2
    have hc := congrArg (fun q => q.coeff i) heq
    simp only [coeff_toPoly] at hc
    have e1 : (digits F.p F.k a).getD i 0 = (digits F.p F.k a)[i] := by simp [List.getD_eq_getElem?_getD, h1]
    have e2 : (digits F.p F.k b).getD i 0 = (digits F.p F.k b)[i] := by simp [List.getD_eq_getElem?_getD, h2]
    rw [e1, e2] at hc
    have l1 := lt_digits hp F.k a _ (List.getElem_mem h1)
    have l2 := lt_digits hp F.k b _ (List.getElem_mem h2)
    have := congrArg ZMod.val hc
    rwa [ZMod.val_natCast_of_lt l1, ZMod.val_natCast_of_lt l2] at this
  rw [← undigits_digits hp F.k a ha, ← undigits_digits hp F.k b hb, hd]

theorem finite_adjoinRoot (F : Field) [Fact (Nat.Prime F.p)] : Finite (AdjoinRoot (modulus F)) := by
  have : Module.Finite (ZMod F.p) (AdjoinRoot (modulus F)) := (AdjoinRoot.powerBasis' (modulus_monic F)).finite
  exact Module.finite_of_finite (ZMod F.p)

theorem card_adjoinRoot (F : Field) [Fact (Nat.Prime F.p)] : Nat.card (AdjoinRoot (modulus F)) = F.q := by
  have := finite_adjoinRoot F
  let _ := Fintype.ofFinite (AdjoinRoot (modulus F))
  rw [Nat.card_eq_fintype_card, Module.card_eq_pow_finrank (K := ZMod F.p), ZMod.card,
    (AdjoinRoot.powerBasis' (modulus_monic F)).finrank, AdjoinRoot.powerBasis'_dim, modulus_natDegree]; rfl

theorem decA_comp_bijective (F : Field) [Fact (Nat.Prime F.p)] (f : Nat → Nat) (hlt : ∀ i, i < F.q → f i < F.q)
    (hinj : ∀ i j, i < F.q → j < F.q → f i = f j → i = j) :
    Function.Bijective (fun a : Fin F.q => decA F (f a.val)) := by
  have := finite_adjoinRoot F
  rw [Nat.bijective_iff_injective_and_card]
  refine ⟨fun a b h => ?_, by rw [card_adjoinRoot, Nat.card_eq_fintype_card, Fintype.card_fin]⟩
  exact Fin.ext (hinj _ _ a.isLt b.isLt (decA_injective F _ _ (hlt _ a.isLt) (hlt _ b.isLt) h))

theorem isField_of_powers {A : Type*} [CommRing A] (h01 : (0 : A) ≠ 1) (γ : A) (n : Nat) (hγ : γ ^ n = 1)
    (hgen : ∀ x : A, x ≠ 0 → ∃ i, 1 ≤ i ∧ i ≤ n ∧ x = γ ^ i) : IsField A :=
  { exists_pair_ne := ⟨0, 1, h01⟩
    mul_comm := mul_comm
    mul_inv_cancel := fun {a} ha => by
      obtain ⟨i, _, h2, rfl⟩ := hgen a ha
      exact ⟨γ ^ (n - i), by rw [← pow_add, Nat.add_sub_cancel' h2, hγ]⟩ }

theorem adjoinRoot_zero_ne_one (F : Field) [Fact (Nat.Prime F.p)] (hq : 2 ≤ F.q) : (0 : AdjoinRoot (modulus F)) ≠ 1 := by
  intro h
  have all0 : ∀ x : AdjoinRoot (modulus F), x = 0 := fun x => by rw [← mul_one x, ← h, mul_zero]
  have := decA_injective F 0 1 (by omega) (by omega) (by rw [all0 (decA F 0), all0 (decA F 1)])
  omega

theorem modulus_irreducible_of_isField (F : Field) [Fact (Nat.Prime F.p)] (h : IsField (AdjoinRoot (modulus F))) : Irreducible (modulus F) :=
  ((Ideal.span_singleton_prime (modulus_monic F).ne_zero).mp (Ideal.Quotient.maximal_of_isField _ h).isPrime).irreducible

theorem pow_inj_range {K : Type*} [CommRing K] [IsDomain K] (γ : K) (n : Nat) (hord : orderOf γ = n) (hγ : γ ≠ 0)
    (i j : Nat) (hi1 : 1 ≤ i) (hi2 : i ≤ n) (hj1 : 1 ≤ j) (hj2 : j ≤ n) (h : γ ^ i = γ ^ j) : i = j := by
  have e1 : i = (i - 1) + 1 := by omega
  have e2 : j = (j - 1) + 1 := by omega
  rw [e1, e2, pow_succ, pow_succ] at h
  have h' := mul_right_cancel₀ hγ h
  have := pow_injOn_Iio_orderOf (x := γ) (by rw [hord]; simp only [Set.mem_Iio]; omega)
    (by rw [hord]; simp only [Set.mem_Iio]; omega) h'
  omega

theorem zeroPow_inj {K : Type*} [CommRing K] [IsDomain K] (γ : K) (n : Nat) (hord : orderOf γ = n) (hγ : γ ≠ 0)
    (f : Nat → K) (h0 : f 0 = 0) (hp : ∀ i, 1 ≤ i → i ≤ n → f i = γ ^ i)
    (i j : Nat) (hi : i ≤ n) (hj : j ≤ n) (h : f i = f j) : i = j := by
  rcases Nat.eq_zero_or_pos i with rfl | i1 <;> rcases Nat.eq_zero_or_pos j with rfl | j1
  · rfl
  · rw [h0, hp j j1 hj] at h; exact absurd h.symm (pow_ne_zero _ hγ)
  · rw [h0, hp i i1 hi] at h; exact absurd h (pow_ne_zero _ hγ)
  · rw [hp i i1 hi, hp j j1 hj] at h; exact pow_inj_range γ n hord hγ i j i1 hi j1 hj h

/-- for `k = 1` the modulus has degree one: irreducible whatever `_irred` holds -/
theorem modulus_irreducible_k1 (F : Field) [Fact (Nat.Prime F.p)] (hk : F.k = 1) : Irreducible (modulus F) := by
  apply Polynomial.irreducible_of_degree_eq_one
  rw [degree_eq_natDegree (modulus_monic F).ne_zero, modulus_natDegree, hk]; rfl

theorem decA_k1 (F : Field) (hk : F.k = 1) (a : Nat) :
    decA F a = AdjoinRoot.of (modulus F) ((a : Nat) : ZMod F.p) := by
  unfold decA
  rw [hk]
  simp only [digits, toPoly, mul_zero, add_zero]
  rw [AdjoinRoot.mk_C]
  congr 1
  exact ZMod.natCast_mod a F.p

theorem orderOf_decA_k1 (F : Field) [Fact (Nat.Prime F.p)] (hk : F.k = 1) (a : Nat) :
    orderOf (decA F a) = orderOf ((a : Nat) : ZMod F.p) := by
  rw [decA_k1 F hk]
  have hinj : Function.Injective (AdjoinRoot.of (modulus F)) := by
    apply AdjoinRoot.of.injective_of_degree_ne_zero
    rw [degree_eq_natDegree (modulus_monic F).ne_zero, modulus_natDegree, hk]; decide
  exact orderOf_injective (AdjoinRoot.of (modulus F)).toMonoidHom hinj _

end Givaro.Lemmas.GFqZech
