/-
C08 — `Interpolation<Domain>` (givinterp.h): the incremental Newton interpolation of `Model/PolyInterp.lean` returns the
interpolating polynomial.  `newton L` is the interpolant of the points `L` as a function of the list, `dd L` its coefficient
of degree `|L| - 1`; the entry `DD[j]` of the divided-difference column is `dd` of the points `x_j, …, x_k` (Neville's
recurrence, which holds because both of its sides interpolate the same points), and `inter` is `newton` of all points.
-/
import GivaroModel.Lemmas.PolyLemmas
import GivaroModel.Model.PolyInterp
import Mathlib.Algebra.Polynomial.Roots

open Polynomial
set_option linter.unusedSectionVars false

namespace Givaro.Lemmas.PolyInterp
open Givaro.Model.Poly Givaro.Model.PolyInterp Givaro.Lemmas.Poly

variable {K : Type} [Field K] [DecidableEq K]

/-- `Q` takes the prescribed values at the listed points -/
def Interp (Q : K[X]) (L : List (K × K)) : Prop := ∀ p ∈ L, Q.eval p.1 = p.2

/-- `Π (X - a)` over a list of points -/
noncomputable def prodX : List K → K[X]
  | [] => 1
  | a :: L => (X - C a) * prodX L

theorem prodX_monic (L : List K) : (prodX L).Monic := by
  induction L with
  | nil => exact monic_one
  | cons a L ih => exact (monic_X_sub_C a).mul ih

theorem prodX_natDegree (L : List K) : (prodX L).natDegree = L.length := by
  induction L with
  | nil => simp [prodX]
  | cons a L ih =>
    show ((X - C a) * prodX L).natDegree = _
    rw [(monic_X_sub_C a).natDegree_mul (prodX_monic L), natDegree_X_sub_C, ih, List.length_cons]; omega

theorem prodX_eval (L : List K) (a : K) (h : a ∈ L) : (prodX L).eval a = 0 := by
  induction L with
  | nil => simp at h
  | cons b L ih =>
    show ((X - C b) * prodX L).eval a = 0
    rw [eval_mul]
    rcases List.mem_cons.mp h with h | h
    · subst h; simp
    · rw [ih h, mul_zero]

theorem prodX_append (L : List K) (a : K) : prodX (L ++ [a]) = prodX L * (X - C a) := by
  induction L with
  | nil => simp [prodX]
  | cons b L ih => simp only [List.cons_append, prodX, ih]; ring

theorem prodX_eval_ne_zero (L : List K) (a : K) (h : a ∉ L) : (prodX L).eval a ≠ 0 := by
  induction L with
  | nil => simp [prodX]
  | cons b L ih =>
    simp only [prodX, eval_mul, eval_sub, eval_X, eval_C]
    have hb : a ≠ b := fun e => h (by rw [e]; exact List.mem_cons_self ..)
    exact mul_ne_zero (sub_ne_zero.mpr hb) (ih (fun hm => h (List.mem_cons_of_mem _ hm)))

theorem degree_prodX (L : List K) : (prodX L).degree = (L.length : WithBot ℕ) := by
  rw [degree_eq_natDegree (prodX_monic L).ne_zero, prodX_natDegree]

/-- one round of Newton's interpolation: the multiple of the nodal polynomial that corrects the value at a new point
    (`newton` below, and `polyGarner_interp` of Lemmas/CRTPoly.lean, C14) -/
theorem Interp.newton {I : K[X]} {done : List (K × K)} (hI : Interp I done) {p : K} (hp : p ∉ done.map Prod.fst) (r : K) :
    Interp (I + C (-(I.eval p) + r) * (prodX (done.map Prod.fst) * C ((prodX (done.map Prod.fst)).eval p)⁻¹))
      (done ++ [(p, r)]) := by
  intro q hq
  simp only [eval_add, eval_mul, eval_C]
  rcases List.mem_append.mp hq with hq | hq
  · rw [hI q hq, prodX_eval _ _ (List.mem_map_of_mem hq)]; ring
  · rw [List.mem_singleton.mp hq, mul_inv_cancel₀ (prodX_eval_ne_zero _ _ hp)]; ring

/-! ### values at the points and the degree bound determine the polynomial -/

theorem eq_zero_of_vanish (xs : List K) (hd : xs.Nodup) (D : K[X]) (hdeg : D.natDegree < xs.length)
    (h0 : ∀ x ∈ xs, D.eval x = 0) : D = 0 :=
  eq_zero_of_natDegree_lt_card_of_eval_eq_zero' D xs.toFinset (fun a ha => h0 a (List.mem_toFinset.mp ha))
    (by rwa [List.toFinset_card_of_nodup hd])

theorem natDegree_lt_of_degree_lt' (F : K[X]) (n : Nat) (hn : 1 ≤ n) (h : F.degree < (n : WithBot ℕ)) : F.natDegree < n := by
  by_cases h0 : F = 0
  · subst h0; simp; omega
  · exact (natDegree_lt_iff_degree_lt h0).mpr h

theorem eq_of_eval_eq (xs : List K) (hd : xs.Nodup) (F G : K[X]) (dF : F.degree < (xs.length : WithBot ℕ))
    (dG : G.degree < (xs.length : WithBot ℕ)) (h : ∀ x ∈ xs, F.eval x = G.eval x) : F = G := by
  by_cases hne : xs = []
  · subst hne
    simp only [List.length_nil, Nat.cast_zero] at dF dG
    rw [degree_eq_bot.mp (Nat.WithBot.lt_zero_iff.mp dF), degree_eq_bot.mp (Nat.WithBot.lt_zero_iff.mp dG)]
  · have hn : 1 ≤ xs.length := List.length_pos_iff.mpr hne
    have nF := natDegree_lt_of_degree_lt' F _ hn dF
    have nG := natDegree_lt_of_degree_lt' G _ hn dG
    rw [← sub_eq_zero]
    exact eq_zero_of_vanish xs hd _ (by have := natDegree_sub_le F G; omega)
      (fun x hx => by rw [eval_sub, h x hx, sub_self])

theorem interp_unique (pts : List (K × K)) (hd : (pts.map Prod.fst).Nodup) (F G : K[X])
    (hF : ∀ p ∈ pts, F.eval p.1 = p.2) (hG : ∀ p ∈ pts, G.eval p.1 = p.2)
    (dF : F.degree < (pts.length : WithBot ℕ)) (dG : G.degree < (pts.length : WithBot ℕ)) : F = G := by
  rw [← List.length_map (f := Prod.fst)] at dF dG
  refine eq_of_eval_eq _ hd F G dF dG (fun x hx => ?_)
  obtain ⟨q, hq, rfl⟩ := List.mem_map.mp hx
  rw [hF q hq, hG q hq]

/-! ### the interpolant and its top coefficient -/

/-- the interpolant of a list of points (most recent first), built as `Interp.newton` builds it -/
noncomputable def newton : List (K × K) → K[X]
  | [] => 0
  | p :: L => newton L + C (-((newton L).eval p.1) + p.2) *
      (prodX (L.map Prod.fst) * C ((prodX (L.map Prod.fst)).eval p.1)⁻¹)

theorem newton_interp : ∀ L : List (K × K), (L.map Prod.fst).Nodup → Interp (newton L) L
  | [], _ => fun p hp => by simp at hp
  | p :: L, hd => by
    obtain ⟨hp, hL⟩ := List.nodup_cons.mp hd
    intro q hq
    exact (newton_interp L hL).newton hp p.2 q (by simpa [or_comm] using hq)

theorem newton_degree : ∀ L : List (K × K), (newton L).degree < (L.length : WithBot ℕ)
  | [] => by simp [newton]
  | p :: L => by
    have hlt : ((L.length : ℕ) : WithBot ℕ) < ((p :: L).length : ℕ) := by
      exact_mod_cast Nat.lt_succ_self _
    refine lt_of_le_of_lt (degree_add_le _ _) (max_lt ((newton_degree L).trans hlt) ?_)
    refine lt_of_le_of_lt (degree_mul_le _ _) ?_
    refine lt_of_le_of_lt (add_le_add degree_C_le (degree_mul_le _ _)) ?_
    rw [zero_add]
    refine lt_of_le_of_lt (add_le_add (le_refl _) degree_C_le) ?_
    rw [add_zero, degree_prodX, List.length_map]
    exact hlt

theorem newton_natDegree (p : K × K) (L : List (K × K)) : (newton (p :: L)).natDegree ≤ L.length :=
  Nat.le_of_lt_succ (natDegree_lt_of_degree_lt' _ _ (Nat.succ_pos _) (newton_degree (p :: L)))

/-- the divided difference of the points: the top coefficient of their interpolant -/
noncomputable def dd (L : List (K × K)) : K := (newton L).coeff (L.length - 1)

theorem newton_cons (p : K × K) (L : List (K × K)) :
    newton (p :: L) = newton L + prodX (L.map Prod.fst) * C (dd (p :: L)) := by
  have h0 : (newton L).coeff L.length = 0 := coeff_eq_zero_of_degree_lt (newton_degree L)
  have h1 : (prodX (L.map Prod.fst)).coeff L.length = 1 := by
    have := (prodX_monic (L.map Prod.fst)).coeff_natDegree
    rwa [prodX_natDegree, List.length_map] at this
  have e : dd (p :: L) = (-((newton L).eval p.1) + p.2) * ((prodX (L.map Prod.fst)).eval p.1)⁻¹ := by
    simp only [dd, newton, List.length_cons, Nat.add_sub_cancel]
    rw [coeff_add, coeff_C_mul, coeff_mul_C, h0, h1]; ring
  rw [e, C_mul]
  simp only [newton]
  ring

theorem dd_single (x f : K) : dd [(x, f)] = f := by
  simp [dd, newton, prodX]

theorem neville (x f : K) (p : K × K) (acc : List (K × K)) (prev Q : K[X]) (hx : p.1 ≠ x)
    (h1 : Interp prev ((x, f) :: acc)) (h2 : Interp Q (acc ++ [p])) :
    Interp (C (x - p.1)⁻¹ * ((X - C p.1) * prev - (X - C x) * Q)) ((x, f) :: (acc ++ [p])) := by
  have hne : x - p.1 ≠ 0 := sub_ne_zero.mpr (Ne.symm hx)
  intro q hq
  simp only [eval_mul, eval_sub, eval_C, eval_X]
  rw [inv_mul_eq_iff_eq_mul₀ hne]
  rcases List.mem_cons.mp hq with hq | hq
  · subst hq
    rw [h1 (x, f) (List.mem_cons_self ..)]
    simp only []
    ring
  · rcases List.mem_append.mp hq with hq | hq
    · rw [h1 q (List.mem_cons_of_mem _ hq), h2 q (List.mem_append_left _ hq)]; ring
    · have : q = p := by simpa using hq
      subst this
      rw [h2 q (List.mem_append_right _ (List.mem_singleton_self _))]; ring

theorem coeff_succ_X_sub_C_mul (a : K) (P : K[X]) (n : Nat) (h : P.natDegree ≤ n) :
    ((X - C a) * P).coeff (n + 1) = P.coeff n := by
  have hz : P.coeff (n + 1) = 0 := coeff_eq_zero_of_natDegree_lt (by omega)
  rw [sub_mul, coeff_sub, coeff_X_mul, coeff_C_mul, hz]; ring

theorem neville_degree (x p : K) (prev Q : K[X]) (n : Nat) (h1 : prev.natDegree ≤ n) (h2 : Q.natDegree ≤ n) :
    (C (x - p)⁻¹ * ((X - C p) * prev - (X - C x) * Q)).natDegree ≤ n + 1 := by
  have e1 : ((X - C p) * prev).natDegree ≤ n + 1 := by
    refine le_trans natDegree_mul_le ?_
    have := natDegree_X_sub_C_le (R := K) p; omega
  have e2 : ((X - C x) * Q).natDegree ≤ n + 1 := by
    refine le_trans natDegree_mul_le ?_
    have := natDegree_X_sub_C_le (R := K) x; omega
  have e3 := natDegree_sub_le_of_le e1 e2
  rw [max_self] at e3
  exact le_trans (natDegree_C_mul_le (x - p)⁻¹ ((X - C p) * prev - (X - C x) * Q)) e3

theorem neville_coeff (x p : K) (prev Q : K[X]) (n : Nat) (h1 : prev.natDegree ≤ n) (h2 : Q.natDegree ≤ n) :
    (C (x - p)⁻¹ * ((X - C p) * prev - (X - C x) * Q)).coeff (n + 1) = (Q.coeff n - prev.coeff n) / (p - x) := by
  rw [coeff_C_mul, coeff_sub, coeff_succ_X_sub_C_mul _ _ _ h1, coeff_succ_X_sub_C_mul _ _ _ h2]
  rw [← neg_sub p x, inv_neg, div_eq_mul_inv]; ring

/-- Neville's recurrence for the top coefficients: both sides of it interpolate the same points -/
theorem dd_rec (x f : K) (acc : List (K × K)) (p : K × K)
    (hd : (((x, f) :: (acc ++ [p])).map Prod.fst).Nodup) :
    dd ((x, f) :: (acc ++ [p])) = (dd (acc ++ [p]) - dd ((x, f) :: acc)) / (p.1 - x) := by
  have hx : p.1 ≠ x := by
    intro e
    simp only [List.map_cons, List.map_append, List.map_nil, List.nodup_cons, List.mem_append,
      List.mem_cons, List.not_mem_nil, or_false] at hd
    exact hd.1 (Or.inr e.symm)
  have hd1 : (((x, f) :: acc).map Prod.fst).Nodup :=
    hd.sublist (((List.sublist_append_left acc [p]).cons_cons (x, f)).map Prod.fst)
  have hd2 : ((acc ++ [p]).map Prod.fst).Nodup := (List.nodup_cons.mp hd).2
  have n1 : (newton ((x, f) :: acc)).natDegree ≤ acc.length := newton_natDegree _ _
  have n2 : (newton (acc ++ [p])).natDegree ≤ acc.length := by
    have := natDegree_lt_of_degree_lt' _ _ (by simp) (newton_degree (acc ++ [p]))
    simp only [List.length_append, List.length_cons, List.length_nil] at this
    omega
  have e : newton ((x, f) :: (acc ++ [p]))
      = C (x - p.1)⁻¹ * ((X - C p.1) * newton ((x, f) :: acc) - (X - C x) * newton (acc ++ [p])) := by
    refine interp_unique _ hd _ _ (newton_interp _ hd)
      (neville x f p acc _ _ hx (newton_interp _ hd1) (newton_interp _ hd2)) (newton_degree _) ?_
    refine lt_of_le_of_lt degree_le_natDegree ?_
    have := neville_degree x p.1 _ _ acc.length n1 n2
    simp only [List.length_cons, List.length_append, List.length_nil]
    exact_mod_cast (by omega : _ < acc.length + (0 + 1) + 1)
  have l1 : ((x, f) :: (acc ++ [p])).length - 1 = acc.length + 1 := by simp
  have l2 : (acc ++ [p]).length - 1 = acc.length := by simp
  have l3 : ((x, f) :: acc).length - 1 = acc.length := by simp
  unfold dd
  rw [l1, l2, l3, e]
  exact neville_coeff x p.1 _ _ acc.length n1 n2

/-- the divided-difference column over the points `ps` (most recent first) after the more recent points `acc` -/
noncomputable def col : List (K × K) → List (K × K) → List K
  | _, [] => []
  | acc, p :: ps => dd (acc ++ [p]) :: col (acc ++ [p]) ps

theorem col_update (x f : K) : ∀ (ps acc : List (K × K)), (((x, f) :: (acc ++ ps)).map Prod.fst).Nodup →
    ddUpdate x (dd ((x, f) :: acc)) (col acc ps) (ps.map Prod.fst) = col ((x, f) :: acc) ps
  | [], _, _ => rfl
  | p :: ps, acc, hd => by
    have hd' : (((x, f) :: ((acc ++ [p]) ++ ps)).map Prod.fst).Nodup := by
      rwa [List.append_assoc, List.singleton_append]
    have hp : (((x, f) :: (acc ++ [p])).map Prod.fst).Nodup :=
      hd'.sublist (((List.sublist_append_left _ ps).cons_cons (x, f)).map Prod.fst)
    simp only [col, List.map_cons, ddUpdate, List.cons_append]
    rw [← dd_rec x f acc p hp, col_update x f ps (acc ++ [p]) hd']

theorem col_getLast : ∀ (ps acc : List (K × K)), ps ≠ [] → (col acc ps).getLast? = some (dd (acc ++ ps))
  | [], _, h => absurd rfl h
  | [p], acc, _ => rfl
  | p :: p' :: ps, acc, _ => by
    have := col_getLast (p' :: ps) (acc ++ [p]) (by simp)
    rw [List.append_assoc, List.singleton_append] at this
    rw [← this]
    simp only [col]
    exact List.getLast?_cons_cons

/-- state of the object after the points `ptsR` (most recent first) -/
structure Inv (ptsR : List (K × K)) (st : St K) : Prop where
  pts : st.ptsR = ptsR.map Prod.fst
  dd : st.ddR = col [] ptsR
  inter : toPoly st.inter = newton ptsR
  pi : toPoly st.Pi = prodX (ptsR.tail.map Prod.fst)

theorem inv_init : Inv ([] : List (K × K)) (init : St K) :=
  ⟨rfl, rfl, rfl, by simp [init, prodX]⟩

theorem inv_step (ptsR : List (K × K)) (st : St K) (x f : K) (h : Inv ptsR st)
    (hd : (((x, f) :: ptsR).map Prod.fst).Nodup) : Inv ((x, f) :: ptsR) (step st x f) := by
  obtain ⟨hpts, hdd, hinter, hpi⟩ := h
  cases ptsR with
  | nil =>
    unfold step
    rw [hdd]
    simp only [col, List.isEmpty_nil, if_true]
    refine ⟨by simp [hpts], by simp [col, dd_single], ?_, by simpa using hpi⟩
    rw [toPoly_addin, toPoly_mulVal, hinter, hpi, newton_cons, dd_single]
    rfl
  | cons p rest =>
    have hcol : f :: ddUpdate x f st.ddR st.ptsR = col [] ((x, f) :: p :: rest) := by
      have := col_update x f (p :: rest) [] hd
      rw [dd_single] at this
      rw [hdd, hpts, this]
      simp only [col, List.nil_append, dd_single]
    have hPi1 : toPoly (subin (shiftin st.Pi 1) (mulVal st.Pi p.1)) = prodX ((p :: rest).map Prod.fst) := by
      rw [toPoly_subin, toPoly_mulVal]
      unfold shiftin
      rw [toPoly_zeros_append, hpi]
      show _ = (X - C p.1) * prodX (rest.map Prod.fst)
      simp only [List.tail_cons]
      ring
    have hne : st.ddR.isEmpty = false := by rw [hdd]; rfl
    unfold step
    simp only [hne, Bool.false_eq_true, if_false]
    rw [show st.ptsR.headD 0 = p.1 by rw [hpts]; rfl, hcol]
    refine ⟨by simp [hpts], rfl, ?_, by simpa using hPi1⟩
    rw [toPoly_addin, toPoly_mulVal, hPi1, hinter, col_getLast _ _ (by simp), newton_cons (x, f)]
    rfl

theorem inv_run (pts : List (K × K)) (hd : (pts.map Prod.fst).Nodup) : Inv pts.reverse (run pts) := by
  induction pts using List.reverseRecOn with
  | nil => exact inv_init
  | append_singleton l a ih =>
    have hr : (((l ++ [a]).reverse).map Prod.fst).Nodup := by
      rw [List.map_reverse]; exact List.nodup_reverse.mpr hd
    rw [List.reverse_append] at hr ⊢
    have ih := ih (by rw [List.map_append] at hd; exact hd.of_append_left)
    unfold run at ih ⊢
    rw [List.foldl_append]
    exact inv_step l.reverse _ a.1 a.2 ih hr

theorem interpolator_eq (pts : List (K × K)) (hd : (pts.map Prod.fst).Nodup) :
    toPoly (interpolator pts) = newton pts.reverse :=
  (inv_run pts hd).inter

theorem interpolator_spec (pts : List (K × K)) (hd : (pts.map Prod.fst).Nodup) :
    (∀ p ∈ pts, (toPoly (interpolator pts)).eval p.1 = p.2) ∧
    (toPoly (interpolator pts)).degree < (pts.length : WithBot ℕ) := by
  rw [interpolator_eq pts hd]
  refine ⟨fun p hp => newton_interp _ (by rw [List.map_reverse]; exact List.nodup_reverse.mpr hd) p
    (List.mem_reverse.mpr hp), ?_⟩
  have := newton_degree pts.reverse
  rwa [List.length_reverse] at this

end Givaro.Lemmas.PolyInterp
