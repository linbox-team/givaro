/-
C17 — containers and the pooled allocator preserve contents; nothing leaks or dangles.

Models: `Model/Array0.lean` (givarray0.inl), `Model/FreeList.lean` (givaromm.h/.C, table regenerated from the source),
`Model/Leak.lean` (ruconvert.h / rconvert.h / gmp++_int.h casts), `Model/RefPtr.lean` (givpointer.h).  The Array0, pool and
RefCountPtr theorems quantify over *all* operation lists (any number of slots, any element type); the cast theorems are
about one call, the two "before repair" theorems are counterexamples.  Proofs: `Lemmas/Array0*.lean`,
`Lemmas/FreeListInv.lean`, `Lemmas/RefPtrEmbed.lean`.
-/
import GivaroModel.Lemmas.Array0Ops
import GivaroModel.Lemmas.Array0Contents
import GivaroModel.Lemmas.Array0Sim
import GivaroModel.Lemmas.FreeListInv
import GivaroModel.Lemmas.Array0PoolInv
import GivaroModel.Lemmas.RefPtrEmbed
import GivaroModel.Model.Leak
namespace Givaro.Props.C17
open Givaro.Model Givaro.Model.Array0

variable {α : Type} [Inhabited α]

/-- the state reached from `n` empty handles by an arbitrary history -/
abbrev after (α : Type) [Inhabited α] (n : Nat) (ops : List (Op α)) : State α := run (init α n) ops

theorem after_inv (n : Nat) (ops : List (Op α)) : Inv (after α n ops) ∧ (after α n ops).n = n :=
  have R := run_inv ops (inv_init (α := α) n)
  ⟨R.1, R.2.1⟩

theorem after_lt (ops : List (Op α)) {n h : Nat} (hn : h < n) : h < (after α n ops).n := by
  rw [(after_inv n ops).2]; exact hn

/-- No history reaches undefined behaviour: no null or stale counter is dereferenced, no released block is read,
    written or released again, no unconstructed cell is exposed. -/
theorem array_never_faults (n : Nat) (ops : List (Op α)) : (after α n ops).fault = false :=
  (after_inv n ops).1.nofault

-- non-vacuity: a history that shares, resizes the sharer, writes and destroys
example : (after Int 3 [.build 0 2 7, .logcopy 1 0, .resize 1 5, .write 0 0 9, .noCopy 2 1, .destroy 1, .copy 0 2]).fault = false := by decide

/-- Reference counts equal the number of live sharers: the counter cell a handle points to is live and holds exactly
    the number of handles pointing to it. -/
theorem refcount_eq_sharers (n : Nat) (ops : List (Op α)) (h c : Nat) (hn : h < n)
    (hc : ((after α n ops).hs h).cnt = some c) :
    (after α n ops).clive c = true ∧ (after α n ops).cval c = (sharers (after α n ops) c : Int) ∧ 1 ≤ sharers (after α n ops) c := by
  have I := (after_inv (α := α) n ops).1
  obtain ⟨_, _, h3, _⟩ := owner_of_cnt I (after_lt ops hn) hc
  exact ⟨h3, I.rc c h3⟩

example : (after Int 2 [.build 0 2 7, .logcopy 1 0]).cval 0 = 2 := by decide

/-- No block is released while a handle still refers to it: a handle with capacity points to a live counter and a live
    data block of exactly `_psz` constructed cells, and `_size ≤ _psz`; a handle without capacity holds no pointer at all. -/
theorem no_release_while_referenced (n : Nat) (ops : List (Op α)) (h : Nat) (hn : h < n) :
    let s := after α n ops
    ((s.hs h).psz = 0 → s.hs h = Handle.empty) ∧
    ((s.hs h).psz ≠ 0 → ∃ c b, (s.hs h).cnt = some c ∧ (s.hs h).d = some b ∧ s.clive c = true ∧ s.dlive b = true ∧
        (s.hs h).size ≤ (s.hs h).psz ∧ (s.ddata b).length = (s.hs h).psz) := by
  have I := (after_inv (α := α) n ops).1
  exact I.wf h (after_lt ops hn)

example : ((after Int 2 [.build 0 2 7, .logcopy 1 0, .destroy 0]).hs 1).psz = 2 ∧ (after Int 2 [.build 0 2 7, .logcopy 1 0, .destroy 0]).dlive 0 = true := by decide

/-- Nothing leaks: every live data block and every live counter cell is referred to by a handle
    (so destroying all handles releases everything). -/
theorem nothing_leaks (n : Nat) (ops : List (Op α)) :
    let s := after α n ops
    (∀ b, s.dlive b = true → ∃ h, h < n ∧ (s.hs h).d = some b ∧ (s.hs h).psz ≠ 0) ∧
    (∀ c, s.clive c = true → ∃ h, h < n ∧ (s.hs h).cnt = some c) := by
  obtain ⟨I, en⟩ := after_inv (α := α) n ops
  refine ⟨fun b hb => ?_, fun c hc => ?_⟩
  · obtain ⟨h, hn, hd, hp⟩ := I.down b hb
    exact ⟨h, by rw [← en]; exact hn, hd, hp⟩
  · obtain ⟨h, hn, hp⟩ := counter_has_sharer I hc
    exact ⟨h, by rw [← en]; exact hn, hp⟩

example : (after Int 2 [.build 0 2 7, .logcopy 1 0, .resize 1 5, .destroy 0]).dlive 0 = false ∧ (after Int 2 [.build 0 2 7, .logcopy 1 0, .resize 1 5, .destroy 0]).dlive 1 = true := by decide

/-- Handles share the counter exactly when they share the data block, and sharers agree on size and capacity
    (which is what makes the pointer test at the head of `copy` sound). -/
theorem sharers_agree (n : Nat) (ops : List (Op α)) (h g : Nat) (hn : h < n) (gn : g < n) :
    let s := after α n ops
    (s.hs h).psz ≠ 0 → (s.hs g).psz ≠ 0 →
    (((s.hs h).cnt = (s.hs g).cnt ↔ (s.hs h).d = (s.hs g).d) ∧
     ((s.hs h).d = (s.hs g).d → (s.hs h).size = (s.hs g).size ∧ (s.hs h).psz = (s.hs g).psz)) := by
  have I := (after_inv (α := α) n ops).1
  exact I.pair h g (after_lt ops hn) (after_lt ops gn)

example : ((after Int 2 [.build 0 2 7, .logcopy 1 0]).hs 0).d = ((after Int 2 [.build 0 2 7, .logcopy 1 0]).hs 1).d := by decide

/-- Size 0 is handled: after any history, building, allocating, resizing or reserving with size 0 (and destroying)
    does not fault and leaves a handle of size 0 denoting `[]` (it may keep its capacity). -/
theorem size_zero_ok (n : Nat) (ops : List (Op α)) (h : Nat) (hn : h < n) (t : α) :
    ∀ op ∈ [Op.build h 0 t, Op.allocate h 0, Op.resize h 0, Op.reserve h 0, Op.destroy h],
      let s := step (after α n ops) op
      s.fault = false ∧ (s.hs h).size = 0 ∧ contents s h = [] := by
  intro op hop
  have I := (after_inv (α := α) n ops).1
  have hn' := after_lt ops hn
  have key : ((step (after α n ops) op).hs h).size = 0 → (step (after α n ops) op).fault = false ∧
      ((step (after α n ops) op).hs h).size = 0 ∧ contents (step (after α n ops) op) h = [] := by
    intro b
    refine ⟨(step_inv I op).1.nofault, b, ?_⟩
    unfold contents; split
    · rfl
    · rw [b]; simp
  apply key
  simp only [List.mem_cons, List.mem_nil_iff, or_false] at hop
  rcases hop with e | e | e | e | e
  · rw [e, step_eq_core I (.build h 0 t) (lt_of_mem_one hn')]
    exact (ctorBuild_good I hn' 0 t).2
  · rw [e, step_eq_core I (.allocate h 0) (lt_of_mem_one hn')]
    exact (allocate_good I hn' 0).2
  · rw [e, step_eq_core I (.resize h 0) (lt_of_mem_one hn')]
    exact (reallocate_good I hn' 0).2.1
  · rw [e, step_eq_core I (.reserve h 0) (lt_of_mem_one hn')]
    exact (reserve_good I hn' 0).2
  · rw [e, step_eq_core I (.destroy h) (lt_of_mem_one hn')]
    show ((destroy (after α n ops) h).hs h).size = 0
    rw [(good_destroy I hn').2]; rfl

example : ((step (after Int 1 [.build 0 3 7]) (.resize 0 0)).hs 0).psz = 3 ∧ contents (step (after Int 1 [.build 0 3 7]) (.resize 0 0)) 0 = [] := by decide

section Simulation
open Givaro.Spec.Array0Spec

/-- Simulation.  For every operation history of any length over any number of handles, forgetting the reference
    counts, the liveness flags and `_psz` of the Array0 model (`abs`; capacity stays visible as the length of a group's
    cells) yields exactly the state the value-semantics
    machine of `Spec/Array0Spec.lean` reaches on the same history (`toV`: both constructors-by-sharing become `share`,
    both deep copies `valueCopy`/`copy`).  The machine has no counters and never releases anything, so the theorem says
    that counting and releasing are invisible: the model behaves as if storage were garbage collected. -/
theorem array_simulates_value_semantics (n : Nat) (ops : List (Op α)) :
    abs (run (init α n) ops) = vrun (vinit α n) (ops.map toV) := by
  rw [sim_run ops (inv_init (α := α) n), abs_init]

/-- Outputs.  Everything the container lets a client observe is a function of the value-semantics state:
    size, contents, which handles alias, and the reference count (= the number of handles of the alias group, > 0);
    and the model has not faulted. -/
theorem outputs_equal (n : Nat) (ops : List (Op α)) (h : Nat) (hn : h < n) :
    let s := run (init α n) ops
    let a := vrun (vinit α n) (ops.map toV)
    s.fault = false ∧ (s.hs h).size = (a.hs h).size ∧ contents s h = vvalue a h ∧
    (∀ g, (s.hs h).d = (s.hs g).d ↔ (a.hs h).grp = (a.hs g).grp) ∧
    (∀ c, (s.hs h).cnt = some c → ∃ g, (a.hs h).grp = some g ∧ s.cval c = (vmembers a g : Int) ∧ 0 < vmembers a g) := by
  have S := array_simulates_value_semantics (α := α) n ops
  have I := (after_inv (α := α) n ops).1
  have hn' := after_lt ops hn
  dsimp only
  rw [← S]
  refine ⟨I.nofault, rfl, rfl, fun g => Iff.rfl, ?_⟩
  intro c hc
  obtain ⟨b, h2, h3, _⟩ := owner_of_cnt I hn' hc
  have m := cval_eq_members I hn' hc h2 h3
  have r := I.rc c h3
  have pos : 0 < vmembers (abs (after α n ops)) b := by
    have r1 := r.1; have r2 := r.2; omega
  exact ⟨b, h2, m, pos⟩

example : vvalue (vrun (vinit Int 2) ([Op.build 0 3 7, .resize 0 1, .pushBack 0 9, .logcopy 1 0, .resize 1 3].map toV)) 1 = [7, 9, 0] := by decide

/-- Corollary (isolation after a physical copy): after the deep-copy constructor, an element write through either handle
    is invisible through the other. -/
theorem write_invisible_after_physical_copy (n : Nat) (ops : List (Op α)) (h g i : Nat) (v : α) (hn : h < n) (gn : g < n)
    (ne : h ≠ g) :
    let s1 := step (after α n ops) (.withCopy h g)
    contents (step s1 (.write h i v)) g = contents (after α n ops) g ∧
    contents (step s1 (.write g i v)) h = contents (after α n ops) g := by
  have I := (after_inv (α := α) n ops).1
  have hn' := after_lt ops hn
  have gn' := after_lt ops gn
  have G : Good (after α n ops) (stepCore (after α n ops) (.withCopy h g)) h := (ctorWithCopy_good I hn' gn').1
  dsimp only
  rw [step_eq_core I (.withCopy h g) (lt_of_mem_two hn' gn'), step_eq_core G.inv (.write h i v) (lt_of_mem_one (G.lt hn')),
    step_eq_core G.inv (.write g i v) (lt_of_mem_one (G.lt gn'))]
  exact withCopy_write_isolated I hn' gn' ne i v

example : contents (run (init Int 2) [.build 0 2 7, .withCopy 1 0, .write 1 0 9]) 0 = [7, 7] := by decide

/-- Corollary (aliasing after a logical copy): after `logcopy`, an in-range element write through the new handle is
    seen, as the same write, through the source. -/
theorem write_visible_after_logical_copy (n : Nat) (ops : List (Op α)) (h g i : Nat) (v : α) (hn : h < n) (gn : g < n)
    (ne : h ≠ g) (hi : i < ((after α n ops).hs g).size) :
    let s1 := step (after α n ops) (.logcopy h g)
    contents (step s1 (.write h i v)) g = (contents (after α n ops) g).set i v := by
  have I := (after_inv (α := α) n ops).1
  have hn' := after_lt ops hn
  have gn' := after_lt ops gn
  have G : Good (after α n ops) (stepCore (after α n ops) (.logcopy h g)) h := logcopy_good I hn' gn'
  dsimp only
  rw [step_eq_core I (.logcopy h g) (lt_of_mem_two hn' gn'), step_eq_core G.inv (.write h i v) (lt_of_mem_one (G.lt hn'))]
  exact logcopy_write_shared I hn' gn' ne hi v

example : contents (run (init Int 2) [.build 0 2 7, .logcopy 1 0, .write 1 0 9]) 0 = [9, 7] := by decide

end Simulation

/-- Effect of every operation on the handle it is applied to, after any history: the handle denotes exactly the list value
    semantics predicts, as equations between `contents` before and after (the machine of `Spec/Array0Spec.lean` is not
    involved).  `resize` keeps the common prefix and has the requested length; cells exposed by growing are not determined. -/
theorem array_refines_value_semantics (n : Nat) (ops : List (Op α)) (h g : Nat) (hn : h < n) (gn : g < n)
    (sz : Nat) (t v : α) :
    let s := after α n ops
    contents (step s (.build h sz t)) h = List.replicate sz t ∧
    (h ≠ g → contents (step s (.noCopy h g)) h = contents s g) ∧
    (h ≠ g → contents (step s (.withCopy h g)) h = contents s g) ∧
    contents (step s (.logcopy h g)) h = contents s g ∧
    contents (step s (.copy h g)) h = contents s g ∧
    contents (step s (.assign h g)) h = contents s g ∧
    contents (step s (.destroy h)) h = [] ∧
    ((contents (step s (.resize h sz)) h).length = sz ∧
      ∀ m, m ≤ sz → m ≤ (contents s h).length → (contents (step s (.resize h sz)) h).take m = (contents s h).take m) ∧
    contents (step s (.pushBack h v)) h = contents s h ++ [v] ∧
    (contents (step s (.allocate h sz)) h).length = sz ∧
    contents (step s (.reserve h sz)) h = [] := by
  have I := (after_inv (α := α) n ops).1
  have hn' := after_lt ops hn
  have gn' := after_lt ops gn
  have e1 : ∀ op : Op α, op.handles = [h] → step (after α n ops) op = stepCore (after α n ops) op :=
    fun op e => step_eq_core I op (by rw [e]; exact lt_of_mem_one hn')
  have e2 : ∀ op : Op α, op.handles = [h, g] → step (after α n ops) op = stepCore (after α n ops) op :=
    fun op e => step_eq_core I op (by rw [e]; exact lt_of_mem_two hn' gn')
  refine ⟨?_, ?_, ?_, ?_, ?_, ?_, ?_, ?_, ?_, ?_, ?_⟩
  · rw [e1 _ rfl]; exact ctorBuild_contents I hn' sz t
  · intro _; rw [e2 _ rfl]; exact logcopy_contents I hn' gn'
  · intro ne; rw [e2 _ rfl]; exact ctorWithCopy_contents I hn' gn' ne
  · rw [e2 _ rfl]; exact logcopy_contents I hn' gn'
  · rw [e2 _ rfl]; exact copy_contents I hn' gn'
  · rw [e2 _ rfl]; exact copy_contents I hn' gn'
  · rw [e1 _ rfl]; exact destroy_contents I hn'
  · rw [e1 _ rfl]
    have R := reallocate_contents I hn' sz
    exact ⟨R.1, fun m m1 m2 => R.2 m m1 (by rw [← contents_length I hn']; exact m2)⟩
  · rw [e1 _ rfl]; exact pushBack_contents I hn' v
  · rw [e1 _ rfl]
    obtain ⟨G, hs⟩ := allocate_good I hn' sz
    show (contents (allocate (after α n ops) h sz) h).length = sz
    rw [contents_length G.inv (G.lt hn'), hs]
  · rw [e1 _ rfl]
    obtain ⟨G, hs⟩ := reserve_good I hn' sz
    apply List.length_eq_zero_iff.mp
    show (contents (reserve (after α n ops) h sz) h).length = 0
    rw [contents_length G.inv (G.lt hn'), hs]

example : contents (after Int 2 [.build 0 3 7, .resize 0 1, .pushBack 0 9, .logcopy 1 0, .resize 1 3]) 1 = [7, 9, 0] := by decide

/-- Isolation: an operation on one handle (anything but an element write) never changes what another handle denotes —
    not even a handle that shares the storage (the operated handle is detached first). -/
theorem other_handles_keep_contents (n : Nat) (ops : List (Op α)) (op : Op α) (nw : op.isWrite = false)
    (k : Nat) (kn : k < n) (ne : k ≠ op.target) :
    contents (step (after α n ops) op) k = contents (after α n ops) k := by
  have I := (after_inv (α := α) n ops).1
  exact step_others I op nw ne (after_lt ops kn)

example : contents (step (after Int 2 [.build 0 2 7, .logcopy 1 0]) (.resize 0 1)) 1 = [7, 7] := by decide

/-- An element write through a handle is visible, as the same write, through exactly the handles that alias it
    (NoCopy constructor / `logcopy`), and through no other handle. -/
theorem write_seen_by_aliases_only (n : Nat) (ops : List (Op α)) (h i : Nat) (v : α) (k : Nat) (hn : h < n) (kn : k < n) :
    let s := after α n ops
    contents (step s (.write h i v)) k =
      if (s.hs k).d = (s.hs h).d ∧ i < (s.hs h).size then (contents s k).set i v else contents s k := by
  have I := (after_inv (α := α) n ops).1
  have hn' := after_lt ops hn
  show contents (step (after α n ops) (.write h i v)) k = _
  rw [step_eq_core I (.write h i v) (lt_of_mem_one hn')]
  exact write_contents I hn' i v k

example : contents (step (after Int 3 [.build 0 2 7, .logcopy 1 0, .withCopy 2 0]) (.write 0 1 9)) 1 = [7, 9] ∧
    contents (step (after Int 3 [.build 0 2 7, .logcopy 1 0, .withCopy 2 0]) (.write 0 1 9)) 2 = [7, 7] := by decide

section Pool
open Givaro.Model.FreeList

/-- `BlocFreeList::search_binary` on the table of the current source: for every request it returns a class whose blocks
    are large enough and the *smallest* such class; it throws exactly for requests above the largest class. -/
theorem search_binary_smallest_fit (sz : Nat) :
    match searchBinary sz with
    | none => tab 511 < sz
    | some i => i < 512 ∧ sz ≤ tab i ∧ (i = 0 ∨ tab (i - 1) < sz) :=
  searchBinary_spec sz

example : searchBinary 33 = some 32 ∧ tab 32 = 64 := by decide +kernel

/-- No block is handed out twice: after any sequence of allocate / desallocate / resize calls by a client that forgets a
    pointer when it releases it, two slots never hold the same block, and a block returned by a call was not held by any
    slot before the call (except, for `resize`, by the slot being resized when the block does not move). -/
theorem freelist_no_double_handout (ops : List FreeList.Op) (op : FreeList.Op) :
    let c := crun Client.init ops
    (∀ k k' b, c.slot k = some b → c.slot k' = some b → k = k') ∧
    (∀ b, (cstep c op).2 = some b → ∀ k, c.slot k = some b → (match op with | .resize k' _ => k = k' | _ => False)) := by
  have I := crun_ci ops ci_init
  exact ⟨I.inj, (cstep_ci I op).2⟩

example : (cstep (crun Client.init [.alloc 0 40, .free 0, .alloc 1 40]) (.alloc 2 40)).2 = some 1 ∧
    (crun Client.init [.alloc 0 40, .free 0, .alloc 1 40]).slot 1 = some 0 := by decide +kernel

/-- A block on a free list is not live: no slot holds a block that is on a free list, no free list contains a block
    twice, and no block is on two free lists. -/
theorem freed_block_not_live (ops : List FreeList.Op) :
    let c := crun Client.init ops
    (∀ k b i, c.slot k = some b → b ∉ c.pool.free i) ∧ (∀ i, (c.pool.free i).Nodup) ∧
    (∀ i j b, b ∈ c.pool.free i → b ∈ c.pool.free j → i = j) := by
  have I := crun_ci ops ci_init
  exact ⟨fun k b i hk => I.pi.hfree b i ⟨k, hk⟩, I.pi.nodup, I.pi.disj⟩

example : (crun Client.init [.alloc 0 40, .alloc 1 40, .free 0]).pool.free 32 = [0] := by decide +kernel

end Pool

/-- `A.push_back(A[i])`: the model of the repaired `push_back` (the argument is copied before the storage moves) never
    faults and appends the value cell `i` had, after every history, whether or not the storage moves or is shared. -/
theorem push_back_of_own_element (n : Nat) (ops : List (Op α)) (h i : Nat) (hn : h < n)
    (hi : i < ((after α n ops).hs h).size) :
    ∃ v, (contents (after α n ops) h)[i]? = some v ∧
      (step (after α n ops) (.pushBackSelf h i)).fault = false ∧
      contents (step (after α n ops) (.pushBackSelf h i)) h = contents (after α n ops) h ++ [v] := by
  have I := (after_inv (α := α) n ops).1
  have hn' := after_lt ops hn
  obtain ⟨v, hv, ev⟩ := pushBackSelf_eq I hn' hi
  refine ⟨v, hv, (step_inv I _).1.nofault, ?_⟩
  rw [step_eq_core I (.pushBackSelf h i) (lt_of_mem_one hn')]
  show contents (pushBackSelf (after α n ops) h i) h = _
  rw [ev]; exact pushBack_contents I hn' v

example : contents (after Int 1 [.build 0 2 7, .write 0 1 9, .pushBackSelf 0 1]) 0 = [7, 9, 9] := by decide

/-- The body the pinned tree had (`reallocate(_size+1); back() = a;`) reads the argument through a reference into the block
    that `reallocate` has just destroyed and released, whenever the handle is the sole owner and has no spare capacity:
    the smallest failing history is `Array0<T> A(1, t); A.push_back(A[0]);`. -/
theorem push_back_of_own_element_before_repair_faults :
    (pushBackSelfOld (after Int 1 [.build 0 1 7]) 0 0).fault = true ∧
    (pushBackSelfOld (after Int 2 [.build 0 2 7, .logcopy 1 0]) 0 1).fault = false ∧          -- shared: the old block survives
    (pushBackSelfOld (after Int 1 [.build 0 2 7, .resize 0 1]) 0 0).fault = false := by decide  -- spare capacity: no move

section PoolComposition
open Givaro.Model.Array0Pool Givaro.Model.FreeList

/-- the composed machine (Array0 over the pool, `w` = sizeof(T)) after a history -/
abbrev pafter (α : Type) [Inhabited α] (w n : Nat) (ops : List (Op α)) : PState α := prun w (pinit α n) ops

/-- every block the history obtains is at most the largest class (`TabSize[511]` = 8054880 bytes); above it
    `GivMMFreeList::allocate` throws and the history is outside the property.  It speaks of the final state only; blocks keep
    their length and identifiers only grow (`Mono`), so it bounds every state on the way -/
def FitsPool (α : Type) [Inhabited α] (w n : Nat) (ops : List (Op α)) : Prop :=
  ∀ b, b < (after α n ops).dnext → ((after α n ops).ddata b).length * w ≤ tab 511

theorem pafter_pinv (w n : Nat) (ops : List (Op α)) (hf : FitsPool α w n ops) : PInv (pafter α w n ops) :=
  prun_pinv w ops (pinv_init n) hf

theorem pafter_arr (w n : Nat) (ops : List (Op α)) : (pafter α w n ops).arr = after α n ops := prun_arr w ops _

/-- No block is handed out twice while live.  After any history, every live data block and every live counter cell
    of the container is backed by a physical block of the pool that is on no free list, a slot of the pool client is
    occupied exactly while its abstract block is live, and no physical block backs two abstract blocks at once
    (in particular a data block and a counter never overlap). -/
theorem pool_no_double_handout (w n : Nat) (ops : List (Op α)) (hf : FitsPool α w n ops) :
    let p := pafter α w n ops
    (∀ b, (physD p b).isSome = (after α n ops).dlive b) ∧ (∀ c, (physC p c).isSome = (after α n ops).clive c) ∧
    (∀ k pb, p.pool.slot k = some pb → ∀ i, pb ∉ p.pool.pool.free i) ∧
    (∀ k k' pb, p.pool.slot k = some pb → p.pool.slot k' = some pb → k = k') := by
  have P := pafter_pinv (α := α) w n ops hf
  have C : CI (pafter α w n ops).pool := prun_pool_ci w ops _ ci_init
  have A := pafter_arr (α := α) w n ops
  dsimp only
  refine ⟨fun b => ?_, fun c => ?_, fun k pb hk i => C.pi.hfree pb i ⟨k, hk⟩, C.inj⟩
  · rw [← A]; exact P.link.d b
  · rw [← A]; exact P.link.c c

/-- Every handle with capacity is therefore backed by two distinct physical blocks that are not on any free list. -/
theorem handle_blocks_are_held (w n : Nat) (ops : List (Op α)) (hf : FitsPool α w n ops) (h : Nat) (hn : h < n)
    (hp : ((after α n ops).hs h).psz ≠ 0) :
    let p := pafter α w n ops
    ∃ c b pc pb, ((after α n ops).hs h).cnt = some c ∧ ((after α n ops).hs h).d = some b ∧
      physC p c = some pc ∧ physD p b = some pb ∧ pc ≠ pb ∧
      (∀ i, pc ∉ p.pool.pool.free i) ∧ (∀ i, pb ∉ p.pool.pool.free i) := by
  obtain ⟨hd, hc, hfree, hinj⟩ := pool_no_double_handout (α := α) w n ops hf
  obtain ⟨c, b, h1, h2, h3, h4, _⟩ := (no_release_while_referenced (α := α) n ops h hn).2 hp
  dsimp only at *
  have sc := hc c; rw [h3] at sc
  have sd := hd b; rw [h4] at sd
  obtain ⟨pc, hpc⟩ := Option.isSome_iff_exists.mp sc
  obtain ⟨pb, hpb⟩ := Option.isSome_iff_exists.mp sd
  refine ⟨c, b, pc, pb, h1, h2, hpc, hpb, ?_, hfree _ pc hpc, hfree _ pb hpb⟩
  intro q
  have := hinj (keyC c) (keyD b) pc hpc (by rw [q]; exact hpb)
  unfold keyC keyD at this; omega

/-- Every released block returns to the free list of its size class exactly once.  No free list contains a block
    twice, no block is on two lists, a block waits on the list of the class it was allocated from (a table index), and
    every physical block the pool ever obtained is either held by exactly one live abstract block or on exactly one
    free list — never both, never neither (no double free, no lost block). -/
theorem pool_released_exactly_once (w n : Nat) (ops : List (Op α)) (hf : FitsPool α w n ops) :
    let pl := (pafter α w n ops).pool
    (∀ i, (pl.pool.free i).Nodup) ∧
    (∀ i j b, b ∈ pl.pool.free i → b ∈ pl.pool.free j → i = j) ∧
    (∀ i b, b ∈ pl.pool.free i → pl.pool.idx b = i ∧ i < 512) ∧
    (∀ b, b < pl.pool.next → (Held pl b ∨ ∃ i, b ∈ pl.pool.free i)) ∧
    (∀ b i, Held pl b → b ∉ pl.pool.free i) := by
  have C : PI (pafter α w n ops).pool.pool _ := (prun_pool_ci w ops _ ci_init).pi
  exact ⟨C.nodup, C.disj, C.home, fun b hb => (C.acct b).mp hb, C.hfree⟩

/-- Size-class lookups are in range.  The class index stored in the header of every block in use is a table index
    and the class is large enough for the bytes that were asked for. -/
theorem pool_class_index_in_range (w n : Nat) (ops : List (Op α)) (hf : FitsPool α w n ops) (k pb : Nat) :
    let pl := (pafter α w n ops).pool
    pl.slot k = some pb → pl.pool.idx pb < 512 ∧ pl.sz k ≤ tab (pl.pool.idx pb) :=
  fun hk =>
    have C : CI (pafter α w n ops).pool := prun_pool_ci w ops _ ci_init
    ⟨C.pi.hidx pb ⟨k, hk⟩, C.fit k pb hk⟩

/-- No leak at quiescence.  When, after any history, every handle is destroyed, no slot of the pool client is
    occupied (live-block count 0) and every physical block the pool ever obtained from malloc is on a free list. -/
theorem pool_quiescent_after_destroying_all (w n : Nat) (ops : List (Op α)) (hf : FitsPool α w n ops) :
    let pl := (pafter α w n (ops ++ (List.range n).map Op.destroy)).pool
    (∀ k, pl.slot k = none) ∧ (∀ b, b < pl.pool.next → ∃ i, b ∈ pl.pool.free i) := by
  have split : after α n (ops ++ (List.range n).map Op.destroy) = run (after α n ops) ((List.range n).map Op.destroy) := by
    show run _ _ = _; unfold run; rw [List.foldl_append]; rfl
  obtain ⟨I, en⟩ := after_inv (α := α) n ops
  obtain ⟨I2, n2, emp, x2, d2⟩ := destroyAll_empty n I (by omega)
  rw [← split] at I2 n2 emp x2 d2
  have hf' : FitsPool α w n (ops ++ (List.range n).map Op.destroy) := by
    intro b hb
    rw [x2] at hb; rw [d2]; exact hf b hb
  refine quiescent (pafter_pinv (α := α) w n _ hf') (prun_pool_ci w _ _ ci_init) (fun h hn => ?_)
  rw [pafter_arr] at hn ⊢
  exact emp h (by rw [n2, en] at hn; exact hn)

example : ((pafter Int 4 2 [.build 0 2 7, .logcopy 1 0, .resize 1 5, .destroy 0, .destroy 1]).pool.pool.free 7 = [0]) := by decide +kernel

end PoolComposition

section RefCountPtr

/-- `RefCountPtr<T>` is the one-block special case of `Array0<T>`.  Running a history of constructions from a raw
    pointer, copy constructions, assignments and destructions on the model of givpointer.h gives exactly the state obtained
    by running `Array0(1, v)`, the NoCopy constructor, `logcopy` and `destroy()` on the Array0 model and reading a
    one-cell array as a pointer (`proj`: object = data block = counter cell); the Array0 invariant holds throughout and
    every array has exactly one cell. -/
theorem refcountptr_is_one_block_array0 (n : Nat) (ops : List RefPtr.Op)
    (hb : ∀ op, op ∈ ops → ∀ k, k ∈ op.slots → k < n) :
    proj (erun (init Nat n) ops) = RefPtr.run RefPtr.St.init ops ∧ Inv (erun (init Nat n) ops) ∧
    OneCell (erun (init Nat n) ops) ∧ (erun (init Nat n) ops).n = n := by
  have R := erun_sim ops (inv_init (α := Nat) n) (onecell_init n) hb
  exact ⟨by rw [R.2.2.2, proj_init], R.1, R.2.1, R.2.2.1⟩

/-- Hence, for every history: a slot always points to a live object whose counter equals the number of slots that point
    to it (and is positive), and every live object is pointed to by some slot (the last pointer deletes the object:
    nothing leaks, nothing dangles, nothing is deleted twice). -/
theorem refcountptr_counts_and_lifetimes (n : Nat) (ops : List RefPtr.Op)
    (hb : ∀ op, op ∈ ops → ∀ k, k ∈ op.slots → k < n) :
    let r := RefPtr.run RefPtr.St.init ops
    (∀ k o, k < n → r.slot k = some o →
      r.alive o = true ∧ r.cnt o = (countBelow (fun j => r.slot j == some o) n : Int) ∧ 1 ≤ countBelow (fun j => r.slot j == some o) n) ∧
    (∀ o, r.alive o = true → ∃ k, k < n ∧ r.slot k = some o) := by
  obtain ⟨P, I, E, en⟩ := refcountptr_is_one_block_array0 n ops hb
  have C := proj_counts I E
  rw [P, en] at C
  exact C

example : (RefPtr.run RefPtr.St.init [.new 0 5, .copy 0 1, .assign 0 0, .del 0]).cnt 0 = 1 ∧
    (RefPtr.run RefPtr.St.init [.new 0 5, .copy 0 1, .assign 0 0, .del 0, .del 1]).alive 0 = false := by decide

end RefCountPtr

section Casts
open Givaro.Model.Leak

/-- `Caster(Integer& t, const ruint<K>&)` / `Caster(Integer&, const rint<K>&)` on a live destination, and the casts in the
    other direction, leave the number of outstanding limb blocks unchanged; the constructor `Integer(ruint)` adds exactly
    the block owned by the new object. (`t` ranges over program variables, the temporaries are 100-102.) -/
theorem conversions_balance (g : G) (t : Nat) (ht : t < 100)
    (h100 : g.inited 100 = false) (h101 : g.inited 101 = false) (h102 : g.inited 102 = false) :
    (execAll g (casterIntegerRuint t)).live = g.live ∧ (execAll g mpz_t_to_ruint).live = g.live ∧
    (execAll { g with inited := fun y => if y = t then false else g.inited y } (ctorIntegerRuint t)).live = g.live + 1 := by
  have e1 : (100 : Nat) ≠ t := by omega
  refine ⟨?_, ?_, ?_⟩
  · simp [execAll, casterIntegerRuint, ctorIntegerRuint, ruint_to_mpz_t, exec]
  · simp [execAll, mpz_t_to_ruint, exec]
  · simp [execAll, ctorIntegerRuint, ruint_to_mpz_t, exec, e1]

example : (execAll ⟨1, fun x => x == 0⟩ (casterIntegerRuint 0)).live = 1 := by decide

/-- the body the pinned tree had (`ruint_to_mpz_t(t.get_mpz(), n)` on the live `t`) loses one block per call -/
theorem caster_before_repair_leaks (g : G) (t : Nat) (ht : t < 100) (h100 : g.inited 100 = false) :
    (execAll g (casterIntegerRuintOld t)).live = g.live + 1 := by
  have e1 : (100 : Nat) ≠ t := by omega
  simp [execAll, casterIntegerRuintOld, ruint_to_mpz_t, exec, h100, e1]

end Casts

end Givaro.Props.C17
