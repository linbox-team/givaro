/- C06 helper lemmas: rusub.h family is exact (value and borrow), for every level. -/
import GivaroModel.Lemmas.RecIntAdd
namespace Givaro.Model.RecInt

theorem sub_wrap {M X Y : Nat} (hX : X < M) (hY : Y ≤ M) :
    (X + M - Y) % M + Y = X + c2n (decide (X < Y)) * M := by
  rw [c2n_decide]
  by_cases h : X < Y
  · rw [if_pos h, Nat.mod_eq_of_lt (by omega)]; omega
  · rw [if_neg h, Nat.mod_eq_sub_mod (by omega), Nat.mod_eq_of_lt (by omega)]; omega

theorem sub_wrap_k {M X Y k : Nat} (hX : X < M) (hY : Y < M) (hk : k ≤ 1) :
    (X + M + M - Y - k) % M + (Y + k) = X + c2n (decide (X < Y + k)) * M := by
  rw [← sub_wrap hX (show Y + k ≤ M by omega), show X + M + M - Y - k = X + M - (Y + k) + M by omega, Nat.add_mod_right]

/-- `r.1 = minuend - subtrahend` modulo the base, `r.2` the exact borrow -/
def SubOk {n : Nat} (r : RU n × Bool) (sb sc : Nat) : Prop := WF r.1 ∧ val r.1 + sc = sb + c2n r.2 * Bn n

/-- the generic template (`cl`, `ch` are what is subtracted from the two halves, an incoming borrow included) -/
theorem SubOk.node {n : Nat} {p q : RU n × Bool} {bl bh cl ch sb sc : Nat} (hp : SubOk p bl cl) (hq : SubOk q bh ch)
    (hb : sb = bl + Bn n * bh) (hc : sc + Bn n * c2n p.2 = cl + Bn n * ch) : SubOk (RU.node p.1 q.1, q.2) sb sc := by
  refine ⟨⟨hp.1, hq.1⟩, ?_⟩
  rw [hb, val_node, Bn_succ]
  linear_combination hp.2 + Bn n * hq.2 + hc

theorem SubOk.exact {n : Nat} {r : RU n × Bool} {sb sc : Nat} (h : SubOk r sb sc) (hc : sc ≤ Bn n) :
    val r.1 = (sb + Bn n - sc) % Bn n ∧ (r.2 = true ↔ sb < sc) := by
  obtain ⟨hw, he⟩ := h
  have h1 := val_lt _ hw
  cases hr : r.2 <;> rw [hr] at he <;> simp only [c2n_true, c2n_false, Nat.zero_mul, Nat.one_mul, Nat.add_zero] at he
  · refine ⟨?_, by simp; omega⟩
    have : sb + Bn n - sc = val r.1 + Bn n := by omega
    rw [this, Nat.add_mod_right, Nat.mod_eq_of_lt h1]
  · refine ⟨?_, by simp; omega⟩
    have : sb + Bn n - sc = val r.1 := by omega
    rw [this, Nat.mod_eq_of_lt h1]

theorem sub_dd_val (ah al bh bl : Nat) :
    val (mk1 (sub_dd ah al bh bl)) = (al + B64 * ah + B64 * B64 - (bl + B64 * bh)) % (B64 * B64) ∧ WF (mk1 (sub_dd ah al bh bl)) := by
  rw [val_mk1, WF_mk1]; simp only [sub_dd, B64]; omega

theorem sub_dd_node (bl bh cl ch : Nat) :
    WF (mk1 (sub_dd bh bl ch cl)) ∧
    val (mk1 (sub_dd bh bl ch cl)) = (val (RU.node (.limb bl) (.limb bh)) + Bn 1 - val (RU.node (.limb cl) (.limb ch))) % Bn 1 := by
  refine ⟨(sub_dd_val bh bl ch cl).2, ?_⟩
  rw [(sub_dd_val bh bl ch cl).1, Bn_one]
  simp only [val, Bn_zero]

theorem sub_wc_ok : ∀ {n : Nat} (b c : RU n) (cy : Bool), WF b → WF c →
    SubOk (sub_wc b c cy) (val b) (val c + c2n cy)
  | 0, .limb b, .limb c, cy, hb, hc => by
      have hr : (if cy = true then decide (b ≤ c) else decide (b < c)) = decide (b < c + c2n cy) := by
        cases cy
        · rfl
        · exact decide_eq_decide.mpr Nat.lt_succ_iff.symm
      unfold SubOk; rw [Bn_zero]
      simp only [sub_wc, val, WF, hr]
      exact ⟨Nat.mod_lt _ (by decide), sub_wrap_k hb hc (c2n_le cy)⟩
  | 1, .node (.limb bl) (.limb bh), .node (.limb cl) (.limb ch), cy, hb, hc => by
      have hX := val_lt _ hb
      have hY := val_lt _ hc
      obtain ⟨hsw, hse⟩ := sub_dd_node bl bh cl ch
      have hs := sub_wrap hX (Nat.le_of_lt hY)
      rw [← hse] at hs
      unfold SubOk
      cases cy <;> simp only [sub_wc, ← mk1_eta, c2n_true, c2n_false, ↓reduceIte, Bool.false_eq_true, Nat.add_zero]
      · simp only [cmp_lt _ _ hb hc]
        exact ⟨hsw, hs⟩
      · -- the second `sub_ddmmss(…, 0, 1)` borrows exactly when the first difference is 0, i.e. when the operands are equal
        obtain ⟨hs'w, hs'e⟩ := sub_dd_node (sub_dd bh bl ch cl).2 (sub_dd bh bl ch cl).1 1 0
        have h1 : val (RU.node (.limb 1) (.limb 0) : RU 1) = 1 := by simp only [val, Nat.mul_zero, Nat.add_zero]
        rw [h1, mk1_eta, show ((sub_dd bh bl ch cl).1, (sub_dd bh bl ch cl).2) = sub_dd bh bl ch cl from rfl] at hs'e
        have hs' := sub_wrap (val_lt _ hsw) (show 1 ≤ Bn 1 from Bn_pos 1)
        rw [← hs'e] at hs'
        simp only [cmp_le _ _ hb hc]
        refine ⟨hs'w, ?_⟩
        rw [c2n_decide] at hs hs' ⊢
        split at hs <;> split at hs' <;> split <;> omega
  | n+2, .node bl bh, .node cl ch, cy, hb, hc => by
      simp only [sub_wc]
      exact (sub_wc_ok bl cl cy hb.1 hc.1).node (sub_wc_ok bh ch _ hb.2 hc.2) (val_node _ _) (by rw [val_node]; ring)

theorem sub_eq_sub_wc : ∀ {n : Nat} (b c : RU n), WF c → sub b c = sub_wc b c false
  | 0, .limb b, .limb c, hc => by
      simp only [WF] at hc
      simp only [sub, sub_wc, Bool.false_eq_true, ↓reduceIte, Nat.sub_zero]
      rw [show b + B64 + B64 - c = b + B64 - c + B64 by omega, Nat.add_mod_right]
  | 1, .node (.limb bl) (.limb bh), .node (.limb cl) (.limb ch), _ => by simp only [sub, sub_wc, Bool.false_eq_true, ↓reduceIte]
  | n+2, .node bl bh, .node cl ch, hc => by simp only [sub, sub_wc, sub_eq_sub_wc bl cl hc.1]

theorem sub_ok {n : Nat} (b c : RU n) (hb : WF b) (hc : WF c) : SubOk (sub b c) (val b) (val c) := by
  rw [sub_eq_sub_wc b c hc]; exact sub_wc_ok b c false hb hc

theorem sub_l_ok : ∀ {n : Nat} (b : RU n) (c : Nat), WF b → c < B64 → SubOk (sub_l b c) (val b) c
  | 0, .limb b, c, hb, hc => by
      unfold SubOk; rw [Bn_zero]
      simp only [sub_l, val, WF]
      exact ⟨Nat.mod_lt _ (by decide), sub_wrap hb (Nat.le_of_lt hc)⟩
  | 1, .node (.limb bl) (.limb bh), c, hb, hc => by
      obtain ⟨hcw, hce⟩ := ofLimb1_val c hc
      obtain ⟨hsw, hse⟩ := sub_dd_node bl bh c 0
      rw [hce] at hse
      unfold SubOk
      simp only [sub_l, ← mk1_eta, cmp_l_lt _ _ hb hc, hse]
      exact ⟨hsw, sub_wrap (val_lt _ hb) (by rw [← hce]; exact Nat.le_of_lt (val_lt _ hcw))⟩
  | n+2, .node bl bh, c, hb, hc => by
      have hc2 : c2n (sub_l bl c).2 < B64 := Nat.lt_of_le_of_lt (c2n_le _) (by decide)
      simp only [sub_l]
      exact (sub_l_ok bl c hb.1 hc).node (sub_l_ok bh (c2n (sub_l bl c).2) hb.2 hc2) (val_node _ _) rfl

theorem sub_1_eq_sub_l : ∀ {n : Nat} (b : RU n), WF b → sub_1 b = sub_l b 1
  | 0, .limb b, _ => by
      simp only [sub_1, sub_l]
      exact congrArg _ (decide_eq_decide.mpr Nat.lt_one_iff.symm)
  | 1, .node (.limb bl) (.limb bh), hb => by
      simp only [sub_1, sub_l]
      refine congrArg _ ?_
      rw [Bool.eq_iff_iff, isZero_iff, decide_eq_true_eq, ← mk1_eta, cmp_l_lt _ _ hb (by decide), Nat.lt_one_iff]
  | n+2, .node bl bh, hb => by simp only [sub_1, sub_l, sub_1_eq_sub_l bl hb.1]

theorem sub_1_ok {n : Nat} (b : RU n) (hb : WF b) : SubOk (sub_1 b) (val b) 1 := by
  rw [sub_1_eq_sub_l b hb]; exact sub_l_ok b 1 hb (by decide)

theorem sub_dd_zero (ah al bh bl : Nat) : sub_dd (sub_dd ah al bh bl).1 (sub_dd ah al bh bl).2 0 0 = sub_dd ah al bh bl := by
  simp only [sub_dd, Nat.mul_zero, Nat.add_zero, Nat.sub_zero, Nat.mod_add_div, Nat.add_mod_right, Nat.mod_mod]

theorem sub_wcNC_eq : ∀ {n : Nat} (b c : RU n) (cy : Bool), sub_wcNC b c cy = (sub_wc b c cy).1
  | 0, .limb b, .limb c, cy => by simp only [sub_wcNC, sub_wc]
  | 1, .node (.limb bl) (.limb bh), .node (.limb cl) (.limb ch), cy => by
      cases cy <;> simp only [sub_wcNC, sub_wc, ↓reduceIte, Bool.false_eq_true, sub_dd_zero]
  | n+2, .node bl bh, .node cl ch, cy => by
      simp only [sub_wcNC, sub_wc, sub_wcNC_eq bh ch]

theorem subNC_eq : ∀ {n : Nat} (b c : RU n), subNC b c = (sub b c).1
  | 0, .limb b, .limb c => by simp only [subNC, sub]
  | 1, .node (.limb bl) (.limb bh), .node (.limb cl) (.limb ch) => by simp only [subNC, sub]
  | n+2, .node bl bh, .node cl ch => by simp only [subNC, sub, sub_wcNC_eq bh ch]

theorem sub_1_pos {n : Nat} (q : RU n) (hq : WF q) (h1 : 1 ≤ val q) : WF (sub_1 q).1 ∧ val (sub_1 q).1 + 1 = val q := by
  obtain ⟨hw, he⟩ := sub_1_ok q hq
  have hv := val_lt _ hw
  refine ⟨hw, ?_⟩
  cases hb : (sub_1 q).2 <;> rw [hb] at he <;> simp only [c2n_true, c2n_false, Nat.one_mul, Nat.zero_mul, Nat.add_zero] at he <;> omega

theorem sub_small {n : Nat} (x y : RU n) (hx : WF x) (hy : WF y) (hle : val y ≤ val x) :
    WF (subNC x y) ∧ val (subNC x y) = val x - val y := by
  rw [subNC_eq]
  have hs := (sub_ok x y hx hy).exact (Nat.le_of_lt (val_lt y hy))
  refine ⟨(sub_ok x y hx hy).1, ?_⟩
  rw [hs.1]
  have hvx := val_lt x hx
  have : val x + Bn n - val y = (val x - val y) + Bn n := by omega
  rw [this, Nat.add_mod_right, Nat.mod_eq_of_lt (by omega)]

end Givaro.Model.RecInt
