/- C13 — the strip-the-prime-factors-of-φ loops of `order`, and the test `A^(φ/f) ≠ 1` of `is_prim_root` / `lowest_prim_root` /
   `prim_root` read as "`A` has order `φ(n)`". -/
import GivaroModel.Lemmas.NumTheoLemmas
import GivaroModel.Lemmas.OrderTest
import Mathlib.GroupTheory.OrderOfElement
import Mathlib.Data.Nat.Totient
import Mathlib.Data.ZMod.Units
import Mathlib.FieldTheory.Finite.Basic
namespace Givaro.Lemmas.NumTheo
open Givaro.Model.NumTheo

section
variable {M : Type} [Monoid M] (x : M)

/-- `Good x q g`: the factor `q` cannot be stripped from the exponent `g` of `x` any more -/
def Good (q g : Nat) : Prop := q ∣ g → x ^ (g / q) ≠ 1

theorem Good.mono {q g g' : Nat} (hq : 0 < q) (hd : g' ∣ g) (h : Good x q g) : Good x q g' := by
  intro hqg hc
  apply h (dvd_trans hqg hd)
  obtain ⟨m, hm⟩ := hd
  obtain ⟨k, hk⟩ := hqg
  have : g / q = (g' / q) * m := by
    rw [hm, hk, Nat.mul_assoc, Nat.mul_div_cancel_left _ hq, Nat.mul_div_cancel_left _ hq]
  rw [this, pow_mul, hc, one_pow]

end

/-! The loops below test `powmod A e n = 1`; `x` stands for the class of `A` in `Z/n` and `hP` reads every such test as `x^e = 1`
    (callers supply `powmod_eq_one_iff`). -/
section
variable {n : Nat} (x : ZMod n) (A : Int)
variable (hP : ∀ e : Nat, powmod A e n = 1 ↔ x ^ e = 1)
include hP

/-- `G < 2^fuel`: every round at least halves `G` -/
theorem stripOne_spec (F : Nat) (hF : 2 ≤ F) : ∀ (fuel G : Nat), 0 < G → G < 2 ^ fuel → x ^ G = 1 →
    ∃ G' : Nat, stripOne fuel A n G F = G' ∧ 0 < G' ∧ G' ∣ G ∧ x ^ G' = 1 ∧ Good x F G' := by
  intro fuel
  induction fuel with
  | zero => intro G h0 hlt _; simp at hlt; omega
  | succ k ih =>
    intro G h0 hlt hx
    rw [stripOne]
    have hmod : ((G : Int) % (F : Int) = 0) ↔ F ∣ G := by
      rw [← Int.dvd_iff_emod_eq_zero, Int.natCast_dvd_natCast]
    rw [tdiv_natCast, Int.toNat_natCast]
    simp only [hmod, hP]
    by_cases hc : F ∣ G ∧ x ^ (G / F) = 1
    · rw [if_pos hc]
      obtain ⟨hd, hx'⟩ := hc
      have hpos : 0 < G / F := Nat.div_pos (Nat.le_of_dvd h0 hd) (by omega)
      have hlt' : G / F < 2 ^ k := by
        apply Nat.div_lt_of_lt_mul
        calc G < 2 ^ (k + 1) := hlt
          _ = 2 * 2 ^ k := by rw [pow_succ]; ring
          _ ≤ F * 2 ^ k := Nat.mul_le_mul_right _ hF
      obtain ⟨G', h1, h2, h3, h4, h5⟩ := ih (G / F) hpos hlt' hx'
      exact ⟨G', h1, h2, dvd_trans h3 (Nat.div_dvd_of_dvd hd), h4, h5⟩
    · rw [if_neg hc]
      refine ⟨G, rfl, h0, dvd_refl _, hx, ?_⟩
      intro hd hx'
      exact hc ⟨hd, hx'⟩

theorem stripAll_spec : ∀ (l : List Nat) (G : Nat), (∀ f ∈ l, 2 ≤ f) → 0 < G → x ^ G = 1 →
    ∃ G' : Nat, stripAll A n G (l.map (Nat.cast : Nat → Int)) = G' ∧ 0 < G' ∧ G' ∣ G ∧ x ^ G' = 1 ∧
      ∀ f ∈ l, Good x f G' := by
  intro l
  induction l with
  | nil => intro G _ h0 hx; exact ⟨G, rfl, h0, dvd_refl _, hx, by simp⟩
  | cons f t ih =>
    intro G h2 h0 hx
    simp only [List.map_cons, stripAll]
    have hf : 2 ≤ f := h2 f (by simp)
    have hfuel : G < 2 ^ ((G : Int).natAbs.log2 + 2) := by
      rw [Int.natAbs_natCast]
      calc G < 2 ^ (G.log2 + 1) := Nat.lt_log2_self
        _ ≤ 2 ^ (G.log2 + 2) := Nat.pow_le_pow_right (by norm_num) (by omega)
    obtain ⟨G1, e1, p1, d1, x1, g1⟩ := stripOne_spec x A hP f hf _ G h0 hfuel hx
    rw [e1]
    obtain ⟨G2, e2, p2, d2, x2, g2⟩ := ih G1 (fun q hq => h2 q (by simp [hq])) p1 x1
    refine ⟨G2, e2, p2, dvd_trans d2 d1, x2, ?_⟩
    intro q hq
    rcases List.mem_cons.mp hq with h | h
    · subst h; exact Good.mono x (by omega) d2 g1
    · exact g2 q h

theorem orderLoops_spec (g : Nat) (hg : 0 < g) (hx : x ^ g = 1) : ∀ l : List Nat, (∀ f ∈ l, 2 ≤ f ∧ f ∣ g) →
    ∃ G' : Nat, (match firstHit A n g (l.map (Nat.cast : Nat → Int)) with
        | none => (g : Int)
        | some (g', rest) => stripAll A n g' rest) = (G' : Int) ∧ 0 < G' ∧ G' ∣ g ∧ x ^ G' = 1 ∧ ∀ f ∈ l, Good x f G' := by
  intro l
  induction l with
  | nil => intro _; exact ⟨g, rfl, hg, dvd_refl _, hx, by simp⟩
  | cons f t ih =>
    intro hl
    obtain ⟨hf2, hfd⟩ := hl f (by simp)
    simp only [List.map_cons, firstHit, tdiv_natCast, Int.toNat_natCast, hP]
    by_cases hxf : x ^ (g / f) = 1
    · rw [if_pos hxf]
      obtain ⟨G', e, hpos, hd, hx', hgood⟩ := stripAll_spec x A hP (f :: t) (g / f) (fun q hq => (hl q hq).1)
        (Nat.div_pos (Nat.le_of_dvd hg hfd) (by omega)) hxf
      exact ⟨G', e, hpos, dvd_trans hd (Nat.div_dvd_of_dvd hfd), hx', hgood⟩
    · rw [if_neg hxf]
      obtain ⟨G', e, hpos, hd, hx', hgood⟩ := ih (fun q hq => hl q (by simp [hq]))
      refine ⟨G', e, hpos, hd, hx', fun q hq => ?_⟩
      rcases List.mem_cons.mp hq with rfl | h
      · exact Good.mono x (by omega) hd (fun _ => hxf)
      · exact hgood q h

theorem primTest_iff (m : Nat) (Lf : List Nat) :
    primTest n ((Lf.map (Nat.cast : Nat → Int)).map (fun f => Int.tdiv (m : Int) f)) A = true ↔ ∀ f ∈ Lf, x ^ (m / f) ≠ 1 := by
  unfold primTest
  simp only [List.all_map, List.all_eq_true, Function.comp, bne_iff_ne, ne_eq, tdiv_natCast, Int.toNat_natCast, hP]

end

/-- what the code's `phi` and factorisation must deliver at `n`: the model's `phi n` is `φ(n)` (`phi_eq`), and the list obtained for
    `φ(n)` holds exactly its prime divisors (contract of `IntFactorDom::set`, C12) -/
structure PhiFactors (n : Nat) (Lf : List Nat) : Prop where
  phi_eq : phi (n : Int) = (n.totient : Int)
  list_eq : primeFactors (phi (n : Int)) = Lf.map (Nat.cast : Nat → Int)
  prime : ∀ f ∈ Lf, f.Prime
  dvd : ∀ f ∈ Lf, f ∣ n.totient
  all : ∀ q : Nat, q.Prime → q ∣ n.totient → q ∈ Lf

theorem isUnit_iff_gcd (a : Int) (n : Nat) : IsUnit (a : ZMod n) ↔ Int.gcd (a % (n : Int)) n = 1 := by
  rw [ZMod.coe_int_isUnit_iff_isCoprime, Int.isCoprime_iff_gcd_eq_one, Int.gcd_comm, Int.gcd_emod]

theorem pow_totient_of_coprime (a : Int) (n : Nat) (hc : Int.gcd (a % (n : Int)) n = 1) : (a : ZMod n) ^ n.totient = 1 := by
  obtain ⟨u, hu⟩ := (isUnit_iff_gcd a n).mpr hc
  rw [← hu, ← Units.val_pow_eq_pow_val, ZMod.pow_totient, Units.val_one]

theorem orderOf_eq_zero_of_not_coprime (a : Int) (n : Nat) (hc : Int.gcd (a % (n : Int)) n ≠ 1) : orderOf (a : ZMod n) = 0 := by
  rw [orderOf_eq_zero_iff']
  intro k hk hx
  exact hc ((isUnit_iff_gcd a n).mp (IsUnit.of_pow_eq_one hx (by omega)))

theorem primTest_iff_order (A : Int) (n : Nat) (hn : 2 ≤ n) (Lf : List Nat) (hF : PhiFactors n Lf) :
    (Int.gcd A n = 1 ∧ primTest n ((primeFactors (phi n)).map (fun f => Int.tdiv (phi n) f)) A = true)
      ↔ orderOf (A : ZMod n) = n.totient := by
  by_cases hc : Int.gcd A n = 1
  · have hc' : Int.gcd (A % (n : Int)) n = 1 := by rw [Int.gcd_emod]; exact hc
    rw [hF.list_eq, hF.phi_eq, primTest_iff (A : ZMod n) A (powmod_eq_one_iff A n hn),
      orderOf_eq_iff_pow_div_ne_one _ (Nat.totient_pos.mpr (by omega)) (pow_totient_of_coprime A n hc')
        (fun f hf => ⟨hF.prime f hf, hF.dvd f hf⟩) hF.all]
    exact and_iff_right hc
  · have hc' : Int.gcd (A % (n : Int)) n ≠ 1 := by rw [Int.gcd_emod]; exact hc
    have hphi0 : 0 < n.totient := Nat.totient_pos.mpr (by omega)
    rw [orderOf_eq_zero_of_not_coprime A n hc']
    exact ⟨fun h => absurd h.1 hc, fun h => by omega⟩

theorem isPrimRoot_eq (a n : Int) :
    isPrimRoot a n = (decide (Int.gcd (a % n) n = 1) && primTest n ((primeFactors (phi n)).map (fun f => Int.tdiv (phi n) f)) (a % n)) := by
  unfold isPrimRoot primTest
  by_cases h : Int.gcd (a % n) n = 1
  · simp only [h, ↓reduceIte, decide_true, Bool.true_and, List.all_map]; rfl
  · simp only [h, ↓reduceIte, decide_false, Bool.false_and]

theorem isPrimRoot_iff_order (a : Int) (n : Nat) (hn : 2 ≤ n) (Lf : List Nat) (hF : PhiFactors n Lf) :
    isPrimRoot a n = true ↔ orderOf (a : ZMod n) = n.totient := by
  rw [isPrimRoot_eq, Bool.and_eq_true, decide_eq_true_eq, primTest_iff_order _ n hn Lf hF, ZMod.intCast_mod]

/-- `T` is any reading of the test of `lowest_prim_root`'s loop -/
theorem lowestGo_spec (n : Int) (exps : List Int) (T : Int → Prop)
    (hT : ∀ B : Int, (Int.gcd B n = 1 ∧ exps.all (fun f => powmod B f.toNat n != 1) = true) ↔ T B) : ∀ (fuel : Nat) (A0 : Int),
    (lowestGo n exps fuel A0 = 0 ∧ ∀ B, A0 ≤ B → B < A0 + fuel → B ≤ n → ¬ T B) ∨
    (A0 ≤ lowestGo n exps fuel A0 ∧ lowestGo n exps fuel A0 ≤ n ∧ T (lowestGo n exps fuel A0) ∧
      ∀ B, A0 ≤ B → B < lowestGo n exps fuel A0 → ¬ T B) := by
  intro fuel
  induction fuel with
  | zero => intro A0; left; exact ⟨rfl, fun B h1 h2 => by simp at h2; omega⟩
  | succ k ih =>
    intro A0
    rw [lowestGo]
    by_cases hle : A0 ≤ n
    · rw [if_pos hle]
      by_cases ht : T A0
      · rw [if_pos ((hT A0).mpr ht)]
        right; exact ⟨le_refl _, hle, ht, fun B h1 h2 => by omega⟩
      · rw [if_neg (fun h => ht ((hT A0).mp h))]
        have hA0 : ∀ B, A0 ≤ B → (A0 + 1 ≤ B → ¬ T B) → ¬ T B := by
          intro B hb h
          by_cases hB : B = A0
          · rw [hB]; exact ht
          · exact h (by omega)
        rcases ih (A0 + 1) with ⟨h0, hall⟩ | ⟨h1, h2, h3, h4⟩
        · left
          exact ⟨h0, fun B hb1 hb2 hb3 => hA0 B hb1 (fun h => hall B h (by push_cast at hb2 ⊢; omega) hb3)⟩
        · right
          exact ⟨by omega, h2, h3, fun B hb1 hb2 => hA0 B hb1 (fun h => h4 B h hb2)⟩
    · rw [if_neg hle]
      left; exact ⟨rfl, fun B h1 _ h3 => by omega⟩

end Givaro.Lemmas.NumTheo
