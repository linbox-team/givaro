/-
C05 — `construct_valid`: the table fill of the `GFqDom` constructors (`Model/GFqCtor.lean`) yields tables that satisfy `Valid`, for
every prime `p`, exponent `k ≥ 1` and generator of multiplicative order `q - 1`, in any commutative domain with `p = 0` into which the
codes decode injectively.  `Props.C05.construction_valid` is its instance at `(ZMod p)[X] ⧸ (f)`, `f` irreducible (the results of the
polynomial searches enter there as hypotheses: C09's contract).
-/
import GivaroModel.Model.GFqCtor
import GivaroModel.Lemmas.GFqField
import Mathlib.Data.List.Iterate
namespace Givaro.Lemmas.GFqZech
open Givaro.Model.Zech Givaro.Spec.GFq Givaro.Model.GFqCtor

theorem iterGo_eq (f : Nat → Nat) : ∀ n x (acc : Array Nat), iterGo f n x acc = acc ++ (List.iterate f x n).toArray
  | 0, _, acc => by simp [iterGo, List.iterate]
  | n + 1, x, acc => by
    rw [iterGo, iterGo_eq f n, List.iterate]
    simp

theorem fill_prefix (q : Nat) (l : Nat → Nat) (hl : ∀ i, i < q → l i < q)
    (hinj : ∀ i j, i < q → j < q → l i = l j → i = j) :
    ∀ n, n ≤ q →
      let A := (List.range n).foldl (fun (arr : Array Nat) i => arr.setIfInBounds (l i) i) (Array.replicate q 0)
      A.size = q ∧ ∀ i, i < n → A.getD (l i) 0 = i := by
  intro n
  induction n with
  | zero => intro _; simp
  | succ n ih =>
    intro hn
    obtain ⟨hs, hv⟩ := ih (by omega)
    simp only [List.range_succ, List.foldl_append, List.foldl_cons, List.foldl_nil]
    refine ⟨by rw [Array.size_setIfInBounds]; exact hs, ?_⟩
    intro i hi
    simp only [Array.getD_eq_getD_getElem?, Array.getElem?_setIfInBounds]
    by_cases hin : i = n
    · subst hin
      simp [hs, hl i (by omega)]
    · have hne : l n ≠ l i := fun h => hin (hinj n i (by omega) (by omega) h).symm
      simp only [hne, ↓reduceIte]
      have := hv i (by omega)
      simpa only [Array.getD_eq_getD_getElem?] using this

theorem fillPol2log_spec (q : Nat) (l2p : Array Nat) (hl : ∀ i, i < q → l2p.getD i 0 < q)
    (hinj : ∀ i j, i < q → j < q → l2p.getD i 0 = l2p.getD j 0 → i = j) :
    (fillPol2log q l2p).size = q ∧ ∀ i, i < q → (fillPol2log q l2p).getD (l2p.getD i 0) 0 = i :=
  fill_prefix q (fun i => l2p.getD i 0) hl hinj q (Nat.le_refl _)

theorem buildPlus1_size (F : Field) (l2p p2l : Array Nat) (m : Nat) : (buildPlus1 F l2p p2l m).size = F.q := by
  unfold buildPlus1; simp

theorem buildPlus1_getD (F : Field) (l2p p2l : Array Nat) (m i : Nat) (hi : i < F.q) :
    (buildPlus1 F l2p p2l m).getD i 0 =
      if i = m then 0 else if i = 0 then 0 else plus1Entry F l2p p2l i := by
  unfold buildPlus1
  simp only [Array.getD_eq_getD_getElem?, Array.getElem?_setIfInBounds, Array.size_map, Array.size_range]
  by_cases h : m = i
  · subst h; simp [hi]
  · have h' : ¬ i = m := fun e => h e.symm
    simp [h, h', hi]

section ctor
variable (F : Field) (g : Nat) {K : Type*} [CommRing K] [IsDomain K] {dec : Nat → K}

omit [CommRing K] [IsDomain K] in
theorem q_ge_two (hp2 : 2 ≤ F.p) (hk : 1 ≤ F.k) : 2 ≤ F.q ∧ (¬ F.k ≤ 1 → 4 ≤ F.q) := by
  unfold Field.q
  refine ⟨?_, fun h => ?_⟩
  · calc 2 ≤ F.p := hp2
      _ = F.p ^ 1 := (pow_one _).symm
      _ ≤ F.p ^ F.k := Nat.pow_le_pow_right (by omega) hk
  · calc 4 = 2 ^ 2 := by norm_num
      _ ≤ F.p ^ 2 := Nat.pow_le_pow_left hp2 2
      _ ≤ F.p ^ F.k := Nat.pow_le_pow_right (by omega) (by omega)

/-- `mOne = (P == 2) ? one : one >> 1` is the index of `-1`: in characteristic 2 because `-1 = 1 = γ^(q-1)`, otherwise because
    `γ^((q-1)/2)` is a square root of 1 other than 1 -/
theorem mOneOf_spec (hprime : Nat.Prime F.p) (hp0 : ((F.p : Nat) : K) = 0) (hq2 : 2 ≤ F.q) (γ : K)
    (hord : orderOf γ = F.q - 1) : 1 ≤ mOneOf F ∧ mOneOf F ≤ F.q - 1 ∧ γ ^ mOneOf F = -1 := by
  have hcard : γ ^ (F.q - 1) = 1 := by rw [← hord]; exact pow_orderOf_eq_one _
  unfold mOneOf
  by_cases h2 : F.p = 2
  · rw [if_pos h2, hcard]
    refine ⟨by omega, le_refl _, ?_⟩
    rw [h2, Nat.cast_ofNat, ← one_add_one_eq_two] at hp0
    exact eq_neg_of_add_eq_zero_left hp0
  · rw [if_neg h2]
    have hodd : F.p % 2 = 1 := hprime.eq_two_or_odd.resolve_left h2
    have hqodd : F.q % 2 = 1 := by unfold Field.q; rw [Nat.pow_mod, hodd]; simp
    obtain ⟨h, hh⟩ : ∃ h, F.q - 1 = 2 * h := ⟨(F.q - 1) / 2, by omega⟩
    clear hodd hqodd
    rw [hh] at hcard hord ⊢
    rw [Nat.mul_div_cancel_left h (by decide)]
    refine ⟨by omega, by omega, ?_⟩
    have hsq : γ ^ h * γ ^ h = 1 := by rw [← pow_add, ← two_mul]; exact hcard
    refine (mul_self_eq_one_iff.mp hsq).resolve_left fun h1 => ?_
    have := Nat.le_of_dvd (by omega) (hord ▸ orderOf_dvd_of_pow_eq_one h1)
    omega

omit [IsDomain K] in
/-- the orbit the constructor walks: code of `γ^(j+1)` after `j` multiplications by `g` -/
theorem iterate_cmul (D : Decoding K F dec) (hp2 : 2 ≤ F.p) (hk : 1 ≤ F.k) (hg : g < F.q) :
    ∀ j, (F.cmul · g)^[j] g < F.q ∧ dec ((F.cmul · g)^[j] g) = dec g ^ (j + 1)
  | 0 => ⟨hg, (pow_one _).symm⟩
  | j + 1 => by
    obtain ⟨l, e⟩ := iterate_cmul D hp2 hk hg j
    rw [Function.iterate_succ_apply', D.mul _ _ l hg, e, ← pow_succ]
    exact ⟨cmul_lt F hp2 hk _ _, rfl⟩

omit [IsDomain K] in
/-- `_log2pol` as the constructor leaves it: `q` entries, 0 first, then the codes of `γ, γ², …, γ^(q-1)` (for `k > 1` the last one is
    the 1 stored by hand; for `k = 1` the loop `accu * seed % P` is the same iteration, `cmul` being the product modulo `p`) -/
theorem buildLog2pol_sem (D : Decoding K F dec) (hp2 : 2 ≤ F.p) (hk : 1 ≤ F.k) (hg : g < F.q) (hcard : dec g ^ (F.q - 1) = 1) :
    (buildLog2pol F g).size = F.q ∧ (buildLog2pol F g).getD 0 0 = 0 ∧
    ∀ i, 1 ≤ i → i < F.q → (buildLog2pol F g).getD i 0 < F.q ∧ dec ((buildLog2pol F g).getD i 0) = dec g ^ i := by
  obtain ⟨hq2, hq4⟩ := q_ge_two F hp2 hk
  have hit := iterate_cmul F g D hp2 hk hg
  unfold buildLog2pol
  split
  · rename_i hk1
    have hqp := q_of_k1 F (by omega)
    have e1 : (fun a => (a * g) % F.p) = (F.cmul · g) := by funext a; simp only [Field.cmul, hk1, ↓reduceIte]
    rw [e1, one_mul, Nat.mod_eq_of_lt (hqp ▸ hg), iterGo_eq, ← hqp, List.append_toArray, List.cons_append, List.nil_append]
    refine ⟨?_, rfl, fun i h1 h2 => ?_⟩
    · rw [List.size_toArray, List.length_cons, List.length_iterate]; omega
    obtain ⟨j, rfl⟩ : ∃ j, i = j + 1 := ⟨i - 1, by omega⟩
    rw [Array.getD_eq_getD_getElem?, List.getElem?_toArray, List.getElem?_cons_succ, List.getElem?_iterate _ _ _ _ (by omega)]
    exact hit j
  · rename_i hk1
    have := hq4 hk1
    rw [iterGo_eq, List.append_toArray, List.push_toArray, List.cons_append, List.nil_append, List.cons_append]
    refine ⟨?_, rfl, fun i h1 h2 => ?_⟩
    · rw [List.size_toArray, List.length_cons, List.length_append, List.length_iterate, List.length_singleton]; omega
    obtain ⟨j, rfl⟩ : ∃ j, i = j + 1 := ⟨i - 1, by omega⟩
    rw [Array.getD_eq_getD_getElem?, List.getElem?_toArray, List.getElem?_cons_succ]
    by_cases hl : j < F.q - 2
    · rw [List.getElem?_append_left (by rw [List.length_iterate]; exact hl), List.getElem?_iterate _ _ _ _ hl]
      exact hit j
    · rw [List.getElem?_append_right (by rw [List.length_iterate]; omega), List.length_iterate, show j - (F.q - 2) = 0 by omega,
        show j + 1 = F.q - 1 by omega, hcard]
      exact ⟨hq2, D.one⟩

/-- what `construct_valid` uses of the filled `_log2pol` and of `mOneOf`; `γ = dec g` -/
structure CtorFacts (dec : Nat → K) : Prop where
  q2 : 2 ≤ F.q
  size : (construct F g).log2pol.size = F.q
  zero : (construct F g).l2p 0 = 0
  lt : ∀ i, i < F.q → (construct F g).l2p i < F.q
  pow : ∀ i, 1 ≤ i → i < F.q → dec ((construct F g).l2p i) = dec g ^ i
  inj : ∀ i j, i < F.q → j < F.q → (construct F g).l2p i = (construct F g).l2p j → i = j
  chain : ∀ i, 1 ≤ i → i + 1 < F.q → (construct F g).l2p (i + 1) = F.cmul ((construct F g).l2p i) g
  last : (construct F g).l2p (F.q - 1) = 1
  one : (construct F g).l2p 1 = g
  m1 : 1 ≤ mOneOf F
  m2 : mOneOf F ≤ F.q - 1
  mneg : dec g ^ mOneOf F = -1
  gne : dec g ≠ 0

variable (D : Decoding K F dec) (hdinj : ∀ a b, a < F.q → b < F.q → dec a = dec b → a = b)
  (hprime : Nat.Prime F.p) (hp0 : ((F.p : Nat) : K) = 0)
include D hdinj hprime hp0

theorem ctorFacts (hk : 1 ≤ F.k) (hg : g < F.q) (hord : orderOf (dec g) = F.q - 1) : CtorFacts F g dec := by
  have hp2 : 2 ≤ F.p := hprime.two_le
  have hq2 := (q_ge_two F hp2 hk).1
  have hcard : dec g ^ (F.q - 1) = 1 := by rw [← hord]; exact pow_orderOf_eq_one _
  have hγ0 : dec g ≠ 0 := by
    intro h; rw [h, zero_pow (by omega)] at hcard; exact zero_ne_one hcard
  obtain ⟨hsize, hzero, hpow⟩ : (construct F g).log2pol.size = F.q ∧ (construct F g).l2p 0 = 0 ∧
      ∀ i, 1 ≤ i → i < F.q → (construct F g).l2p i < F.q ∧ dec ((construct F g).l2p i) = dec g ^ i :=
    buildLog2pol_sem F g D hp2 hk hg hcard
  have hq0 : 0 < F.q := Nat.lt_of_lt_of_le Nat.zero_lt_two hq2
  have hlt : ∀ i, i < F.q → (construct F g).l2p i < F.q := by
    intro i hi
    cases i with
    | zero => rw [hzero]; exact hq0
    | succ n => exact (hpow _ (Nat.succ_pos n) hi).1
  have hpw : ∀ i, 1 ≤ i → i < F.q → dec ((construct F g).l2p i) = dec g ^ i := fun i h1 h2 => (hpow i h1 h2).2
  have hinj : ∀ i j, i < F.q → j < F.q → (construct F g).l2p i = (construct F g).l2p j → i = j := fun i j hi hj h =>
    zeroPow_inj _ (F.q - 1) hord hγ0 (fun i => dec ((construct F g).l2p i)) (by rw [hzero, D.zero])
      (fun i h1 h2 => hpw i h1 (Nat.lt_of_le_pred hq0 h2)) i j (Nat.le_sub_one_of_lt hi) (Nat.le_sub_one_of_lt hj)
      (congrArg dec h)
  have hq1 : F.q - 1 < F.q := Nat.sub_one_lt_of_lt hq0
  have hm := mOneOf_spec F hprime hp0 hq2 (dec g) hord
  exact { q2 := hq2, size := hsize, zero := hzero, lt := hlt, pow := hpw, inj := hinj
          chain := fun i h1 h2 => by
            have hi := Nat.lt_of_succ_lt h2
            apply hdinj _ _ (hlt _ h2) (cmul_lt F hp2 hk _ _)
            rw [hpw _ (Nat.succ_pos i) h2, D.mul _ _ (hlt _ hi) hg, hpw i h1 hi, pow_succ]
          last := by
            apply hdinj _ _ (hlt _ hq1) hq2
            rw [hpw _ (Nat.le_sub_one_of_lt hq2) hq1, hcard, D.one]
          one := by
            apply hdinj _ _ (hlt _ hq2) hg
            rw [hpw 1 le_rfl hq2, pow_one]
          m1 := hm.1, m2 := hm.2.1, mneg := hm.2.2, gne := hγ0 }

omit [CommRing K] [IsDomain K] D hdinj hprime hp0 in
theorem plus1Entry_eq (l2p p2l : Array Nat) (i : Nat) :
    plus1Entry F l2p p2l i = (p2l.getD (F.csucc (l2p.getD i 0)) 0 : Int) - ((F.q : Int) - 1) := by
  unfold plus1Entry Field.csucc
  simp only []
  split
  · rename_i h; rw [h]
  · rfl

omit [CommRing K] [IsDomain K] D hdinj hprime hp0 in
theorem shifted_index_bounds {j q : Nat} (h0 : j ≠ 0) (h1 : j < q) (h2 : j ≠ q - 1) :
    -((q : Int) - 1) < (j : Int) - ((q : Int) - 1) ∧ (j : Int) - ((q : Int) - 1) < 0 := by omega

theorem construct_valid (hk : 1 ≤ F.k) (hmon : F.k = 1 ∨ F.monic = true) (hg : g < F.q)
    (hord : orderOf (dec g) = F.q - 1) : Valid (construct F g) := by
  have hp2 : 2 ≤ F.p := hprime.two_le
  have C := ctorFacts F g D hdinj hprime hp0 hk hg hord
  have hq2 := C.q2
  have hm1 := C.m1
  have hm2 := C.m2
  have hq0 : 0 < F.q := Nat.lt_of_lt_of_le Nat.zero_lt_two hq2
  have hmq : mOneOf F < F.q := Nat.lt_of_le_of_lt hm2 (Nat.sub_one_lt_of_lt hq0)
  have hfill := fillPol2log_spec F.q (buildLog2pol F g) C.lt C.inj
  have hp2l : ∀ i, i < F.q → (construct F g).p2l ((construct F g).l2p i) = i := hfill.2
  have hpl : ∀ i, i < F.q → (construct F g).pl1 i =
      if i = mOneOf F then 0 else if i = 0 then 0 else
        ((construct F g).p2l (F.csucc ((construct F g).l2p i)) : Int) - ((F.q : Int) - 1) := by
    intro i hi
    have := buildPlus1_getD F (buildLog2pol F g) (fillPol2log F.q (buildLog2pol F g)) (mOneOf F) i hi
    rwa [plus1Entry_eq] at this
  have hsucc : ∀ i, 1 ≤ i → i < F.q → (F.csucc ((construct F g).l2p i) = 0 ↔ i = mOneOf F) := by
    intro i h1 h2
    have hs := D.succ _ (C.lt i h2)
    rw [C.pow i h1 h2] at hs
    constructor
    · intro h0
      rw [h0, D.zero] at hs
      have : dec g ^ i = dec g ^ mOneOf F := by rw [C.mneg]; exact eq_neg_of_add_eq_zero_left hs.symm
      exact pow_inj_range _ (F.q - 1) hord C.gne i _ h1 (Nat.le_sub_one_of_lt h2) hm1 hm2 this
    · intro him
      apply hdinj _ _ (csucc_lt F hp2 hk _ (C.lt i h2)) hq0
      rw [hs, him, C.mneg, D.zero, neg_add_cancel]
  exact
    { prime := hprime, k_pos := hk, q_ge := hq2, monic := hmon
      size_l2p := C.size
      size_p2l := hfill.1
      size_pl := buildPlus1_size _ _ _ _
      l2p_zero := C.zero
      mo_lo := by show (1 : Int) ≤ ((mOneOf F : Nat) : Int); omega
      mo_hi := by show ((mOneOf F : Nat) : Int) ≤ (F.q : Int) - 1; omega
      chain := fun i h1 h2 => C.one.symm ▸ C.chain i h1 h2
      last := C.last
      l2p_lt := C.lt
      p2l_l2p := hp2l
      pl_zero := by rw [hpl 0 hq0, if_neg (Nat.ne_of_lt hm1), if_pos rfl]
      succ_zero := fun i h1 (h2 : i < F.q) (hc : F.csucc ((construct F g).l2p i) = 0) => by
        have him := (hsucc i h1 h2).mp hc
        rw [hpl i h2, if_pos him, him]
        exact ⟨rfl, rfl⟩
      succ_pos := fun i h1 (h2 : i < F.q) (hc : F.csucc ((construct F g).l2p i) ≠ 0) => by
        show -((F.q : Int) - 1) < (construct F g).pl1 i ∧ (construct F g).pl1 i < 0 ∧
          (construct F g).l2p ((construct F g).pl1 i + ((F.q : Int) - 1)).toNat = F.csucc ((construct F g).l2p i)
        have him : ¬ i = mOneOf F := fun h => hc ((hsucc i h1 h2).mpr h)
        -- the successor is some `γ^j`, and `j` is neither 0 nor `q - 1` (the index of 1)
        obtain ⟨j, hj, hjc⟩ := surj_of_inj_lt F.q (construct F g).l2p C.lt C.inj _ (csucc_lt F hp2 hk _ (C.lt i h2))
        have hj0 : j ≠ 0 := fun h0 => hc (by rw [← hjc, h0]; exact C.zero)
        have hjl : j ≠ F.q - 1 := by
          intro hl
          have hs := D.succ _ (C.lt i h2)
          rw [← hjc, hl, C.last, D.one, C.pow i h1 h2] at hs
          exact pow_ne_zero _ C.gne (add_eq_right.mp hs.symm)
        rw [hpl i h2, if_neg him, if_neg (Nat.ne_of_gt h1), ← hjc, hp2l j hj, sub_add_cancel, Int.toNat_natCast]
        exact ⟨(shifted_index_bounds hj0 hj hjl).1, (shifted_index_bounds hj0 hj hjl).2, rfl⟩
      mOne := by
        show F.csucc ((construct F g).l2p ((mOneOf F : Nat) : Int).toNat) = 0
        rw [Int.toNat_natCast]
        exact (hsucc _ hm1 hmq).mpr rfl }
end ctor

end Givaro.Lemmas.GFqZech
