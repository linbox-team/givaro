/-
Helper lemmas for C07: histories, `inv_mod`, `isUnit32`, exponentiation, constructors from scalars and `rint<K>` words (`sval`).
-/
import GivaroModel.Lemmas.MontgomeryArazi
import GivaroModel.Lemmas.Loops
import GivaroModel.Model.MontgomeryExpr
namespace Givaro.Lemmas.Montgomery
open Givaro Givaro.Model.Montgomery Givaro.Spec.Montgomery Givaro.Lemmas.Euclid

/-! ## histories -/

theorem evalPlain_eq (p : Int) (val : Nat → Int) (e : RExpr) : e.evalPlain p val = e.evalZ val % p := by
  induction e with
  | var i => rfl
  | neg a ih => simp only [RExpr.evalPlain, RExpr.evalZ, rNeg, ih]; exact (Int.ModEq.neg (Int.mod_modEq _ _))
  | bin op a b iha ihb =>
    have ha : a.evalZ val % p ≡ a.evalZ val [ZMOD p] := Int.mod_modEq _ _
    have hb : b.evalZ val % p ≡ b.evalZ val [ZMOD p] := Int.mod_modEq _ _
    cases op <;> simp only [RExpr.evalPlain, RExpr.evalZ, rAdd, rSub, rMul, iha, ihb]
    · exact ha.add hb
    · exact ha.sub hb
    · exact ha.sub hb
    · exact ha.mul hb
    · exact ha.mul hb
  | tern op a x y iha ihx ihy =>
    have ha : a.evalZ val % p ≡ a.evalZ val [ZMOD p] := Int.mod_modEq _ _
    have hx : x.evalZ val % p ≡ x.evalZ val [ZMOD p] := Int.mod_modEq _ _
    have hy : y.evalZ val % p ≡ y.evalZ val [ZMOD p] := Int.mod_modEq _ _
    cases op <;> simp only [RExpr.evalPlain, RExpr.evalZ, rAxpy, rAxmy, rMaxpy, iha, ihx, ihy]
    · exact (ha.mul hx).add hy
    · have := (ha.mul hx).add hy
      rwa [Int.add_comm (a.evalZ val * x.evalZ val)] at this
    · exact (ha.mul hx).sub hy
    · exact (ha.mul hx).sub hy
    · exact hy.sub (ha.mul hx)
    · exact hy.sub (ha.mul hx)

theorem eval32_rep {F : Ring32} (h : Adm32 F) (env val : Nat → Int) (henv : ∀ i, Rep32 F (env i) (val i)) (e : RExpr) :
    Rep32 F (e.eval32 F env) (e.evalZ val) := by
  have W := h.isMont
  induction e with
  | var i => exact henv i
  | neg a ih => exact W.neg_rep ih
  | bin op a b iha ihb =>
    cases op <;> simp only [RExpr.eval32, RExpr.evalZ, subin32_eq_sub32, mulin32_eq_mul32]
    · exact W.add_rep iha ihb
    · exact W.sub_rep iha ihb
    · exact W.sub_rep iha ihb
    · exact W.mul_rep iha ihb
    · exact W.mul_rep iha ihb
  | tern op a x y iha ihx ihy =>
    have hm : Rep32 F (mul32 F (a.eval32 F env) (x.eval32 F env)) _ := W.mul_rep iha ihx
    cases op <;> simp only [RExpr.eval32, RExpr.evalZ, axpy32_eq, axpyin32_eq, axmy32, axmyin32, maxpy32, maxpyin32, subin32_eq_sub32]
    · exact W.add_rep hm ihy
    · exact W.add_rep ihy hm
    · exact W.sub_rep hm ihy
    · -- the 32-bit `axmyin` negates `r - a·x`
      have := W.neg_rep (W.sub_rep ihy hm)
      rwa [neg_sub] at this
    · exact W.sub_rep ihy hm
    · exact W.sub_rep ihy hm

theorem eval32_convert {F : Ring32} (h : Adm32 F) (env val : Nat → Int) (henv : ∀ i, Rep32 F (env i) (val i)) (e : RExpr) :
    convert32 F (e.eval32 F env) = e.evalPlain F.p val := by
  rw [evalPlain_eq]; exact h.isMont.conv_rep (eval32_rep h env val henv e)

theorem evalR_rep {C : MgCtx} (h : AdmR C) (env val : Nat → Int) (henv : ∀ i, IsRep C.R C.p (env i) (val i)) (e : RExpr) :
    IsRep C.R C.p (e.evalR C env) (e.evalZ val) := by
  have W := h.isMont
  induction e with
  | var i => exact henv i
  | neg a ih => exact W.neg_rep ih
  | bin op a b iha ihb =>
    cases op <;> simp only [RExpr.evalR, RExpr.evalZ, subinR_eq_subR]
    · exact W.add_rep iha ihb
    · exact W.sub_rep iha ihb
    · exact W.sub_rep iha ihb
    · exact W.mul_rep iha ihb
    · exact W.mul_rep iha ihb
  | tern op a x y iha ihx ihy =>
    have hm : IsRep C.R C.p (mulR C (a.evalR C env) (x.evalR C env)) _ := W.mul_rep iha ihx
    cases op <;> simp only [RExpr.evalR, RExpr.evalZ, axmyR, maxpyinR, subinR_eq_subR]
    · exact W.add_rep hm ihy
    · exact W.add_rep ihy hm
    · exact W.sub_rep hm ihy
    · exact W.sub_rep hm ihy
    · exact W.sub_rep ihy hm
    · exact W.sub_rep ihy hm

theorem eval32_init_convert {F : Ring32} (g : Good32 F) (e : RExpr) (val : Nat → Int) :
    convert32 F (e.eval32 F (fun i => initI64 F (val i))) = e.evalZ val % F.p :=
  g.toAdm32.isMont.conv_rep (eval32_rep g.toAdm32 _ val (fun i => initI64_rep g (val i)) e)

theorem evalR_init_convert {C : MgCtx} (g : Lemmas.MontInit.GoodR C) (e : RExpr) (val : Nat → Int)
    (hval : ∀ i, -C.R < val i ∧ val i < C.R) :
    convertR C (e.evalR C (fun i => initR C (val i))) = e.evalZ val % C.p :=
  g.isMont.conv_rep (evalR_rep g.toAdmR _ val (fun i => initR_rep g (val i) (hval i)) e)

/-! ## inv_mod (ruinvmod.h) -/

/-- one update `x ← (a - q·x) mod c` -/
theorem invMod_update {R c q x a : Int} (hc0 : 0 < c) (hcR : c < R) (ha0 : 0 ≤ a) (ha1 : a < c) :
    let temp := (q * x) % c
    let temp := if temp ≠ 0 then uSub R c temp else temp
    let ret := uCarry R temp a
    let temp := uAdd R temp a
    let temp := if ret = true ∨ temp ≥ c then uSub R temp c else temp
    0 ≤ temp ∧ temp < c ∧ c ∣ temp - (a - q * x) := by
  intro t0 t1 ret t2 t3
  obtain ⟨h00, h01⟩ := emod_canon hc0 (q * x)
  have e : t3 = (a - q * x) % c := (neg_add_carry hcR h00 h01 ha0 ha1).trans (Int.sub_emod_emod a (q * x) c)
  rw [e]
  exact ⟨Int.emod_nonneg _ hc0.ne', Int.emod_lt_of_pos _ hc0, (Int.mod_modEq _ c).symm.dvd⟩

theorem coprime_emod {a b : Int} (h : IsCoprime a b) : IsCoprime (a % b) b := by
  have := h.add_mul_left_left (-(a / b))
  rwa [show a + b * -(a / b) = a % b by linear_combination -(Int.emod_add_mul_ediv a b)] at this

/-- the loop of `inv_mod(a, b, c)`: `(a2, b2)` are Euclid's remainders with the cofactors `(a, x)` of `b` kept modulo `c` -/
theorem invModLoop_rows (R c b : Int) (hc1 : 1 < c) (hcR : c < R) (hcop : Int.gcd b c = 1) :
    ∀ (fuel : Nat) (a2 b2 a x : Int), 0 ≤ a2 → 0 ≤ b2 → b2 < fuel → 0 ≤ a → a < c → 0 ≤ x → x < c →
      ModRows b c a2 b2 a x →
      0 ≤ invModLoop R c fuel a2 b2 a x ∧ invModLoop R c fuel a2 b2 a x < c ∧ c ∣ invModLoop R c fuel a2 b2 a x * b - 1 := by
  intro fuel
  induction fuel with
  | zero => intro a2 b2 a x _ h2 h3; omega
  | succ n ih =>
    intro a2 b2 a x h1 h2 h3 h4 h5 h6 h7 h
    unfold invModLoop
    by_cases hb : b2 = 0
    · simp only [hb, ↓reduceIte]
      have := ((hb ▸ h).gcd h1).2
      rw [hcop] at this
      exact ⟨h4, h5, this⟩
    · simp only [hb, ↓reduceIte]
      have hb0 : 0 < b2 := lt_of_le_of_ne h2 (Ne.symm hb)
      obtain ⟨u0, u1, hu⟩ := invMod_update (R := R) (c := c) (q := a2 / b2) (x := x) (a := a) (lt_trans Int.zero_lt_one hc1) hcR h4 h5
      have r1 := Int.emod_lt_of_pos a2 hb0
      exact ih b2 (a2 % b2) x _ h2 (Int.emod_nonneg a2 hb) (by omega) h6 h7 u0 u1 (h.step (Int.ediv_mul_add_emod a2 b2).symm hu)

theorem invMod_spec {R c b : Int} (hc1 : 1 < c) (hcR : c < R) (hb0 : 0 ≤ b) (hcop : IsCoprime b c) :
    0 ≤ invMod R b c ∧ invMod R b c < c ∧ c ∣ invMod R b c * b - 1 := by
  have hf : c < ((c.toNat + 2 : Nat) : Int) := by have := Int.toNat_of_nonneg (show 0 ≤ c by omega); omega
  exact invModLoop_rows R c b hc1 hcR (Int.isCoprime_iff_gcd_eq_one.mp hcop) (c.toNat + 2) b c 1 0 hb0 (by omega) hf (by omega) hc1
    (le_refl 0) (by omega) (ModRows.init_swap b c)

section invR
variable {C : MgCtx}

/-- `rmint<K,MGA>` `inv`: `reduction(a, b); inv_mod(a, a, p); to_mg(a)` -/
theorem invA_rep (h : AdmR C) (hp1 : 1 < C.p) {x a : Int} (hx : IsRep C.R C.p x a) (hu : IsCoprime a C.p) :
    C.p ∣ invMod C.R (a % C.p) C.p * a - 1 ∧ IsRep C.R C.p (invA C x) (invMod C.R (a % C.p) C.p) ∧
    0 ≤ invMod C.R (a % C.p) C.p ∧ invMod C.R (a % C.p) C.p < C.p := by
  have hv : mgReduc C x = a % C.p := h.isMont.conv_rep hx
  have v0 := Int.emod_nonneg a h.p0.ne'
  have hd := Int.emod_add_mul_ediv a C.p
  obtain ⟨t0, t1, j, hj⟩ := invMod_spec hp1 h.pR v0 (coprime_emod hu)
  refine ⟨⟨j + invMod C.R (a % C.p) C.p * (a / C.p), by linear_combination hj - (invMod C.R (a % C.p) C.p) * hd⟩, ?_, t0, t1⟩
  unfold invA; rw [hv]; exact toMgA_rep h _

end invR

/-! ## exponentiation (rmgexp.h) -/
section expo
variable {C : MgCtx}

theorem natCast_bit (k : Nat) : ((k : Int) % 2 = 1 ↔ k % 2 = 1) ∧ (k : Int) / 2 = ((k / 2 : Nat) : Int) := by omega

theorem r_rep_one (h : AdmR C) (hr : C.r = C.R % C.p) : IsRep C.R C.p C.r 1 := by
  rw [hr]
  exact rep_of_modEq h.p0 (by rw [Int.one_mul])

/-- `while (exp != 0) { if (exp & 1) a *= x; x *= x; exp >>= 1; }` -/
theorem expBinLoopA_rep (h : AdmR C) (fuel k : Nat) (a x A X : Int) (hk : k < 2 ^ fuel)
    (ha : IsRep C.R C.p a A) (hx : IsRep C.R C.p x X) : IsRep C.R C.p (expBinLoopA C fuel a x (k : Int)) (A * X ^ k) :=
  Loops.sqmul (IsRep C.R C.p) (IsRep C.R C.p) (fun f k a x => expBinLoopA C f a x (k : Int)) (mulA C) (fun _ x => mulA C x x)
    (fun f a x => by cases f <;> simp [expBinLoopA])
    (fun f k a x hk => by
      have := natCast_bit k
      simp only [expBinLoopA, Int.natCast_eq_zero, hk, ↓reduceIte, this.1, this.2])
    h.isMont.mul_rep (fun _ hx => h.isMont.mul_rep hx hx) fuel k a x A X hk ha hx

/-- `exp(a, b, const UDItype& c)` -/
theorem expU64A_rep (h : AdmR C) (hr : C.r = C.R % C.p) {b B : Int} (hb : IsRep C.R C.p b B) (k : Nat) (hk : k < 2 ^ 64) :
    IsRep C.R C.p (expU64A C b (k : Int)) (B ^ k) := by
  have := expBinLoopA_rep h 64 k C.r b 1 B hk (r_rep_one h hr) hb
  rwa [Int.one_mul] at this

def gAt (C : MgCtx) (b : Int) : Nat → Int
  | 0 => C.r
  | i + 1 => mulA C (gAt C b i) b

/-- the table evaluates to `map gAt (range 16)` (the `show`); another table size needs another literal -/
theorem gTable_getD (b : Int) (i : Nat) (hi : i < 16) : (gTable C b 16 []).getD i 0 = gAt C b i := by
  show ((List.range 16).map (gAt C b)).getD i 0 = _
  simp [List.getD, hi]

theorem gAt_rep (h : AdmR C) (hr : C.r = C.R % C.p) {b B : Int} (hb : IsRep C.R C.p b B) :
    ∀ i, IsRep C.R C.p (gAt C b i) (B ^ i) := by
  intro i
  induction i with
  | zero => simpa [gAt] using r_rep_one h hr
  | succ i ih => rw [pow_succ]; exact h.isMont.mul_rep ih hb

theorem sq4_rep (h : AdmR C) {y Y : Int} (hy : IsRep C.R C.p y Y) :
    IsRep C.R C.p (squareA C (squareA C (squareA C (squareA C y)))) (Y ^ 16) := by
  have h2 := h.isMont.mul_rep hy hy
  have h3 := h.isMont.mul_rep h2 h2
  have h4 := h.isMont.mul_rep h3 h3
  have h5 := h.isMont.mul_rep h4 h4
  have e : Y ^ 16 = Y * Y * (Y * Y) * (Y * Y * (Y * Y)) * (Y * Y * (Y * Y) * (Y * Y * (Y * Y))) := by ring
  rw [e]; exact h5

/-- nibbles from the top, `a ← (a·g[nib])^16`, the last without the squarings: before nibble `j` is read `a` holds `b^(16·q)`,
    `q = k / 16^(j+1)` the part of the exponent read so far -/
theorem expWinLoopA_rep (h : AdmR C) (g : List Int) (B : Int) (hg : ∀ i, i < 16 → IsRep C.R C.p (g.getD i 0) (B ^ i)) (k : Nat) :
    ∀ (j : Nat) (a : Int), IsRep C.R C.p a (B ^ (16 * (k / 16 ^ (j + 1)))) →
      IsRep C.R C.p (expWinLoopA C g (k : Int) j a) (B ^ k) := by
  have nib : ∀ (j : Nat) (a : Int), IsRep C.R C.p a (B ^ (16 * (k / 16 ^ (j + 1)))) →
      IsRep C.R C.p (mulA C a (g.getD (k / 16 ^ j % 16) 0)) (B ^ (k / 16 ^ j)) := by
    intro j a ha
    have := h.isMont.mul_rep ha (hg (k / 16 ^ j % 16) (Nat.mod_lt _ (by decide)))
    rwa [← pow_add, pow_succ, ← Nat.div_div_eq_div_mul, Nat.div_add_mod] at this
  intro j
  induction j with
  | zero =>
    intro a ha
    unfold expWinLoopA
    rw [show ((k : Int) % 16).toNat = k / 16 ^ 0 % 16 by omega]
    simpa using nib 0 a ha
  | succ j ih =>
    intro a ha
    unfold expWinLoopA
    simp only
    rw [show ((k : Int) / 16 ^ (j + 1) % 16).toNat = k / 16 ^ (j + 1) % 16 from Int.toNat_natCast _]
    have := sq4_rep h (nib (j + 1) a ha)
    rw [← pow_mul, Nat.mul_comm] at this
    exact ih _ this

/-- `exp(a, b, const ruint<K>& c)` at level `n` (`K = 6 + n`) -/
theorem expWinA_rep (h : AdmR C) (hr : C.r = C.R % C.p) (n : Nat) {b B : Int} (hb : IsRep C.R C.p b B) (k : Nat)
    (hk : k < 2 ^ bitsOf n) : IsRep C.R C.p (expWinA n C b (k : Int)) (B ^ k) := by
  have hg : ∀ i, i < 16 → IsRep C.R C.p ((gTable C b 16 []).getD i 0) (B ^ i) := by
    intro i hi; rw [gTable_getD b i hi]; exact gAt_rep h hr hb i
  -- all `2^K / 4` nibbles lie ahead: nothing of the exponent is read yet
  have hz : k / 16 ^ (bitsOf n / 4 - 1 + 1) = 0 := by
    have hj : bitsOf n / 4 - 1 + 1 = 16 * 2 ^ n := by
      unfold bitsOf
      have : 0 < 2 ^ n := Nat.pow_pos (by decide)
      omega
    have hpow : (16 : Nat) ^ (16 * 2 ^ n) = 2 ^ bitsOf n := by
      unfold bitsOf
      rw [show (16 : Nat) = 2 ^ 4 by norm_num, ← pow_mul]
      congr 1
      ring
    rw [hj, hpow]
    exact Nat.div_eq_of_lt hk
  exact expWinLoopA_rep h _ B hg k _ C.r (by rw [hz]; simpa using r_rep_one h hr)

end expo

/-! ## isUnit -/

theorem rep_coprime {B p nim : Int} (hnim : (nim * p) % B = B - 1) {x a : Int} (hx : IsRep B p x a) :
    IsCoprime x p ↔ IsCoprime a p := by
  obtain ⟨_, _, k, hk⟩ := isRep_iff.mp hx
  rw [show x = a * B + p * -k by linear_combination -hk, IsCoprime.add_mul_left_left_iff, IsCoprime.mul_left_iff]
  exact and_iff_left (coprime_of_nim hnim).symm


theorem isUnit32_iff {F : Ring32} (h : Adm32 F) {x a : Int} (hx : Rep32 F x a) :
    isUnit32 F x = true ↔ IsCoprime a F.p := by
  have := h.p3; have := h.pmax
  have hw : ∀ y, 0 ≤ y → y ≤ F.p → wrapS32 y = y := fun y h0 h1 => wrapS32_id ⟨by omega, by omega⟩
  have hd : ∀ y z : Int, 0 ≤ y → 0 < z → Int.tdiv y z = y / z := fun y z hy _ => Int.tdiv_eq_ediv_of_nonneg hy
  have dg := (extendedEuclid_spec wrapS32 Int.tdiv x F.p hw hd hx.1 hx.2.1).2.2.1
  unfold isUnit32
  have x0 := hx.1; have x1 := hx.2.1
  simp only [wrapS32_id (x := x) ⟨by omega, by omega⟩, wrapS32_id (x := F.p) ⟨by omega, by omega⟩,
    Bool.or_eq_true, decide_eq_true_eq]
  rw [← rep_coprime h.nimp hx, ← extendedEuclid_d_iff wrapS32 Int.tdiv x F.p hw hd hx.1 hx.2.1]
  -- `d` is a gcd, so the test `d == -1` of the source never succeeds
  exact or_iff_left (fun h1 => by omega)

/-! ## constructors from built-in scalars, non-Montgomery exponentiation -/
section scalars
variable {C : MgCtx}

/-- `rmint<K,MGA>(const T b)`, signed `T` -/
theorem ctorSignedA_rep (h : AdmR C) (v : Int) : IsRep C.R C.p (ctorSignedA C v) v := by
  have p0 := h.p0; have pR := h.pR
  unfold ctorSignedA
  simp only
  by_cases hv : v < 0
  · simp only [hv, ↓reduceIte]
    have m0 := Int.emod_nonneg (-v) p0.ne'
    have m1 := Int.emod_lt_of_pos (-v) p0
    have hd := Int.emod_add_mul_ediv (-v) C.p
    have e : uSub C.R C.p (-v % C.p) = C.p - -v % C.p := by unfold uSub; exact Int.emod_eq_of_lt (by omega) (by omega)
    rw [e]
    exact rep_congr_val (toMgA_rep h _) ⟨1 + (-v) / C.p, by linear_combination -hd⟩
  · simp only [hv, ↓reduceIte]
    exact rep_emod (toMgA_rep h _)

/-- `rmint<K,MGI>(const T b)`, signed `T` -/
theorem ctorSignedI_eq {R p : Int} (p0 : 0 < p) (pR : p < R) (v : Int) : ctorSignedI R p v = v % p := by
  unfold ctorSignedI
  by_cases hv : v < 0
  · simp only [hv, ↓reduceIte, true_and]
    exact ((ne_zero_sub pR (Int.emod_nonneg _ p0.ne') (Int.emod_lt_of_pos _ p0)).trans
      (neg_canon (Int.emod_nonneg _ p0.ne') (Int.emod_lt_of_pos _ p0))).trans (by rw [neg_emod_emod, neg_neg])
  · simp only [hv, ↓reduceIte, false_and]

theorem mulScalarI_eq {R p : Int} (p0 : 0 < p) (pR : p < R) (a v : Int) : mulScalarI R p a v = (a * v) % p := by
  unfold mulScalarI mulI
  rw [ctorSignedI_eq p0 pR]
  exact ((Int.mod_modEq v p).mul_left a)

theorem expModLoop_zero (p : Int) : ∀ (f : Nat) (a x : Int), expModLoop p f a x 0 = a
  | 0, _, _ => rfl
  | f + 1, a, x => by simpa [expModLoop] using expModLoop_zero p f a _

/-- `exp_mod` has no exit test: the rounds after the exponent is exhausted leave the accumulator alone -/
theorem expModLoop_eq {p : Int} (fuel k : Nat) (a x : Int) (hk : k < 2 ^ fuel) (h0 : 0 ≤ a) (h1 : a < p) :
    expModLoop p fuel a x (k : Int) = (a * x ^ k) % p := by
  have hm : ∀ {a x A X : Int}, a = A % p → x ≡ X [ZMOD p] → a * x % p = A * X % p := fun ha hx =>
    ha ▸ (Int.mod_modEq _ _).mul hx
  exact Loops.sqmul (fun a A => a = A % p) (fun x X => x ≡ X [ZMOD p]) (fun f k a x => expModLoop p f a x (k : Int))
    (fun a x => a * x % p) (fun _ x => x * x % p) (expModLoop_zero p)
    (fun f k a x _ => by
      have := natCast_bit k
      simp only [expModLoop, this.1, this.2])
    hm (fun _ hx => (Int.mod_modEq _ _).trans (hx.mul hx)) fuel k a x a x hk (Int.emod_eq_of_lt h0 h1).symm (Int.ModEq.refl x)

end scalars

/-! ## sources of any magnitude -/
section sources
variable {C : MgCtx}

/-- the signed (two's-complement) reading of a word of `rint<K>`; `sval` of Lemmas/RecIntConv is the same reading on limb trees -/
def sval (R c : Int) : Int := if c ≥ R / 2 then c - R else c

/-- `rmint<K,MGA>(const rint<K>& c)` -/
theorem ctorRintA_rep (h : AdmR C) {c : Int} (hc0 : 0 ≤ c) (hc1 : c < C.R) :
    IsRep C.R C.p (ctorRintA C c) (sval C.R c) := by
  have p0 := h.p0; have pR := h.pR
  unfold ctorRintA sval rintNeg
  by_cases hn : c ≥ C.R / 2
  · simp only [hn, decide_true, ↓reduceIte]
    rw [uNeg_eq (show 0 < c by omega) hc1, ← neg_sub C.R c]
    exact h.isMont.neg_rep (toMgA_rep h (C.R - c))
  · simp only [hn, decide_false, Bool.false_eq_true, ↓reduceIte]
    exact toMgA_rep h c

/-- `rmint<K,MGI>(const rint<K>& c)` -/
theorem ctorRintI_eq {R p : Int} (p0 : 0 < p) (pR : p < R) {c : Int} (hc0 : 0 ≤ c) (hc1 : c < R) :
    ctorRintI R p c = sval R c % p := by
  unfold ctorRintI sval rintNeg
  by_cases hn : c ≥ R / 2
  · simp only [hn, decide_true, ↓reduceIte]
    rw [uNeg_eq (show 0 < c by omega) hc1, negR_val (C := ⟨R, p, 0, 0, 0, 0⟩) pR (Int.emod_nonneg _ p0.ne') (Int.emod_lt_of_pos _ p0),
      neg_emod_emod, neg_sub]
  · simp only [hn, decide_false, Bool.false_eq_true, ↓reduceIte]

end sources
end Givaro.Lemmas.Montgomery
