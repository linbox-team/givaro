/-
C03, the generic `Modular<IntType,Compute_t>` (modular-inttype.inl): with `p ≤ 2^⌊N/2⌋` (`N` value bits of the element
type) every intermediate `a·b + c`, `a·b + (p − c)` is below `p²` and fits the element type, so no operation wraps.
Then `inv`: the two-variable Euclid with the deferred cofactor update.
-/
import GivaroModel.Model.ModRingGeneric
import GivaroModel.Lemmas.ModRingHist
namespace Givaro.Model.ModRing
open Givaro.Spec.ModRing Givaro.Lemmas.Euclid

/-- no store or expression changes a value in `[0, p²)`, nor, for a signed type, in `[-p, 0)` (`reduce` before its `+p`) -/
structure GOk (k : GCfg) (p : Int) : Prop where
  p2 : 2 ≤ p
  E_id : ∀ x, 0 ≤ x → x < p * p → k.E x = x
  ar_id : ∀ x, 0 ≤ x → x < p * p → k.ar x = x
  E_neg : ∀ x, -p ≤ x → x < 0 → k.sg = true → k.E x = x

theorem GCfg.sq_le_eTop {k : GCfg} {p : Int} (hp : 2 ≤ p) (hm : p ≤ k.maxCard) : p * p ≤ k.asI.eTop := by
  have hT : k.asI.eTop = (2 : Int) ^ (k.s - (if k.sg then 1 else 0)) := by
    cases hsg : k.sg <;> simp [ICfg.eTop, GCfg.asI, hsg]
  unfold GCfg.maxCard at hm
  rw [hT]
  generalize (if k.sg = true then 1 else 0) = δ at hm ⊢
  exact sq_le_two_pow (by omega) hm (by omega)

theorem gok_of_width {k : GCfg} (hs : 1 ≤ k.s) {p : Int} (hp : 2 ≤ p) (hm : p ≤ k.maxCard) : GOk k p := by
  have hpp := GCfg.sq_le_eTop hp hm
  have := lt_sq hp
  exact ⟨hp, fun x h0 h1 => ICfg.toE_nn hs h0 (by omega), fun x h0 h1 => ICfg.arE_nn hs h0 (by omega),
    fun x h0 h1 hsg => ICfg.toE_id hs (by rw [if_pos (show k.asI.sg = true from hsg)]; omega) (by omega)⟩

theorem gok_of_valid (k : GCfg) (hv : k.valid) (p : Int) (hp : 2 ≤ p) (hm : p ≤ k.maxCard) : GOk k p :=
  gok_of_width (by rcases hv with h | h | h | h <;> omega) hp hm

section gops
variable {k : GCfg} {p a b c : Int}

/-- `2p − 2` is the largest sum of two canonical operands (`≤ p(p−1)` by `sq_pred`) -/
theorem GOk.small (ok : GOk k p) {x : Int} (h0 : 0 ≤ x) (h1 : x ≤ 2 * p - 2) : k.E x = x ∧ k.ar x = x := by
  have hp := ok.p2
  have := sq_pred hp
  exact ⟨ok.E_id x h0 (by omega), ok.ar_id x h0 (by omega)⟩

theorem GOk.st (ok : GOk k p) {x : Int} (h0 : 0 ≤ x) (h1 : x < p * p) : k.E (k.ar x) = x := by
  rw [ok.ar_id x h0 h1]; exact ok.E_id x h0 h1

theorem GOk.modp (ok : GOk k p) {x : Int} (h0 : 0 ≤ x) : k.modp x p = x % p := by
  have hp := ok.p2
  obtain ⟨h1, h2⟩ := emod_canon (by omega : 0 < p) x
  unfold GCfg.modp
  rw [Int.tmod_eq_emod_of_nonneg h0]
  exact (ok.small h1 (by omega)).1

theorem gmul_model (ok : GOk k p) (ha : 0 ≤ a ∧ a < p) (hb : 0 ≤ b ∧ b < p) : k.mul p a b = (a * b) % p := by
  have hp := ok.p2
  have hab := mul_lt_sq hp ha hb
  have hsq := sq_pred hp
  unfold GCfg.mul
  rw [ok.st hab.1 (by omega)]
  exact ok.modp hab.1

theorem gadd_model (ok : GOk k p) (ha : 0 ≤ a ∧ a < p) (hb : 0 ≤ b ∧ b < p) : k.add p a b = (a + b) % p := by
  have hp := ok.p2
  have hsq := sq_pred hp
  unfold GCfg.add
  simp only
  rw [ok.st (by omega : 0 ≤ a + b) (by omega), add_emod_canon ha hb]
  split
  · rw [if_neg (by omega)]; exact ok.st (by omega) (by omega)
  · rw [if_pos (by omega)]

theorem gsub_model (ok : GOk k p) (ha : 0 ≤ a ∧ a < p) (hb : 0 ≤ b ∧ b < p) :
    k.sub p a b = (a - b) % p ∧ k.subin p a b = (a - b) % p := by
  have hp := ok.p2
  have hsq := sq_pred hp
  have hpb : k.ar (p - b) = p - b := (ok.small (by omega) (by omega)).2
  unfold GCfg.sub GCfg.subin
  rw [sub_emod_canon ha hb, hpb]
  constructor
  · split
    · rw [if_neg (by omega)]; exact ok.st (by omega) (by omega)
    · rw [if_pos (by omega), ok.st (by omega : 0 ≤ p - b + a) (by omega)]; omega
  · split
    · rw [ok.st (by omega : 0 ≤ a + (p - b)) (by omega)]; omega
    · exact ok.st (by omega) (by omega)

theorem gneg_model (ok : GOk k p) (ha : 0 ≤ a ∧ a < p) : k.neg p a = (-a) % p := by
  have hp := ok.p2
  have hsq := sq_pred hp
  unfold GCfg.neg
  rw [neg_emod_eq a p (by omega), Int.emod_eq_of_lt ha.1 ha.2]
  split
  · rfl
  · exact ok.st (by omega) (by omega)

theorem gaxpy_model (ok : GOk k p) (ha : 0 ≤ a ∧ a < p) (hb : 0 ≤ b ∧ b < p) (hc : 0 ≤ c ∧ c < p) :
    k.axpy p a b c = (a * b + c) % p ∧ k.axpyin p c a b = (a * b + c) % p := by
  have hp := ok.p2
  have hab := mul_lt_sq hp ha hb
  have hsq := sq_pred hp
  unfold GCfg.axpy GCfg.axpyin
  rw [ok.st hab.1 (by omega), ok.ar_id (a * b) hab.1 (by omega), ok.st (by omega : 0 ≤ a * b + c) (by omega),
    ok.st (by omega : 0 ≤ c + a * b) (by omega)]
  exact ⟨ok.modp (by omega), by rw [Int.add_comm c]; exact ok.modp (by omega)⟩

theorem gaxmy_model (ok : GOk k p) (ha : 0 ≤ a ∧ a < p) (hb : 0 ≤ b ∧ b < p) (hc : 0 ≤ c ∧ c < p) :
    k.axmy p a b c = (a * b - c) % p ∧ k.axmyin p c a b = (a * b - c) % p := by
  have hp := ok.p2
  have hab := mul_lt_sq hp ha hb
  have hsq := sq_pred hp
  have hfin : ∀ t : Int, t = a * b - c + p → (if t < p then t else k.modp t p) = (a * b - c) % p := by
    intro t ht
    rw [← Int.add_emod_right, ← ht]
    split
    · exact (Int.emod_eq_of_lt (by omega) (by assumption)).symm
    · exact ok.modp (by omega)
  unfold GCfg.axmy GCfg.axmyin
  simp only
  rw [ok.st hab.1 (by omega), (ok.small (by omega : 0 ≤ p - c) (by omega)).2, (ok.small (by omega : 0 ≤ p - c) (by omega)).1,
    ok.st (by omega : 0 ≤ a * b + (p - c)) (by omega), ok.st (by omega : 0 ≤ p - c + a * b) (by omega)]
  exact ⟨hfin _ (by omega), hfin _ (by omega)⟩

theorem gmaxpy_model (ok : GOk k p) (ha : 0 ≤ a ∧ a < p) (hb : 0 ≤ b ∧ b < p) (hc : 0 ≤ c ∧ c < p) :
    k.maxpy p a b c = (c - a * b) % p ∧ k.maxpyin p c a b = (c - a * b) % p := by
  have hp := ok.p2
  have h := (gaxmy_model ok ha hb hc).2
  have hn : k.maxpyin p c a b = (c - a * b) % p := by
    unfold GCfg.maxpyin
    rw [h, gneg_model ok (emod_canon (by omega) _)]
    rw [neg_emod_emod, Int.neg_sub]
  exact ⟨by unfold GCfg.maxpy; exact hn, hn⟩

theorem greduce_model (ok : GOk k p) (y : Int) (hy : k.sg = false → 0 ≤ y) : k.reduce p y = y % p := by
  have hp := ok.p2
  have hsq := sq_pred hp
  have ht := tmod_range y p (by omega)
  refine reduce_store (st' := fun x => k.E (k.ar x)) (by omega) (fun x h0 h1 => (ok.small h0 (by omega)).1)
    (fun x h0 h1 => ok.st h0 (by omega)) fun hneg => ok.E_neg _ (by omega) hneg ?_
  by_contra hc
  rw [Int.tmod_eq_emod_of_nonneg (hy (by simpa using hc))] at hneg
  have := emod_canon (by omega : 0 < p) y; omega

theorem GOk.exactOps (ok : GOk k p) : ExactOps (k.ops p) (canonU p) (isCanonU p) where
  cn_ok x := canonU_isCanon p x (by have := ok.p2; omega)
  add _ _ ha hb := congrArg some (gadd_model ok ha hb)
  sub _ _ ha hb := congrArg some (gsub_model ok ha hb).1
  mul _ _ ha hb := congrArg some (gmul_model ok ha hb)
  neg _ ha := congrArg some (gneg_model ok ha)
  axpy _ _ _ ha hx hy := congrArg some (gaxpy_model ok ha hx hy).1
  axmy _ _ _ ha hx hy := congrArg some (gaxmy_model ok ha hx hy).1
  maxpy _ _ _ ha hx hy := congrArg some (gmaxpy_model ok ha hx hy).1
  axpyin _ _ _ hr ha hx := congrArg some (gaxpy_model ok ha hx hr).2
  axmyin _ _ _ hr ha hx := congrArg some (gaxmy_model ok ha hx hr).2
  maxpyin _ _ _ hr ha hx := congrArg some (gmaxpy_model ok ha hx hr).2
  addin _ _ hr ha := congrArg some (gadd_model ok hr ha)
  subin _ _ hr ha := congrArg some (gsub_model ok hr ha).2
  mulin _ _ hr ha := congrArg some (gmul_model ok hr ha)
  negin _ hr := congrArg some (gneg_model ok hr)

theorem geok (ok : GOk k p) : EOk k.asI p :=
  ⟨fun _ h0 h1 => (ok.small h0 (by have := ok.p2; omega)).1, fun _ h0 h1 => (ok.small h0 (by have := ok.p2; omega)).2⟩

end gops

section ginv
variable {k : GCfg} {p : Int}

theorem GOk.upto (ok : GOk k p) {x : Int} (h0 : 0 ≤ x) (h1 : x ≤ p) : k.E x = x ∧ k.ar x = x :=
  ok.small h0 (by have := ok.p2; omega)

theorem divrem_facts {y0 y1 : Int} (h1 : 0 < y1) (h0 : 0 ≤ y0) :
    0 ≤ y0 / y1 ∧ 0 ≤ y0 % y1 ∧ y0 % y1 < y1 ∧ y0 = y0 / y1 * y1 + y0 % y1 :=
  ⟨Int.ediv_nonneg h0 (by omega), Int.emod_nonneg y0 (by omega), Int.emod_lt_of_pos y0 h1,
    (Int.ediv_mul_add_emod y0 y1).symm⟩

theorem GOk.divrem (ok : GOk k p) {y0 y1 : Int} (h1 : 0 < y1) (h0 : 0 ≤ y0) (hp : y0 ≤ p) :
    k.E (Int.tdiv y0 y1) = y0 / y1 ∧ k.E (k.ar (y0 - k.ar (y0 / y1 * y1))) = y0 % y1 := by
  obtain ⟨hq0, hm0, hm1, hdm⟩ := divrem_facts h1 h0
  have hqb : y0 / y1 ≤ y0 := Int.ediv_le_self _ h0
  have hqy : 0 ≤ y0 / y1 * y1 := Int.mul_nonneg hq0 (by omega)
  rw [Int.tdiv_eq_ediv_of_nonneg h0]
  refine ⟨(ok.upto hq0 (by omega)).1, ?_⟩
  rw [(ok.upto hqy (by omega)).2, show y0 - y0 / y1 * y1 = y0 % y1 by omega, (ok.upto hm0 (by omega)).2]
  exact (ok.upto hm0 (by omega)).1

theorem GOk.addmul (ok : GOk k p) {x q v : Int} (hx : 0 ≤ x) (hqv : 0 ≤ q * v) (hb : x + q * v ≤ p) :
    k.E (k.ar (x + k.ar (q * v))) = x + q * v := by
  rw [(ok.upto hqv (by omega)).2, (ok.upto (by omega) hb).2]
  exact (ok.upto (by omega) hb).1

/-- head of the `while` loop: `V = u1 + q·u0` is the value `u1` is about to take -/
structure GRows (p a : Int) (st : GCfg.GInv) : Prop where
  rows : SRows a p 1 st.r0 st.r1 st.u0 (st.u1 + st.q * st.u0)
  u1n : 0 ≤ st.u1
  qn : 0 ≤ st.q

def GPost (p a r : Int) : Prop := 0 ≤ r ∧ r ≤ p ∧ p ∣ r * a - (Int.gcd a p : Int)

/-- the exit `if (r0 == zero) return u1` -/
theorem gpost_mid {a d U V : Int} (h : SRows a p (-1) d 0 U V) : GPost p a U :=
  ⟨h.U0, h.U_le, h.exit.1 ▸ SRows.cof_noflag h⟩

theorem ginv_loop {a : Int} (ok : GOk k p) :
    ∀ (fuel : Nat) (st : GCfg.GInv), GRows p a st → st.r1 < fuel → GPost p a (k.invLoop p fuel st) := by
  intro fuel
  induction fuel with
  | zero => intro st h hf; have := h.rows.r0; omega
  | succ n ih =>
    intro st ⟨h, hu1, hq⟩ hf
    have hU := h.U0
    unfold GCfg.invLoop
    split
    · next hz =>
      have hUb := h.U_le
      rw [(ok.upto (by omega : 0 ≤ p - st.u0) (by omega)).2, (ok.upto (by omega : 0 ≤ p - st.u0) (by omega)).1]
      rw [hz] at h
      exact ⟨by omega, by omega, h.exit.1 ▸ (SRows.cof_flag h).1⟩
    · next hz =>
      have h1 := h.step hz
      obtain ⟨_, ⟨hqV, hV'⟩, _, _⟩ := h.bounds hz
      obtain ⟨eq1, er0⟩ := ok.divrem (lt_of_le_of_ne h.r0 (Ne.symm hz)) (le_of_lt (lt_of_le_of_lt h.r0 h.rd)) h.db
      simp only
      rw [ok.addmul hu1 (Int.mul_nonneg hq hU) h.V_le, eq1, er0]
      split
      · next hz0 => rw [hz0] at h1; exact gpost_mid h1
      · next hz0 =>
        have h2 := h1.step hz0
        obtain ⟨⟨hq2, _⟩, _, _, _⟩ := h1.bounds hz0
        obtain ⟨eq2, er1⟩ := ok.divrem (lt_of_le_of_ne h1.r0 (Ne.symm hz0)) h.r0 (le_of_lt (lt_of_lt_of_le h.rd h.db))
        rw [ok.addmul hU hqV (by omega), eq2, er1]
        have hlt : st.r1 % (st.r0 % st.r1) < (n : Int) := by
          have := h2.rd
          have := h1.rd
          push_cast at hf
          omega
        refine ih _ ⟨?_, h1.U0, hq2⟩ hlt
        convert h2 using 1 <;> ring

theorem ginv_post {a : Int} (ok : GOk k p) (ha : 1 ≤ a ∧ a < p) : GPost p a (k.inv p a) := by
  have hp := ok.p2
  have h := SRows.init_lt (a := a) (b := p) (by omega) ha.2
  have hz : a ≠ 0 := by omega
  have h1 := h.step hz
  obtain ⟨eq1, er0⟩ := ok.divrem (by omega : 0 < a) (by omega : 0 ≤ p) (le_refl p)
  unfold GCfg.inv
  simp only
  rw [eq1, er0]
  split
  · next hz0 => rw [hz0] at h1; exact gpost_mid h1
  · next hz0 =>
    have h2 := h1.step hz0
    obtain ⟨⟨hq1, _⟩, _, _, _⟩ := h.bounds hz
    obtain ⟨⟨hq2, _⟩, _, _, _⟩ := h1.bounds hz0
    obtain ⟨eq2, er1⟩ := ok.divrem (lt_of_le_of_ne h1.r0 (Ne.symm hz0)) (by omega : 0 ≤ a) (by omega)
    rw [eq2, er1]
    refine ginv_loop ok _ _ ⟨?_, Int.one_nonneg, hq2⟩
      (by have := h2.rd; have := h1.rd; show a % (p % a) < ((a.natAbs + 2 : Nat) : Int); omega)
    convert h2 using 1 <;> ring

theorem ginv_spec {a : Int} (ok : GOk k p) (ha : 0 ≤ a ∧ a < p) (hu : Int.gcd a p = 1) :
    (0 ≤ k.inv p a ∧ k.inv p a < p) ∧ (k.inv p a * a) % p = 1 % p := by
  have hp := ok.p2
  have ha1 : 1 ≤ a := by
    by_contra hc
    have : a = 0 := by omega
    subst this
    simp at hu; omega
  obtain ⟨h0, h1, hc⟩ := ginv_post ok ⟨ha1, ha.2⟩
  rw [hu] at hc
  refine ⟨⟨h0, ?_⟩, emod_eq_one_of_dvd hc⟩
  by_contra hge
  exact not_dvd_of_inverse hp hc (by rw [show k.inv p a = p by omega])

end ginv
end Givaro.Model.ModRing
