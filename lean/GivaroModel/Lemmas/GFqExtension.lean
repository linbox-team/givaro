/-
C05 — `Extension<BaseField>`: every member function, as composed in extension.h from `Poly1Dom` calls (model
`Model/GFqExtension.lean`), is the field operation of `R[X] ⧸ (f)` (`f` the stored irreducible polynomial, `R` the base field)
on classes, and returns a reduced polynomial; the `Poly1Dom` operations enter through their C08 laws (`PolyLaws`).
-/
import GivaroModel.Model.GFqExtension
import Mathlib.RingTheory.AdjoinRoot
import Mathlib.Algebra.Polynomial.FieldDivision
import Mathlib.Tactic.LinearCombination
namespace Givaro.Lemmas.GFqExtension
open Givaro.Model.GFqExtension Polynomial

/-- C08's laws for the `Poly1Dom` operations, through an interpretation `val` of stored polynomials as `R[X]` (`R` a field):
    ring operations are exact, `modin` is the remainder of the Euclidean division, `invmod a f` is a Bezout inverse of smaller
    degree whenever `a` is invertible modulo `f`. -/
structure PolyLaws {E : Type} {R : Type*} [_root_.Field R] (P : PolyOps E) (val : E → R[X]) : Prop where
  add : ∀ a b, val (P.add a b) = val a + val b
  sub : ∀ a b, val (P.sub a b) = val a - val b
  neg : ∀ a, val (P.neg a) = - val a
  mul : ∀ a b, val (P.mul a b) = val a * val b
  maxpy : ∀ a b c, val (P.maxpy a b c) = val c - val a * val b
  modin : ∀ a f, val (P.modin a f) = val a % val f
  invmod : ∀ a f, val f ≠ 0 → IsCoprime (val a) (val f) → val f ∣ val (P.invmod a f) * val a - 1 ∧
    (val (P.invmod a f)).degree < (val f).degree

section
variable {E : Type} {R : Type*} [_root_.Field R] (X : Ext E) (val : E → R[X])

/-- the class of a stored polynomial in `R[X] ⧸ (f)`, `f = val _irred` -/
noncomputable def cls (e : E) : AdjoinRoot (val X.irred) := AdjoinRoot.mk (val X.irred) (val e)

/-- an element is reduced: degree below the degree of the modulus -/
def Reduced (a : E) : Prop := (val a).degree < (val X.irred).degree

theorem mk_mod (f g : R[X]) : AdjoinRoot.mk f (g % f) = AdjoinRoot.mk f g := by
  rw [AdjoinRoot.mk_eq_mk]
  have := EuclideanDomain.div_add_mod g f
  exact ⟨-(g / f), by linear_combination this⟩

/-! `cls` commutes with the `Poly1Dom` operations and forgets `modin(·, _irred)`, which always returns a reduced polynomial -/
section
variable {X val} (L : PolyLaws X.pD val)
include L

theorem cls_add (a b : E) : cls X val (X.pD.add a b) = cls X val a + cls X val b := by unfold cls; rw [L.add, RingHom.map_add]
theorem cls_sub (a b : E) : cls X val (X.pD.sub a b) = cls X val a - cls X val b := by unfold cls; rw [L.sub, RingHom.map_sub]
theorem cls_neg (a : E) : cls X val (X.pD.neg a) = - cls X val a := by unfold cls; rw [L.neg, RingHom.map_neg]
theorem cls_mul (a b : E) : cls X val (X.pD.mul a b) = cls X val a * cls X val b := by unfold cls; rw [L.mul, RingHom.map_mul]
theorem cls_maxpy (a b c : E) : cls X val (X.pD.maxpy a b c) = cls X val c - cls X val a * cls X val b := by
  unfold cls; rw [L.maxpy, RingHom.map_sub, RingHom.map_mul]
theorem cls_modin (a : E) : cls X val (X.pD.modin a X.irred) = cls X val a := by unfold cls; rw [L.modin, mk_mod]

theorem reduced_modin [hf : Fact (Irreducible (val X.irred))] (a : E) : Reduced X val (X.pD.modin a X.irred) := by
  unfold Reduced; rw [L.modin]; exact degree_mod_lt _ hf.out.ne_zero
theorem reduced_add {a b : E} (ha : Reduced X val a) (hb : Reduced X val b) : Reduced X val (X.pD.add a b) := by
  unfold Reduced; rw [L.add]; exact lt_of_le_of_lt (degree_add_le _ _) (max_lt ha hb)
theorem reduced_sub {a b : E} (ha : Reduced X val a) (hb : Reduced X val b) : Reduced X val (X.pD.sub a b) := by
  unfold Reduced; rw [L.sub]; exact lt_of_le_of_lt (degree_sub_le _ _) (max_lt ha hb)
theorem reduced_neg {a : E} (ha : Reduced X val a) : Reduced X val (X.pD.neg a) := by
  unfold Reduced; rw [L.neg, degree_neg]; exact ha

end

variable (L : PolyLaws X.pD val) [hf : Fact (Irreducible (val X.irred))]
include L

theorem add_exact (a b : E) : cls X val (X.add a b) = cls X val a + cls X val b ∧
    (Reduced X val a → Reduced X val b → Reduced X val (X.add a b)) :=
  ⟨cls_add L a b, reduced_add L⟩

theorem sub_exact (a b : E) : cls X val (X.sub a b) = cls X val a - cls X val b ∧
    (Reduced X val a → Reduced X val b → Reduced X val (X.sub a b)) :=
  ⟨cls_sub L a b, reduced_sub L⟩

theorem neg_exact (a : E) : cls X val (X.neg a) = - cls X val a ∧ (Reduced X val a → Reduced X val (X.neg a)) :=
  ⟨cls_neg L a, reduced_neg L⟩

theorem mul_exact (a b : E) : cls X val (X.mul a b) = cls X val a * cls X val b ∧ Reduced X val (X.mul a b) :=
  ⟨(cls_modin L _).trans (cls_mul L a b), reduced_modin L _⟩

theorem inv_exact (a : E) (ha : cls X val a ≠ 0) :
    cls X val (X.inv a) * cls X val a = 1 ∧ Reduced X val (X.inv a) := by
  have hnd : ¬ val X.irred ∣ val a := by
    intro h
    apply ha
    unfold cls
    rw [AdjoinRoot.mk_eq_zero]
    exact h
  have hcop : IsCoprime (val a) (val X.irred) := ((hf.out.coprime_iff_not_dvd).mpr hnd).symm
  obtain ⟨h1, h2⟩ := L.invmod a X.irred hf.out.ne_zero hcop
  unfold Ext.inv cls Reduced
  refine ⟨?_, h2⟩
  rw [← map_mul, ← map_one (AdjoinRoot.mk (val X.irred)), AdjoinRoot.mk_eq_mk]
  exact h1

theorem div_exact (a b : E) (hb : cls X val b ≠ 0) :
    cls X val (X.div a b) * cls X val b = cls X val a ∧ Reduced X val (X.div a b) := by
  obtain ⟨hm, hr⟩ := mul_exact X val L a (X.inv b)
  exact ⟨by rw [show X.div a b = X.mul a (X.inv b) from rfl, hm, mul_assoc, (inv_exact X val L b hb).1, mul_one], hr⟩

theorem axpy_exact (a b c : E) : cls X val (X.axpy a b c) = cls X val a * cls X val b + cls X val c ∧
    (Reduced X val c → Reduced X val (X.axpy a b c)) := by
  obtain ⟨hm, hr⟩ := mul_exact X val L a b
  exact ⟨by rw [show X.axpy a b c = X.pD.add (X.mul a b) c from rfl, cls_add L, hm], reduced_add L hr⟩

theorem axmy_exact (a b c : E) : cls X val (X.axmy a b c) = cls X val a * cls X val b - cls X val c ∧
    (Reduced X val c → Reduced X val (X.axmy a b c)) := by
  obtain ⟨hm, hr⟩ := mul_exact X val L a b
  exact ⟨by rw [show X.axmy a b c = X.pD.sub (X.mul a b) c from rfl, cls_sub L, hm], reduced_sub L hr⟩

theorem maxpy_exact (a b c : E) : cls X val (X.maxpy a b c) = cls X val c - cls X val a * cls X val b ∧
    Reduced X val (X.maxpy a b c) :=
  ⟨(cls_modin L _).trans (cls_maxpy L a b c), reduced_modin L _⟩

theorem maxpyin_exact (r a b : E) : cls X val (X.maxpyin r a b) = cls X val r - cls X val a * cls X val b ∧
    Reduced X val (X.maxpyin r a b) :=
  maxpy_exact X val L a b r

theorem axmyin_exact (r a b : E) : cls X val (X.axmyin r a b) = cls X val a * cls X val b - cls X val r ∧
    Reduced X val (X.axmyin r a b) := by
  obtain ⟨hm, hr⟩ := maxpyin_exact X val L r a b
  exact ⟨by rw [show X.axmyin r a b = X.pD.neg (X.maxpyin r a b) from rfl, cls_neg L, hm, neg_sub],
    reduced_neg L hr⟩

theorem axpyin_exact (r b c : E) : cls X val (X.axpyin r b c) = cls X val r + cls X val b * cls X val c ∧
    Reduced X val (X.axpyin r b c) :=
  ⟨by rw [show X.axpyin r b c = X.pD.modin (X.pD.add r (X.pD.mul b c)) X.irred from rfl, cls_modin L,
      cls_add L, cls_mul L], reduced_modin L _⟩

theorem divin_exact (r b : E) (hb : cls X val b ≠ 0) :
    cls X val (X.divin r b) * cls X val b = cls X val r ∧ Reduced X val (X.divin r b) :=
  div_exact X val L r b hb

end

/-- the laws are satisfiable: `E = R[X]` with the Euclidean operations -/
noncomputable def refOps (R : Type) [_root_.Field R] : PolyOps R[X] :=
  { add := (· + ·), sub := (· - ·), neg := (- ·), mul := (· * ·), modin := (· % ·),
    invmod := fun a f => @dite _ (IsCoprime a f) (Classical.propDecidable _) (fun h => (Classical.choose h) % f) (fun _ => 0)
    maxpy := fun a b c => c - a * b }

theorem refOps_laws (R : Type) [_root_.Field R] : PolyLaws (refOps R) (id : R[X] → R[X]) := by
  refine ⟨fun _ _ => rfl, fun _ _ => rfl, fun _ => rfl, fun _ _ => rfl, fun _ _ _ => rfl, fun _ _ => rfl, ?_⟩
  intro a f hf0 hcop
  have hcop' : IsCoprime a f := hcop
  have hf0' : f ≠ 0 := hf0
  show f ∣ (@dite _ (IsCoprime a f) (Classical.propDecidable _) (fun h => (Classical.choose h) % f) (fun _ => 0)) * a - 1 ∧
    (@dite _ (IsCoprime a f) (Classical.propDecidable _) (fun h => (Classical.choose h) % f) (fun _ => 0)).degree < f.degree
  rw [dif_pos hcop']
  obtain ⟨v, hv⟩ := Classical.choose_spec hcop'
  refine ⟨?_, degree_mod_lt _ hf0'⟩
  have hdm := EuclideanDomain.div_add_mod (Classical.choose hcop') f
  exact ⟨-v - (Classical.choose hcop' / f) * a, by linear_combination hv + a * hdm⟩

end Givaro.Lemmas.GFqExtension
