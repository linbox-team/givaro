/-
C15 — results do not depend on whether the destination aliases an operand: the ring / field / rational / polynomial interfaces and
RecInt (the gmp++ Integer layer has its own per-overload theorems, Generated/IntegerAliasThms*).

`Generated/AliasTable.lean` is regenerated on every run by translate/aliasfp.py from the clang AST of the translation unit the alias
harness is built from: one entry per (class kind, three-address operation, alias pattern) with the operation's body as an event
program (`Model/AliasProg.lean`), specialised to the pattern.  `all_rows_safe` is a kernel evaluation of the read-after-write
discipline over that whole table; `discipline_sound` (`safe_sound` of `Lemmas/AliasProgSound.lean`, proved there for every program, environment,
interpretation of the primitives, value type, store and fuel) gives the table its meaning; `rings_alias_independent` combines them.

What the statement does not cover (see the assumptions of the evidence): an address test `&r == &a` is answered in the distinct-object
run as in the aliased run (that the guarded path through a temporary and the unguarded path agree on distinct objects is not an
aliasing matter; the dynamic tie compares the real calls); primitives (`primNames`) are functions of the values of their inputs;
`assumedRows` are modelled, not analysed.
-/
import GivaroModel.Generated.AliasTable
import GivaroModel.Generated.AliasSafe
import GivaroModel.Lemmas.AliasProgSound
namespace Givaro.Props.C15Rings
open Givaro.Model.AliasProg Givaro.Gen.AliasTable

/-- every (kind, operation, alias pattern) of the regenerated table passes the read-after-write discipline -/
theorem all_rows_safe : ∀ e ∈ aliasTable, safeEntry e = true := by
  intro e he
  have h := all_chunks_safe
  rw [List.all_eq_true] at h
  obtain ⟨c, hc, hec⟩ := List.mem_flatten.mp he
  have h2 := h c hc
  rw [List.all_eq_true] at h2
  exact safeEntryFast_sound (h2 e hec)

/-- soundness of the discipline (every program, environment, interpretation, value type, pair of stores, fuel, renaming): a program
    that passes `safe` started from dirty set `D`, run on distinct objects (`id`) and with the locations identified by `φ`, completes the
    same way, and the stores agree (modulo `φ`) outside the dirty set that `safe` computed for that way of completing -/
theorem discipline_sound {V : Type} (S : Sem V) (φ : Nat → Nat) (conf : Nat → Nat) (hc : ConfSound φ conf) (ha : AlSound φ S.al)
    (fuel : Nat) (p : Prog) (E : Env) (D : Nat) (x : Exits) (σ1 σ2 : Store V)
    (hs : safe conf S.al p E D = some x) (h0 : Agree φ D σ1 σ2) :
    ExitAgree φ x (run S id fuel p E σ1) (run S φ fuel p E σ2) :=
  safe_sound S φ conf hc ha fuel p E D x σ1 σ2 hs h0

/-- for every entry of the regenerated table, every interpretation of the primitives and conditions, every value type, every
    fuel and every pair of initial stores holding the same operand values (the distinct-object store holds at `l` what the aliased store
    holds at the object `l` is identified with), the call on distinct objects and the aliased call complete the same way and leave the
    same value in every output leaf. -/
theorem rings_alias_independent {V : Type} (e : Entry) (he : e ∈ aliasTable)
    (interp : Nat → List V → Nat → V) (cond : Nat → List V → Bool) (fuel : Nat) (σ1 σ2 : Store V)
    (hinit : ∀ l, e.d0.testBit l = false → σ1 l = σ2 (phiOf e.cls l)) :
    (run ⟨interp, cond, alOf e.cls⟩ id fuel e.prog e.env σ1).2 = (run ⟨interp, cond, alOf e.cls⟩ (phiOf e.cls) fuel e.prog e.env σ2).2 ∧
    (((run ⟨interp, cond, alOf e.cls⟩ id fuel e.prog e.env σ1).2 = Status.norm ∨
      (run ⟨interp, cond, alOf e.cls⟩ id fuel e.prog e.env σ1).2 = Status.ret) →
      ∀ o, e.outs.testBit o = true →
        (run ⟨interp, cond, alOf e.cls⟩ id fuel e.prog e.env σ1).1 o =
          (run ⟨interp, cond, alOf e.cls⟩ (phiOf e.cls) fuel e.prog e.env σ2).1 (phiOf e.cls o)) :=
  entry_sound e (all_rows_safe e he) interp cond fuel σ1 σ2 hinit

/-! ### non-vacuity -/

/-- the table is not empty, and it contains aliased patterns (non-trivial classes) -/
example : aliasTable.length > 1000 ∧ (aliasTable.any (fun e => !e.cls.isEmpty)) = true := by
  refine ⟨?_, by decide +kernel⟩
  -- the first 9 chunks already hold more than 1000 entries
  have h : 1000 < ((chunks.take 9).map List.length).sum := by decide +kernel
  rw [aliasTable, List.length_flatten, ← List.take_append_drop 9 chunks, List.map_append, List.sum_append]
  omega

/-- formals r a x y at locations 0 1 2 3, pattern r ≡ y -/
def axpyEnv : Env := ⟨[0, 1, 2, 3], 4⟩
def ryClasses : Classes := [(0, 0b1001)]

/-- `r := a*x ; r := r + y` -/
def unsafeAxpy : Prog :=
  .seq (.prim 1 [.par 0 0 1] [.par 1 0 1, .par 2 0 1]) (.prim 2 [.par 0 0 1] [.par 0 0 1, .par 3 0 1])
/-- `t := a*x ; r := t + y` -/
def safeAxpy : Prog :=
  .seq (.prim 1 [.loc 0 1] [.par 1 0 1, .par 2 0 1]) (.prim 2 [.par 0 0 1] [.loc 0 1, .par 3 0 1])

example : safe (confOf ryClasses) (alOf ryClasses) safeAxpy axpyEnv 0 = some ⟨true, 0b1000, 0, 0⟩ := by decide +kernel
example : safe (confOf ryClasses) (alOf ryClasses) unsafeAxpy axpyEnv 0 = none := by decide +kernel

/-- the arithmetic interpretation: primitive 1 multiplies, primitive 2 adds -/
def axpyArith : Sem Int :=
  ⟨fun f vs _ => if f = 1 then vs.getD 0 0 * vs.getD 1 0 else vs.getD 0 0 + vs.getD 1 0, fun _ _ => true, alOf ryClasses⟩

/-- a = 2, x = 3, y = 5 (the destination of the distinct call holds 5 too) -/
def axpyStore : Store Int := fun l => if l = 1 then 2 else if l = 2 then 3 else 5

/-- the program the discipline rejects is indeed not alias independent: 2*3 + 5 = 11 on distinct objects, 12 when r is y -/
theorem unsafe_axpy_not_independent :
    ¬ (∀ (S : Sem Int) (σ1 σ2 : Store Int), (∀ l, σ1 l = σ2 (phiOf ryClasses l)) →
        (run S id 1 unsafeAxpy axpyEnv σ1).1 0 = (run S (phiOf ryClasses) 1 unsafeAxpy axpyEnv σ2).1 (phiOf ryClasses 0)) := by
  intro h
  have hst : ∀ l, axpyStore l = axpyStore (phiOf ryClasses l) := by
    intro l
    by_cases h3 : l = 3
    · subst h3; decide
    · by_cases h0 : l = 0
      · subst h0; decide
      · have : phiOf ryClasses l = l := by
          have hb : Nat.testBit 9 l = false := by
            match l, h0, h3 with
            | 1, _, _ => decide
            | 2, _, _ => decide
            | (n + 4), _, _ =>
              apply Nat.testBit_lt_two_pow
              calc 9 < 2 ^ 4 := by decide
                _ ≤ 2 ^ (n + 4) := Nat.pow_le_pow_right (by decide) (by omega)
          simp [phiOf, findClass, ryClasses, hb]
        rw [this]
  have h1 := h axpyArith axpyStore axpyStore hst
  revert h1
  decide

end Givaro.Props.C15Rings
