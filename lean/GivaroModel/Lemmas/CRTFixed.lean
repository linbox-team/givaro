/-
C14 — RNSsystemFixed.  (A) The table the constructor builds by binary-counter carries is the closed form `levelsFrom`.  (B)–(D) With `x0`
the solution of the system, which `RNSsystem`'s Garner conversion returns, every value `RnsToRingLeft/Right` compute on that table is `x0`
modulo the node's product, so only moduli are followed through the pairing, and the final Garner step returns `x0` (`fixed_eq_garner`).
Last: histories and invariant of the object.
-/
import GivaroModel.Lemmas.CRTSys

namespace Givaro.Lemmas.CRT
open Givaro.Model.CRT
open Givaro.Spec.CRT (prod)

/-! ### lists taken two elements at a time -/

theorem length_tail₂ {α : Type} {a b : α} {t : List α} {r : ℕ} (h : (a :: b :: t).length % 2 = r) : t.length % 2 = r := by
  rwa [List.length_cons, List.length_cons, Nat.add_assoc, Nat.add_mod_right] at h

theorem index_tail₂ {α : Type} {a b : α} {t : List α} {c : ℕ} (h : 2 * (c + 1) + 1 < (a :: b :: t).length) :
    2 * c + 1 < t.length := by
  rw [List.length_cons, List.length_cons] at h; omega

theorem odd_decompose {α : Type} (V : List α) (h : V.length % 2 = 1) : ∃ V' a, V = V' ++ [a] ∧ V'.length % 2 = 0 := by
  have hne : V ≠ [] := fun h0 => by rw [h0] at h; exact absurd ((Nat.zero_mod 2).symm.trans h) Nat.zero_ne_one
  refine ⟨V.dropLast, V.getLast hne, (List.dropLast_append_getLast hne).symm, ?_⟩
  rw [List.length_dropLast]
  omega

/-! ### (A) the constructor's table in closed form -/

/-- the recombination constant stored in the slot of `p1`: `(p0^{-1} mod p1) * p0`, which is `craInit cof p0 p1` (`rfl`) -/
def Mof (cof : Int → Int → Int) (p0 p1 : Int) : Int := ((cof p1 (p0 % p1)) % p1) * p0

/-- the moduli of the next level; an unpaired last element is dropped -/
def pairProd : List Int → List Int
  | a :: b :: t => a * b :: pairProd t
  | _ => []

/-- a level as stored: even positions keep the (sub)product, odd positions are overwritten by the constant of their pair -/
def encode (cof : Int → Int → Int) : List Int → List Int
  | a :: b :: t => a :: Mof cof a b :: encode cof t
  | l => l

theorem length_pairProd : ∀ V : List Int, (pairProd V).length = V.length / 2
  | [] => (Nat.zero_div 2).symm
  | [_] => (Nat.div_eq_of_lt Nat.one_lt_two).symm
  | a :: b :: t => by
    rw [pairProd, List.length_cons, length_pairProd t, List.length_cons, List.length_cons, Nat.add_assoc,
      Nat.add_div_right _ (by decide)]

theorem pairProd_lt {V : List Int} (h : V ≠ []) : (pairProd V).length < V.length := by
  rw [length_pairProd]
  have : 0 < V.length := List.length_pos_of_ne_nil h
  omega

@[elab_as_elim]
theorem pairProd_induction {P : List Int → Prop} (step : ∀ V, (V ≠ [] → P (pairProd V)) → P V) (V : List Int) : P V := by
  induction h : V.length using Nat.strong_induction_on generalizing V with
  | _ n ih => exact step V (fun hV => ih _ (h ▸ pairProd_lt hV) _ rfl)

theorem pairProd_append : ∀ (V W : List Int), V.length % 2 = 0 → pairProd (V ++ W) = pairProd V ++ pairProd W
  | [], _, _ => rfl
  | [_], _, h => absurd h Nat.one_ne_zero
  | a :: b :: t, W, h => by
    rw [List.cons_append, List.cons_append, pairProd, pairProd, pairProd_append t W (length_tail₂ h), List.cons_append]

theorem getD_pairProd : ∀ (V : List Int) (c : ℕ), 2 * c + 1 < V.length →
    (pairProd V).getD c 0 = V.getD (2 * c) 0 * V.getD (2 * c + 1) 0
  | [], _, h => (Nat.not_lt_zero _ h).elim
  | [_], _, h => (Nat.succ_ne_zero _ (Nat.lt_one_iff.mp h)).elim
  | _ :: _ :: _, 0, _ => rfl
  | _ :: _ :: t, c + 1, h => by
    rw [pairProd, List.getD_cons_succ, getD_pairProd t c (index_tail₂ h)]
    rfl

theorem length_encode (cof : Int → Int → Int) : ∀ V : List Int, (encode cof V).length = V.length
  | [] => rfl
  | [_] => rfl
  | a :: b :: t => by rw [encode, List.length_cons, List.length_cons, length_encode cof t]; rfl

-- `levelsFrom cof V`: level by level, `encode cof V`, then the levels of `pairProd V`
def levelsFrom (cof : Int → Int → Int) (V : List Int) : List (List Int) :=
  if h : V = [] then [] else encode cof V :: levelsFrom cof (pairProd V)
termination_by V.length
decreasing_by
  rw [length_pairProd]
  have : 0 < V.length := List.length_pos_of_ne_nil h
  omega

theorem levelsFrom_nil (cof : Int → Int → Int) : levelsFrom cof [] = [] := by
  rw [levelsFrom]; simp

theorem levelsFrom_ne (cof : Int → Int → Int) {V : List Int} (h : V ≠ []) :
    levelsFrom cof V = encode cof V :: levelsFrom cof (pairProd V) := by
  rw [levelsFrom]; simp [h]

theorem encode_append (cof : Int → Int → Int) : ∀ (V W : List Int), V.length % 2 = 0 →
    encode cof (V ++ W) = encode cof V ++ encode cof W
  | [], W, _ => rfl
  | [_], _, h => absurd h Nat.one_ne_zero
  | a :: b :: t, W, h => by
    rw [List.cons_append, List.cons_append, encode, encode, encode_append cof t W (length_tail₂ h)]; rfl

theorem encode_snoc (cof : Int → Int → Int) {V : List Int} (h : V.length % 2 = 0) (a : Int) :
    encode cof (V ++ [a]) = encode cof V ++ [a] := by
  rw [encode_append cof V _ h]; rfl

theorem encode_snoc₂ (cof : Int → Int → Int) {V : List Int} (h : V.length % 2 = 0) (a p : Int) :
    encode cof (V ++ [a] ++ [p]) = encode cof V ++ [a] ++ [Mof cof a p] := by
  rw [List.append_assoc, encode_append cof V _ h, List.append_assoc]; rfl

theorem pairProd_snoc {V : List Int} (h : V.length % 2 = 0) (a : Int) : pairProd (V ++ [a]) = pairProd V := by
  rw [pairProd_append V _ h]; exact List.append_nil _

theorem pairProd_snoc₂ {V : List Int} (h : V.length % 2 = 0) (a p : Int) :
    pairProd (V ++ [a] ++ [p]) = pairProd V ++ [a * p] := by
  rw [List.append_assoc, pairProd_append V _ h]; rfl

theorem fixedPairLast_append (cof : Int → Int → Int) (X : List Int) (a p : Int) :
    fixedPairLast cof (X ++ [a] ++ [p]) = (X ++ [a] ++ [Mof cof a p], a * p) := by
  unfold fixedPairLast Mof
  simp

theorem fixedLoop_ne_nil (cof : Int → Int → Int) : ∀ (rest : List (List Int)) (cur : List Int), fixedLoop cof cur rest ≠ []
  | [], cur => by simp [fixedLoop]
  | next :: rest, cur => by
    unfold fixedLoop
    split <;> simp

theorem fixedClose_cons (cof : Int → Int → Int) (x : List Int) {L : List (List Int)} (hL : L ≠ []) :
    fixedClose cof (x :: L) = x :: fixedClose cof L := by
  obtain ⟨init, top, rfl⟩ : ∃ init top, L = init ++ [top] :=
    ⟨L.dropLast, L.getLast hL, (List.dropLast_append_getLast hL).symm⟩
  unfold fixedClose
  simp only [List.reverse_cons, List.reverse_append, List.reverse_nil, List.nil_append, List.cons_append]
  split <;> simp

/-- the last level of the closed form is a singleton (so the top level has odd size between two pushes) -/
theorem levelsFrom_last (cof : Int → Int → Int) (V : List Int) : V ≠ [] → ∃ init v, levelsFrom cof V = init ++ [[v]] := by
  induction V using pairProd_induction with
  | step V ih =>
    intro hne
    rw [levelsFrom_ne cof hne]
    match V, hne, ih with
    | [a], _, _ => exact ⟨[], a, by rw [show pairProd [a] = [] from rfl, levelsFrom_nil]; rfl⟩
    | a :: b :: t, hne, ih =>
      obtain ⟨init, v, hiv⟩ := ih hne (List.cons_ne_nil _ _)
      exact ⟨encode cof (a :: b :: t) :: init, v, by rw [hiv]; rfl⟩

theorem carry_odd (cof : Int → Int → Int) {cur : List Int} (h : cur.length % 2 = 1) (W : List Int) :
    fixedClose cof (fixedLoop cof cur (levelsFrom cof W)) = cur :: levelsFrom cof W := by
  by_cases hW : W = []
  · subst hW
    rw [levelsFrom_nil]
    simp [fixedLoop, fixedClose, h]
  · have hl : fixedLoop cof cur (levelsFrom cof W) = cur :: levelsFrom cof W := by
      rw [levelsFrom_ne cof hW, fixedLoop, if_pos h]
    obtain ⟨init, v, hiv⟩ := levelsFrom_last cof W hW
    rw [hl, hiv]
    unfold fixedClose
    simp

/-- opening a level that does not exist yet is the same as pushing onto an empty one, so no case for the top level is needed -/
theorem carry_even (cof : Int → Int → Int) {cur : List Int} (h : cur.length % 2 = 0) (W : List Int) :
    fixedClose cof (fixedLoop cof cur (levelsFrom cof W)) = (fixedPairLast cof cur).1 ::
      fixedClose cof (fixedLoop cof (encode cof W ++ [(fixedPairLast cof cur).2]) (levelsFrom cof (pairProd W))) := by
  have hnot : ¬ cur.length % 2 = 1 := by omega
  by_cases hW : W = []
  · subst hW
    rw [levelsFrom_nil]
    simp [fixedLoop, fixedClose, hnot, pairProd, encode, levelsFrom_nil]
  · rw [levelsFrom_ne cof hW, fixedLoop, if_neg hnot, fixedClose_cons cof _ (fixedLoop_ne_nil cof _ _)]

theorem push_step (cof : Int → Int → Int) (V : List Int) : ∀ p : Int,
    fixedClose cof (fixedLoop cof (encode cof V ++ [p]) (levelsFrom cof (pairProd V))) = levelsFrom cof (V ++ [p]) := by
  induction V using pairProd_induction with
  | step V ih =>
    intro p
    rw [levelsFrom_ne cof (List.append_ne_nil_of_right_ne_nil V (List.cons_ne_nil p []))]
    rcases Nat.mod_two_eq_zero_or_one V.length with hev | hodd
    · -- |V| even: the new level 0 has odd size
      rw [encode_snoc cof hev, pairProd_snoc hev, carry_odd]
      rw [List.length_append, length_encode, List.length_singleton]; omega
    · -- |V| odd: the last entry `a` of level 0 is paired with `p`, the product `a * p` is pushed on level 1
      obtain ⟨V', a, rfl, hev'⟩ := odd_decompose V hodd
      rw [pairProd_snoc hev'] at ih
      rw [encode_snoc cof hev', pairProd_snoc hev', encode_snoc₂ cof hev', pairProd_snoc₂ hev', carry_even,
        fixedPairLast_append, ih (List.append_ne_nil_of_right_ne_nil V' (List.cons_ne_nil a [])) (a * p)]
      simp only [List.length_append, length_encode, List.length_singleton]; omega

/-- the table after the constructor's loop over `ps`, the empty list (`_primes.resize(1)`) included -/
theorem fixedBuild_eq' (cof : Int → Int → Int) (ps : List Int) :
    fixedBuild cof ps = encode cof ps :: levelsFrom cof (pairProd ps) := by
  induction ps using List.reverseRecOn with
  | nil => exact congrArg ([] :: ·) (levelsFrom_nil cof).symm
  | append_singleton V q ih =>
    rw [fixedBuild, List.foldl_append, ← fixedBuild, ih, List.foldl_cons, List.foldl_nil, fixedPush, push_step cof V q,
      levelsFrom_ne cof (List.append_ne_nil_of_right_ne_nil V (List.cons_ne_nil q []))]

theorem fixedBuild_eq (cof : Int → Int → Int) {ps : List Int} (hne : ps ≠ []) : fixedBuild cof ps = levelsFrom cof ps := by
  rw [fixedBuild_eq', levelsFrom_ne cof hne]

/-! ### (B) the values of `RnsToRingLeft/Right` -/

theorem encode_getD_odd (cof : Int → Int → Int) : ∀ (V : List Int) (c : ℕ), 2 * c + 1 < V.length →
    (encode cof V).getD (2 * c + 1) 0 = Mof cof (V.getD (2 * c) 0) (V.getD (2 * c + 1) 0)
  | [], _, h => (Nat.not_lt_zero _ h).elim
  | [_], _, h => (Nat.succ_ne_zero _ (Nat.lt_one_iff.mp h)).elim
  | _ :: _ :: _, 0, _ => rfl
  | _ :: _ :: t, c + 1, h => encode_getD_odd cof t c (index_tail₂ h)

theorem encode_getD_even (cof : Int → Int → Int) : ∀ (V : List Int) (c : ℕ),
    (encode cof V).getD (2 * c) 0 = V.getD (2 * c) 0
  | [], _ => rfl
  | [_], _ => rfl
  | _ :: _ :: _, 0 => rfl
  | _ :: _ :: t, c + 1 => encode_getD_even cof t c

theorem levelsFrom_getD (cof : Int → Int → Int) (L : ℕ) (V : List Int) :
    (levelsFrom cof V).getD L [] = encode cof (pairProd^[L] V) := by
  induction L generalizing V with
  | zero =>
    by_cases h : V = []
    · subst h; rw [levelsFrom_nil]; rfl
    · rw [levelsFrom_ne cof h]; rfl
  | succ L ih =>
    by_cases h : V = []
    · subst h; rw [levelsFrom_nil, Function.iterate_fixed (rfl : pairProd [] = [])]; rfl
    · rw [levelsFrom_ne cof h, List.getD_cons_succ, Function.iterate_succ_apply, ih]

/-- positive and pairwise coprime -/
structure Moduli (V : List Int) : Prop where
  pos : ∀ q ∈ V, 0 < q
  coprime : V.Pairwise IsCoprime

theorem Moduli.tail₂ {a b : Int} {t : List Int} (h : Moduli (a :: b :: t)) :
    (0 < a ∧ 0 < b ∧ IsCoprime a b) ∧ Moduli t ∧ ∀ k ∈ t, IsCoprime a k ∧ IsCoprime b k := by
  have hpw := List.pairwise_cons.mp h.coprime
  have hpw2 := List.pairwise_cons.mp hpw.2
  exact ⟨⟨h.pos a (List.mem_cons_self ..), h.pos b (List.mem_cons_of_mem _ (List.mem_cons_self ..)),
      hpw.1 b (List.mem_cons_self ..)⟩,
    ⟨fun q hq => h.pos q (List.mem_cons_of_mem _ (List.mem_cons_of_mem _ hq)), hpw2.2⟩,
    fun k hk => ⟨hpw.1 k (List.mem_cons_of_mem _ hk), hpw2.1 k hk⟩⟩

theorem Moduli.left {V W : List Int} (h : Moduli (V ++ W)) : Moduli V :=
  ⟨fun q hq => h.pos q (List.mem_append_left _ hq), (List.pairwise_append.mp h.coprime).1⟩

/-- the two entries a node is recombined from -/
theorem Moduli.adjacent : ∀ {V : List Int} {c : ℕ}, Moduli V → 2 * c + 1 < V.length →
    0 < V.getD (2 * c + 1) 0 ∧ IsCoprime (V.getD (2 * c) 0) (V.getD (2 * c + 1) 0)
  | [], _, _, h => (Nat.not_lt_zero _ h).elim
  | [_], _, _, h => (Nat.succ_ne_zero _ (Nat.lt_one_iff.mp h)).elim
  | _ :: _ :: _, 0, hV, _ => ⟨hV.tail₂.1.2.1, hV.tail₂.1.2.2⟩
  | _ :: _ :: _, c + 1, hV, h => Moduli.adjacent (c := c) hV.tail₂.2.1 (index_tail₂ h)

/-- the last element when the length is odd, nothing otherwise -/
def oddLast {α : Type} : List α → List α
  | _ :: _ :: t => oddLast t
  | l => l

theorem mem_oddLast {α : Type} : ∀ (S : List α) (a : α), a ∈ oddLast S → a ∈ S
  | [], _, h => h
  | [_], _, h => h
  | _ :: _ :: t, a, h => List.mem_cons_of_mem _ (List.mem_cons_of_mem _ (mem_oddLast t a h))

theorem oddLast_append {α : Type} : ∀ (S W : List α), S.length % 2 = 0 → oddLast (S ++ W) = oddLast W
  | [], _, _ => rfl
  | [_], _, h => absurd h Nat.one_ne_zero
  | _ :: _ :: t, W, h => oddLast_append t W (length_tail₂ h)

theorem coprime_of_prod_eq {x : Int} {V W : List Int} (h : ∀ q ∈ V, IsCoprime x q) (hp : prod W = prod V) :
    ∀ m ∈ W, IsCoprime x m := fun _ hm =>
  (hp ▸ isCoprime_prod V h : IsCoprime x (prod W)).of_isCoprime_of_dvd_right (prod_eq W ▸ List.dvd_prod hm)

theorem Moduli.step : ∀ V : List Int, Moduli V →
    Moduli (pairProd V ++ oddLast V) ∧ prod (pairProd V ++ oddLast V) = prod V
  | [], h => ⟨h, rfl⟩
  | [_], h => ⟨h, rfl⟩
  | a :: b :: t, h => by
    obtain ⟨⟨ha, hb, _⟩, ht, hk⟩ := h.tail₂
    obtain ⟨i1, i2⟩ := Moduli.step t ht
    refine ⟨⟨?_, List.pairwise_cons.mpr ⟨fun m hm => ?_, i1.coprime⟩⟩, ?_⟩
    · intro q hq
      rcases List.mem_cons.mp hq with rfl | hq
      · exact mul_pos ha hb
      · exact i1.pos q hq
    · exact IsCoprime.mul_left (coprime_of_prod_eq (fun k hk' => (hk k hk').1) i2 m hm)
        (coprime_of_prod_eq (fun k hk' => (hk k hk').2) i2 m hm)
    · show a * b * prod (pairProd t ++ oddLast t) = a * (b * prod t)
      rw [i2, mul_assoc]

theorem Moduli.iterate {ps : List Int} (h : Moduli ps) : ∀ L : ℕ, Moduli (pairProd^[L] ps)
  | 0 => h
  | L + 1 => by
    rw [Function.iterate_succ_apply']
    exact (Moduli.step _ (Moduli.iterate h L)).1.left

theorem modEq_mul_of_isCoprime {a b m n : Int} (h : IsCoprime m n) (h1 : a ≡ b [ZMOD m]) (h2 : a ≡ b [ZMOD n]) :
    a ≡ b [ZMOD m * n] :=
  Int.modEq_iff_dvd.mpr (h.mul_dvd h1.dvd h2.dvd)

theorem recombine_x0 {cof : Int → Int → Int} (hcof : CofOK cof) {P0 P1 x0 u1 : Int} (hP1 : 0 < P1) (hco : IsCoprime P0 P1)
    (h1 : u1 ≡ x0 [ZMOD P1]) : (u1 - x0 % P0) * Mof cof P0 P1 + x0 % P0 ≡ x0 [ZMOD P0 * P1] := by
  obtain ⟨l0, l1⟩ := lift_modEq (A := x0 % P0) (e := u1) (craInit_modEq hcof hP1 hco.symm : Mof cof P0 P1 ≡ 1 [ZMOD P1])
    (dvd_mul_left P0 _ : P0 ∣ Mof cof P0 P1) (Int.ModEq.refl _)
  exact modEq_mul_of_isCoprime hco (l0.trans (Int.mod_modEq _ _)) (l1.trans h1)

theorem getD_pairProd_iterate (ps : List Int) (L : ℕ) {c : ℕ} (h : 2 * c + 1 < (pairProd^[L] ps).length) :
    (pairProd^[L + 1] ps).getD c 0 = (pairProd^[L] ps).getD (2 * c) 0 * (pairProd^[L] ps).getD (2 * c + 1) 0 := by
  rw [Function.iterate_succ_apply', getD_pairProd _ c h]

/-- `RnsToRingRight` (unreduced) and `RnsToRingLeft` (reduced, even column) on the constructor's table, the residues being those of `x0` -/
theorem fixedRec_x0 {cof : Int → Int → Int} (hcof : CofOK cof) {ps rs : List Int} {x0 : Int} (hM : Moduli ps)
    (hx0 : ∀ c < ps.length, rs.getD c 0 = x0 % ps.getD c 0) : ∀ (L c : ℕ), c < (pairProd^[L] ps).length →
    fixedRec (levelsFrom cof ps) rs false L c ≡ x0 [ZMOD (pairProd^[L] ps).getD c 0] ∧
    (c % 2 = 0 → fixedRec (levelsFrom cof ps) rs true L c = x0 % (pairProd^[L] ps).getD c 0)
  | 0, c, hc => by
    rw [fixedRec, fixedRec, hx0 c hc]
    exact ⟨Int.mod_modEq _ _, fun _ => rfl⟩
  | L + 1, c, hc => by
    have h2c : 2 * c + 1 < (pairProd^[L] ps).length := by
      rw [Function.iterate_succ_apply', length_pairProd] at hc; omega
    obtain ⟨_, ih0⟩ := fixedRec_x0 hcof hM hx0 L (2 * c) (by omega)
    obtain ⟨ih1, _⟩ := fixedRec_x0 hcof hM hx0 L (2 * c + 1) h2c
    obtain ⟨hP1, hco⟩ := (hM.iterate L).adjacent h2c
    have hkey := recombine_x0 hcof hP1 hco ih1
    rw [← getD_pairProd_iterate ps L h2c] at hkey
    simp only [fixedRec, ih0 (Nat.mul_mod_right 2 c), levelsFrom_getD, encode_getD_odd cof _ c h2c]
    refine ⟨hkey, fun hce => ?_⟩
    -- for an even column the table holds the product of the two children's moduli
    obtain ⟨c', rfl⟩ : ∃ c', c = 2 * c' := ⟨c / 2, by omega⟩
    rw [if_pos trivial, encode_getD_even]
    exact hkey

/-! ### (C) the unpaired entries of all levels -/

/-- the unpaired entries of all levels from `V` upwards: the moduli of the final Garner step -/
def collectM (V : List Int) : List Int :=
  if h : V = [] then [] else oddLast V ++ collectM (pairProd V)
termination_by V.length
decreasing_by exact pairProd_lt h

theorem collectM_nil : collectM [] = [] := by rw [collectM]; simp

theorem collectM_ne {V : List Int} (h : V ≠ []) : collectM V = oddLast V ++ collectM (pairProd V) := by
  rw [collectM]; simp [h]

theorem collectM_props (V : List Int) : Moduli V → Moduli (collectM V) ∧ prod (collectM V) = prod V := by
  induction V using pairProd_induction with
  | step V ih =>
    intro hV
    by_cases hne : V = []
    · subst hne
      rw [collectM_nil]
      exact ⟨hV, rfl⟩
    · rw [collectM_ne hne]
      obtain ⟨u, u3⟩ := Moduli.step V hV
      have u2 := List.pairwise_append.mp u.coprime
      obtain ⟨i1, i3⟩ := ih hne u.left
      refine ⟨⟨?_, List.pairwise_append.mpr ⟨u2.2.1, i1.coprime, ?_⟩⟩, ?_⟩
      · intro k hk
        rcases List.mem_append.mp hk with h1 | h1
        · exact hV.pos k (mem_oddLast V k h1)
        · exact i1.pos k h1
      · -- an unpaired entry is coprime to every entry of the next level, hence to what is collected from there
        exact fun a ha => coprime_of_prod_eq (fun k hk => (u2.2.2 k hk a ha).symm) i3
      · simp only [prod_eq, List.prod_append] at i3 u3 ⊢
        rw [i3, ← u3, mul_comm]

/-- `V` names the level-`L` moduli only so that the induction along `pairProd` can run on them -/
theorem oddFrom_collectM {cof : Int → Int → Int} (hcof : CofOK cof) {ps rs : List Int} {x0 : Int} (hM : Moduli ps)
    (hx0 : ∀ c < ps.length, rs.getD c 0 = x0 % ps.getD c 0) : ∀ (V : List Int) (L : ℕ), pairProd^[L] ps = V →
    (fixedOddFrom L (levelsFrom cof V)).map
        (fun ic => (((levelsFrom cof ps).getD ic.1 []).getD ic.2 0, fixedRec (levelsFrom cof ps) rs true ic.1 ic.2))
      = (collectM V).map (fun M => (M, x0 % M)) := by
  intro V
  induction V using pairProd_induction with
  | step V ih =>
    intro L hV
    by_cases hne : V = []
    · subst hne; rw [levelsFrom_nil, collectM_nil]; rfl
    · have ihn := ih hne (L + 1) (by rw [Function.iterate_succ_apply', hV])
      rw [levelsFrom_ne cof hne, collectM_ne hne, fixedOddFrom, List.map_append, ihn, length_encode, List.map_append]
      congr 1
      rcases Nat.mod_two_eq_zero_or_one V.length with hev | hodd
      · rw [if_neg (by omega), ← List.append_nil V, oddLast_append _ _ hev]; rfl
      · obtain ⟨V', a, rfl, hev'⟩ := odd_decompose V hodd
        have hidx : (V' ++ [a]).length - 1 = 2 * (V'.length / 2) := by
          rw [List.length_append, List.length_singleton]; omega
        have hget : (V' ++ [a]).getD (2 * (V'.length / 2)) 0 = a := by
          rw [Nat.mul_div_cancel' (Nat.dvd_of_mod_eq_zero hev'), List.getD_eq_getElem?_getD, List.getElem?_concat_length]; rfl
        rw [if_pos hodd, oddLast_append _ _ hev', hidx, List.map_singleton, levelsFrom_getD, hV, encode_getD_even, hget,
          (fixedRec_x0 hcof hM hx0 L _ (by rw [hV, List.length_append, List.length_singleton]; omega)).2
            (Nat.mul_mod_right 2 _), hV, hget]
        rfl

/-! ### (D) the conversion returns the solution -/

/-- `RNSsystemFixed` returns what `RNSsystem`'s Garner conversion returns, for every number of moduli -/
theorem fixed_eq_garner {cof : Int → Int → Int} (hcof : CofOK cof) (ps rs : List Int) (hne : ps ≠ [])
    (hpw : ps.Pairwise IsCoprime) (hcan : Canon ps rs) :
    mixedRadixToRing (fixedMods (fixedBuild cof ps))
      (rnsRnsToMixedRadix (fixedMods (fixedBuild cof ps)) (rnsComputeCk cof (fixedMods (fixedBuild cof ps)))
        (fixedReds (fixedBuild cof ps) rs))
    = mixedRadixToRing ps (rnsRnsToMixedRadix ps (rnsComputeCk cof ps) rs) := by
  have g := rns_garner_result hcof ps rs hpw hcan
  generalize mixedRadixToRing ps (rnsRnsToMixedRadix ps (rnsComputeCk cof ps) rs) = x0 at g
  obtain rfl := g.isCRT.toRns
  have hM : Moduli ps := ⟨hcan.pos, hpw⟩
  have h := oddFrom_collectM hcof hM (fun _ hc => getD_ringToRns ps x0 hc) ps 0 rfl
  obtain ⟨c1, c2⟩ := collectM_props ps hM
  have hmods : fixedMods (levelsFrom cof ps) = collectM ps := by
    have := congrArg (List.map Prod.fst) h
    rw [List.map_map, List.map_map] at this
    exact this.trans (List.map_id _)
  have hreds : fixedReds (levelsFrom cof ps) (ringToRns ps x0) = ringToRns (collectM ps) x0 := by
    have := congrArg (List.map Prod.snd) h
    rwa [List.map_map, List.map_map] at this
  rw [fixedBuild_eq cof hne, hmods, hreds]
  -- the Garner step on the unpaired moduli is a round trip of `x0`, which lies below their product
  exact ((rns_garner_result hcof _ _ c1.coprime (canon_ringToRns _ x0 c1.pos)).isCRT.unique c1.coprime
    (isCRT_emod c1.pos x0)).trans (c2 ▸ Int.emod_eq_of_lt g.range.1 g.range.2)

/-! ### the `RNSsystemFixed` object: histories -/

inductive FixedHist
  | mk (ps : List Int)                 -- `RNSsystemFixed(primes)`
  | copy (h : FixedHist)               -- copy constructor
  | assign (dst src : FixedHist)       -- `dst = src`
  | use (h : FixedHist) (rs : List Int)   -- an earlier `RnsToRing` (fills the inner system's cache)

def FixedHist.eval (cof : Int → Int → Int) : FixedHist → FixedSys
  | .mk ps => FixedSys.ofPrimes cof ps
  | .copy h => (h.eval cof).copy
  | .assign d s => FixedSys.assign (d.eval cof) (s.eval cof)
  | .use h rs => ((h.eval cof).rnsToRing cof rs).1

def FixedHist.primes : FixedHist → List Int
  | .mk ps => ps
  | .copy h => h.primes
  | .assign _ s => s.primes
  | .use h _ => h.primes

/-- the invariant of `RNSsystemFixed`; `ps` = the moduli the object was last built from (`FixedHist.primes`) -/
def FixedGood (cof : Int → Int → Int) (ps : List Int) (s : FixedSys) : Prop :=
  s.tree = fixedBuild cof ps ∧ s.rns.primes = fixedMods s.tree ∧ RnsGood cof s.rns

theorem fixedHist_good (cof : Int → Int → Int) : ∀ h : FixedHist, FixedGood cof h.primes (h.eval cof)
  | .mk _ => ⟨rfl, rfl, Or.inl rfl⟩
  | .copy h => fixedHist_good cof h
  | .assign _ s => fixedHist_good cof s
  | .use h _ =>
    have ⟨h1, h2, h3⟩ := fixedHist_good cof h
    ⟨h1, (RnsSys.computeCk_primes cof _).trans h2, h3.computeCk⟩

theorem FixedGood.answer {cof : Int → Int → Int} {ps : List Int} {s : FixedSys} (h : FixedGood cof ps s) (rs : List Int) :
    (s.rnsToRing cof rs).2 = mixedRadixToRing (fixedMods (fixedBuild cof ps))
      (rnsRnsToMixedRadix (fixedMods (fixedBuild cof ps)) (rnsComputeCk cof (fixedMods (fixedBuild cof ps)))
        (fixedReds (fixedBuild cof ps) rs)) := by
  obtain ⟨h1, h2, h3⟩ := h
  obtain ⟨_, a2, _⟩ := h3.answers (fixedReds s.tree rs) 0
  simp only [FixedSys.rnsToRing]
  rw [a2, h2, h1]

theorem FixedGood.eq_garner {cof : Int → Int → Int} (hcof : CofOK cof) {ps : List Int} {s : FixedSys} (h : FixedGood cof ps s)
    {rs : List Int} (hne : ps ≠ []) (hpw : ps.Pairwise IsCoprime) (hcan : Canon ps rs) :
    (s.rnsToRing cof rs).2 = ((RnsSys.ofPrimes ps).rnsToRing cof rs).2 :=
  ((h.answer rs).trans (fixed_eq_garner hcof ps rs hne hpw hcan)).trans ((RnsGood.fresh cof ps).answers rs 0).2.1.symm

end Givaro.Lemmas.CRT
