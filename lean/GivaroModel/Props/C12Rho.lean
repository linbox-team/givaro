/-
C12 — the rho search of `IntFactorDom::Pollard` (model: Model/PrimesRho.lean) as a function of the start values it draws.
For every n, every list of start values and every amount of fuel: whatever the search returns divides n; with `threshold = 0` it is a
NON-TRIVIAL divisor (so the contract `RhoFull` that `factor_nontrivial` / `iffactorprime_prime` / `setCode_complete` of Props/C12.lean
assume of the rho oracle is what the code computes whenever it returns; only termination is left to the correspondence).
-/
import GivaroModel.Lemmas.PrimesRho
namespace Givaro.Props.C12Rho
open Givaro Givaro.Model.Primes Givaro.Lemmas.Primes

/-- `threshold = 0`: a non-trivial divisor of every n > 1, whatever start values are drawn (when the search returns) -/
theorem pollard0_nontrivial (n : Int) (hn : 1 < n) (fuel : Nat) (ys : List Int) (g : Int) (h : pollard0 n fuel ys = some g) :
    1 < g ∧ g < n ∧ g ∣ n := by
  fun_induction pollard0 n fuel ys with
  | case1 => cases h
  | case2 => cases h
  | case3 y ys h0 ih => exact ih h
  | case4 y ys g0 h0 hne =>
    obtain rfl : g0 = g := Option.some.inj h
    obtain ⟨h1, d, h2⟩ := rhoLoop0_some n fuel _ _ _ _ g0 h0
    have hd : g0 ∣ n := by rw [h2]; exact Int.gcd_dvd_right d n
    have hpos : 0 < g0 := by rw [h2]; exact_mod_cast Int.gcd_pos_of_ne_zero_right d (by omega)
    have hle : g0 ≤ n := Int.le_of_dvd (by omega) hd
    exact ⟨by omega, by omega, hd⟩
example : (1 : Int) < 91 ∧ pollard0 91 100 [2] = some 7 := ⟨by decide, by decide⟩

/-- `threshold ≠ 0`: a positive divisor (1 = gave up, n = failed at the last allowed step), whatever start values are drawn -/
theorem pollardT_divisor (n : Int) (hn : 1 < n) (ys : List Int) (threshold : Nat) (g : Int) (h : pollardT n ys threshold = some g) :
    1 ≤ g ∧ g ≤ n ∧ g ∣ n := by
  fun_induction pollardT n ys threshold with
  | case1 => cases h
  | case2 y ys threshold r hr ih => exact ih h
  | case3 y ys threshold r hr =>
    have := rhoLoopT_div n (by omega) threshold threshold 0 1 0 1 0 y ⟨by omega, one_dvd n⟩
    rw [show (rhoLoopT n threshold threshold 0 1 0 1 0 y).1 = g from Option.some.inj h] at this
    exact ⟨by omega, Int.le_of_dvd (by omega) this.2, this.2⟩
example : (1 : Int) < 91 ∧ pollardT 91 [2] 100 = some 7 := ⟨by decide, by decide⟩

/-- `Pollard` with its guards: `n < 3` and primes are returned as they are -/
theorem pollard_guards (isp : Int → Bool) (fuel : Nat) (n : Int) (threshold : Nat) (ys : List Int) :
    (n < 3 → pollardStarts isp fuel n threshold ys = some n) ∧
    (isp n = true → pollardStarts isp fuel n threshold ys = some n) := by
  constructor
  · intro h; unfold pollardStarts; simp [h]
  · intro h; unfold pollardStarts; simp [h]

/-- `Pollard(gen, g, n, 0)` on a composite n ≥ 3: 1 < g < n, g | n — the contract `RhoFull`, for every sequence of draws -/
theorem pollard_unbounded_nontrivial (isp : Int → Bool) (fuel : Nat) (n : Int) (ys : List Int) (g : Int) (h3 : 3 ≤ n)
    (hc : isp n = false) (h : pollardStarts isp fuel n 0 ys = some g) : 1 < g ∧ g < n ∧ g ∣ n := by
  unfold pollardStarts at h
  have : ¬ n < 3 := by omega
  simp only [this, hc, ↓reduceIte] at h
  exact pollard0_nontrivial n (by omega) fuel ys g (by simpa using h)
example : (3 : Int) ≤ 91 ∧ pollardStarts (fun _ => false) 100 91 0 [2] = some 7 := ⟨by decide, by decide⟩

/-- `Pollard(gen, g, n, threshold)` with a bound: always a positive divisor of n (n ≥ 3 composite) -/
theorem pollard_bounded_divisor (isp : Int → Bool) (fuel : Nat) (n : Int) (threshold : Nat) (ys : List Int) (g : Int) (h3 : 3 ≤ n)
    (hc : isp n = false) (ht : threshold ≠ 0) (h : pollardStarts isp fuel n threshold ys = some g) : 1 ≤ g ∧ g ≤ n ∧ g ∣ n := by
  unfold pollardStarts at h
  have : ¬ n < 3 := by omega
  simp only [this, hc, ht, ↓reduceIte] at h
  exact pollardT_divisor n (by omega) ys threshold g (by simpa using h)
example : (3 : Int) ≤ 91 ∧ (2 : Nat) ≠ 0 ∧ pollardStarts (fun _ => false) 100 91 2 [2] = some 1 := ⟨by decide, by decide, by decide⟩

end Givaro.Props.C12Rho
