/-
C09 — polynomial factorisation, irreducibility and primitivity decisions are correct.

Mathlib-level criteria (for every finite field K and every polynomial — no bound on q or on degrees):
  * `ddf_test_correct`        the criterion implemented by `is_irreducible` (derivative test + gcd(X^(q^i) - X, P) for
                              i = 1 … ⌊n/2⌋) characterises irreducibility; `ddf_test_without_derivative`: the derivative test is
                              redundant (so dropping it is a harmless change, the loop bound ⌊n/2⌋ is not);
  * `rabin_test_correct`      the criterion of `is_irreducible2` as repaired by fixes/C09_3;
  * `order_certificate`, `primitive_iff`
                              the prime-divisor test of `order` / `is_prim_root` / the driver's `checkOrder`;
  * `sqrfree_certificate`, `factor_list_certificate`
                              the certificates behind `checkSqrfree` / `checkFactorList` (the latter checked on every `CZfactor`
                              output) decide "no factor lost or invented, multiplicities exact" (any field; the second is the
                              first with irreducible parts).
List level, for the coefficient record `fieldOps K` of any Mathlib field (refinement in Lemmas/PolyFactorRefine.lean):
  * `bruteIrreducible_correct` (+ `_zmod`), `dividesB_correct`, `associatedB_correct`
                              the exponential oracle of the driver decides `Irreducible (toPoly P)`;
  * `factor_list_checker_sound`, `factor_list_checker_decides`, `sqrfree_checker_sound`
                              an accepted `CZfactor` / `sqrfree` output has the certified meaning;
  * `is_irreducible_model_correct`
                              the model of the repaired `is_irreducible` (gcd, powmod, diff loops) decides irreducibility: it evaluates
                              the distinct-degree criterion for any field and any `q` (`isIrreducible_iff` of the refinement), and
                              `ddf_test_correct` is where `q = |K|` enters;
  * `sqrfree_partial`         `sqrfree` on separable inputs (partial, see its comment), `sqrfree_charp_counterexample`.
Model-level (all inputs, all enumeration orders, all random streams):
  * `found_irreducible_has_degree`, `found_ixe_irreducible`, `found_prim_root`
                              what the searches of givpoly1proot.inl return.
Of the deciders only `is_irreducible` has a theorem about its model; for `is_irreducible2`, `order`, `is_prim_root` the criteria they
implement are proved above, their models (`isIrreducible2`, `orderL`, `isPrimRootL`) are not connected to them.
-/
import GivaroModel.Model.PolyFactor
import GivaroModel.Lemmas.PolyFactorLemmas
import GivaroModel.Spec.PolyFactorSpec
import GivaroModel.Lemmas.PolyFactorRefine
import GivaroModel.Lemmas.OrderTest
import Mathlib.Algebra.Squarefree.Basic
import Mathlib.Data.ZMod.Basic
import Mathlib.FieldTheory.Finite.Extension
import Mathlib.FieldTheory.Perfect
import Mathlib.Algebra.Polynomial.FieldDivision
import Mathlib.Algebra.BigOperators.Associated
import Mathlib.GroupTheory.OrderOfElement
import Mathlib.FieldTheory.Finite.Basic
namespace Givaro.Props.C09
open Polynomial

/-- the derivative test of `is_irreducible` is redundant -/
theorem ddf_test_without_derivative {K : Type*} [Field K] [Finite K] (P : K[X]) (hn : 1 ≤ P.natDegree) :
    Irreducible P ↔ ∀ i, 1 ≤ i → i ≤ P.natDegree / 2 → IsCoprime (X ^ (Nat.card K ^ i) - X) P := by
  have hP0 : P ≠ 0 := by rintro rfl; simp at hn
  have hPu : ¬ IsUnit P := fun h => by
    have := natDegree_eq_zero_of_isUnit h; omega
  constructor
  · intro hP i hi1 hi2
    exact Givaro.Lemmas.PolyFactor.coprime_frobenius_of_irreducible hP (Nat.not_dvd_of_pos_of_lt hi1 (by omega))
  · -- a reducible `P` has an irreducible factor `g` of degree `d ≤ n/2`, and `g` divides `X^(q^d) - X`
    intro h
    by_contra hirr
    rw [irreducible_iff_lt_natDegree_lt hP0 hPu] at hirr
    push Not at hirr
    obtain ⟨q, hqm, hqd, hqP⟩ := hirr
    rw [Finset.mem_Ioc] at hqd
    have hq0 : q ≠ 0 := hqm.ne_zero
    have hqu : ¬ IsUnit q := fun hu => by
      have := natDegree_eq_zero_of_isUnit hu; omega
    obtain ⟨g, hg, hgq⟩ := WfDvdMonoid.exists_irreducible_factor hqu hq0
    have hgd : g.natDegree ≤ q.natDegree := natDegree_le_of_dvd hgq hq0
    have hgpos := hg.natDegree_pos
    exact Givaro.Lemmas.PolyFactor.not_coprime_frobenius hg (hgq.trans hqP) (dvd_refl _) (h g.natDegree hgpos (by omega))

theorem ddf_test_correct {K : Type*} [Field K] [Finite K] (P : K[X]) (hn : 1 ≤ P.natDegree) :
    Irreducible P ↔ IsCoprime P (derivative P) ∧
      ∀ i, 1 ≤ i → i ≤ P.natDegree / 2 → IsCoprime (X ^ (Nat.card K ^ i) - X) P :=
  ⟨fun hP => ⟨PerfectField.separable_of_irreducible hP, (ddf_test_without_derivative P hn).1 hP⟩,
    fun h => (ddf_test_without_derivative P hn).2 h.2⟩

/-- Rabin's test (`is_irreducible2` as repaired) -/
theorem rabin_test_correct {K : Type*} [Field K] [Finite K] (P : K[X]) (hn : 1 ≤ P.natDegree) :
    Irreducible P ↔ P ∣ X ^ (Nat.card K ^ P.natDegree) - X ∧
      ∀ r : ℕ, r.Prime → r ∣ P.natDegree → IsCoprime (X ^ (Nat.card K ^ (P.natDegree / r)) - X) P := by
  have hP0 : P ≠ 0 := by rintro rfl; simp at hn
  have hPu : ¬ IsUnit P := fun h => by
    have := natDegree_eq_zero_of_isUnit h; omega
  constructor
  · intro hP
    refine ⟨(hP.natDegree_dvd_iff_dvd_X_pow_card_pow_sub_X (n := P.natDegree)).1 (dvd_refl _), fun r hr hrn => ?_⟩
    exact Givaro.Lemmas.PolyFactor.coprime_frobenius_of_irreducible hP (Nat.not_dvd_of_pos_of_lt
      (Nat.div_pos (Nat.le_of_dvd (by omega) hrn) hr.pos) (Nat.div_lt_self (by omega) hr.one_lt))
  · rintro ⟨hdiv, h⟩
    -- every irreducible factor g of P has degree d | n; if d < n then d | n / r for a prime r | n / d
    obtain ⟨g, hg, hgP⟩ := WfDvdMonoid.exists_irreducible_factor hPu hP0
    have hgpos := hg.natDegree_pos
    have hdn : g.natDegree ∣ P.natDegree :=
      (hg.natDegree_dvd_iff_dvd_X_pow_card_pow_sub_X (n := P.natDegree)).2 (hgP.trans hdiv)
    by_cases hlt : g.natDegree = P.natDegree
    · -- `g ∣ P` with equal degrees: associated
      exact ((associated_of_dvd_of_natDegree_le hgP hP0 (le_of_eq hlt.symm)).irreducible_iff).1 hg
    · exfalso
      obtain ⟨m, hm⟩ := hdn
      have hm1 : m ≠ 1 := by rintro rfl; simp at hm; exact hlt hm.symm
      obtain ⟨r, hr, hrm⟩ := Nat.exists_prime_and_dvd hm1
      obtain ⟨m', rfl⟩ := hrm
      have hrn : r ∣ P.natDegree := ⟨g.natDegree * m', by rw [hm]; ring⟩
      have hdiv' : g.natDegree ∣ P.natDegree / r := by
        refine ⟨m', ?_⟩
        rw [hm]
        rw [show g.natDegree * (r * m') = r * (g.natDegree * m') by ring, Nat.mul_div_cancel_left _ hr.pos]
      exact Givaro.Lemmas.PolyFactor.not_coprime_frobenius hg hgP hdiv' (h r hr hrn)

theorem order_certificate {G : Type*} [Monoid G] (x : G) (n : ℕ) (hn : 0 < n) :
    orderOf x = n ↔ x ^ n = 1 ∧ ∀ r : ℕ, r.Prime → r ∣ n → x ^ (n / r) ≠ 1 :=
  Givaro.Lemmas.NumTheo.orderOf_eq_iff_pow_div_prime x n hn

theorem primitive_iff {K : Type*} [Field K] [Fintype K] (g : K) :
    orderOf g = Fintype.card K - 1 ↔
      g ≠ 0 ∧ ∀ r : ℕ, r.Prime → r ∣ Fintype.card K - 1 → g ^ ((Fintype.card K - 1) / r) ≠ 1 := by
  have hN : 0 < Fintype.card K - 1 := by
    have := Fintype.one_lt_card (α := K); omega
  rw [order_certificate g _ hN]
  constructor
  · rintro ⟨h1, h2⟩
    refine ⟨?_, h2⟩
    rintro rfl
    rw [zero_pow (by omega)] at h1
    exact zero_ne_one h1
  · rintro ⟨h0, h2⟩
    exact ⟨FiniteField.pow_card_sub_one_eq_one g h0, h2⟩

/-- Certificate of a square-free decomposition, at the Mathlib level: parts square-free and pairwise coprime with
    `∏ gᵉ = c·P`, `c ≠ 0`.  Then every irreducible divisor of `P` divides exactly the part that carries its exact
    multiplicity: no factor is lost and the exponent attached to a part is the multiplicity of each of its factors.
    (`sqrfree` returns `Fact[i]` with exponent `i+1`: take `L = [(Fact[0],1), (Fact[1],2), …]`.) -/
theorem sqrfree_certificate {K : Type*} [Field K] (P : K[X]) (L : List (K[X] × ℕ)) (c : K) (hc : c ≠ 0)
    (hsq : ∀ ge ∈ L, Squarefree ge.1)
    (hcop : L.Pairwise (fun a b => IsCoprime a.1 b.1))
    (hprod : (L.map (fun ge => ge.1 ^ ge.2)).prod = C c * P) :
    (∀ f, Irreducible f → f ∣ P → ∃ ge ∈ L, f ∣ ge.1 ∧ 1 ≤ ge.2) ∧
    (∀ f, Irreducible f → ∀ ge ∈ L, f ∣ ge.1 → f ^ ge.2 ∣ P ∧ ¬ f ^ (ge.2 + 1) ∣ P) := by
  have hcu : IsUnit (C c : K[X]) := isUnit_C.2 (isUnit_iff_ne_zero.2 hc)
  constructor
  · intro f hf hP
    exact Givaro.Lemmas.PolyFactor.dvd_base_of_dvd_prod_pow hf.prime L (by rw [hprod]; exact hP.mul_left _)
  · intro f hf ge hge hfg
    have hp : Prime f := hf.prime
    obtain ⟨l1, l2, rfl⟩ := List.append_of_mem hge
    have hsplit : (List.map (fun ge => ge.1 ^ ge.2) (l1 ++ ge :: l2)).prod =
        ge.1 ^ ge.2 * ((l1.map (fun ge => ge.1 ^ ge.2)).prod * (l2.map (fun ge => ge.1 ^ ge.2)).prod) := by
      simp only [List.map_append, List.map_cons, List.prod_append, List.prod_cons]; ring
    rw [hsplit] at hprod
    constructor
    · have h1 : f ^ ge.2 ∣ ge.1 ^ ge.2 := pow_dvd_pow_of_dvd hfg _
      have h2 : f ^ ge.2 ∣ C c * P := by rw [← hprod]; exact h1.mul_right _
      exact (hcu.dvd_mul_left).1 h2
    · intro hdvd
      rw [List.pairwise_append] at hcop
      obtain ⟨-, hcop2, hcop12⟩ := hcop
      rw [List.pairwise_cons] at hcop2
      -- `f` divides no other part: the parts are coprime to `ge`
      have hrest : ¬ f ∣ (l1.map (fun ge => ge.1 ^ ge.2)).prod * (l2.map (fun ge => ge.1 ^ ge.2)).prod := by
        intro h2
        rcases hp.dvd_or_dvd h2 with h3 | h3
        · obtain ⟨ge', hge', hfa, -⟩ := Givaro.Lemmas.PolyFactor.dvd_base_of_dvd_prod_pow hp l1 h3
          exact hf.not_isUnit ((hcop12 ge' hge' ge (by simp)).isUnit_of_dvd' hfa hfg)
        · obtain ⟨ge', hge', hfa, -⟩ := Givaro.Lemmas.PolyFactor.dvd_base_of_dvd_prod_pow hp l2 h3
          exact hf.not_isUnit ((hcop2.1 ge' hge').isUnit_of_dvd' hfg hfa)
      have h1 : f ^ (ge.2 + 1) ∣ ge.1 ^ ge.2 * ((l1.map (fun ge => ge.1 ^ ge.2)).prod * (l2.map (fun ge => ge.1 ^ ge.2)).prod) := by
        rw [hprod]; exact hdvd.mul_left _
      have h2 : f ^ (ge.2 + 1) ∣ ge.1 ^ ge.2 := hp.pow_dvd_of_dvd_mul_right _ hrest h1
      -- so `f^(e+1) ∣ ge^e`, impossible for a square-free `ge`
      obtain ⟨m, hm⟩ := hfg
      have hfm : ¬ f ∣ m := by
        rintro ⟨m', rfl⟩
        have hsqf := hsq ge (by simp)
        exact hf.not_isUnit (hsqf f ⟨m', by rw [hm]; ring⟩)
      rw [hm, mul_pow, pow_succ] at h2
      have h3 : f ∣ m ^ ge.2 := (mul_dvd_mul_iff_left (pow_ne_zero _ hf.ne_zero)).1 h2
      exact hfm (hp.dvd_of_dvd_pow h3)

theorem factor_list_certificate {K : Type*} [Field K] (P : K[X]) (L : List (K[X] × ℕ)) (c : K) (hc : c ≠ 0)
    (hirr : ∀ ge ∈ L, Irreducible ge.1)
    (hpw : L.Pairwise (fun a b => ¬ Associated a.1 b.1))
    (hprod : (L.map (fun ge => ge.1 ^ ge.2)).prod = C c * P) :
    (∀ h, Irreducible h → h ∣ P → ∃ ge ∈ L, Associated h ge.1 ∧ 1 ≤ ge.2) ∧
    (∀ ge ∈ L, ge.1 ^ ge.2 ∣ P ∧ ¬ ge.1 ^ (ge.2 + 1) ∣ P) := by
  have hcop : L.Pairwise (fun a b => IsCoprime a.1 b.1) :=
    List.Pairwise.imp_of_mem (fun {a b} ha hb hab => ((hirr a ha).coprime_iff_not_dvd).2
      fun hd => hab ((hirr a ha).associated_of_dvd (hirr b hb) hd)) hpw
  obtain ⟨k1, k2⟩ := sqrfree_certificate P L c hc (fun ge hge => (hirr ge hge).squarefree) hcop hprod
  constructor
  · intro h hh hP
    obtain ⟨ge, hge, hd, h1⟩ := k1 h hh hP
    exact ⟨ge, hge, hh.associated_of_dvd (hirr ge hge) hd, h1⟩
  · intro ge hge
    exact k2 ge.1 (hirr ge hge) ge hge (dvd_refl _)

/-! ### the searches of givpoly1proot.inl (model level) -/
open Givaro.Model.PolyFactor

/-- `creux_random_irreducible(R, n)` / `random_irreducible(R, n)`, `n ≥ 1`: whatever the enumeration order of the residues
    and whatever the random stream, a returned `R` is stored with exactly `n+1` coefficients, is monic, has degree exactly
    `n`, and is accepted by the model of `is_irreducible`. -/
theorem found_irreducible_has_degree {α : Type} [DecidableEq α] (F : FOps α) (hone : F.one ≠ F.zero)
    (q : Nat) (elems : List α) (stream : List (Poly α)) (n : Nat) (hn : 1 ≤ n) (R : Poly α)
    (h : creuxIrreducible F q elems stream n = some R ∨ randomIrreducible F q stream n = some R) :
    R.length = n + 1 ∧ R[n]? = some F.one ∧ degree F R = n ∧ isIrreducible F q R = true := by
  have key : StoredMonic F n R ∧ isIrreducible F q R = true := by
    rcases h with h | h
    · obtain ⟨hm, ht⟩ := firstThat_spec _ _ _ h
      exact ⟨storedMonic_candidates F elems stream hn 1 R hm, ht⟩
    · obtain ⟨hm, ht⟩ := firstThat_spec _ _ _ h
      exact ⟨storedMonic_randomials F stream n R hm, ht⟩
  exact ⟨(key.1.shape F).1, (key.1.shape F).2, degree_of_storedMonic F hone key.1, key.2⟩

example : creuxIrreducible (α := Nat) ⟨0, 1, fun a b => (a + b) % 2, fun a => a, fun a b => a * b % 2, fun a => a⟩ 2 [0, 1] [] 2
    = some [1, 1, 1] := by decide

/-- `ixe_irreducible(R, n)`: additionally `is_prim_root(X, R)` holds in the model. -/
theorem found_ixe_irreducible {α : Type} [DecidableEq α] (F : FOps α) (hone : F.one ≠ F.zero)
    (q : Nat) (elems : List α) (stream : List (Poly α)) (n : Nat) (hn : 1 ≤ n) (R : Poly α)
    (h : ixeIrreducible F q elems stream n = some R) :
    R.length = n + 1 ∧ degree F R = n ∧ isIrreducible F q R = true ∧ isPrimRoot F q (polX F) R = true := by
  obtain ⟨hm, ht⟩ := firstThat_spec _ _ _ h
  have hs := storedMonic_candidates F elems stream hn 2 R hm
  simp only [Bool.and_eq_true] at ht
  exact ⟨(hs.shape F).1, degree_of_storedMonic F hone hs, ht.1, ht.2⟩

/-- `give_prim_root` / `give_random_prim_root`: the returned element is one of the candidates and passes `is_prim_root`. -/
theorem found_prim_root {α : Type} [DecidableEq α] (F : FOps α) (q : Nat) (Fm : Poly α) (cands : List (Poly α)) (R : Poly α)
    (h : givePrimRoot F q Fm cands = some R) : R ∈ cands ∧ isPrimRoot F q R Fm = true :=
  firstThat_spec (fun R => isPrimRoot F q R Fm) cands R h

/-! ### the oracle and the checkers of the driver (list level ↔ Mathlib), for the coefficient record `fieldOps K` of any field

`fieldOps K` is the record whose six entries are the field's own `0, 1, +, -, *, ⁻¹`; `elems` must list every element. -/
section ListLevel
open Givaro.Lemmas.PolyFactor Givaro.Spec.PolyFactor

/-- the divisibility test of the oracle -/
theorem dividesB_correct {K : Type} [Field K] [DecidableEq K] (g P : Poly K) (hg : toPoly g ≠ 0) :
    dividesB (fieldOps K) g P = true ↔ toPoly g ∣ toPoly P := by
  unfold dividesB
  rw [decide_eq_true_eq]
  exact pmod_eq_nil_iff P g hg

/-- The exponential oracle (`degree ≥ 1` and no monic divisor of degree `1 … ⌊n/2⌋`, by long division in the list
    arithmetic) decides Mathlib's `Irreducible` — every list (normalised or not), every field, no size bound. -/
theorem bruteIrreducible_correct {K : Type} [Field K] [DecidableEq K] (elems : List K) (hall : ∀ x : K, x ∈ elems)
    (P : Poly K) : bruteIrreducible (fieldOps K) elems P = true ↔ Irreducible (toPoly P) := by
  unfold bruteIrreducible
  simp only [Bool.and_eq_true, decide_eq_true_eq, List.all_eq_true, List.mem_range, Bool.not_eq_true',
    ge_iff_le]
  by_cases hlen : 2 ≤ (norm (fieldOps K) P).length
  · have hne : norm (fieldOps K) P ≠ [] := by intro h; rw [h] at hlen; simp at hlen
    have hnd := natDegree_toPoly P hne
    have hP0 : toPoly P ≠ 0 := fun h => hne ((norm_eq_nil_iff P).2 h)
    have hPu : ¬ IsUnit (toPoly P) := fun h => by
      have := natDegree_eq_zero_of_isUnit h; omega
    rw [irreducible_iff_lt_natDegree_lt hP0 hPu, hnd]
    constructor
    · rintro ⟨-, h⟩ q hq hqd hdvd
      rw [Finset.mem_Ioc] at hqd
      obtain ⟨l, hl, rfl⟩ := monics_complete elems hall q hq
      have h1 := h ((toPoly l).natDegree - 1) (by omega) l (by
        have : (toPoly l).natDegree - 1 + 1 = (toPoly l).natDegree := by omega
        rw [this]; exact hl)
      have h2 := (dividesB_correct l P hq.ne_zero).2 hdvd
      rw [h1] at h2; exact Bool.false_ne_true h2
    · intro h
      refine ⟨hlen, fun d0 hd0 g hg => ?_⟩
      obtain ⟨hm, hd⟩ := monics_sound elems (d0 + 1) g hg
      have h1 := h (toPoly g) hm (by rw [Finset.mem_Ioc, hd]; omega)
      by_contra h2
      rw [Bool.not_eq_false] at h2
      exact h1 ((dividesB_correct g P hm.ne_zero).1 h2)
  · constructor
    · rintro ⟨h, -⟩; exact absurd h hlen
    · intro hirr
      exfalso
      have hpos := hirr.natDegree_pos
      by_cases hne : norm (fieldOps K) P = []
      · rw [(norm_eq_nil_iff P).1 hne] at hpos; simp at hpos
      · have hnd := natDegree_toPoly P hne
        omega

/-- prime fields: `ZMod p` with the residues enumerated as `0, 1, …, p-1` (the driver's order) -/
theorem bruteIrreducible_correct_zmod (p : ℕ) [Fact p.Prime] (P : Poly (ZMod p)) :
    bruteIrreducible (fieldOps (ZMod p)) ((List.range p).map (fun (n : ℕ) => (n : ZMod p))) P = true ↔ Irreducible (toPoly P) := by
  have : NeZero p := ⟨(Fact.out : p.Prime).ne_zero⟩
  apply bruteIrreducible_correct
  intro x
  exact List.mem_map.2 ⟨x.val, List.mem_range.2 (ZMod.val_lt x), ZMod.natCast_zmod_val x⟩

/-- the associate test of the checkers -/
theorem associatedB_correct {K : Type} [Field K] [DecidableEq K] (a b : Poly K) :
    associatedB (fieldOps K) a b = true ↔ toPoly a ≠ 0 ∧ toPoly b ≠ 0 ∧ Associated (toPoly a) (toPoly b) :=
  associatedB_iff a b

/-- `checkFactorList` = true yields exactly the hypotheses of `factor_list_certificate` for the denoted polynomials
    (`irr` any decider that is sound for `Irreducible`, e.g. the oracle above). -/
theorem factor_list_checker_sound {K : Type} [Field K] [DecidableEq K] (irr : Poly K → Bool)
    (hirr : ∀ g, irr g = true → Irreducible (toPoly g)) (P : Poly K) (L : List (Poly K × ℕ))
    (h : checkFactorList (fieldOps K) irr P L = true) :
    toPoly P ≠ 0 ∧ ∃ c : K, c ≠ 0 ∧
      (∀ ge ∈ L.map (fun ge => (toPoly ge.1, ge.2)), Irreducible ge.1 ∧ 1 ≤ ge.2) ∧
      (L.map (fun ge => (toPoly ge.1, ge.2))).Pairwise (fun a b => ¬ Associated a.1 b.1) ∧
      ((L.map (fun ge => (toPoly ge.1, ge.2))).map (fun ge => ge.1 ^ ge.2)).prod = C c * toPoly P := by
  unfold checkFactorList at h
  simp only [Bool.and_eq_true, decide_eq_true_eq, List.all_eq_true, ne_eq] at h
  obtain ⟨⟨⟨hP, hall⟩, hpw⟩, hass⟩ := h
  have hP0 : toPoly P ≠ 0 := fun h0 => hP ((norm_eq_nil_iff P).2 h0)
  obtain ⟨c, hc, hprod⟩ := prod_eq_of_associatedB P L hass
  refine ⟨hP0, c, hc, ?_, ?_, hprod⟩
  · intro ge hge
    obtain ⟨ge', hge', rfl⟩ := List.mem_map.1 hge
    exact ⟨hirr _ (hall ge' hge').1, (hall ge' hge').2⟩
  · rw [List.pairwise_map]
    rw [pairwiseB_iff] at hpw
    refine List.Pairwise.imp_of_mem ?_ hpw
    intro a b ha hb hab hAss
    have h1 := (hirr _ (hall a ha).1).ne_zero
    have h2 := (hirr _ (hall b hb).1).ne_zero
    have := (associatedB_correct a.1 b.1).2 ⟨h1, h2, hAss⟩
    rw [this] at hab
    exact absurd hab (by decide)

/-- what an accepted `CZfactor` output means: no irreducible factor of the input is lost, none is invented, every
    returned multiplicity is the exact multiplicity (statement about the denoted polynomials). -/
theorem factor_list_checker_decides {K : Type} [Field K] [DecidableEq K] (irr : Poly K → Bool)
    (hirr : ∀ g, irr g = true → Irreducible (toPoly g)) (P : Poly K) (L : List (Poly K × ℕ))
    (h : checkFactorList (fieldOps K) irr P L = true) :
    (∀ f, Irreducible f → f ∣ toPoly P → ∃ ge ∈ L, Associated f (toPoly ge.1) ∧ 1 ≤ ge.2) ∧
    (∀ ge ∈ L, Irreducible (toPoly ge.1) ∧ toPoly ge.1 ^ ge.2 ∣ toPoly P ∧ ¬ toPoly ge.1 ^ (ge.2 + 1) ∣ toPoly P) := by
  obtain ⟨-, c, hc, h1, h2, h3⟩ := factor_list_checker_sound irr hirr P L h
  obtain ⟨k1, k2⟩ := factor_list_certificate (toPoly P) _ c hc (fun ge hge => (h1 ge hge).1) h2 h3
  constructor
  · intro f hf hfP
    obtain ⟨ge, hge, ha, hb⟩ := k1 f hf hfP
    obtain ⟨ge', hge', rfl⟩ := List.mem_map.1 hge
    exact ⟨ge', hge', ha, hb⟩
  · intro ge hge
    have hm : (toPoly ge.1, ge.2) ∈ L.map (fun ge => (toPoly ge.1, ge.2)) := List.mem_map.2 ⟨ge, hge, rfl⟩
    have h4 := k2 _ hm
    have h5 := (h1 _ hm).1
    dsimp only at h4 h5
    exact ⟨h5, h4.1, h4.2⟩

/-- The model of the (repaired) `is_irreducible` decides irreducibility: for every finite field `K` (coefficient record
    `fieldOps K`, `MOD = |K|`) and every coefficient list `P` — normalised or not, zero and constants included — the
    transcription of the C++ (`gcd(P',P)`, then `W ← W^q mod P`, `gcd(W - X, P)` for `⌊deg/2⌋` rounds over the model of
    `Poly1Dom::gcd`/`powmod`/`diff`) returns true exactly when the denoted polynomial is irreducible. -/
theorem is_irreducible_model_correct {K : Type} [Field K] [DecidableEq K] [Finite K] (P : Poly K) :
    isIrreducible (fieldOps K) (Nat.card K) P = true ↔ Irreducible (toPoly P) := by
  rw [isIrreducible_iff]
  exact ⟨fun h => (ddf_test_correct _ h.1).2 h.2, fun h => ⟨h.natDegree_pos, (ddf_test_correct _ h.natDegree_pos).1 h⟩⟩

/-- `sqrfree` on the inputs where Yun's first test already decides: a separable (= square-free over a perfect field,
    all multiplicities 1) non-zero input is returned as the single part `P / lc(P)` with exponent 1.
    Partial: the full statement (every input whose multiplicities are all `< p` is decomposed correctly — the part of
    Yun's loop that works in characteristic p) is not proved; the statement for all inputs is false
    (`sqrfree_charp_counterexample` below). -/
theorem sqrfree_partial {K : Type} [Field K] [DecidableEq K] (Nfact : ℕ) (hN : 1 ≤ Nfact) (P : Poly K)
    (hP : toPoly P ≠ 0) (hsep : (toPoly P).Separable) :
    ∃ A, sqrfree (fieldOps K) Nfact P = [A] ∧ toPoly A = C (toPoly P).leadingCoeff⁻¹ * toPoly P := by
  have hlc : (toPoly P).leadingCoeff⁻¹ ≠ 0 := inv_ne_zero (leadingCoeff_ne_zero.2 hP)
  have hA : toPoly (monicize (fieldOps K) P) = C (toPoly P).leadingCoeff⁻¹ * toPoly P := toPoly_monicize P
  refine ⟨monicize (fieldOps K) P, ?_, hA⟩
  have hsepA : IsCoprime (toPoly (monicize (fieldOps K) P)) (toPoly (diff (fieldOps K) (monicize (fieldOps K) P))) := by
    rw [toPoly_diff, hA, mul_comm]
    exact hsep.mul_unit (isUnit_C.2 (isUnit_iff_ne_zero.2 hlc))
  obtain ⟨d, hd, hdD⟩ := Polynomial.isUnit_iff.1 ((pgcd_unit_iff _ _).2 hsepA)
  -- hence `C = 1` and the first test of the code returns `[A]`
  have hC : toPoly (monicize (fieldOps K) (pgcd (fieldOps K) (monicize (fieldOps K) P)
      (diff (fieldOps K) (monicize (fieldOps K) P)))) = toPoly ([1] : List K) := by
    rw [toPoly_monicize, ← hdD, leadingCoeff_C, ← C_mul, inv_mul_cancel₀ hd.ne_zero, toPoly_cons, toPoly_nil, mul_zero,
      add_zero]
  have hnorm := (norm_eq_iff _ _).2 hC
  rw [show norm (fieldOps K) ([1] : List K) = [(fieldOps K).one] by simp [Givaro.Model.PolyFactor.norm]] at hnorm
  exact (if_neg (by omega)).trans (if_pos hnorm)

end ListLevel

/-- `checkSqrfree` = true yields exactly the hypotheses of `sqrfree_certificate` for the denoted polynomials, with the
    exponent `i+1` attached to the `i`-th part. -/
theorem sqrfree_checker_sound {K : Type} [Field K] [DecidableEq K] (P : Poly K) (G : List (Poly K))
    (h : Givaro.Spec.PolyFactor.checkSqrfree (Givaro.Lemmas.PolyFactor.fieldOps K) P G = true) :
    Givaro.Lemmas.PolyFactor.toPoly P ≠ 0 ∧ ∃ c : K, c ≠ 0 ∧
      (∀ ge ∈ (Givaro.Spec.PolyFactor.indexed G 1).map (fun gi => (Givaro.Lemmas.PolyFactor.toPoly gi.1, gi.2)), Squarefree ge.1) ∧
      ((Givaro.Spec.PolyFactor.indexed G 1).map (fun gi => (Givaro.Lemmas.PolyFactor.toPoly gi.1, gi.2))).Pairwise
        (fun a b => IsCoprime a.1 b.1) ∧
      (((Givaro.Spec.PolyFactor.indexed G 1).map (fun gi => (Givaro.Lemmas.PolyFactor.toPoly gi.1, gi.2))).map
        (fun ge => ge.1 ^ ge.2)).prod = C c * Givaro.Lemmas.PolyFactor.toPoly P := by
  open Givaro.Lemmas.PolyFactor Givaro.Spec.PolyFactor in
  unfold checkSqrfree at h
  simp only [Bool.and_eq_true, decide_eq_true_eq, List.all_eq_true, ne_eq] at h
  obtain ⟨⟨⟨hP, hall⟩, hpw⟩, hass⟩ := h
  have hP0 : toPoly P ≠ 0 := fun h0 => hP ((norm_eq_nil_iff P).2 h0)
  have hne : ∀ g ∈ G, toPoly g ≠ 0 := fun g hg h0 => (hall g hg).1 ((norm_eq_nil_iff g).2 h0)
  obtain ⟨c, hc, hprod⟩ := prod_eq_of_associatedB P (indexed G 1) hass
  have hfst : ((indexed G 1).map (fun gi => (toPoly gi.1, gi.2))).map Prod.fst = G.map toPoly := by
    rw [List.map_map]
    have : (Prod.fst ∘ fun gi : Poly K × ℕ => (toPoly gi.1, gi.2)) = toPoly ∘ Prod.fst := rfl
    rw [this, ← List.map_map, indexed_fst]
  refine ⟨hP0, c, hc, ?_, ?_, hprod⟩
  · intro ge hge
    have : ge.1 ∈ G.map toPoly := by rw [← hfst]; exact List.mem_map.2 ⟨ge, hge, rfl⟩
    obtain ⟨g, hg, hge1⟩ := List.mem_map.1 this
    rw [← hge1]
    exact squarefreeB_sound g (hne g hg) (hall g hg).2
  · have h1 : (G.map toPoly).Pairwise IsCoprime := by
      rw [List.pairwise_map]
      rw [pairwiseB_iff] at hpw
      refine List.Pairwise.imp_of_mem ?_ hpw
      intro a b ha hb hab
      exact (coprimeB_iff a b (Or.inl (hne a ha))).1 hab
    rw [← hfst, List.pairwise_map] at h1
    exact h1

/-! ### known finding C09-yun-charp: the square-free decomposition in characteristic p

The full statement — for every field and every non-zero `P` the output of `sqrfree` passes `checkSqrfree` (parts
square-free, pairwise coprime, `∏ gᵢ^(i+1) ~ P`) — is false for the model of the code as it is (Yun's algorithm is a
characteristic-0 algorithm): witnesses over GF(2).  Beyond `sqrfree_partial` (separable inputs) nothing is proved for
multiplicities `< p`. -/

/-- GF(2) on {0,1} -/
def gf2 : FOps Nat := ⟨0, 1, fun a b => (a + b) % 2, fun a => a, fun a b => a * b % 2, fun a => a⟩

open Givaro.Spec.PolyFactor in
theorem sqrfree_charp_counterexample :
    ¬ (∀ P : Poly Nat, norm gf2 P ≠ [] → checkSqrfree gf2 P (sqrfree gf2 (norm gf2 P).length P) = true) := by
  intro h
  have h1 := h [0, 0, 1] (by decide)     -- X^2 over GF(2): the model returns the single part 1
  revert h1
  decide

/-- `X^2` (used above) and `X^3` as values: `sqrfree(X^2) = [1]`, `sqrfree(X^3) = [X]` over GF(2) -/
theorem sqrfree_charp_witnesses :
    sqrfree gf2 3 [0, 0, 1] = [[1]] ∧ sqrfree gf2 4 [0, 0, 0, 1] = [[0, 1]] := by decide

end Givaro.Props.C09
