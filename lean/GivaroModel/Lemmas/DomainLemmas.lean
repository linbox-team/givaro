/-
C16 — lemmas behind `Props/C16.lean`: lists after `List.set` (reading, counting `some b`), `release` / `acquire` on one block and
the invariant of one block (`BlockOk`), the steps of the two machines unfolded, `SInv` under each member function.  Core Lean only.
-/
import GivaroModel.Model.Domain

namespace Givaro.Lemmas.Domain
open Givaro.Model.Domain

/-! ### reading after `set` -/

theorem getD_set {α : Type} (l : List α) (k k' : Nat) (v d : α) :
    (l.set k v).getD k' d = if k = k' ∧ k < l.length then v else l.getD k' d := by
  simp only [List.getD_eq_getElem?_getD, List.getElem?_set]
  by_cases h : k = k'
  · subst h
    by_cases hk : k < l.length
    · simp [hk]
    · simp [hk]
  · simp [h]

theorem getD_set_ne {α : Type} (l : List α) {k k' : Nat} (v d : α) (h : k ≠ k') :
    (l.set k v).getD k' d = l.getD k' d := by
  rw [getD_set]; simp [h]

theorem getD_set_self {α : Type} (l : List α) {k : Nat} (v d : α) (h : k < l.length) :
    (l.set k v).getD k d = v := by
  rw [getD_set]; simp [h]

theorem getD_some_lt {l : List (Option Nat)} {k b : Nat} (h : l.getD k none = some b) : k < l.length := by
  refine Decidable.byContradiction fun hk => ?_
  have : l.getD k none = none := by
    simp only [List.getD_eq_getElem?_getD]
    rw [List.getElem?_eq_none (by omega)]; rfl
  rw [this] at h; cases h

theorem getD_eq_getElem {l : List (Option Nat)} {k : Nat} (hk : k < l.length) : l.getD k none = l[k] := by
  simp [List.getD_eq_getElem?_getD, hk]

theorem mem_of_getD_some {l : List (Option Nat)} {k b : Nat} (h : l.getD k none = some b) : some b ∈ l := by
  have hk := getD_some_lt h
  rw [getD_eq_getElem hk] at h
  rw [← h]; exact List.getElem_mem hk

theorem exists_getD_of_mem {l : List (Option Nat)} {b : Nat} (h : some b ∈ l) : ∃ k, l.getD k none = some b := by
  obtain ⟨k, hk, e⟩ := List.getElem_of_mem h
  exact ⟨k, by rw [getD_eq_getElem hk, e]⟩

theorem getD_append_left {α : Type} (l l' : List α) {k : Nat} (d : α) (h : k < l.length) :
    (l ++ l').getD k d = l.getD k d := by
  simp [List.getD_eq_getElem?_getD, List.getElem?_append_left h]

theorem getD_append_length {α : Type} (l : List α) (x d : α) :
    (l ++ [x]).getD l.length d = x := by
  simp [List.getD_eq_getElem?_getD]

theorem set_getD_self {α : Type} (l : List α) {k : Nat} {v d : α} (hk : k < l.length) (h : l.getD k d = v) :
    l.set k v = l := by
  have : l[k] = v := by
    simpa [List.getD_eq_getElem?_getD, hk] using h
  rw [← this]; exact List.set_getElem_self hk

/-! ### counting after `set` -/

theorem count_set (l : List (Option Nat)) {k : Nat} (hk : k < l.length) (v : Option Nat) (b : Nat) :
    (l.set k v).count (some b)
      = l.count (some b) - (if l.getD k none = some b then 1 else 0) + (if v = some b then 1 else 0) := by
  rw [List.count_set hk, getD_eq_getElem hk]
  simp only [beq_iff_eq]

theorem count_set_of_none {l : List (Option Nat)} {k : Nat} (hk : k < l.length) (hn : l.getD k none = none)
    (v : Option Nat) (b : Nat) : (l.set k v).count (some b) = l.count (some b) + (if v = some b then 1 else 0) := by
  rw [count_set l hk, hn]
  simp

theorem count_set_none {l : List (Option Nat)} {k b0 : Nat} (hs : l.getD k none = some b0) (b : Nat) :
    (l.set k none).count (some b) = l.count (some b) - (if b0 = b then 1 else 0) := by
  rw [count_set l (getD_some_lt hs), hs]
  simp

theorem getD_set_bound {l : List (Option Nat)} {n : Nat} (h : ∀ k b, l.getD k none = some b → b < n) (k : Nat)
    (v : Option Nat) (hv : ∀ b, v = some b → b < n) : ∀ k' b, (l.set k v).getD k' none = some b → b < n := by
  intro k' b hs
  rw [getD_set] at hs
  split at hs
  · exact hv b hs
  · exact h k' b hs

theorem count_pos_of_getD {l : List (Option Nat)} {k b : Nat} (h : l.getD k none = some b) :
    0 < l.count (some b) :=
  List.count_pos_iff.mpr (mem_of_getD_some h)

theorem one_lt_count {l : List (Option Nat)} {k j b : Nat} (hkj : k ≠ j) (hk : l.getD k none = some b)
    (hj : l.getD j none = some b) : 1 < l.count (some b) := by
  have h := count_pos_of_getD (l := l.set k none) (k := j) (b := b) (by rw [getD_set_ne _ _ _ hkj]; exact hj)
  rw [count_set_none hk, if_pos rfl] at h
  omega

theorem count_eq_zero_of_bound {l : List (Option Nat)} {n : Nat}
    (h : ∀ k b, l.getD k none = some b → b < n) : l.count (some n) = 0 := by
  refine List.count_eq_zero.mpr fun hm => ?_
  obtain ⟨k, hk⟩ := exists_getD_of_mem hm
  exact Nat.lt_irrefl _ (h k n hk)

/-! ### `release` / `acquire` on one block -/

@[simp] theorem release_length (bs : List Block) (b : Nat) : (release bs b).length = bs.length := by
  simp [release]

@[simp] theorem acquire_length (bs : List Block) (b : Nat) : (acquire bs b).length = bs.length := by
  simp [acquire]

theorem release_getD_self (bs : List Block) {b : Nat} (hb : b < bs.length) :
    (release bs b).getD b ⟨0, true⟩
      = ⟨(bs.getD b ⟨0, true⟩).refs - 1,
         (bs.getD b ⟨0, true⟩).freed || ((bs.getD b ⟨0, true⟩).refs - 1 == 0)⟩ := by
  simp only [release]; rw [getD_set_self _ _ _ hb]

theorem release_getD_ne (bs : List Block) {b c : Nat} (h : b ≠ c) :
    (release bs b).getD c ⟨0, true⟩ = bs.getD c ⟨0, true⟩ := by
  simp only [release]; rw [getD_set_ne _ _ _ h]

theorem acquire_getD_self (bs : List Block) {b : Nat} (hb : b < bs.length) :
    (acquire bs b).getD b ⟨0, true⟩ = ⟨(bs.getD b ⟨0, true⟩).refs + 1, (bs.getD b ⟨0, true⟩).freed⟩ := by
  simp only [acquire]; rw [getD_set_self _ _ _ hb]

theorem acquire_getD_ne (bs : List Block) {b c : Nat} (h : b ≠ c) :
    (acquire bs b).getD c ⟨0, true⟩ = bs.getD c ⟨0, true⟩ := by
  simp only [acquire]; rw [getD_set_ne _ _ _ h]

/-! ### the invariant of one block -/

/-- counter and flag of a block agree with the number `n` of objects sharing it -/
def BlockOk (blk : Block) (n : Nat) : Prop := blk.refs = n ∧ (blk.freed = true ↔ n = 0)

theorem BlockOk.not_freed {blk : Block} {n : Nat} (h : BlockOk blk n) (hn : 0 < n) : blk.freed = false := by
  cases hf : blk.freed with
  | false => rfl
  | true => have := h.2.mp hf; omega

theorem BlockOk.acquire {blk : Block} {n : Nat} (h : BlockOk blk n) (hn : 0 < n) :
    BlockOk ⟨blk.refs + 1, blk.freed⟩ (n + 1) :=
  ⟨by rw [h.1], by simp [h.not_freed hn]⟩

theorem BlockOk.release {blk : Block} {n : Nat} (h : BlockOk blk n) (hn : 0 < n) :
    BlockOk ⟨blk.refs - 1, blk.freed || (blk.refs - 1 == 0)⟩ (n - 1) :=
  ⟨by rw [h.1], by simp [h.not_freed hn, h.1]⟩

/-- `--` then `++` on a counter ≥ 2: not freed in between -/
theorem acquire_release_self (bs : List Block) {b : Nat} (hb : b < bs.length) (hr : 1 < (bs.getD b ⟨0, true⟩).refs)
    (hf : (bs.getD b ⟨0, true⟩).freed = false) : acquire (release bs b) b = bs := by
  rw [acquire, release_getD_self _ hb, release, List.set_set]
  refine set_getD_self (d := ⟨0, true⟩) _ hb ?_
  cases hx : bs.getD b ⟨0, true⟩ with
  | mk r f =>
    rw [hx] at hr hf
    simp only at hr hf
    have : r - 1 + 1 = r := by omega
    have : (r - 1 == 0) = false := by simp; omega
    simp [*]

/-! ### the member functions unfolded -/

theorem destroy_eq {s : Share} {k b0 : Nat} (hs : s.slot k = some b0) :
    sstep s (.destroy k) = { blocks := release s.blocks b0, slots := s.slots.set k none } := by
  simp only [sstep, hs]

theorem copy_eq {s : Share} {j b0 : Nat} (k : Nat) (hs : s.slot j = some b0) :
    sstep s (.copy k j) = { blocks := acquire s.blocks b0, slots := s.slots.set k (some b0) } := by
  simp only [sstep, hs]

/-! ### `SInv` -/

theorem sinv_init : SInv initShare := by
  refine ⟨?_, ?_⟩
  · intro b hb; simp [initShare] at hb
  · intro k b hs
    have := mem_of_getD_some hs
    simp [initShare] at this

theorem sinv_new {s : Share} {k : Nat} (h : SInv s) (hk : k < s.slots.length) (hn : s.slot k = none) :
    SInv (sstep s (.new k)) := by
  obtain ⟨h1, h2⟩ := h
  refine ⟨?_, ?_⟩
  · intro b hb
    simp only [sstep, List.length_append, List.length_singleton] at hb
    show BlockOk ((s.blocks ++ [(⟨1, false⟩ : Block)]).getD b ⟨0, true⟩) ((s.slots.set k (some s.blocks.length)).count (some b))
    rw [count_set_of_none hk hn]
    by_cases hbn : b = s.blocks.length
    · subst hbn
      rw [getD_append_length, count_eq_zero_of_bound h2, if_pos rfl]
      exact ⟨rfl, by simp⟩
    · rw [getD_append_left _ _ _ (by omega), if_neg (fun e => hbn (Option.some.inj e).symm)]
      exact h1 b (by omega)
  · intro k' b hs
    have := getD_set_bound (n := s.blocks.length + 1) (fun k b h => Nat.lt_succ_of_lt (h2 k b h)) k _
      (fun b e => by cases e; exact Nat.lt_succ_self _) k' b hs
    simpa [sstep] using this

theorem sinv_copy {s : Share} {k j b0 : Nat} (h : SInv s) (hk : k < s.slots.length) (hn : s.slot k = none)
    (hj : s.slot j = some b0) : SInv (sstep s (.copy k j)) := by
  obtain ⟨h1, h2⟩ := h
  rw [copy_eq k hj]
  refine ⟨?_, ?_⟩
  · intro b hb
    simp only [acquire_length] at hb
    show BlockOk ((acquire s.blocks b0).getD b ⟨0, true⟩) ((s.slots.set k (some b0)).count (some b))
    rw [count_set_of_none hk hn]
    by_cases hbb : b0 = b
    · subst hbb
      rw [acquire_getD_self _ hb, if_pos rfl]
      exact BlockOk.acquire (h1 b0 hb) (count_pos_of_getD hj)
    · rw [acquire_getD_ne _ hbb, if_neg (fun e => hbb (Option.some.inj e))]
      exact h1 b hb
  · simp only [acquire_length]
    exact getD_set_bound h2 k _ (fun b e => by cases e; exact h2 j b0 hj)

theorem sinv_destroy {s : Share} {k b0 : Nat} (h : SInv s) (hs : s.slot k = some b0) :
    SInv (sstep s (.destroy k)) := by
  obtain ⟨h1, h2⟩ := h
  rw [destroy_eq hs]
  refine ⟨?_, ?_⟩
  · intro b hb
    simp only [release_length] at hb
    show BlockOk ((release s.blocks b0).getD b ⟨0, true⟩) ((s.slots.set k none).count (some b))
    rw [count_set_none hs]
    by_cases hbb : b0 = b
    · subst hbb
      rw [release_getD_self _ hb, if_pos rfl]
      exact BlockOk.release (h1 b0 hb) (count_pos_of_getD hs)
    · rw [release_getD_ne _ hbb, if_neg hbb]
      exact h1 b hb
  · simp only [release_length]
    exact getD_set_bound h2 k none nofun

/-- `operator=` as written: `(*numRefs)--; if (*numRefs==0) delete…; numRefs = F.numRefs; (*numRefs)++` -/
theorem assign_eq_destroy_then_copy {s : Share} {k j bk bj : Nat} (hkj : k ≠ j) (hk : s.slot k = some bk)
    (hj : s.slot j = some bj) :
    sstep s (.assign k j) = sstep (sstep s (.destroy k)) (.copy k j) := by
  have hj' : ({ blocks := release s.blocks bk, slots := s.slots.set k none } : Share).slot j = some bj := by
    simp only [Share.slot]; rw [getD_set_ne _ _ _ hkj]; exact hj
  rw [destroy_eq hk, copy_eq k hj']
  simp only [sstep, hk, hj, if_neg hkj, List.set_set]

/-! ### the history machine -/

theorem hrun_cons (s : Slots) (op : HOp) (rest : List HOp) :
    hrun s (op :: rest)
      = ((hrun (hstep s op).1 rest).1, (hstep s op).2.toList ++ (hrun (hstep s op).1 rest).2) := rfl

theorem hstep_state (s : Slots) (op : HOp) :
    (hstep s op).1 = s ∨ ∃ k v, (hstep s op).1 = s.set k v ∧
      (v = none ∨ (∃ j, v = s.get j) ∨ ∃ p, op = .new k p ∧ v = some p) := by
  cases op with
  | new k p => exact Or.inr ⟨k, some p, rfl, Or.inr (Or.inr ⟨p, rfl, rfl⟩)⟩
  | copy k j => exact Or.inr ⟨k, s.get j, rfl, Or.inr (Or.inl ⟨j, rfl⟩)⟩
  | assign k j =>
    simp only [hstep]
    split
    · rename_i pj _ hj
      exact Or.inr ⟨k, some pj, rfl, Or.inr (Or.inl ⟨j, hj.symm⟩)⟩
    · exact Or.inl rfl
  | selfassign k => exact Or.inl rfl
  | destroy k => exact Or.inr ⟨k, none, rfl, Or.inl rfl⟩
  | probe k => exact Or.inl rfl

theorem hstep_length (s : Slots) (op : HOp) : (hstep s op).1.length = s.length := by
  rcases hstep_state s op with h | ⟨k, v, h, _⟩
  · rw [h]
  · rw [h]; exact List.length_set

theorem hrun_length (s : Slots) (ops : List HOp) : (hrun s ops).1.length = s.length := by
  induction ops generalizing s with
  | nil => rfl
  | cons op rest ih => rw [hrun_cons]; simp only; rw [ih, hstep_length]

end Givaro.Lemmas.Domain
