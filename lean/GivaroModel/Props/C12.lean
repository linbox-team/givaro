/-
C12 — primality tests and integer factorisation return correct, complete answers.

Theorems about the models `Model/Primes.lean`, `PrimesPower.lean`, `PrimesFactor.lean`, `PrimesContainers.lean`, `PrimesMisc.lean` of
givintprime.{h,C,inl}, givintfactor.{h,inl}, gmp++_int_misc.C (the models mirror the repaired code, fixes/C12_*; the `_unfixed`
definitions keep the code as it was, for the counterexamples).
The tables the theorems speak about (`ipAt`, `ip2At`, …) are re-extracted from the working tree on every run.
`mpz_probab_prime_p` (n ≥ 2^16) and Pollard/Lenstra are oracles: the theorems hold for every oracle satisfying the stated
contract; the correspondence certifies each answer of the real code.
-/
import GivaroModel.Lemmas.PrimesLemmas
import GivaroModel.Lemmas.PrimesTabSearch
import GivaroModel.Lemmas.PrimesPower
import GivaroModel.Lemmas.PrimesDivisors
import GivaroModel.Lemmas.PrimesFactor
import GivaroModel.Lemmas.PrimesFermat
import GivaroModel.Lemmas.Primes16All
import GivaroModel.Lemmas.PrimesContainers
namespace Givaro.Props.C12
open Givaro Givaro.Model.Primes Givaro.Spec.Primes Givaro.Lemmas.Primes Givaro.Lemmas.PrimesTab

/-! ## Primality -/

theorem isPrimeDec_iff (n : Nat) : isPrimeDec n = true ↔ Nat.Prime n := isPrimeDec_iff_prime n

/-- `isprime(n)` for every n of the tabulated range: the hand-rolled search over `IP` / `IP2` (padding entries
    included) returns 1 exactly for the primes and 0 otherwise, whatever the oracle.
    (Lemmas/PrimesTabWalk.lean: the search tree of each table is walked once in the kernel.) -/
theorem isprime_table_correct (oracle : Int → Int) (n : Nat) (h : n < 65536) :
    isprime oracle (n : Int) = some (if Nat.Prime n then 1 else 0) :=
  isprime_small oracle n h

/-- contract of `mpz_probab_prime_p` assumed above the tables: 0 for composites, 1 or 2 for primes -/
def OracleOK (oracle : Int → Int) : Prop :=
  ∀ n : Int, 65536 ≤ n → (oracle n = 0 ∧ ¬ Nat.Prime n.toNat) ∨ ((oracle n = 1 ∨ oracle n = 2) ∧ Nat.Prime n.toNat)

/-- the dispatch of `isprime` as one equation: the tables answer below 2^16, the oracle above -/
theorem isprime_eq (oracle : Int → Int) (n : Int) :
    isprime oracle n = some (if n < 65536 then (if Nat.Prime n.toNat then 1 else 0) else wrapS32 (oracle n)) := by
  by_cases h3 : n < 65536
  · rw [if_pos h3]
    by_cases h0 : 0 ≤ n
    · have := isprime_table_correct oracle n.toNat (by omega)
      rwa [Int.toNat_of_nonneg h0] at this
    · rw [if_neg (not_prime_le_one n (by omega))]
      exact if_pos (by omega)
  · rw [if_neg h3]
    have : BOUNDARY_isprime = 32768 ∧ BOUNDARY_2_isprime = 65536 := ⟨rfl, rfl⟩
    unfold isprime
    rw [if_neg (by omega), if_neg (by omega), if_neg (by omega)]

/-- the three-way dispatch of `isprime` answers the primality question for every integer (negative ones
    included), for every oracle meeting the GMP contract -/
theorem isprime_correct (oracle : Int → Int) (hor : OracleOK oracle) (n : Int) :
    ispB oracle n = true ↔ Nat.Prime n.toNat := by
  unfold ispB
  rw [isprime_eq]
  by_cases h3 : n < 65536
  · by_cases hp : Nat.Prime n.toNat <;> simp [h3, hp]
  · rcases hor n (by omega) with ⟨h0, hp⟩ | ⟨h12, hp⟩
    · simp [h3, h0, hp, wrapS32]
    · rcases h12 with h | h <;> simp [h3, h, hp, wrapS32]

/-- no argument makes `isprime` read outside `IP` / `IP2` (`none` is the model's out-of-bounds read) -/
theorem search_in_bounds (oracle : Int → Int) (n : Int) : (isprime oracle n).isSome = true := by
  rw [isprime_eq]; rfl

/-- the defect repaired by fixes/C12_2: the unchanged dispatch sent negative arguments to the table search, where
    -1 matches the `-1` padding entry (and -(2^32)+7 is truncated to 7) -/
theorem isprime_unfixed_counterexample :
    isprime_unfixed (fun _ => 0) (-1) = some 1 ∧ isprime_unfixed (fun _ => 0) (-4294967289) = some 1 := by
  decide +kernel

/-! ## nextprime / prevprime -/

/-- for every primality predicate that is right, `nextprime` returns the closest prime strictly above `p`, no prime skipped -/
theorem nextprime_closest (isp : Int → Bool) (hisp : ∀ n, isp n = true ↔ Nat.Prime n.toNat)
    (p : Int) (fuel : Nat) (r : Int) (h : nextprime isp fuel p = some r) :
    p < r ∧ Nat.Prime r.toNat ∧ ∀ m, p < m → m < r → ¬ Nat.Prime m.toNat := by
  by_cases hp : p ≤ 1
  · obtain rfl : 2 = r := Option.some.inj ((if_pos hp).symm.trans h)
    exact ⟨by omega, Nat.prime_two, fun m h1 h2 => not_prime_le_one m (by omega)⟩
  · obtain ⟨s, s1, s2, s3, e⟩ := nextprime_eq_stride isp hp
    obtain ⟨a, b, c⟩ := stride_closest hisp (Or.inl rfl) s1 ((e fuel).symm.trans h)
    refine ⟨by omega, a, fun m h1 h2 => ?_⟩
    -- an `m` below the start of the walk is even
    by_cases hm : s ≤ m
    · exact c m (by omega) (by omega) (by omega)
    · exact not_prime_even m (by omega) (by omega)

/-- the upward walk needs at most `p + 2` steps (Bertrand's postulate): an explicit fuel for `nextprime_closest` -/
theorem nextprime_terminates_bertrand (isp : Int → Bool) (hisp : ∀ n, isp n = true ↔ Nat.Prime n.toNat) (p : Int) :
    ∃ r, nextprime isp (p.toNat + 2) p = some r := by
  by_cases hp : p ≤ 1
  · exact ⟨2, if_pos hp⟩
  · obtain ⟨q, hq, hq1, hq2⟩ := Nat.exists_prime_lt_and_le_two_mul (p.toNat + 1) (by omega)
    have hodd : q % 2 = 1 := by
      rcases hq.eq_two_or_odd with h | h <;> omega
    obtain ⟨s, s1, s2, s3, e⟩ := nextprime_eq_stride isp hp
    rw [e]
    refine stride_isSome (k := ((q : Int) - s).toNat / 2) (by omega) ?_
    rw [show s + 2 * ((((q : Int) - s).toNat / 2 : Nat) : Int) = (q : Int) by omega, hisp]
    exact hq

theorem nextprime_terminates (isp : Int → Bool) (hisp : ∀ n, isp n = true ↔ Nat.Prime n.toNat) (p : Int) :
    ∃ fuel r, nextprime isp fuel p = some r :=
  ⟨_, nextprime_terminates_bertrand isp hisp p⟩

/-- `prevprime` returns the closest prime strictly below `p`, and the documented 2 when there is none -/
theorem prevprime_closest (isp : Int → Bool) (hisp : ∀ n, isp n = true ↔ Nat.Prime n.toNat)
    (p : Int) (fuel : Nat) (r : Int) (h : prevprime isp fuel p = some r) :
    if p ≤ 2 then r = 2 else (r < p ∧ Nat.Prime r.toNat ∧ ∀ m, r < m → m < p → ¬ Nat.Prime m.toNat) := by
  by_cases hp : p ≤ 3
  · obtain rfl : 2 = r := Option.some.inj ((if_pos hp).symm.trans h)
    split
    · rfl
    · exact ⟨by omega, Nat.prime_two, fun m h1 h2 => by omega⟩
  · rw [if_neg (by omega)]
    obtain ⟨s, s1, s2, s3, e⟩ := prevprime_eq_stride isp hp
    obtain ⟨a, b, c⟩ := stride_closest hisp (Or.inr rfl) s1 ((e fuel).symm.trans h)
    have := a.two_le
    refine ⟨by omega, a, fun m h1 h2 => ?_⟩
    by_cases hm : m ≤ s
    · exact c m (by omega) (by omega) (by omega)
    · exact not_prime_even m (by omega) (by omega)

/-- the downward walk terminates (it stops at 3 at the latest) -/
theorem prevprime_terminates (isp : Int → Bool) (hisp : ∀ n, isp n = true ↔ Nat.Prime n.toNat) (p : Int) :
    ∃ fuel r, prevprime isp fuel p = some r := by
  by_cases hp : p ≤ 3
  · exact ⟨0, 2, if_pos hp⟩
  · obtain ⟨s, s1, s2, s3, e⟩ := prevprime_eq_stride isp hp
    refine ⟨_, e _ ▸ stride_isSome (k := (s - 3).toNat / 2) (Nat.lt_succ_self _) ?_⟩
    rw [show s + -2 * (((s - 3).toNat / 2 : Nat) : Int) = 3 by omega, hisp]
    exact Nat.prime_three

/-- the same for the code as it is: `isprime` (tables + oracle) drives the walks -/
theorem nextprime_closest_code (oracle : Int → Int) (hor : OracleOK oracle) (p : Int) (fuel : Nat) (r : Int)
    (h : nextprime (ispB oracle) fuel p = some r) :
    p < r ∧ Nat.Prime r.toNat ∧ ∀ m, p < m → m < r → ¬ Nat.Prime m.toNat :=
  nextprime_closest (ispB oracle) (isprime_correct oracle hor) p fuel r h

theorem prevprime_closest_code (oracle : Int → Int) (hor : OracleOK oracle) (p : Int) (fuel : Nat) (r : Int)
    (h : prevprime (ispB oracle) fuel p = some r) :
    if p ≤ 2 then r = 2 else (r < p ∧ Nat.Prime r.toNat ∧ ∀ m, r < m → m < p → ¬ Nat.Prime m.toNat) :=
  prevprime_closest (ispB oracle) (isprime_correct oracle hor) p fuel r h

/-- `Protected::prevprime` (gmp++_int_misc.C) is the same walk -/
theorem protectedPrevprime_closest (isp : Int → Bool) (hisp : ∀ n, isp n = true ↔ Nat.Prime n.toNat)
    (p : Int) (fuel : Nat) (r : Int) (h : protectedPrevprime isp fuel p = some r) :
    if p ≤ 2 then r = 2 else (r < p ∧ Nat.Prime r.toNat ∧ ∀ m, r < m → m < p → ¬ Nat.Prime m.toNat) :=
  prevprime_closest isp hisp p fuel r h

/-- the defect repaired by fixes/C12_1 (+ C12_2): with the unchanged bound `p <= 2` and the unchanged `isprime`,
    `prevprime(3)` walks 1, -1 and returns -1 -/
theorem prevprime_unfixed_counterexample :
    prevprime_unfixed (fun n => isprime_unfixed (fun _ => 0) n != some 0) 10 3 = some (-1) := by
  decide +kernel

/-- and with a correct primality test the unchanged bound does not terminate from 3: no fuel suffices -/
theorem prevprime_unfixed_diverges (isp : Int → Bool) (hisp : ∀ n, isp n = true ↔ Nat.Prime n.toNat) (fuel : Nat) :
    prevprime_unfixed isp fuel 3 = none := by
  unfold prevprime_unfixed
  rw [if_neg (by omega), downLoop_eq_stride]
  exact stride_eq_none.2 fun k _ => isp_eq_false hisp (not_prime_le_one _ (by omega))

/-! ## Factorisation -/

/-- complete factorisation: for every oracle that returns a prime factor of every m > 1, `set` returns distinct primes with
    exponents ≥ 1 whose product is |n| (and reports the factorisation as complete) -/
theorem set_complete (pf : Nat → Nat) (hpf : ∀ m, 1 < m → Nat.Prime (pf m) ∧ pf m ∣ m) (n : Int) (hn : n ≠ 0) :
    ∃ fs, Givaro.Model.Primes.set pf n = some (fs, true) ∧ (∀ pe ∈ fs, Nat.Prime pe.1 ∧ 1 ≤ pe.2) ∧
      (fs.map Prod.fst).Nodup ∧ prodPow fs = n.natAbs := by
  obtain ⟨fs, c, h1, h2, h3, h4, h5, h6⟩ := set_partial_gen pf (fun m hm => ⟨(hpf m hm).1.one_le, (hpf m hm).2⟩)
    (fun m hm _ => (hpf m hm).1) n hn
  obtain rfl : c = true := h6 fun m hm => (hpf m hm).1.ne_one
  exact ⟨fs, h1, fun pe hpe => ⟨h5 rfl pe hpe, (h2 pe hpe).2⟩, h3, h4⟩

/-! ## Prime-power test (`IntPrimeDom::isprimepower`) -/

/-- For every integer `u` (0 and negatives included), every primality test and every `mpz_root` meeting their
    contracts: `isprimepower(q,u)` returns `e > 0` exactly when `u = p^k` for a prime `p` and `k ≥ 2`, and then `q = p`,
    `e = k`; it returns 0 otherwise (in particular for primes, 0, 1 and negative `u`).
    The only hypothesis besides the contracts is that the exponent fits the `unsigned int` return type
    (`u < 2^(2^32)`; a larger `u` would need 512 MiB). -/
theorem isprimepower_exact (isp : Int → Bool) (hisp : ∀ n : Int, isp n = true ↔ Nat.Prime n.toNat)
    (root : Nat → Nat → Nat) (hroot : RootOK root) (u : Int) (hu : Nat.log2 u.toNat < 4294967296) :
    (0 < (isprimepower isp root u).1 ↔ ∃ p k, Nat.Prime p ∧ 2 ≤ k ∧ ((p : Int)) ^ k = u) ∧
    (∀ p k, Nat.Prime p → 2 ≤ k → ((p : Int)) ^ k = u → isprimepower isp root u = (k, p)) := by
  obtain ⟨h0, hpos⟩ := isprimepower_spec isp hisp root hroot u hu
  have cast : ∀ p k : Nat, 0 < p → ((p : Int)) ^ k = u → 0 < u ∧ p ^ k = u.toNat := by
    intro p k hp0 h
    have h' : ((p ^ k : Nat) : Int) = u := by push_cast; exact h
    have hpk : 0 < p ^ k := Nat.pow_pos hp0
    constructor <;> omega
  have value : ∀ p k, Nat.Prime p → 2 ≤ k → ((p : Int)) ^ k = u → isprimepower isp root u = (k, p) := by
    intro p k hp hk h
    obtain ⟨hupos, hnat⟩ := cast p k hp.pos h
    have hs := hpos hupos
    have hne : (isprimepower isp root u).1 ≠ 0 := fun hz => hs.2 hz ⟨p, k, hp, hk, hnat⟩
    obtain ⟨hq, _, hqe⟩ := hs.1 (by omega)
    obtain ⟨e1, e2⟩ := prime_pow_unique hp hq (by omega) (hqe.trans hnat.symm)
    exact Prod.ext e2 e1
  refine ⟨⟨fun hpos' => ?_, fun ⟨p, k, hp, hk, h⟩ => by rw [value p k hp hk h]; omega⟩, value⟩
  by_cases hu0 : u ≤ 0
  · have := h0 hu0; omega
  · obtain ⟨hq, he, hqe⟩ := (hpos (by omega)).1 hpos'
    refine ⟨_, _, hq, he, ?_⟩
    have : (((isprimepower isp root u).2 ^ (isprimepower isp root u).1 : Nat) : Int) = u := by rw [hqe]; omega
    push_cast at this; exact this

/-- soundness alone, in the shape the harness checks: a positive answer is a certificate -/
theorem isprimepower_sound (isp : Int → Bool) (hisp : ∀ n : Int, isp n = true ↔ Nat.Prime n.toNat)
    (root : Nat → Nat → Nat) (hroot : RootOK root) (u : Int) (hu : Nat.log2 u.toNat < 4294967296)
    (h : 0 < (isprimepower isp root u).1) :
    Nat.Prime (isprimepower isp root u).2 ∧ 2 ≤ (isprimepower isp root u).1 ∧
      (((isprimepower isp root u).2 : Nat) : Int) ^ (isprimepower isp root u).1 = u := by
  obtain ⟨p, k, hp, hk, hpk⟩ := (isprimepower_exact isp hisp root hroot u hu).1.1 h
  rw [(isprimepower_exact isp hisp root hroot u hu).2 p k hp hk hpk]
  exact ⟨hp, hk, hpk⟩

/-- the code as it is: `isprime` (tables + GMP oracle) as the primality test -/
theorem isprimepower_exact_code (oracle : Int → Int) (hor : OracleOK oracle) (root : Nat → Nat → Nat) (hroot : RootOK root)
    (u : Int) (hu : Nat.log2 u.toNat < 4294967296) :
    (0 < (isprimepower (ispB oracle) root u).1 ↔ ∃ p k, Nat.Prime p ∧ 2 ≤ k ∧ ((p : Int)) ^ k = u) ∧
    (∀ p k, Nat.Prime p → 2 ≤ k → ((p : Int)) ^ k = u → isprimepower (ispB oracle) root u = (k, p)) :=
  isprimepower_exact (ispB oracle) (isprime_correct oracle hor) root hroot u hu

/-- the bisection the driver substitutes for `mpz_root` meets the contract (so the compared model is covered) -/
theorem iroot_meets_contract : RootOK Givaro.Model.Primes.iroot := by
  intro u k hk
  unfold Givaro.Model.Primes.iroot
  rw [if_neg (by omega)]
  apply irootAux_spec
  · exact Nat.pow_pos (by omega)
  · simp only [Nat.sub_zero]
    apply Nat.pow_le_pow_right (by omega)
    have : Nat.log2 u / k ≤ Nat.log2 u := Nat.div_le_self _ _
    omega
  · rw [Nat.zero_pow (by omega)]; omega
  · rw [← pow_mul]
    calc u < 2 ^ (Nat.log2 u + 1) := Nat.lt_log2_self
      _ ≤ 2 ^ ((Nat.log2 u / k + 1) * k) := by
        apply Nat.pow_le_pow_right (by omega)
        have := Nat.lt_div_mul_add (a := Nat.log2 u) (b := k) (by omega)
        have e : (Nat.log2 u / k + 1) * k = Nat.log2 u / k * k + k := by ring
        omega

/-- the witness input of the defect repaired by fixes/C12_4: `1013^4` has the exact square root `1013^2`, which is not prime; the
    loop as it was ended the search there and answered 0 (the statement is about the input only, the old loop is not modelled) -/
theorem isprimepower_unfixed_counterexample :
    (let q := Givaro.Model.Primes.iroot (1013 ^ 4) 2; q ^ 2 = 1013 ^ 4 ∧ isPrimeDec q = false) := by decide +kernel

/-! ## Divisor list -/

/-- the divisor list computed from a factorisation into primes is exactly the set of positive divisors of the product -/
theorem divisors_exact (fs : List (Nat × Nat)) (hp : ∀ pe ∈ fs, Nat.Prime pe.1) (x : Nat) :
    x ∈ divisors fs ↔ x ∣ prodPow fs := by
  induction fs using List.reverseRecOn generalizing x with
  | nil => exact List.mem_singleton.trans Nat.dvd_one.symm
  | append_singleton fs pe ih =>
    have hfs : ∀ pe ∈ fs, Nat.Prime pe.1 := fun q hq => hp q (List.mem_append_left _ hq)
    rw [divisors_snoc, prodPow_snoc]
    exact mem_divisorsStep_iff_dvd (hp pe (by simp)) (ih hfs) pe.2 x

/-- the list built by `divisors(L, Lf, Le)` has no duplicates … -/
theorem divisors_nodup (fs : List (Nat × Nat)) (hp : ∀ pe ∈ fs, Nat.Prime pe.1) (hnd : (fs.map Prod.fst).Nodup) :
    (divisors fs).Nodup := by
  induction fs using List.reverseRecOn with
  | nil => exact List.nodup_singleton 1
  | append_singleton fs pe ih =>
    have hfs : ∀ pe ∈ fs, Nat.Prime pe.1 := fun q hq => hp q (List.mem_append_left _ hq)
    have hpe := hp pe (by simp)
    rw [List.map_append, List.nodup_append] at hnd
    rw [divisors_snoc]
    -- a divisor of the product of the earlier prime powers is not divisible by the new prime
    refine divisorsStep_nodup _ pe.1 pe.2 hpe (ih hfs hnd.1) fun d hd hpd => ?_
    exact hnd.2.2 _ (mem_of_prime_dvd_prodPow hfs hpe (Nat.dvd_trans hpd ((divisors_exact fs hfs d).1 hd))) _
      (List.mem_singleton_self _) rfl

/-- … and is, as a set, exactly `Nat.divisors` of the product (with `divisors_nodup`: each divisor exactly once) -/
theorem divisors_eq_nat_divisors (fs : List (Nat × Nat)) (hp : ∀ pe ∈ fs, Nat.Prime pe.1) :
    (divisors fs).toFinset = Nat.divisors (prodPow fs) := by
  ext x
  rw [List.mem_toFinset, divisors_exact fs hp, Nat.mem_divisors]
  exact ⟨fun h => ⟨h, prodPow_ne_zero fs hp⟩, fun h => h.1⟩

/-- `divisors(L, n)` = `set` then the construction: for every `n ≠ 0` and every prime-factor oracle the result lists every
    positive divisor of `n` exactly once -/
theorem divisors_of_set (pf : Nat → Nat) (hpf : ∀ m, 1 < m → Nat.Prime (pf m) ∧ pf m ∣ m) (n : Int) (hn : n ≠ 0) :
    ∃ fs, Givaro.Model.Primes.set pf n = some (fs, true) ∧ (divisors fs).Nodup ∧
      (divisors fs).toFinset = Nat.divisors n.natAbs := by
  obtain ⟨fs, h1, h2, h3, h4⟩ := set_complete pf hpf n hn
  refine ⟨fs, h1, divisors_nodup fs (fun pe h => (h2 pe h).1) h3, ?_⟩
  rw [divisors_eq_nat_divisors fs (fun pe h => (h2 pe h).1), h4]

/-! ## The factor-driver loops (`factor`, `iffactorprime`, `primefactor`, `set` with and without `loops`) -/

/-- `factor(r,n,0)`: the returned factor divides `n`, is > 1, and is non-trivial when `n > 1` is composite — for every rho
    oracle meeting the `loops = 0` contract (a non-trivial divisor of every composite) -/
theorem factor_nontrivial (isp : Int → Bool) (hisp : ∀ n : Int, isp n = true ↔ Nat.Prime n.toNat)
    (rho : Int → Int) (hrho : RhoFull rho) (n : Int) (hn : 1 < n) :
    factorP isp rho n ∣ n ∧ 1 < factorP isp rho n ∧ factorP isp rho n ≤ n ∧
      (¬ Nat.Prime n.toNat → factorP isp rho n < n) := factorP_full isp hisp rho hrho n hn

/-- `iffactorprime(r,n,0)` returns a prime factor of every `n > 1` (the loop `while (!isprime(r))` descends through proper
    divisors; `n + 1` iterations always suffice; Lenstra is never reached) -/
theorem iffactorprime_prime (isp : Int → Bool) (hisp : ∀ n : Int, isp n = true ↔ Nat.Prime n.toNat)
    (rho : Nat → Int → Int) (hrho : ∀ i, RhoFull (rho i)) (ecm : Int → Int) (n : Int) (hn : 1 < n) :
    ∃ r, iffactorprime isp rho ecm (n.toNat + 1) n = some r ∧ Nat.Prime r.toNat ∧ r ∣ n ∧ 1 < r :=
  iffactorprime_full isp hisp rho hrho ecm n hn (n.toNat + 1) (by omega)

theorem primefactor_prime (isp : Int → Bool) (hisp : ∀ n : Int, isp n = true ↔ Nat.Prime n.toNat)
    (rho : Nat → Nat → Int → Int) (hrho : ∀ k i, RhoFull (rho k i)) (ecm : Int → Int) (n : Int) (hn : 1 < n) (fuel : Nat) :
    ∃ r, primefactor isp rho ecm (fuel + 1) n = some r ∧ Nat.Prime r.toNat ∧ r ∣ n := by
  unfold primefactor primefactorLoop
  obtain ⟨r, h1, h2, h3, h4⟩ := iffactorprime_full isp hisp (rho 0) (hrho 0) ecm n hn (n.toNat + 2) (by omega)
  rw [h1]
  exact ⟨r, if_neg (fun h => by omega), h2, h3⟩

/-- `primefactor(r,1)` does not return, whatever the oracles (a hang on the real code; outside the property: 1 has no
    prime factor) -/
theorem primefactor_one_never_returns (isp : Int → Bool) (hisp : ∀ n : Int, isp n = true ↔ Nat.Prime n.toNat)
    (rho : Nat → Nat → Int → Int) (ecm : Int → Int) (fuel : Nat) : primefactor isp rho ecm fuel 1 = none := by
  have h1 : isp 1 = false := isp_eq_false hisp (by decide)
  have hif : ∀ k, iffactorprime isp (rho k) ecm ((1 : Int).toNat + 2) 1 = some 1 := by
    intro k
    have : factorP isp (rho k 0) 1 = 1 := by
      unfold factorP factor pollard
      have a : Int.gcd 1 (PROD_first_primes : Int) = 1 := by decide
      have b : Int.gcd 1 (PROD_second_primes : Int) = 1 := by decide
      simp [a, b]
    unfold iffactorprime
    simp [this]
  have key : ∀ (f k : Nat), primefactorLoop isp rho ecm f k 1 = none := by
    intro f
    induction f with
    | zero => intro k; rfl
    | succ g ih =>
      intro k
      unfold primefactorLoop
      rw [hif k]
      simp only [h1, Bool.not_false, and_self, ↓reduceIte]
      exact ih (k + 1)
  exact key fuel 0

/-- Partial contract of the `loops`-bounded `set`. For any oracle returning a positive divisor (1 = "no factor found
    within `loops`", composite answers allowed): the loop terminates, the bases are ≥ 2 and pairwise distinct, the
    exponents ≥ 1, the product is `|n|`; and when every non-failure answer is prime, the returned flag `true` certifies
    that all bases are prime. -/
theorem set_partial (pf : Nat → Nat) (hpf : ∀ m, 1 < m → 1 ≤ pf m ∧ pf m ∣ m)
    (hprime : ∀ m, 1 < m → pf m ≠ 1 → Nat.Prime (pf m)) (n : Int) (hn : n ≠ 0) :
    ∃ fs c, Givaro.Model.Primes.set pf n = some (fs, c) ∧ (∀ pe ∈ fs, 2 ≤ pe.1 ∧ 1 ≤ pe.2) ∧
      (fs.map Prod.fst).Nodup ∧ prodPow fs = n.natAbs ∧ (c = true → ∀ pe ∈ fs, Nat.Prime pe.1) := by
  obtain ⟨fs, c, h1, h2, h3, h4, h5, _⟩ := set_partial_gen pf hpf hprime n hn
  exact ⟨fs, c, h1, h2, h3, h4, h5⟩

/-- `set(Lf, Lo, n)` as the code runs it (`iffactorprime` inside the loop, cascades + Pollard inside `iffactorprime`):
    complete factorisation of every `n ≠ 0` into distinct primes, for every primality test and rho oracle meeting their
    contracts -/
theorem setCode_complete (isp : Int → Bool) (hisp : ∀ n : Int, isp n = true ↔ Nat.Prime n.toNat)
    (rho : Nat → Nat → Int → Int) (hrho : ∀ k i, RhoFull (rho k i)) (ecm : Int → Int) (n : Int) (hn : n ≠ 0) :
    ∃ fs, setCode isp rho ecm n = some (fs, true) ∧ (∀ pe ∈ fs, Nat.Prime pe.1 ∧ 1 ≤ pe.2) ∧
      (fs.map Prod.fst).Nodup ∧ prodPow fs = n.natAbs :=
  set_complete (pfOf isp rho ecm) (fun m hm => pfOf_full isp hisp rho hrho ecm m hm) n hn

/-- `set(Lf, n)` (one container; `primefactor` inside the loop): the distinct prime factors of `|n|`, each exactly once, for every
    `n ≠ 0` (negative `n` with fixes/C12_6) and every prime-factor oracle -/
theorem set1_complete (pf : Nat → Nat) (hpf : ∀ m, 1 < m → Nat.Prime (pf m) ∧ pf m ∣ m) (n : Int) (hn : n ≠ 0) :
    ∃ ps, set1 pf n = some ps ∧ ps.Nodup ∧ ∀ p, p ∈ ps ↔ Nat.Prime p ∧ p ∣ n.natAbs := by
  obtain ⟨fs, h1, h2, h3, h4⟩ := set_complete pf hpf n hn
  have hsim := set1Loop_sim pf (fun m hm => (hpf m hm).1.ne_one) (n.natAbs + 1) n.natAbs [] true
  refine ⟨fs.map Prod.fst, ?_, h3, fun p => ⟨fun hp => ?_, fun ⟨hp, hd⟩ => ?_⟩⟩
  · unfold Givaro.Model.Primes.set at h1
    unfold set1
    simpa [h1] using hsim
  · obtain ⟨pe, hpe, rfl⟩ := List.mem_map.1 hp
    exact ⟨(h2 pe hpe).1, h4 ▸ dvd_prodPow_of_mem hpe (h2 pe hpe).2⟩
  · exact mem_of_prime_dvd_prodPow (fun pe h => (h2 pe h).1) hp (h4 ▸ hd)

/-- the defect repaired by fixes/C12_6: the unchanged one-container `set` returned nothing for a negative argument -/
theorem set1_unfixed_counterexample (pf : Nat → Nat) : set1_unfixed pf (-15) = some [] := by
  unfold set1_unfixed; simp

/-- the factor list is not sorted in general: the cascade tests 23, 19, 17 before 2, 3, … (`set(561)` on the real code
    returns 17, 3, 11 as well); the property does not ask for an order -/
theorem set_not_sorted :
    Givaro.Model.Primes.set (fun m => (factor (fun x => x) (m : Int)).toNat) 561 = some ([(17, 1), (3, 1), (11, 1)], true) := by
  decide +kernel

/-! ## The Lenstra (ECM) variant: `Lenstra(…)` and `factor` in a build with `-DGIVARO_LENSTRA` -/

/-- with curves that return a non-trivial divisor of every composite, `Lenstra` (guards `n<3`, `isprime`, `%2`, `%3` included)
    and `factor` routed through it return a non-trivial divisor of every composite `n > 1` -/
theorem factor_nontrivial_lenstra (isp : Int → Bool) (hisp : ∀ n : Int, isp n = true ↔ Nat.Prime n.toNat)
    (ecm : Int → Int) (hecm : EcmFull ecm) (n : Int) (hn : 1 < n) :
    factorLen isp ecm n ∣ n ∧ 1 < factorLen isp ecm n ∧ factorLen isp ecm n ≤ n ∧
      (¬ Nat.Prime n.toNat → factorLen isp ecm n < n) := factorLen_full isp hisp ecm hecm n hn

/-- what holds of `factor` through `Lenstra` for the curves as they are (`EcmObserved`): the failure value -1, or a divisor > 1
    (possibly `n`) -/
theorem factor_nontrivial_lenstra_partial (isp : Int → Bool) (hisp : ∀ n : Int, isp n = true ↔ Nat.Prime n.toNat)
    (ecm : Int → Int) (hecm : EcmObserved ecm) (n : Int) (hn : 1 < n) :
    factorLen isp ecm n = -1 ∨ (factorLen isp ecm n ∣ n ∧ 1 < factorLen isp ecm n ∧ factorLen isp ecm n ≤ n) :=
  factor_cases _ n hn (fun r => r = -1 ∨ (r ∣ n ∧ 1 < r ∧ r ≤ n))
    (fun _ hc hd => have h := FactorOK.of_prime_dvd hn hc hd; Or.inr ⟨h.1, h.2.1, h.2.2.1⟩) (lenstra_partial isp ecm hecm n)

/-- `factor_nontrivial_lenstra` with `EcmObserved` in place of `EcmFull` (`… ∧ (¬ Nat.Prime n.toNat → factorLen isp ecm n < n)`)
    is false.  Known finding C12-lenstra-trivial: an outcome the real curves do produce (`Lenstra(…, 994009 = 997², B1 = 2000, 8 curves)` returns
    994009; the harness replays it) makes the returned "factor" of a composite trivial -/
theorem factor_nontrivial_lenstra_counterexample :
    ¬ (∀ (ecm : Int → Int), EcmObserved ecm → ∀ n : Int, 1 < n → ¬ Nat.Prime n.toNat →
        factorLen (fun m : Int => isPrimeDec m.toNat) ecm n < n) := by
  intro h
  have hobs : EcmObserved (fun m => m) := fun m hm => Or.inr ⟨by show (1 : Int) < m; omega, Int.le_refl m, Int.dvd_refl m⟩
  have := h (fun m => m) hobs 994009 (by decide) (Nat.not_prime_of_mul_eq (a := 997) (b := 997) rfl (by decide) (by decide))
  revert this
  decide +kernel

/-- `iffactorprime` of the `-DGIVARO_LENSTRA` build (Lenstra in the two leading `factor` calls, Pollard in the loop) returns a prime
    factor of every `n > 1` under the full contracts -/
theorem iffactorprime_prime_lenstra (isp : Int → Bool) (hisp : ∀ n : Int, isp n = true ↔ Nat.Prime n.toNat)
    (ecmF : Nat → Int → Int) (hecmF : ∀ i, EcmFull (ecmF i)) (rho : Nat → Int → Int) (hrho : ∀ i, RhoFull (rho i))
    (ecm : Int → Int) (n : Int) (hn : 1 < n) :
    ∃ r, iffactorprimeL isp ecmF rho ecm (n.toNat + 1) n = some r ∧ Nat.Prime r.toNat ∧ r ∣ n ∧ 1 < r := by
  have h0 := factorLen_full isp hisp (ecmF 0) (hecmF 0) n hn
  unfold iffactorprimeL
  rw [if_pos (by have := h0.2.1; omega)]
  exact ifp_tail isp hisp rho hrho ecm _ (factorLen_full isp hisp (ecmF 1) (hecmF 1)) h0 _ (by omega)

/-! ## Fermat numbers (`FermatDom`) -/

/-- `fermat(f, n)` is `2^(2^n) + 1` for every n the `unsigned` shift `1u << n` admits -/
theorem fermat_exact (n : Nat) (hn : n < 32) : fermat n = Nat.fermatNumber n := by
  unfold fermat Nat.fermatNumber
  have h : 2 ^ n < 4294967296 := by
    calc 2 ^ n < 2 ^ 32 := Nat.pow_lt_pow_right (by omega) hn
      _ = 4294967296 := by norm_num
  rw [Nat.mod_eq_of_lt h, Nat.one_mul]

/-- `pepin(n)` answers true exactly when the Fermat number is prime (n = 0 with fixes/C12_7) -/
theorem pepin_iff_prime (n : Nat) (hn : n < 32) : pepin n = true ↔ Nat.Prime (Nat.fermatNumber n) := by
  unfold pepin
  by_cases h0 : n = 0
  · subst h0; simp [Nat.fermatNumber]; exact Nat.prime_three
  · rw [if_neg h0, fermat_exact n hn, pepinOf_iff _ (Nat.two_lt_fermatNumber n), pepin_criterion n (by omega)]

/-- the defect repaired by fixes/C12_7: base 3 is not coprime to `F_0 = 3`, the unchanged `pepin(0)` answered false for a prime -/
theorem pepin_unfixed_counterexample : pepin_unfixed 0 = false ∧ Nat.Prime (Nat.fermatNumber 0) := by
  refine ⟨by decide +kernel, ?_⟩
  rw [Nat.fermatNumber_zero]; exact Nat.prime_three

/-! ## `Primes16` -/

/-- `Primes16::_primes` (as extracted from givprimes16.C) is exactly the increasing list of the primes
    below 2^16 (the table as a bit set is what the sieve by the primes below 2^8 leaves, and it is increasing: Lemmas/Primes16All.lean) … -/
theorem primes16_exact : primes16 = (List.range 65536).filter (fun n => decide (Nat.Prime n)) :=
  Givaro.Lemmas.Primes16.primes16_eq_filter

/-- … so `ith(i)` enumerates them and `count()` is their number -/
theorem primes16_mem (p : Nat) : p ∈ primes16 ↔ Nat.Prime p ∧ p < 65536 :=
  Givaro.Lemmas.Primes16.mem_primes16 p

theorem primes16_count : primes16.length = primes16Size := by
  rw [primes16, List.length_flatten]
  decide +kernel

/-! ## Output containers that are not empty on entry -/

/-- `divisors(L, Lf, Le)` (hence `divisors(L, n)`) assigns its result: whatever `L` held before — a previous result, junk, the
    list of factors itself — the list left in `L` is the divisor list of the input alone -/
theorem divisorsInto_eq (old : List Nat) (fs : List (Nat × Nat)) : divisorsInto old fs = divisors fs := rfl

/-- … so on a reused container it is still exactly `Nat.divisors`, each divisor once -/
theorem divisorsInto_exact (old : List Nat) (fs : List (Nat × Nat)) (hp : ∀ pe ∈ fs, Nat.Prime pe.1)
    (hnd : (fs.map Prod.fst).Nodup) :
    (divisorsInto old fs).Nodup ∧ (divisorsInto old fs).toFinset = Nat.divisors (prodPow fs) :=
  ⟨divisors_nodup fs hp hnd, divisors_eq_nat_divisors fs hp⟩

/-- `set(Lf, Lo, n)` appends: on containers that already hold `old`, the result is `old` followed by the factorisation `set`
    computes from empty containers, and the flag is the same -/
theorem setInto_eq (pf : Nat → Nat) (old : List (Nat × Nat)) (n : Int) :
    setInto pf old n = (Givaro.Model.Primes.set pf n).map (fun r => (old ++ r.1, r.2)) := by
  unfold setInto Givaro.Model.Primes.set
  simpa using setLoop_append pf (n.natAbs + 1) n.natAbs [] old.reverse true

/-- … hence, for every prime-factor oracle and `n ≠ 0`: `old` untouched in front, then distinct primes with product `|n|` -/
theorem setInto_complete (pf : Nat → Nat) (hpf : ∀ m, 1 < m → Nat.Prime (pf m) ∧ pf m ∣ m) (old : List (Nat × Nat))
    (n : Int) (hn : n ≠ 0) :
    ∃ fs, setInto pf old n = some (old ++ fs, true) ∧ (∀ pe ∈ fs, Nat.Prime pe.1 ∧ 1 ≤ pe.2) ∧
      (fs.map Prod.fst).Nodup ∧ prodPow fs = n.natAbs := by
  obtain ⟨fs, h1, h2⟩ := set_complete pf hpf n hn
  exact ⟨fs, by rw [setInto_eq, h1]; rfl, h2⟩

/-- `set(Lf, n)` appends likewise -/
theorem set1Into_eq (pf : Nat → Nat) (old : List Nat) (n : Int) :
    set1Into pf old n = (set1 pf n).map (fun r => old ++ r) := by
  unfold set1Into set1
  simpa using set1Loop_append pf (n.natAbs + 1) n.natAbs [] old.reverse

/-! ## Non-vacuity of the hypotheses -/

/-- an oracle meeting the contract exists (the reference test itself) -/
example : OracleOK (fun n => if isPrimeDec n.toNat then 1 else 0) := by
  intro n _
  by_cases hp : Nat.Prime n.toNat
  · exact Or.inr ⟨Or.inl (if_pos ((isPrimeDec_iff n.toNat).2 hp)), hp⟩
  · exact Or.inl ⟨if_neg (by rw [isPrimeDec_eq_false hp]; exact Bool.false_ne_true), hp⟩
example : ∀ n : Int, (fun m : Int => isPrimeDec m.toNat) n = true ↔ Nat.Prime n.toNat := fun n => isPrimeDec_iff n.toNat
-- the walks do return values (tests on samples, not theorems)
example : nextprime (fun m : Int => isPrimeDec m.toNat) 10 7 = some 11 := by decide
example : nextprime (fun m : Int => isPrimeDec m.toNat) 10 113 = some 127 := by decide
example : prevprime (fun m : Int => isPrimeDec m.toNat) 10 3 = some 2 := by decide
example : prevprime (fun m : Int => isPrimeDec m.toNat) 10 127 = some 113 := by decide
example : ∀ m, 1 < m → Nat.Prime (Nat.minFac m) ∧ Nat.minFac m ∣ m :=
  fun m h => ⟨Nat.minFac_prime (by omega), Nat.minFac_dvd m⟩
example : Givaro.Model.Primes.set (fun m => if m % 2 = 0 then 2 else if m % 3 = 0 then 3 else 5) (-360) = some ([(2, 3), (3, 2), (5, 1)], true) := by decide
example : divisors [(2, 2), (3, 1)] = [1, 2, 4, 3, 6, 12] := by decide
/-- a rho oracle meeting the `loops = 0` contract exists (the least prime factor) -/
example : RhoFull (fun m => (Nat.minFac m.toNat : Int)) := by
  intro m hm hnp
  have h1 : m.toNat ≠ 1 := by omega
  have hp := Nat.minFac_prime h1
  have hd := Nat.minFac_dvd m.toNat
  have hle := Nat.minFac_le (n := m.toNat) (by omega)
  have hne : Nat.minFac m.toNat ≠ m.toNat := fun h => hnp (h ▸ hp)
  have h2 := hp.two_le
  show (1 : Int) < (Nat.minFac m.toNat : Int) ∧ (Nat.minFac m.toNat : Int) < m ∧ (Nat.minFac m.toNat : Int) ∣ m
  refine ⟨by omega, by omega, ?_⟩
  have : ((Nat.minFac m.toNat : Nat) : Int) ∣ ((m.toNat : Nat) : Int) := Int.natCast_dvd_natCast.2 hd
  rwa [Int.toNat_of_nonneg (by omega)] at this
-- `RootOK` is inhabited (`iroot_meets_contract`); samples of the prime-power test (tests, not theorems)
example : isprimepower (fun m : Int => isPrimeDec m.toNat) Givaro.Model.Primes.iroot 1053022816561 = (4, 1013) := by decide +kernel
example : isprimepower (fun m : Int => isPrimeDec m.toNat) Givaro.Model.Primes.iroot (-27) = (0, 0) := by decide +kernel
example : isprimepower (fun m : Int => isPrimeDec m.toNat) Givaro.Model.Primes.iroot 1024 = (10, 2) := by decide +kernel

end Givaro.Props.C12
