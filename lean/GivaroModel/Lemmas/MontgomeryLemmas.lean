/-
C07.  The code of both rings is a ring in Montgomery form (`Adm32.isMont`, `AdmR.isMont`): the add / sub / neg bodies on words, the reductions of `Montgomery<int32_t>` and of RecInt
against REDC; `extended_euclid` on `SRows`, the constructor of the 32-bit ring, its `init` and `inv`; `init` of `Montgomery<ruint<K>>`.
-/
import GivaroModel.Model.Montgomery
import GivaroModel.Lemmas.MontgomeryRedc
import GivaroModel.Lemmas.EuclidRows
import Mathlib.Tactic.NormNum
import Mathlib.RingTheory.Coprime.Lemmas
import Mathlib.Algebra.Group.Int.Units

namespace Givaro.Lemmas.Montgomery
open Givaro Givaro.Model.Montgomery Givaro.Spec.Montgomery Givaro.Lemmas.Euclid

/-! ## the add / sub / neg bodies on words modulo `R` (`uint32_t`: `R = 2^32`) are the plain residue operations -/
section words
variable {C : MgCtx}

theorem addR_val (pR : C.p < C.R) {x y : Int} (x0 : 0 ≤ x) (x1 : x < C.p) (y0 : 0 ≤ y) (y1 : y < C.p) :
    addR C x y = (x + y) % C.p :=
  (carry_csub (by unfold uCarry; rw [decide_eq_true_iff]) pR (by omega) (by omega)).trans (csub_emod (by omega) (by omega))

theorem subR_val (pR : C.p < C.R) {x y : Int} (x0 : 0 ≤ x) (x1 : x < C.p) (y0 : 0 ≤ y) (y1 : y < C.p) :
    subR C x y = (x - y) % C.p := by
  unfold subR uAdd uSub
  rw [sub_emod_canon ⟨x0, x1⟩ ⟨y0, y1⟩]
  split
  · rw [Int.emod_eq_of_lt (a := C.p - y) (by omega) (by omega), Int.emod_eq_of_lt (by omega) (by omega)]
    omega
  · exact Int.emod_eq_of_lt (by omega) (by omega)

theorem subinR_eq_subR (C : MgCtx) (x y : Int) : subinR C x y = subR C x y := by
  unfold subinR subR uAdd
  rw [Int.add_comm]

theorem negR_val (pR : C.p < C.R) {x : Int} (x0 : 0 ≤ x) (x1 : x < C.p) : negR C x = (-x) % C.p := by
  unfold negR uSub
  rw [← neg_canon x0 x1]
  split
  · rfl
  · exact Int.emod_eq_of_lt (by omega) (by omega)

end words

/-! ## Montgomery<int32_t>: word level -/

structure Adm32 (F : Ring32) : Prop where
  p3 : 3 ≤ F.p
  pmax : F.p ≤ 40503
  nimp : (F.nim * F.p) % 65536 = 65535

/-- the C07 / C04 statements spell it out: `IsRep 65536 p x a` -/
abbrev Rep32 (F : Ring32) (x a : Int) : Prop := IsRep 65536 F.p x a

theorem sq_le32 {p : Int} (h3 : 3 ≤ p) (hmax : p ≤ 40503) : (p - 1) * (p - 1) ≤ 40502 * 40502 := by
  have h : p - 1 ≤ 40502 := by omega
  exact Int.mul_le_mul h h (by omega) (by decide)

/-- no `uint32_t` wrap-around inside the reductions: `(p-1)² + (2^16-1)·p < 2^32` up to `p = 40503` -/
theorem no_wrap32 {p m c : Int} (h3 : 3 ≤ p) (hmax : p ≤ 40503) (hm0 : 0 ≤ m) (hm : m ≤ 65535)
    (hc0 : 0 ≤ c) (hc : c ≤ (p - 1) * (p - 1)) : 0 ≤ c + m * p ∧ c + m * p < 4294967296 := by
  have hp : 0 ≤ p := by omega
  have h1 : m * p ≤ 65535 * 40503 := Int.mul_le_mul hm hmax hp (by decide)
  have h2 := sq_le32 h3 hmax
  have h3 : 0 ≤ m * p := Int.mul_nonneg hm0 hp
  omega

/-- `(uint32_t)(c * nim) & MASK32` sees the low half of `c` only -/
theorem low16_mul (c nim : Int) : wrapU32 (c * nim) % 65536 = c % 65536 * nim % 65536 := by
  unfold wrapU32
  rw [Int.emod_emod_of_dvd _ (by decide : (65536:Int) ∣ 4294967296)]
  exact ((Int.mod_modEq c 65536).mul_right nim).symm

section ops32
variable {F : Ring32}

theorem Adm32.mont (h : Adm32 F) : Mont 65536 F.p F.nim :=
  ⟨by have := h.p3; omega, by have := h.pmax; omega, h.nimp⟩

theorem redc_eq_pure (h : Adm32 F) {c : Int} (hc0 : 0 ≤ c) (hc : c ≤ (F.p - 1) * (F.p - 1)) :
    redc F c = redcPure 65536 F.p F.nim c := by
  unfold redc redcPure redcQuot condSub csub
  simp only [low16_mul, Int.emod_emod]
  have hm0 := Int.emod_nonneg (c % 65536 * F.nim) (show (65536:Int) ≠ 0 by decide)
  have hm1 := Int.emod_lt_of_pos (c % 65536 * F.nim) (show (0:Int) < 65536 by decide)
  generalize c % 65536 * F.nim % 65536 = m at hm0 hm1 ⊢
  obtain ⟨s0, s1⟩ := no_wrap32 h.p3 h.pmax hm0 (by omega) hc0 hc
  rw [wrapU32_id ⟨Int.mul_nonneg hm0 h.mont.p0.le, lt_of_le_of_lt (le_add_of_nonneg_left hc0) s1⟩,
    Int.add_comm (m * F.p) c, wrapU32_id ⟨s0, s1⟩]
  split
  · have := h.p3
    rw [wrapU32_id ⟨by omega, by omega⟩]
  · rfl

-- the six reduction variants differ only in where the low half is masked
theorem redcal_eq_redc (F : Ring32) (c : Int) : redcal F c = redc F c := by
  show condSub F.p (wrapU32 (c + wrapU32 (wrapU32 (c % 65536 * F.nim) % 65536 * F.p)) / 65536) =
    condSub F.p (wrapU32 (wrapU32 (wrapU32 (c % 65536 * F.nim) % 65536 * F.p) + c) / 65536)
  rw [Int.add_comm]
theorem redcsal_eq_redcal (F : Ring32) (c : Int) : redcsal F c = redcal F c := by
  unfold redcsal redcal
  simp only [low16_mul, Int.emod_emod]
theorem redcs_eq_redcsal (F : Ring32) (c : Int) : redcs F c = redcsal F c := rfl
theorem redcin_eq_redcal (F : Ring32) (c : Int) : redcin F c = redcal F c := rfl
theorem redcsin_eq_redcsal (F : Ring32) (c : Int) : redcsin F c = redcsal F c := rfl

theorem mulin32_eq_mul32 (F : Ring32) (x y : Int) : mulin32 F x y = mul32 F x y := redcal_eq_redc F _
theorem axpy32_eq (F : Ring32) (x y z : Int) : axpy32 F x y z = add32 F (mul32 F x y) z := by
  show add32 F (redcal F (wrapU32 (x * y))) z = _
  rw [redcal_eq_redc]; rfl
theorem axpyin32_eq (F : Ring32) (r x y : Int) : axpyin32 F r x y = add32 F r (mul32 F x y) := by
  show add32 F r (redcal F (wrapU32 (x * y))) = _
  rw [redcal_eq_redc]; rfl

theorem sq_bound (h : Adm32 F) {x y : Int} (x0 : 0 ≤ x) (x1 : x < F.p) (y0 : 0 ≤ y) (y1 : y < F.p) :
    0 ≤ x * y ∧ x * y ≤ (F.p - 1) * (F.p - 1) ∧ x * y < 4294967296 := by
  have hx : x ≤ F.p - 1 := Int.le_sub_one_of_lt x1
  have h1 : x * y ≤ (F.p - 1) * (F.p - 1) := Int.mul_le_mul hx (Int.le_sub_one_of_lt y1) y0 (le_trans x0 hx)
  have h2 := sq_le32 h.p3 h.pmax
  exact ⟨Int.mul_nonneg x0 y0, h1, by omega⟩

/-- not the RecInt body at `R = 2^32`: the code tests `r < p`, there is no carry to test -/
theorem add32_val (h : Adm32 F) {x y : Int} (x0 : 0 ≤ x) (x1 : x < F.p) (y0 : 0 ≤ y) (y1 : y < F.p) :
    add32 F x y = (x + y) % F.p := by
  have := h.pmax
  unfold add32
  simp only [wrapU32_id ⟨Int.add_nonneg x0 y0, show x + y < 4294967296 by omega⟩]
  rw [add_emod_canon ⟨x0, x1⟩ ⟨y0, y1⟩]
  split
  · rfl
  · exact wrapU32_id ⟨by omega, by omega⟩

theorem subin32_eq_sub32 (F : Ring32) (x y : Int) : subin32 F x y = sub32 F x y := by
  unfold subin32 sub32
  by_cases h : x < y
  · rw [if_pos h, if_neg (not_le.mpr h), Int.add_comm]
  · rw [if_neg h, if_pos (not_lt.mp h)]

/-- `sub32` (through `subin32`) and `neg32` are the RecInt bodies at `R = 2^32`, definitionally -/
theorem sub32_val (h : Adm32 F) {x y : Int} (x0 : 0 ≤ x) (x1 : x < F.p) (y0 : 0 ≤ y) (y1 : y < F.p) :
    sub32 F x y = (x - y) % F.p := by
  rw [← subin32_eq_sub32]
  exact (subinR_eq_subR ⟨4294967296, F.p, 0, 0, 0, 0⟩ x y).trans (subR_val (show F.p < 4294967296 by have := h.pmax; omega) x0 x1 y0 y1)

theorem neg32_val (h : Adm32 F) {x : Int} (x0 : 0 ≤ x) (x1 : x < F.p) : neg32 F x = (-x) % F.p :=
  negR_val (C := ⟨4294967296, F.p, 0, 0, 0, 0⟩) (show F.p < 4294967296 by have := h.pmax; omega) x0 x1

theorem convert32_eq_pure (h : Adm32 F) {e : Int} (e0 : 0 ≤ e) (e1 : e < F.p) : convert32 F e = redcPure 65536 F.p F.nim e := by
  have : F.p - 1 ≤ (F.p - 1) * (F.p - 1) := le_mul_of_one_le_right (by have := h.p3; omega) (by have := h.p3; omega)
  exact redc_eq_pure h e0 (by omega)

theorem Adm32.isMont (h : Adm32 F) : IsMont (add32 F) (sub32 F) (neg32 F) (mul32 F) (convert32 F) 65536 F.p F.nim where
  toMont := h.mont
  add_val := add32_val h
  sub_val := sub32_val h
  neg_val := neg32_val h
  mul_val := fun x0 x1 y0 y1 => by
    obtain ⟨b0, b1, b2⟩ := sq_bound h x0 x1 y0 y1
    show redc F (wrapU32 _) = _
    rw [wrapU32_id ⟨b0, b2⟩, redc_eq_pure h b0 b1]
  conv_val := convert32_eq_pure h

end ops32

/-! ## extended_euclid -/

theorem not_dvd_one {b : Int} (hb : 1 < b) : ¬ b ∣ 1 := fun h => by
  have := Int.le_of_dvd (by decide) h
  omega
def sg (neg : Bool) : Int := if neg then -1 else 1

theorem sg_not (n : Bool) : sg (!n) = - sg n := by cases n <;> simp [sg]

/-- every intermediate of a pass is in `[0, b]`, so nothing wraps and the loop walks down the rows to `r1 = 0` -/
theorem eeLoop_rows (wrap : Int → Int) (dv : Int → Int → Int) (a b : Int)
    (hw : ∀ x, 0 ≤ x → x ≤ b → wrap x = x) (hd : ∀ x y, 0 ≤ x → 0 < y → dv x y = x / y) :
    ∀ (fuel : Nat) (u0 u1 r1 d : Int) (neg : Bool), SRows a b (-sg neg) d r1 u0 u1 → r1 < fuel →
      ∃ V, SRows a b (-sg (eeLoop wrap dv fuel u0 u1 r1 d neg).2.2) (eeLoop wrap dv fuel u0 u1 r1 d neg).2.1 0
        (eeLoop wrap dv fuel u0 u1 r1 d neg).1 V := by
  intro fuel
  induction fuel with
  | zero => intro u0 u1 r1 d neg h hf; have := h.r0; omega
  | succ n ih =>
    intro u0 u1 r1 d neg h hf
    unfold eeLoop
    by_cases hr : r1 = 0
    · simp only [hr, ↓reduceIte]
      exact ⟨u1, hr ▸ h⟩
    · obtain ⟨⟨hq0, hqb⟩, ⟨hqV0, hV'b⟩, ⟨hqr0, hqrb⟩, hrem⟩ := h.bounds hr
      have hs := h.step hr
      have hU := h.U0
      have e1 : dv d r1 = d / r1 := hd d r1 (le_of_lt (lt_of_le_of_lt h.r0 h.rd)) (lt_of_le_of_ne h.r0 (Ne.symm hr))
      simp only [hr, ↓reduceIte, e1]
      rw [hw _ hqV0 (by omega), hw _ (by omega) hV'b, hw _ hqr0 hqrb, hrem,
        hw _ hs.r0 (le_of_lt (lt_of_lt_of_le hs.rd hs.db))]
      exact ih _ _ _ _ _ (by rw [sg_not]; exact hs) (by have := hs.rd; omega)

theorem extendedEuclid_spec (wrap : Int → Int) (dv : Int → Int → Int) (a b : Int)
    (hw : ∀ x, 0 ≤ x → x ≤ b → wrap x = x) (hd : ∀ x y, 0 ≤ x → 0 < y → dv x y = x / y)
    (ha0 : 0 ≤ a) (hab : a < b) :
    0 ≤ (extendedEuclid wrap dv a b).1 ∧ (extendedEuclid wrap dv a b).1 ≤ b ∧
    (extendedEuclid wrap dv a b).2 = Int.gcd a b ∧
    b ∣ (extendedEuclid wrap dv a b).1 * a - (extendedEuclid wrap dv a b).2 ∧
    (1 < b → (extendedEuclid wrap dv a b).1 < b) := by
  have hfuel : a < ((a.toNat + 2 : Nat) : Int) := by
    have := Int.toNat_of_nonneg ha0; omega
  obtain ⟨V, hR⟩ := eeLoop_rows wrap dv a b hw hd (a.toNat + 2) 0 1 a b true (SRows.init_lt ha0 hab) hfuel
  unfold extendedEuclid
  simp only
  generalize eeLoop wrap dv (a.toNat + 2) 0 1 a b true = s at hR
  obtain ⟨u0, d, neg⟩ := s
  simp only at hR ⊢
  have hU := hR.U0
  have hUb := hR.U_le
  -- the final `if (neg && u0 > 0) x = b - u0; else x = u0` turns `u0·a ≡ -d` into `x·a ≡ d`
  cases neg
  · rw [if_neg (by simp)]
    exact ⟨hU, hUb, hR.exit.1, SRows.cof_noflag hR, hR.U_lt⟩
  · obtain ⟨h1, h2, _⟩ := SRows.cof_flag hR
    by_cases hu : u0 > 0
    · rw [if_pos ⟨rfl, hu⟩, hw _ (by omega) (by omega)]
      exact ⟨by omega, by omega, hR.exit.1, h1, fun _ => by omega⟩
    · rw [if_neg (fun h => hu h.2)]
      exact ⟨by omega, by omega, hR.exit.1, h2 (by omega), fun _ => by omega⟩

theorem extendedEuclid_d_iff (wrap : Int → Int) (dv : Int → Int → Int) (a b : Int)
    (hw : ∀ x, 0 ≤ x → x ≤ b → wrap x = x) (hd : ∀ x y, 0 ≤ x → 0 < y → dv x y = x / y)
    (ha0 : 0 ≤ a) (hab : a < b) : (extendedEuclid wrap dv a b).2 = 1 ↔ IsCoprime a b := by
  rw [(extendedEuclid_spec wrap dv a b hw hd ha0 hab).2.2.1, Int.isCoprime_iff_gcd_eq_one]
  exact Nat.cast_eq_one

theorem extendedEuclid_inv (wrap : Int → Int) (dv : Int → Int → Int) (a b : Int)
    (hw : ∀ x, 0 ≤ x → x ≤ b → wrap x = x) (hd : ∀ x y, 0 ≤ x → 0 < y → dv x y = x / y)
    (ha0 : 0 ≤ a) (hab : a < b) (hb : 1 < b) (hcop : IsCoprime a b) :
    0 < (extendedEuclid wrap dv a b).1 ∧ (extendedEuclid wrap dv a b).1 < b ∧ b ∣ (extendedEuclid wrap dv a b).1 * a - 1 := by
  obtain ⟨x0, _, _, ⟨k, hk⟩, x1⟩ := extendedEuclid_spec wrap dv a b hw hd ha0 hab
  rw [(extendedEuclid_d_iff wrap dv a b hw hd ha0 hab).mpr hcop] at hk
  have hne0 : (extendedEuclid wrap dv a b).1 ≠ 0 := fun e => by
    rw [e] at hk; exact not_dvd_one hb ⟨-k, by linear_combination -hk⟩
  exact ⟨lt_of_le_of_ne x0 (Ne.symm hne0), x1 hb, k, hk⟩

theorem invextU32_spec (a b : Int) (ha0 : 0 ≤ a) (hab : a < b) (hb1 : 1 < b) (hb : b < 4294967296) (hcop : IsCoprime a b) :
    0 < invextU32 a b ∧ invextU32 a b < b ∧ b ∣ invextU32 a b * a - 1 :=
  extendedEuclid_inv wrapU32 (fun x y => x / y) a b (fun x h0 h1 => wrapU32_id ⟨h0, by omega⟩) (fun _ _ _ _ => rfl) ha0 hab hb1 hcop

theorem invextS32_spec (a b : Int) (ha0 : 0 ≤ a) (hab : a < b) (hb1 : 1 < b) (hb : b < 2147483648) (hcop : IsCoprime a b) :
    0 < invextS32 a b ∧ invextS32 a b < b ∧ b ∣ invextS32 a b * a - 1 :=
  extendedEuclid_inv wrapS32 Int.tdiv a b (fun x h0 h1 => wrapS32_id ⟨by omega, by omega⟩)
    (fun x y hx _ => Int.tdiv_eq_ediv_of_nonneg hx) ha0 hab hb1 hcop

/-! ## Montgomery<int32_t>: the constructor, `init`, `inv` -/

structure Good32 (F : Ring32) : Prop extends Adm32 F where
  nim0 : 0 ≤ F.nim
  nimB : F.nim < 65536
  bp : F.Bp = 65536 % F.p
  b2 : F.B2p = 65536 * 65536 % F.p
  b3 : F.B3p = 65536 * 65536 * 65536 % F.p

theorem wrapU32_emod32 {p : Int} (hp : 0 < p) (hmax : p ≤ 40503) (x : Int) : wrapU32 (x % p) = x % p :=
  wrapU32_id ⟨Int.emod_nonneg x hp.ne', by have := Int.emod_lt_of_pos x hp; omega⟩

/-- `(x << HALF_BITS32) % p` in `uint32_t`, for a reduced `x = y mod p` -/
theorem shift_emod32 {p : Int} (hp : 0 < p) (hmax : p ≤ 40503) (y : Int) :
    wrapU32 (wrapU32 (y % p * 65536) % p) = y * 65536 % p := by
  have := Int.emod_nonneg y hp.ne'
  have := Int.emod_lt_of_pos y hp
  rw [wrapU32_id (x := y % p * 65536) ⟨by omega, by omega⟩, wrapU32_emod32 hp hmax, emod_mul_emod']

theorem mk32_good {p : Int} (h3 : 3 ≤ p) (hmax : p ≤ 40503) (hodd : p % 2 = 1) : Good32 (mk32 p) := by
  have hcop : IsCoprime p 65536 := by
    have h2 : IsCoprime p 2 := ⟨1, -(p / 2), by omega⟩
    have := h2.pow_right (n := 16)
    norm_num at this; exact this
  have hp : 0 < p := by omega
  obtain ⟨i0, i1, j, hj⟩ := invextU32_spec p 65536 hp.le (by omega) (by decide) (by decide) hcop
  have eBp : (mk32 p).Bp = 65536 % p := wrapU32_emod32 hp hmax 65536
  have eB2 : (mk32 p).B2p = 65536 * 65536 % p := by
    show wrapU32 (wrapU32 ((mk32 p).Bp * 65536) % p) = _
    rw [eBp]; exact shift_emod32 hp hmax 65536
  have eB3 : (mk32 p).B3p = 65536 * 65536 * 65536 % p := by
    show wrapU32 (wrapU32 ((mk32 p).B2p * 65536) % p) = _
    rw [eB2]; exact shift_emod32 hp hmax (65536 * 65536)
  have enim : (mk32 p).nim = 65536 - invextU32 p 65536 := wrapU32_id ⟨by omega, by omega⟩
  refine { p3 := h3, pmax := hmax, nimp := ?_, nim0 := by omega, nimB := by omega, bp := eBp, b2 := eB2, b3 := eB3 }
  show ((mk32 p).nim * p) % 65536 = 65535
  rw [enim]
  exact emod_unique (by decide) (by decide) (p - j - 1) (by linear_combination -hj)

section init32
variable {F : Ring32}

theorem wrapU32_emod (h : Good32 F) (x : Int) : wrapU32 (x % F.p) = x % F.p := wrapU32_emod32 h.mont.p0 h.pmax x

/-- every `init` ends in `redc(r, r * _B2p)`, which is `mul32 F r F.B2p` -/
theorem initU64_rep (h : Good32 F) {v : Int} : Rep32 F (initU64 F v) v := by
  have := h.toAdm32.isMont.toMg_rep v
  rw [← h.b2] at this
  unfold initU64
  simp only [wrapU32_emod h]
  exact this

theorem initI64_rep (h : Good32 F) (v : Int) : Rep32 F (initI64 F v) v := by
  have := h.toAdm32.isMont.init_signed_rep v
  rw [← h.b2] at this
  unfold initI64
  by_cases hv : v < 0
  · simp only [hv, ↓reduceIte, wrapU32_emod h] at this ⊢
    exact this
  · simp only [hv, ↓reduceIte, wrapU32_emod h] at this ⊢
    exact this

/-- the casts around `invext<int32_t>` are exact (`0 < t < p < 2^31`) -/
theorem inv32_eq_mul (h : Adm32 F) {x : Int} (x0 : 0 ≤ x) (x1 : x < F.p) (t0 : 0 ≤ invextS32 x F.p) (t1 : invextS32 x F.p < F.p) :
    inv32 F x = mul32 F (invextS32 x F.p) F.B3p := by
  have hpm := h.pmax; have hp := h.mont.p0
  unfold inv32 mul32
  simp only [wrapS32_id (x := x) ⟨by omega, by omega⟩, wrapS32_id (x := F.p) ⟨by omega, by omega⟩]
  rw [if_neg (by omega), wrapU32_id ⟨t0, by omega⟩]

end init32

/-! ## RecInt: word level -/

/-- admissible RecInt Montgomery context: `0 < p < R`, `p1·p ≡ -1 (mod R)` -/
structure AdmR (C : MgCtx) : Prop where
  p0 : 0 < C.p
  pR : C.p < C.R
  p1p : (C.p1 * C.p) % C.R = C.R - 1

theorem AdmR.mont {C : MgCtx} (h : AdmR C) : Mont C.R C.p C.p1 := ⟨h.p0, h.pR, h.p1p⟩

theorem mgReduc_eq_pure {C : MgCtx} (h : AdmR C) {b : Int} (hb0 : 0 ≤ b) (hb : b < C.p * C.R) :
    mgReduc C b = redcPure C.R C.p C.p1 b := by
  obtain ⟨_, _, T0, T2⟩ := redcQuot_spec h.mont hb0 hb
  have hR : 0 < C.R := lt_trans h.p0 h.pR
  have hT : (b % C.R * C.p1 % C.R * C.p + b) / C.R = redcQuot C.R C.p C.p1 b := by rw [Int.add_comm]; rfl
  unfold mgReduc redcPure uMul
  simp only
  rw [← Int.ediv_ediv_of_nonneg hR.le, hT]
  refine carry_csub ?_ h.pR T0 T2
  rw [decide_eq_true_iff]
  constructor
  · intro hne
    by_contra hlt
    exact hne (Int.ediv_eq_zero_of_lt T0 (not_le.mp hlt))
  · intro hle e
    have : 1 ≤ redcQuot C.R C.p C.p1 b / C.R := (Int.le_ediv_iff_mul_le hR).mpr (by rwa [one_mul])
    omega

section addsub
variable {C : MgCtx}

/-- also `rmint<K,MGA>`: the same bodies -/
theorem AdmR.isMont (h : AdmR C) : IsMont (addR C) (subR C) (negR C) (mulR C) (convertR C) C.R C.p C.p1 where
  toMont := h.mont
  add_val := addR_val h.pR
  sub_val := subR_val h.pR
  neg_val := negR_val h.pR
  mul_val := fun x0 x1 y0 y1 => by
    obtain ⟨c0, c1⟩ := mul_lt_radix h.mont x0 x1 y0 y1
    exact mgReduc_eq_pure h c0 c1
  conv_val := fun x0 x1 => mgReduc_eq_pure h x0 (lt_mul_radix h.mont x1)

/-- `to_mg` of `rmint<K,MGA>`: `(b·R) mod p` -/
theorem toMgA_rep (h : AdmR C) (b : Int) : IsRep C.R C.p (toMgA C b) b :=
  rep_of_modEq h.p0 (Int.ModEq.refl _)

end addsub

/-- what the constructor of `Montgomery<ruint<K>>` establishes (in the namespace of Lemmas/ModInitMont.lean; declared here because C07 needs it about `mkR` as well) -/
structure _root_.Givaro.Lemmas.MontInit.GoodR (C : MgCtx) : Prop extends AdmR C where
  r2 : C.r2 = (C.R * C.R) % C.p

open Givaro.Lemmas.MontInit

section initR
variable {C : MgCtx}

theorem initZ_rep (h : GoodR C) (a : Int) : IsRep C.R C.p (initZ C a) a := by
  have := h.isMont.toMg_rep a
  rwa [← h.r2] at this

/-- below the radix `Caster<Element>(ua)` is exact -/
theorem initR_rep (h : GoodR C) (a : Int) (ha : -C.R < a ∧ a < C.R) : IsRep C.R C.p (initR C a) a := by
  have := h.isMont.init_signed_rep a
  rw [← h.r2] at this
  unfold initR
  by_cases hv : a < 0
  · simp only [hv, ↓reduceIte, Int.emod_eq_of_lt (show 0 ≤ -a by omega) (show -a < C.R by omega)] at this ⊢
    exact this
  · simp only [hv, ↓reduceIte, Int.emod_eq_of_lt (show 0 ≤ a by omega) ha.2] at this ⊢
    exact this

theorem initR_rep_of_lt (h : GoodR C) {a : Int} (a0 : 0 ≤ a) (a1 : a < C.p) : IsRep C.R C.p (initR C a) a :=
  initR_rep h a ⟨by have := h.p0; have := h.pR; omega, lt_trans a1 h.pR⟩

end initR

end Givaro.Lemmas.Montgomery
