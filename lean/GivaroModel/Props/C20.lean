/-
C20 — Random generators respect their ranges and are reproducible from the seed.

Every theorem is about `Model/Random.lean` and `Model/RandomDest.lean`, the line-by-line model of the code (tied to /repo by the
correspondence of checks/c20.py), and is stated for *all* seeds, bounds, bit sizes, moduli, generator states and sequence lengths.
GMP's generator and mt19937_64 are universally quantified (`RawGen`, word lists) under their documented contracts only.

`runCalls step calls s` (Model/RandomDest.lean) runs a stateful object over a list of calls; `untilNonzero draw fuel s`
(Lemmas/RandomDestLemmas.lean) is `while (isZero(draw())) {}` with fuel, and every `nonzerorandom` of the model equals it.
A "valid (generator) state" of GivRandom is a value `g` of `_seed` with `1 ≤ g` and `g < givMod`, i.e. in `[1, 2^31 - 2]`: what the constructor
produces from every seed (`givctor_range`) and what `operator()` keeps (`givrandom_range`); the statements spell it as these two hypotheses.
-/
import GivaroModel.Model.Random
import GivaroModel.Spec.RandomSpec
import GivaroModel.Lemmas.RandomLemmas
import GivaroModel.Lemmas.RandomOrbit
import GivaroModel.Model.RandomDest
import GivaroModel.Lemmas.RandomDestLemmas
namespace Givaro.Props.C20
open Givaro Givaro.Model.Random Givaro.Spec.Random Givaro.Lemmas.Random

/-! ### the checkers say what the property says -/

theorem ltOk_iff (ap : Bool) (m r : Int) :
    ltOk ap m r = true ↔ (if ap = true then 0 ≤ r ∧ r < m else -m < r ∧ r < m) := by
  unfold ltOk; cases ap <;> simp

theorem ltOk_true (m r : Int) : ltOk true m r = true ↔ 0 ≤ r ∧ r < m := by simpa using ltOk_iff true m r

theorem betweenOk_iff (lo hi r : Int) : betweenOk lo hi r = true ↔ lo ≤ r ∧ r < hi := by
  unfold betweenOk; simp

theorem canonical_iff (p e : Int) : canonical p e = true ↔ 0 ≤ e ∧ e < p := by
  unfold canonical; simp

/-- the bit-size checker agrees with the library's own notion of size (`Integer::bitsize` = `mpz_sizeinbase(·, 2)`):
    "exactly n bits" ⇔ non-zero and `bitsize = n` -/
theorem hasBits_iff_bitsize (n : Nat) (x : Int) (hn : 1 ≤ n) : hasBits n x = true ↔ x ≠ 0 ∧ bitsize x = n := by
  have hpp := two_pow_pos (n - 1)
  unfold hasBits
  simp only [decide_eq_true_eq]
  constructor
  · rintro ⟨_, h1, h2⟩
    have hx : x ≠ 0 := by
      intro h0
      subst h0
      unfold iabs at h1
      simp at h1
      omega
    exact ⟨hx, (bitsize_eq_iff x n hx hn).2 ⟨h1, h2⟩⟩
  · rintro ⟨hx, hb⟩
    have := (bitsize_eq_iff x n hx hn).1 hb
    exact ⟨hn, this.1, this.2⟩

example : hasBits 6 63 = true ↔ (63 : Int) ≠ 0 ∧ bitsize 63 = 6 := hasBits_iff_bitsize 6 63 (by decide)

/-! ### GivRandom -/

/-- one step keeps the state in `[1, 2^31 - 2]`: the multiplier is invertible modulo `2^31 - 1`, so the state is never 0
    (a zero state would be absorbing and would make every `nonzerorandom` loop spin forever) -/
theorem givrandom_range (s : Int) (h1 : 1 ≤ s) (h2 : s < givMod) : 1 ≤ givNext s ∧ givNext s < givMod := by
  rw [givNext_eq s h1 h2]; exact giv_mul_range s h1 h2

example : 1 ≤ givNext 1 ∧ givNext 1 < givMod := givrandom_range 1 (by decide) (by decide)

/-- the signed product of `operator()` is representable (no undefined behaviour) for every state below `2^63 / 950706376`,
    in particular for every state in `[1, 2^31 - 2]` -/
theorem givrandom_no_overflow (s : Int) (h0 : 0 ≤ s) (h1 : s ≤ 9701599010) :
    InS64 (givMul * wrapS64 s) ∧ wrapS64 (givMul * wrapS64 s) = givMul * s := by
  refine ⟨?_, giv_product_exact s h0 h1⟩
  rw [wrapS64_id (x := s) (by unfold InS64; omega)]
  unfold InS64 givMul; omega

example : InS64 (givMul * wrapS64 9701599010) ∧ wrapS64 (givMul * wrapS64 9701599010) = givMul * 9701599010 :=
  givrandom_no_overflow _ (by decide) (by decide)

/-- the bound of `givrandom_no_overflow` is sharp -/
theorem givrandom_overflow_threshold : ¬ InS64 (givMul * wrapS64 9701599011) := by decide

/-- the constructor maps every non-zero 64-bit seed into the generator's state space … -/
theorem givinit_range (seed : Int) (h1 : 1 ≤ seed) (h2 : seed < 18446744073709551616) :
    1 ≤ givInit seed ∧ givInit seed < givMod := by
  have := emod_canon (show 0 < givMod - 1 by decide) (seed - 1)
  rw [givInit_eq seed h1 h2]
  omega

example : 1 ≤ givInit 18446744073709551615 ∧ givInit 18446744073709551615 < givMod := givinit_range _ (by decide) (by decide)

/-- … and leaves the seeds that are already states unchanged -/
theorem givinit_id (seed : Int) (h1 : 1 ≤ seed) (h2 : seed < givMod) : givInit seed = seed := by
  rw [givInit_eq seed h1 (by unfold givMod at h2; omega), Int.emod_eq_of_lt (by omega) (by omega)]
  omega

example : givInit 2147483646 = 2147483646 := givinit_id _ (by decide) (by decide)

theorem givdraws_range (n : Nat) : ∀ s : Int, 1 ≤ s → s < givMod → ∀ x ∈ givDraws n s, 1 ≤ x ∧ x < givMod := by
  induction n with
  | zero => intro s _ _ x hx; simp [givDraws] at hx
  | succ n ih =>
    intro s h1 h2 x hx
    have hs := givrandom_range s h1 h2
    simp only [givDraws, List.mem_cons] at hx
    rcases hx with rfl | hx
    · exact hs
    · exact ih (givNext s) hs.1 hs.2 x hx

example : ∀ x ∈ givDraws 3 1, 1 ≤ x ∧ x < givMod := givdraws_range 3 1 (by decide) (by decide)

theorem givdraws_ok (n : Nat) (s : Int) (h1 : 1 ≤ s) (h2 : s < givMod) : ∀ x ∈ givDraws n s, givOk x = true := by
  intro x hx
  simpa [givOk, givMod] using givdraws_range n s h1 h2 x hx

/-- GivRandom, full statement: for every non-zero 64-bit seed and every length, every draw is in `[1, 2^31 - 2]`
    (in particular never 0 and below `max_rand()`) -/
theorem givrandom_all_seeds (seed : Int) (h1 : 1 ≤ seed) (h2 : seed < 18446744073709551616) (n : Nat) :
    ∀ x ∈ givDraws n (givInit seed), givOk x = true := by
  have hi := givinit_range seed h1 h2
  exact givdraws_ok n _ hi.1 hi.2

example : ∀ x ∈ givDraws 5 (givInit 4294967294), givOk x = true := givrandom_all_seeds _ (by decide) (by decide) 5

/-- the state reached after any number of draws is again a valid state, so no draw of the sequence ever overflows -/
theorem giviter_range (n : Nat) : ∀ s : Int, 1 ≤ s → s < givMod → 1 ≤ givIter n s ∧ givIter n s < givMod := by
  induction n with
  | zero => intro s h1 h2; exact ⟨h1, h2⟩
  | succ n ih => intro s h1 h2; have hs := givrandom_range s h1 h2; exact ih (givNext s) hs.1 hs.2

example : 1 ≤ givIter 4 7 ∧ givIter 4 7 < givMod := giviter_range 4 7 (by decide) (by decide)

theorem givrandom_never_overflows (seed : Int) (h1 : 1 ≤ seed) (h2 : seed < 18446744073709551616) (n : Nat) :
    InS64 (givMul * wrapS64 (givIter n (givInit seed))) := by
  have hi := givinit_range seed h1 h2
  have hs := giviter_range n (givInit seed) hi.1 hi.2
  unfold givMod at hs
  exact (givrandom_no_overflow _ (by omega) (by omega)).1

example : InS64 (givMul * wrapS64 (givIter 9 (givInit 9702500000))) := givrandom_never_overflows _ (by decide) (by decide) 9

/-- distinct states have distinct successors (the step is a permutation of `[1, 2^31 - 2]`): no two seeds of the state
    space merge into one sequence -/
theorem givnext_injective (s t : Int) (hs1 : 1 ≤ s) (hs2 : s < givMod) (ht1 : 1 ≤ t) (ht2 : t < givMod)
    (h : givNext s = givNext t) : s = t := by
  rw [givNext_eq s hs1 hs2, givNext_eq t ht1 ht2] at h
  exact giv_mul_inj s t (Int.le_of_lt hs1) hs2 (Int.le_of_lt ht1) ht2 h

example : (3 : Int) = 3 := givnext_injective 3 3 (by decide) (by decide) (by decide) (by decide) rfl

/-- congruence in the seed: the model's sequence has no input but the seed; that the *code* has none is what the correspondence
    checks by constructing every generator twice -/
theorem same_seed_same_sequence (seed₁ seed₂ : Int) (h : seed₁ = seed₂) (n : Nat) :
    givDraws n (givInit seed₁) = givDraws n (givInit seed₂) := by rw [h]

example : givDraws 4 (givInit 5) = givDraws 4 (givInit 5) := same_seed_same_sequence 5 5 rfl 4

/-- the draws after the first `k` are the draws of a generator started (copied) at the state reached after `k` draws -/
theorem givdraws_append (k n : Nat) : ∀ s : Int, givDraws (k + n) s = givDraws k s ++ givDraws n (givIter k s) := by
  induction k with
  | zero => intro s; simp [givDraws, givIter]
  | succ k ih => intro s; rw [Nat.succ_add]; simp only [givDraws, givIter, List.cons_append]; rw [ih]

/-! ### Integer::random* — for every raw generator satisfying GMP's contract -/

section Int
variable {σ : Type} (G : RawGen σ) (hG : G.Lawful)
include hG

example (st : σ) : (-5 < (signTail G false 3 st).1 ∧ (signTail G false 3 st).1 < 5) :=
  (ltOk_iff false 5 _).1 (signTail_ltOk G false 3 5 st (by decide) (by decide))

/-- draws below a bound are in `[0, m)` (in `(-m, m)` when the sign is random) -/
theorem lessthan_range (ap : Bool) (m : Int) (hm : 0 < m) (st : σ) :
    ltOk ap m (lessthan G ap m st).1 = true :=
  signTail_ltOk G ap _ m _ (hG.2 st m hm).1 (hG.2 st m hm).2

example (st : σ) : ltOk true 1 (lessthan G true 1 st).1 = true := lessthan_range G hG true 1 (by decide) st

/-- draws of at most `n` bits are in `[0, 2^n)` (`(-2^n, 2^n)` with a random sign), for every `n` including 0 -/
theorem lessthan2exp_range (ap : Bool) (n : Nat) (st : σ) :
    ltOk ap (2 ^ n) (lessthan2exp G ap n st).1 = true :=
  signTail_ltOk G ap _ (2 ^ n) _ (hG.1 st n).1 (hG.1 st n).2

/-- draws of an exact bit size have exactly that many bits, for every size `1 ≤ n < 2^64` (words and multi-limb alike);
    the value is positive unless the sign is random -/
theorem exact_bits (ap : Bool) (n : Nat) (h1 : 1 ≤ n) (h2 : n < 18446744073709551616) (r0 : Int) (st : σ) :
    exactOk ap n (exact2exp G ap n r0 st).1 = true ∧ bitsize (exact2exp G ap n r0 st).1 = n := by
  have hb := hG.1 st (n - 1)
  have hpow := two_pow_pred h1
  simp only [exact2exp, ne_eq, show n ≠ 0 by omega, not_false_eq_true, ↓reduceIte, pred64_eq n h1 h2]
  rw [show (lessthan2exp G true (n - 1) st).1 = (G.bits st (n - 1)).1 from rfl, setbit_of_lt _ _ hb.1 hb.2]
  exact exactOk_of_abs ap n h1 _ _ (by omega) (by omega) (signTail_cases G ap _ _)

example (st : σ) : bitsize (exact2exp G true 1 0 st).1 = 1 := (exact_bits G hG true 1 (by decide) (by decide) 0 st).2

/-- `random_exact(r, s)`: the draw has exactly the bit size of `s` (whatever the sign and size of `s`, `s = 0` included) -/
theorem exact_of_integer_bits (ap : Bool) (s : Int) (hs : bitsize s < 18446744073709551616) (r0 : Int) (st : σ) :
    bitsize (exactI G ap s r0 st).1 = bitsize s :=
  (exact_bits G hG ap (bitsize s) (bitsize_pos s) hs r0 st).2

example (st : σ) : bitsize (exactI G true 511 0 st).1 = bitsize 511 := exact_of_integer_bits G hG true 511 (by decide) 0 st

/-- draws between bounds lie in `[lo, hi)`, for all `lo < hi` of either sign -/
theorem between_range (lo hi : Int) (h : lo < hi) (st : σ) : betweenOk lo hi (between G lo hi st).1 = true := by
  have := (ltOk_true _ _).1 (lessthan_range G hG true (hi - lo) (by omega) st)
  rw [betweenOk_iff]
  unfold between; omega

example (st : σ) : betweenOk (-26) 511 (between G (-26) 511 st).1 = true := between_range G hG _ _ (by decide) st

/-- non-zero draws are never zero and stay in the range (word bound = number of bits) -/
theorem nonzero_ne_zero (ap : Bool) (n : Nat) (fuel : Nat) : ∀ (st : σ) (rs : Int × σ),
    nonzeroW G ap n fuel st = some rs → nonzeroOk ap (2 ^ n) rs.1 = true := by
  intro st rs h
  rw [nonzeroW_loop] at h
  exact (nonzeroOk_iff _ _ _).2 (untilNonzero_spec _ (ltOk ap (2 ^ n) · = true) (lessthan2exp_range G hG ap n) fuel st rs h).symm

/-- the same for an Integer bound -/
theorem nonzero_integer_ne_zero (ap : Bool) (m : Int) (hm : 0 < m) (fuel : Nat) : ∀ (st : σ) (rs : Int × σ),
    nonzeroI G ap m fuel st = some rs → nonzeroOk ap m rs.1 = true := by
  intro st rs h
  rw [nonzeroI_loop] at h
  exact (nonzeroOk_iff _ _ _).2 (untilNonzero_spec _ (ltOk ap m · = true) (lessthan_range G hG ap m hm) fuel st rs h).symm

theorem nonzeroW_pos (n fuel : Nat) (st : σ) (rs : Int × σ) (h : nonzeroW G true n fuel st = some rs) : 1 ≤ rs.1 ∧ rs.1 < 2 ^ n := by
  obtain ⟨hne, hlt⟩ := (nonzeroOk_iff _ _ _).1 (nonzero_ne_zero G hG true n fuel st rs h)
  rw [ltOk_true] at hlt
  omega

theorem nonzeroI_pos (m : Int) (hm : 0 < m) (fuel : Nat) (st : σ) (rs : Int × σ) (h : nonzeroI G true m fuel st = some rs) :
    1 ≤ rs.1 ∧ rs.1 < m := by
  obtain ⟨hne, hlt⟩ := (nonzeroOk_iff _ _ _).1 (nonzero_integer_ne_zero G hG true m hm fuel st rs h)
  rw [ltOk_true] at hlt
  omega

/-- `random_between_2exp(r, m, M)` (also reached by `random_between` on word arguments): `2^m ≤ r < 2^M` for all `m < M` -/
theorem between2exp_range (m M : Nat) (h : m < M) (hM : M < 18446744073709551616) (fuel : Nat) (st : σ) (rs : Int × σ)
    (hr : between2exp G m M fuel st = some rs) : betweenOk (2 ^ m) (2 ^ M) rs.1 = true := by
  unfold between2exp at hr
  rw [show (M + 18446744073709551616 - m) % 18446744073709551616 = M - m by omega] at hr
  split at hr
  · cases hr
  · rename_i d hd
    cases hr
    have hhi := nonzeroW_pos G hG (M - m) fuel st d hd
    have hlo := (ltOk_true _ _).1 (lessthan2exp_range G hG true m d.2)
    have := two_digits hhi.1 hhi.2 hlo.1 hlo.2
    rw [betweenOk_iff, two_pow_split m M (by omega)]
    omega

end Int

/-! non-vacuity of the section above: a concrete generator satisfies the contract, and the fuel-bounded loops do return -/

/-- a (very non-random) generator that satisfies GMP's contract: always the largest 1-bit value that fits -/
def constGen : RawGen Unit where
  bits := fun s n => (if n = 0 then 0 else 1, s)
  range := fun s m => (if m ≤ 1 then 0 else 1, s)

theorem constGen_lawful : constGen.Lawful := by
  refine ⟨fun s n => ?_, fun s m hm => ?_⟩
  · simp only [constGen]
    split
    · rename_i h; subst h; decide
    · rename_i h
      have := two_pow_pred (w := n) (by omega)
      have := two_pow_pos (n - 1)
      omega
  · simp only [constGen]; split <;> omega

example : ltOk false 10 (lessthan constGen false 10 ()).1 = true := lessthan_range constGen constGen_lawful false 10 (by decide) ()
example : bitsize (exact2exp constGen false 200 0 ()).1 = 200 := (exact_bits constGen constGen_lawful false 200 (by decide) (by decide) 0 ()).2
example : nonzeroW constGen true 3 1 () = some (1, ()) := by decide
example : nonzeroOk true (2 ^ 3) 1 = true := nonzero_ne_zero constGen constGen_lawful true 3 1 () (1, ()) (by decide)
example : nonzeroI constGen false 7 2 () = some (-1, ()) := by decide
example : nonzeroOk false 7 (-1) = true := nonzero_integer_ne_zero constGen constGen_lawful false 7 (by decide) 2 () (-1, ()) (by decide)
example : between2exp constGen 3 6 1 () = some (9, ()) := by decide
example : betweenOk (2 ^ 3) (2 ^ 6) 9 = true := between2exp_range constGen constGen_lawful 3 6 (by decide) (by decide) 1 () (9, ()) (by decide)

/-! ### ring / field iterators on GivRandom -/

theorem givnext_u64 (g : Int) : 0 ≤ givNext g ∧ givNext g < 18446744073709551616 := by
  unfold givNext wrapU64; omega

/-- `Modular<Storage_t>::init(x, uint64_t)` returns a canonical element, for every 64-bit value (not only the values
    GivRandom can produce), every storage type and every modulus that fits the storage type's positive half -/
theorem init_canonical (bits : Nat) (sgn : Bool) (p y : Int) (hb : 1 ≤ bits) (hp : 1 ≤ p) (hfit : p ≤ 2 ^ (bits - 1))
    (hy0 : 0 ≤ y) : canonical p (initU64 bits sgn p y) = true :=
  initU64_canonical bits sgn p y hb hp hfit

example : canonical 101 (initU64 32 true 101 18446744073709551615) = true :=
  init_canonical 32 true 101 _ (by decide) (by decide) (by decide) (by decide)

example : sampleSize 2 3 = 2 := by decide

section Ring
variable (bits : Nat) (sgn : Bool) (p : Int) (hb : 1 ≤ bits) (hp : 1 ≤ p) (hfit : p ≤ 2 ^ (bits - 1))
include hb hp hfit

theorem modRandom_canonical (g : Int) : canonical p (modRandom bits sgn p g).1 = true :=
  initU64_canonical bits sgn p _ hb hp hfit

theorem modRandomSz_canonical (size g : Int) : canonical p (modRandomSz bits sgn p size g).1 = true :=
  initU64_canonical bits sgn p _ hb hp hfit

theorem modNonzero_spec (fuel : Nat) (g : Int) (eg : Int × Int) (h : modNonzero bits sgn p fuel g = some eg) :
    canonical p eg.1 = true ∧ eg.1 ≠ 0 := by
  rw [modNonzero_loop] at h
  exact untilNonzero_spec _ (canonical p · = true) (modRandom_canonical bits sgn p hb hp hfit) fuel g eg h

theorem modNonzeroSz_spec (size : Int) (fuel : Nat) (g : Int) (eg : Int × Int)
    (h : modNonzeroSz bits sgn p size fuel g = some eg) : canonical p eg.1 = true ∧ eg.1 ≠ 0 := by
  rw [modNonzeroSz_loop] at h
  exact untilNonzero_spec _ (canonical p · = true) (modRandomSz_canonical bits sgn p hb hp hfit size) fuel g eg h

/-- each of the eight iterator / member-function forms applies `init` last: nothing is asked of the sampling size -/
theorem modStep_spec (fn : Nat) (size : Int) (fuel : Nat) (g : Int) (eg : Int × Int)
    (h : modStep bits sgn p fn size fuel g = some eg) :
    canonical p eg.1 = true ∧ ((fn = 3 ∨ fn = 5 ∨ fn = 7) → eg.1 ≠ 0) := by
  have rnd := modRandom_canonical bits sgn p hb hp hfit g
  have rsz := fun sz => modRandomSz_canonical bits sgn p hb hp hfit sz g
  have nz := modNonzero_spec bits sgn p hb hp hfit fuel g eg
  unfold modStep at h
  split at h
  · cases h; exact ⟨rnd, by omega⟩
  · cases h; exact ⟨rsz _, by omega⟩
  · cases h; exact ⟨rsz _, by omega⟩
  · exact (nz h).imp_right fun h _ => h
  · cases h; exact ⟨rnd, by omega⟩
  · exact (nz h).imp_right fun h _ => h
  · cases h; exact ⟨rsz _, by omega⟩
  · exact (modNonzeroSz_spec bits sgn p hb hp hfit size fuel g eg h).imp_right fun h _ => h
  · cases h

end Ring

/-- for moduli `p ≥ 2^31 - 1` (64-bit storage) no draw is a multiple of the modulus, so `nonzerorandom` stops at the first draw,
    from every valid generator state (smaller moduli: `nonzerorandom_terminates` below) -/
theorem modNonzero_terminates_large (sgn : Bool) (p g : Int) (hp : givMod ≤ p) (hg1 : 1 ≤ g) (hg2 : g < givMod) (fuel : Nat) :
    modNonzero 64 sgn p (fuel + 1) g = some (givNext g, givNext g) := by
  have hr := givrandom_range g hg1 hg2
  unfold givMod at hp hr
  have hi : initU64 64 sgn p (givNext g) = givNext g :=
    initU64_of_lt 64 sgn p _ (by omega) (by omega) (by omega) (fun h => absurd h (by decide))
  unfold modNonzero modRandom
  simp only [hi]
  rw [if_neg (by omega)]

example : modNonzero 64 false 4294967291 1 5 = some (givNext 5, givNext 5) :=
  modNonzero_terminates_large false 4294967291 5 (by decide) (by decide) (by decide) 0

/-! ### termination of the `nonzerorandom` loops on GivRandom

The multiplier is a primitive root modulo the prime 2^31 - 1 (Lemmas/RandomOrbit.lean, Lucas' criterion), so from every
valid state the generator eventually returns 1, which is a non-zero residue for every modulus `p ≥ 2`. -/

/-- `Modular<integral>::nonzerorandom(g, a)` terminates (and so do `GeneralRingNonZeroRandIter` and the leading
    coefficient of a random polynomial): for every storage type, every modulus `p ≥ 2` and every valid generator state
    there is a number of iterations after which the loop has returned -/
theorem nonzerorandom_terminates (bits : Nat) (sgn : Bool) (p : Int) (hb : 1 ≤ bits) (hp : 2 ≤ p) (hfit : p ≤ 2 ^ (bits - 1))
    (g : Int) (hg1 : 1 ≤ g) (hg2 : g < givMod) : ∃ fuel : Nat, (modNonzero bits sgn p fuel g).isSome = true := by
  simp only [modNonzero_loop]
  refine untilNonzero_terminates _ (fun _ => rfl) (fun g hg => ?_) g hg1 hg2
  show initU64 bits sgn p (givNext g) ≠ 0
  rw [hg, init_one bits sgn p hb hp hfit]; decide

/-- the same for `nonzerorandom(g, a, size)` with a sampling size `≥ 2` (a sample of size 1 contains only 0) -/
theorem nonzerorandom_size_terminates (bits : Nat) (sgn : Bool) (p size : Int) (hb : 1 ≤ bits) (hp : 2 ≤ p) (hfit : p ≤ 2 ^ (bits - 1))
    (hs : 2 ≤ size) (g : Int) (hg1 : 1 ≤ g) (hg2 : g < givMod) :
    ∃ fuel : Nat, (modNonzeroSz bits sgn p size fuel g).isSome = true := by
  simp only [modNonzeroSz_loop]
  refine untilNonzero_terminates _ (fun _ => rfl) (fun g hg => ?_) g hg1 hg2
  show initU64 bits sgn p (givNext g % size) ≠ 0
  rw [hg, Int.emod_eq_of_lt (by omega) (by omega), init_one bits sgn p hb hp hfit]; decide

/-- a random polynomial of any degree is produced after finitely many draws -/
theorem poly_random_terminates (bits : Nat) (sgn : Bool) (p : Int) (hb : 1 ≤ bits) (hp : 2 ≤ p) (hfit : p ≤ 2 ^ (bits - 1))
    (d : Int) (g : Int) (hg1 : 1 ≤ g) (hg2 : g < givMod) : ∃ fuel : Nat, (polyRandomDeg bits sgn p d fuel g).isSome = true := by
  obtain ⟨fuel, hf⟩ := nonzerorandom_terminates bits sgn p hb hp hfit g hg1 hg2
  refine ⟨fuel, ?_⟩
  unfold polyRandomDeg polyRandom
  split
  · rfl
  · obtain ⟨lead, h⟩ := Option.isSome_iff_exists.1 hf
    rw [h]; rfl

/-- every non-zero 64-bit seed gives a valid state and every draw keeps it valid, so the hypotheses `hg1`, `hg2` of the three theorems above
    hold for every generator built from such a seed, after any number of earlier draws; stated here for `nonzerorandom_terminates` -/
theorem nonzerorandom_terminates_all_seeds (bits : Nat) (sgn : Bool) (p : Int) (hb : 1 ≤ bits) (hp : 2 ≤ p) (hfit : p ≤ 2 ^ (bits - 1))
    (seed : Int) (h1 : 1 ≤ seed) (h2 : seed < 18446744073709551616) (n : Nat) :
    ∃ fuel : Nat, (modNonzero bits sgn p fuel (givIter n (givInit seed))).isSome = true := by
  have hi := givinit_range seed h1 h2
  have hs := giviter_range n (givInit seed) hi.1 hi.2
  exact nonzerorandom_terminates bits sgn p hb hp hfit _ hs.1 hs.2

example : ∃ fuel : Nat, (modNonzero 32 true 2 fuel (givIter 3 (givInit 4294967294))).isSome = true :=
  nonzerorandom_terminates_all_seeds 32 true 2 (by decide) (by decide) (by decide) 4294967294 (by decide) (by decide) 3

/-! ### GFqDom -/

/-- `GFqDom::random(g, a, s)` is a canonical element below `s`, for every sampling size `1 ≤ s ≤ q` (`q < 2^(bits-1)`) -/
theorem gfq_random_canonical (bits : Nat) (q s g : Int) (hb : 1 ≤ bits) (hs : 1 ≤ s) (hsq : s ≤ q) (hq : q < 2 ^ (bits - 1)) :
    0 ≤ (gfqRandom bits q s g).1 ∧ (gfqRandom bits q s g).1 < s ∧ canonical q (gfqRandom bits q s g).1 = true := by
  have hm := emod_canon (show 0 < s by omega) (givNext g % 2 ^ bits)
  rw [canonical_iff, gfqRandom_val bits q s g hb hs (by omega)]
  omega

example : canonical 8 (gfqRandom 32 8 8 1).1 = true := (gfq_random_canonical 32 8 8 1 (by decide) (by decide) (by decide) (by decide)).2.2

/-- `GFqDom::nonzerorandom(g, a, s)` is in `[1, s-1]`: canonical and never zero, for `2 ≤ s ≤ q` -/
theorem gfq_nonzero_range (bits : Nat) (q s g : Int) (hb : 1 ≤ bits) (hs : 2 ≤ s) (hsq : s ≤ q) (hq : q < 2 ^ (bits - 1)) :
    1 ≤ (gfqNonzero bits q s g).1 ∧ (gfqNonzero bits q s g).1 < s ∧ canonical q (gfqNonzero bits q s g).1 = true := by
  have hm := emod_canon (show 0 < s - 1 by omega) (givNext g % 2 ^ bits)
  rw [canonical_iff, gfqNonzero_val bits q s g hb hs (by omega)]
  omega

example : 1 ≤ (gfqNonzero 32 8 8 1).1 := (gfq_nonzero_range 32 8 8 1 (by decide) (by decide) (by decide) (by decide)).1

theorem gfqNzLoop_spec (bits : Nat) (q : Int) (hb : 1 ≤ bits) (hq1 : 1 ≤ q) (hq : q < 2 ^ (bits - 1)) (fuel : Nat)
    (g : Int) (eg : Int × Int) (h : gfqStep.gfqNzLoop bits q fuel g = some eg) : canonical q eg.1 = true ∧ eg.1 ≠ 0 := by
  have hsz := sampleSize_bounds q 0 hq1 (by decide)
  rw [gfqNzLoop_loop] at h
  exact untilNonzero_spec _ (canonical q · = true) (fun g => (gfq_random_canonical bits q _ g hb hsz.1 hsz.2.1 hq).2.2) fuel g eg h

/-- one draw of `GFqDom::RandIter` (= `GIV_randIter`, any requested size), of the non-zero iterator, or of the
    `random`/`nonzerorandom` member functions (explicit sizes within the field) is a canonical element, non-zero where promised -/
theorem gfqStep_spec (bits : Nat) (q : Int) (hb : 1 ≤ bits) (hq2 : 2 ≤ q) (hq : q < 2 ^ (bits - 1)) (fn : Nat) (size : Int)
    (hs : 0 ≤ size) (hs6 : fn = 6 → 1 ≤ size ∧ size ≤ q) (hs7 : fn = 7 → 2 ≤ size ∧ size ≤ q) (fuel : Nat) (g : Int) (eg : Int × Int)
    (h : gfqStep bits q fn size fuel g = some eg) :
    canonical q eg.1 = true ∧ ((fn = 3 ∨ fn = 5 ∨ fn = 7) → eg.1 ≠ 0) := by
  have hsz0 := sampleSize_bounds q 0 (by omega) (by decide)
  have hsz := sampleSize_bounds q size (by omega) hs
  have rnd := fun s h1 h2 => (gfq_random_canonical bits q s g hb h1 h2 hq).2.2
  have nz : ∀ s, 2 ≤ s → s ≤ q → canonical q (gfqNonzero bits q s g).1 = true ∧ (gfqNonzero bits q s g).1 ≠ 0 := by
    intro s h1 h2
    have := gfq_nonzero_range bits q s g hb h1 h2 hq
    exact ⟨this.2.2, by omega⟩
  unfold gfqStep at h
  split at h
  · cases h; exact ⟨rnd _ hsz0.1 hsz0.2.1, by omega⟩
  · cases h; exact ⟨rnd _ hsz.1 hsz.2.1, by omega⟩
  · exact (gfqNzLoop_spec bits q hb (by omega) hq fuel g eg h).imp_right fun h _ => h
  · cases h; exact ⟨rnd q (by omega) (by omega), by omega⟩
  · cases h; exact (nz q hq2 (by omega)).imp_right fun h _ => h
  · cases h; exact ⟨rnd size (hs6 rfl).1 (hs6 rfl).2, by omega⟩
  · cases h; exact (nz size (hs7 rfl).1 (hs7 rfl).2).imp_right fun h _ => h
  · cases h

/-- `GFqDom::NonZeroRandIter` terminates for every field size `2 ≤ q < 2^(bits-1)` and valid generator state
    (`GFqDom::nonzerorandom` itself has no loop) -/
theorem gfq_nonzero_iterator_terminates (bits : Nat) (q : Int) (hb : 2 ≤ bits) (hq2 : 2 ≤ q) (hq : q < 2 ^ (bits - 1))
    (g : Int) (hg1 : 1 ≤ g) (hg2 : g < givMod) : ∃ fuel : Nat, (gfqStep.gfqNzLoop bits q fuel g).isSome = true := by
  have hsq : sampleSize q 0 = q := (sampleSize_bounds q 0 (by omega) (by decide)).2.2 rfl
  have hpow := two_pow_pred (w := bits) (by omega)
  have e1 : (1 : Int) % 2 ^ bits = 1 := Int.emod_eq_of_lt (by decide) (by omega)
  have e2 : (1 : Int) % q = 1 := Int.emod_eq_of_lt (by decide) (by omega)
  simp only [gfqNzLoop_loop]
  refine untilNonzero_terminates _ (fun _ => rfl) (fun g hg => ?_) g hg1 hg2
  rw [hsq, gfqRandom_val bits q q g (by omega) (by omega) (by omega), hg, e1, e2]
  decide

example : ∃ fuel : Nat, (gfqStep.gfqNzLoop 32 8 fuel 5).isSome = true :=
  gfq_nonzero_iterator_terminates 32 8 (by decide) (by decide) (by decide) 5 (by decide) (by decide)

/-! ### random polynomials -/

/-- `Poly1Dom::random(g, r, Degree d)` returns exactly `d + 1` canonical coefficients with a
    non-zero leading one — a polynomial of degree exactly `d` — for every `d ≥ 0`, modulus and generator state -/
theorem poly_random_degree (bits : Nat) (sgn : Bool) (p : Int) (hb : 1 ≤ bits) (hp : 1 ≤ p) (hfit : p ≤ 2 ^ (bits - 1))
    (d fuel : Nat) (g : Int) (r : List Int × Int) (h : polyRandom bits sgn p d fuel g = some r) :
    polyOk p d r.1 = true := by
  unfold polyRandom at h
  split at h
  · cases h
  · rename_i lead hlead
    cases h
    have h1 := modNonzero_spec bits sgn p hb hp hfit fuel g lead hlead
    have h2 := polyLow_spec bits sgn p hb hp hfit d lead.2
    unfold polyOk
    simp only [Bool.and_eq_true, decide_eq_true_eq, List.length_append, List.length_cons, List.length_nil,
      List.getLast?_append, List.getLast?_singleton]
    refine ⟨⟨by omega, allB_of_forall _ _ fun c hc => ?_⟩, by simpa using h1.2⟩
    rcases List.mem_append.1 hc with hc | hc
    · exact h2.2 c hc
    · rw [List.mem_singleton.1 hc]; exact h1.1

example : (polyRandom 32 true 101 4 64 7).isSome = true := by decide

/-- the same for every requested degree including -∞ (size 0, "same size as b" for `b = 0`): then the zero polynomial -/
theorem poly_random_any_degree (bits : Nat) (sgn : Bool) (p : Int) (hb : 1 ≤ bits) (hp : 1 ≤ p) (hfit : p ≤ 2 ^ (bits - 1))
    (d : Int) (fuel : Nat) (g : Int) (r : List Int × Int) (h : polyRandomDeg bits sgn p d fuel g = some r) :
    polyDegOk p d r.1 = true := by
  unfold polyRandomDeg at h
  unfold polyDegOk
  split at h
  · rename_i hd; cases h; rw [if_pos hd]; rfl
  · rename_i hd; rw [if_neg hd]; exact poly_random_degree bits sgn p hb hp hfit d.toNat fuel g r h

example : polyRandomDeg 32 true 101 (-1) 64 7 = some ([], 7) := by decide

/-! ## Destination independence, reproducibility, seed normalisation

Model/RandomDest.lean spells every write to a destination the way the code does; the theorems below say that what the
destination held before the call never shows in the result, that a run of calls on an iterator / generator is determined by
the seed, the construction parameters and the list of calls (not by the destinations), and that a copy continues the sequence. -/

/-! ### Integer::random* -/
section IntDest
variable {σ : Type} (G : RawGen σ)

/-! value-level draws by the definition of `overwrite`: `lessthan`, `lessthan2exp` and `between` only assign; `exact2exp` does not for bit
size 0 (the destination is kept), which is why the value-level `exact2exp` has the old content as its argument `r0` too -/

theorem lessthanD_eq (ap : Bool) (m old : Int) (st : σ) : lessthanD G ap m old st = lessthan G ap m st := rfl
theorem lessthan2expD_eq (ap : Bool) (n : Nat) (old : Int) (st : σ) : lessthan2expD G ap n old st = lessthan2exp G ap n st := rfl
theorem exact2expD_eq (ap : Bool) (m : Nat) (old : Int) (st : σ) : exact2expD G ap m old st = exact2exp G ap m old st := rfl
theorem betweenD_eq (lo hi old : Int) (st : σ) : betweenD G lo hi old st = between G lo hi st := rfl

/-! the loops draw into the same destination repeatedly: by induction (`untilNonzero_eq_dest`) -/

theorem nonzeroWD_eq (ap : Bool) (n : Nat) (fuel : Nat) : ∀ (old : Int) (st : σ),
    nonzeroWD G ap n fuel old st = nonzeroW G ap n fuel st := fun old st =>
  (untilNonzero_eq_dest _ (lessthan2expD G ap n) (lessthan2expD_eq G ap n) (nonzeroWD G ap n) (fun _ _ => rfl) (fun _ _ _ => rfl) fuel old st).trans
    (nonzeroW_loop G ap n fuel st).symm

theorem nonzeroID_eq (ap : Bool) (m : Int) (fuel : Nat) : ∀ (old : Int) (st : σ),
    nonzeroID G ap m fuel old st = nonzeroI G ap m fuel st := fun old st =>
  (untilNonzero_eq_dest _ (lessthanD G ap m) (lessthanD_eq G ap m) (nonzeroID G ap m) (fun _ _ => rfl) (fun _ _ _ => rfl) fuel old st).trans
    (nonzeroI_loop G ap m fuel st).symm

theorem between2expD_eq (m M fuel : Nat) (old : Int) (st : σ) : between2expD G m M fuel old st = between2exp G m M fuel st := by
  unfold between2expD between2exp
  rw [nonzeroWD_eq]
  generalize nonzeroW G true _ fuel st = r
  cases r <;> rfl

/-- `random_lessthan`, `random_lessthan_2exp`, `random_between` only assign: the result and the generator state after the call do
    not depend on what `r` held, by the definition of `overwrite`.  For `random_between_2exp` and `nonzerorandom` (word and Integer
    bound) this is `between2expD_eq`, `nonzeroWD_eq`, `nonzeroID_eq` above. -/
theorem lessthan_dest_indep (ap : Bool) (m old old' : Int) (st : σ) : lessthanD G ap m old st = lessthanD G ap m old' st := rfl
theorem lessthan2exp_dest_indep (ap : Bool) (n : Nat) (old old' : Int) (st : σ) :
    lessthan2expD G ap n old st = lessthan2expD G ap n old' st := rfl
theorem between_dest_indep (lo hi old old' : Int) (st : σ) : betweenD G lo hi old st = betweenD G lo hi old' st := rfl

/-- `random_exact_2exp(r, m)` does not depend on what `r` held, for every bit size `m ≥ 1` — including `m = 1`, where no
    random bit is drawn at all (`random_lessthan_2exp(r, 0)` still overwrites `r` with 0 before the top bit is set) -/
theorem exact2exp_dest_indep (ap : Bool) (m : Nat) (hm : m ≠ 0) (old old' : Int) (st : σ) :
    exact2expD G ap m old st = exact2expD G ap m old' st := by
  unfold exact2expD
  simp only [hm, ne_eq, not_false_eq_true, ↓reduceIte]
  rfl

example (st : Unit) : exact2expD constGen true 1 (2 ^ 300) st = exact2expD constGen true 1 0 st :=
  exact2exp_dest_indep constGen true 1 (by decide) _ _ st

/-- … and the hypothesis is needed: for the (out-of-contract) bit size 0 nothing is drawn and the code sets bit `2^64 - 1` in
    whatever `r` held -/
theorem exact2exp_zero_bits_keeps_old (old : Int) (st : σ) :
    exact2expD G true 0 old st = (setbit old 18446744073709551615, st) := by
  simp [exact2expD, signTail, pred64]

/-- `random_exact(r, const Integer& s)`: unconditional, because `bitsize s ≥ 1` for every `s` -/
theorem exactI_dest_indep (ap : Bool) (s old old' : Int) (st : σ) : exactID G ap s old st = exactID G ap s old' st := by
  unfold exactID
  exact exact2exp_dest_indep G ap (bitsize s) (by have := bitsize_pos s; omega) old old' st

example (st : Unit) : exactID constGen false 0 (-7) st = exactID constGen false 0 12345 st := exactI_dest_indep constGen false 0 _ _ st

/-- the whole family as one statement -/
theorem intStep_dest_indep (fuel : Nat) (st : σ) (c : IntCall) (hc : c.admissible) (o : Int) :
    intStep G fuel st (c.withOld o) = intStep G fuel st c := by
  cases c with
  | lessthan ap m old => rfl
  | lessthan2exp ap n old => rfl
  | exact2exp ap n old => simp only [IntCall.withOld, intStep]; rw [exact2exp_dest_indep G ap n hc o old st]
  | exactI ap s old => simp only [IntCall.withOld, intStep]; rw [exactI_dest_indep G ap s o old st]
  | between lo hi old => rfl
  | between2exp m M old => simp only [IntCall.withOld, intStep, between2expD_eq]
  | nonzeroW ap n old => simp only [IntCall.withOld, intStep, nonzeroWD_eq]
  | nonzeroI ap m old => simp only [IntCall.withOld, intStep, nonzeroID_eq]
  | random0 ap => rfl
  | randBool => rfl

/-- reproducibility of the Integer generator: after `Integer::seeding(s)` (state `st`) the values returned by any list of
    admissible calls, and the state left behind, are determined by the calls' kinds and parameters — two runs whose calls differ
    only in what the destinations held are identical -/
theorem int_run_dest_indep (fuel : Nat) (cs : List IntCall) (hcs : ∀ c ∈ cs, c.admissible) (os : List Int) (hlen : os.length = cs.length)
    (st : σ) : runCalls (intStep G fuel) (List.zipWith IntCall.withOld cs os) st = runCalls (intStep G fuel) cs st := by
  refine runCalls_congr _ (fun c c' => ∀ s, intStep G fuel s c = intStep G fuel s c') (fun s _ _ h => h s) _ _
    (List.forall₂_iff_get.2 ⟨by simp [hlen], fun i h _ s => ?_⟩) st
  simp only [List.get_eq_getElem, List.getElem_zipWith]
  exact intStep_dest_indep G fuel s _ (hcs _ (List.getElem_mem _)) _

example : runCalls (intStep constGen 4) [IntCall.exact2exp true 1 (2 ^ 200), IntCall.nonzeroW false 3 (-1)] ()
    = runCalls (intStep constGen 4) [IntCall.exact2exp true 1 0, IntCall.nonzeroW false 3 0] () := by decide

/-- the ranges hold for the destination-explicit draws as well (they are the value-level draws) -/
theorem lessthanD_range (hG : G.Lawful) (ap : Bool) (m : Int) (hm : 0 < m) (old : Int) (st : σ) :
    ltOk ap m (lessthanD G ap m old st).1 = true := by
  rw [lessthanD_eq]; exact lessthan_range G hG ap m hm st
theorem exact2expD_bits (hG : G.Lawful) (ap : Bool) (n : Nat) (h1 : 1 ≤ n) (h2 : n < 18446744073709551616) (old : Int) (st : σ) :
    exactOk ap n (exact2expD G ap n old st).1 = true ∧ bitsize (exact2expD G ap n old st).1 = n := by
  rw [exact2expD_eq]; exact exact_bits G hG ap n h1 h2 old st
theorem betweenD_range (hG : G.Lawful) (lo hi : Int) (h : lo < hi) (old : Int) (st : σ) :
    betweenOk lo hi (betweenD G lo hi old st).1 = true := by
  rw [betweenD_eq]; exact between_range G hG lo hi h st

example : exactOk false 200 (exact2expD constGen false 200 (2 ^ 999) ()).1 = true :=
  (exact2expD_bits constGen constGen_lawful false 200 (by decide) (by decide) _ ()).1

/-! ### RandomIntegerIterator -/

theorem riiNext_dest_indep (u e : Bool) (bits : Nat) (hb : bits ≠ 0) (old old' : Int) (st : σ) :
    riiNextD G u e bits old st = riiNextD G u e bits old' st := by
  unfold riiNextD
  cases e
  · rfl
  · simp only [↓reduceIte]; exact exact2exp_dest_indep G u bits hb old old' st

/-- one call from two states that differ in `_integer` only -/
theorem riiStep_indep (u e : Bool) (c : RiiCall) (hc : c.admissible) (o : Int) (bits : Nat) (hb : bits ≠ 0) (i i' : Int) (st : σ) :
    ∃ v b' j j' g', b' ≠ 0 ∧ riiStep G u e ⟨bits, i, st⟩ (c.withOld o) = some (v, ⟨b', j, g'⟩) ∧
      riiStep G u e ⟨bits, i', st⟩ c = some (v, ⟨b', j', g'⟩) := by
  cases c with
  | inc =>
    refine ⟨_, bits, (riiNextD G u e bits i' st).1, _, _, hb, ?_, rfl⟩
    simp only [RiiCall.withOld, riiStep, riiNext_dest_indep G u e bits hb i i' st]
  | random old =>
    refine ⟨_, bits, i, i', _, hb, ?_, rfl⟩
    simp only [RiiCall.withOld, riiStep, riiNext_dest_indep G u e bits hb o old st]
  | setBitsize b =>
    refine ⟨_, b, (riiNextD G u e b i' st).1, _, _, hc, ?_, rfl⟩
    simp only [RiiCall.withOld, riiStep, riiNext_dest_indep G u e b hc i i' st]

/-- RandomIntegerIterator: the values produced by any list of calls (`++`, `random(a)`/`operator()(a)`, `setBitsize`)
    are determined by the generator state at construction, the current bit size and the calls — neither the content of the
    caller's destinations nor the previously generated `_integer` shows in them -/
theorem rii_run_indep (u e : Bool) (cs : List RiiCall) (hcs : ∀ c ∈ cs, c.admissible) (os : List Int) (hlen : os.length = cs.length)
    (bits : Nat) (hb : bits ≠ 0) (i i' : Int) (st : σ) :
    (runCalls (riiStep G u e) (List.zipWith RiiCall.withOld cs os) ⟨bits, i, st⟩).map (fun r => (r.1, r.2.bits, r.2.gen)) =
    (runCalls (riiStep G u e) cs ⟨bits, i', st⟩).map (fun r => (r.1, r.2.bits, r.2.gen)) := by
  induction cs generalizing os bits i i' st with
  | nil => cases os <;> rfl
  | cons c cs ih =>
    cases os with
    | nil => simp at hlen
    | cons o os =>
      obtain ⟨v, b', j, j', g', hb', h1, h2⟩ := riiStep_indep G u e c (hcs c (by simp)) o bits hb i i' st
      have := ih (fun c hc => hcs c (by simp [hc])) os (by simpa using hlen) b' hb' j j' g'
      rw [List.zipWith_cons_cons, runCalls_cons, runCalls_cons, h1, h2]
      simpa [Option.map_map, Function.comp_def] using congrArg (Option.map fun x => (v :: x.1, x.2)) this

example : (runCalls (riiStep constGen true true) [RiiCall.setBitsize 5, RiiCall.random (2 ^ 99), RiiCall.inc] ⟨30, 7, ()⟩).map (·.1)
    = (runCalls (riiStep constGen true true) [RiiCall.setBitsize 5, RiiCall.random 0, RiiCall.inc] ⟨30, -1, ()⟩).map (·.1) := by decide

/-- copy constructor / copy assignment: the copy *is* the state, hence continues with the same sequence -/
theorem rii_copy_continues (u e : Bool) (s : RiiSt σ) (cs : List RiiCall) :
    runCalls (riiStep G u e) cs (riiCopy s) = runCalls (riiStep G u e) cs s := by
  cases s; rfl

/-- congruence in the constructor's arguments: the iterator has no input but its parameters and the (seeded) generator state -/
theorem rii_same_seed_same_sequence (u e : Bool) (bits₁ bits₂ : Nat) (st₁ st₂ : σ) (hb : bits₁ = bits₂) (hs : st₁ = st₂) (cs : List RiiCall) :
    runCalls (riiStep G u e) cs (riiCtor G u e bits₁ st₁) = runCalls (riiStep G u e) cs (riiCtor G u e bits₂ st₂) := by rw [hb, hs]

end IntDest

/-! ### rings, fields, polynomials on GivRandom -/

/-- ModularRandIter / GIV_randIter / GeneralRingRandIter / GeneralRingNonZeroRandIter / random / nonzerorandom: the elements
    returned for a list of calls and the generator state left behind do not depend on what the destinations held -/
theorem modRun_dest_indep (bits : Nat) (sgn : Bool) (p : Int) (fn : Nat) (size : Int) (fuel : Nat) (olds olds' : List Int)
    (h : olds.length = olds'.length) (g : Int) :
    modRun bits sgn p fn size fuel olds g = modRun bits sgn p fn size fuel olds' g :=
  runCalls_dest_indep _ (fun s c c' => by rw [modStepD_eq, modStepD_eq]) olds olds' h g

example : modRun 32 true 101 5 0 64 [-1, -1, -1] 7 = modRun 32 true 101 5 0 64 [0, 5, 1000] 7 :=
  modRun_dest_indep 32 true 101 5 0 64 _ _ rfl 7

/-- copy semantics: the iterator copied after the calls `cs₁` (the copy constructor copies the GivRandom state) and then given
    `cs₂` returns what the original would have returned -/
theorem modRun_append (bits : Nat) (sgn : Bool) (p : Int) (fn : Nat) (size : Int) (fuel : Nat) (cs₁ cs₂ : List Int) (g : Int)
    (r₁ : List Int × Int) (h₁ : modRun bits sgn p fn size fuel cs₁ g = some r₁)
    (r₂ : List Int × Int) (h₂ : modRun bits sgn p fn size fuel cs₂ r₁.2 = some r₂) :
    modRun bits sgn p fn size fuel (cs₁ ++ cs₂) g = some (r₁.1 ++ r₂.1, r₂.2) :=
  runCalls_append_some _ cs₁ cs₂ g h₁ h₂

example : (modRun 32 true 101 0 0 64 [0, 0] 7).isSome = true := by decide

theorem modRun_canonical (bits : Nat) (sgn : Bool) (p : Int) (hb : 1 ≤ bits) (hp : 1 ≤ p) (hfit : p ≤ 2 ^ (bits - 1))
    (fn : Nat) (size : Int) (fuel : Nat) (olds : List Int) (g : Int) (r : List Int × Int)
    (h : modRun bits sgn p fn size fuel olds g = some r) :
    r.1.length = olds.length ∧ ∀ e ∈ r.1, canonical p e = true ∧ ((fn = 3 ∨ fn = 5 ∨ fn = 7) → e ≠ 0) := by
  refine runCalls_all _ _ (fun s c o s' hstep => ?_) olds g r h
  rw [modStepD_eq] at hstep
  exact modStep_spec bits sgn p hb hp hfit fn size fuel s (o, s') hstep

/-- every element of an arbitrarily long run of calls of `ModularRandIter`, `GIV_randIter` (any
    requested size), `GeneralRingRandIter`, `GeneralRingNonZeroRandIter` or the `random`/`nonzerorandom` member functions of
    `Modular<integral>` is canonical (and non-zero for the non-zero forms), from every generator state and into every destination;
    `size = 0` means "whole ring" for the iterators (fn 1, 2) and is a division by zero for `random(g, r, size)` (fn 6, 7) -/
theorem iterator_canonical (bits : Nat) (sgn : Bool) (p : Int) (hb : 1 ≤ bits) (hp : 1 ≤ p) (hfit : p ≤ 2 ^ (bits - 1))
    (fn : Nat) (size : Int) (hs : 0 ≤ size) (hs67 : 6 ≤ fn → size ≠ 0) (fuel : Nat) (olds : List Int) (g : Int) (r : List Int × Int)
    (h : modRun bits sgn p fn size fuel olds g = some r) :
    r.1.length = olds.length ∧ ∀ e ∈ r.1, canonical p e = true ∧ ((fn = 3 ∨ fn = 5 ∨ fn = 7) → e ≠ 0) :=
  modRun_canonical bits sgn p hb hp hfit fn size fuel olds g r h

example : ∀ r, modRun 32 true 101 5 0 64 [-1, -1, -1] 7 = some r → r.1.length = 3 ∧ ∀ e ∈ r.1, canonical 101 e = true ∧ ((5 = 3 ∨ 5 = 5 ∨ 5 = 7) → e ≠ 0) :=
  fun r h => iterator_canonical 32 true 101 (by decide) (by decide) (by decide) 5 0 (by decide) (by decide) 64 _ 7 r h
example : (modRun 32 true 101 5 0 64 [-1, -1, -1] 7).isSome = true := by decide

/-- `modRun_dest_indep` from the state `givInit seed` (the equation between the seeds is a hypothesis): an iterator is
    `(ring, size, GivRandom(seed))`, and what the destinations held does not show in the elements -/
theorem iterator_same_seed_same_sequence (bits : Nat) (sgn : Bool) (p : Int) (fn : Nat) (size : Int) (fuel : Nat)
    (seed₁ seed₂ : Int) (hseed : seed₁ = seed₂) (olds₁ olds₂ : List Int) (h : olds₁.length = olds₂.length) :
    modRun bits sgn p fn size fuel olds₁ (givInit seed₁) = modRun bits sgn p fn size fuel olds₂ (givInit seed₂) := by
  rw [hseed]; exact modRun_dest_indep bits sgn p fn size fuel olds₁ olds₂ h _

/-- the same three statements for `GFqDom` (its `RandIter` is `GIV_randIter`) -/
theorem gfqRun_dest_indep (bits : Nat) (q : Int) (fn : Nat) (size : Int) (fuel : Nat) (olds olds' : List Int)
    (h : olds.length = olds'.length) (g : Int) : gfqRun bits q fn size fuel olds g = gfqRun bits q fn size fuel olds' g :=
  runCalls_dest_indep _ (fun s c c' => by rw [gfqStepD_eq, gfqStepD_eq]) olds olds' h g

theorem gfqRun_append (bits : Nat) (q : Int) (fn : Nat) (size : Int) (fuel : Nat) (cs₁ cs₂ : List Int) (g : Int)
    (r₁ : List Int × Int) (h₁ : gfqRun bits q fn size fuel cs₁ g = some r₁)
    (r₂ : List Int × Int) (h₂ : gfqRun bits q fn size fuel cs₂ r₁.2 = some r₂) :
    gfqRun bits q fn size fuel (cs₁ ++ cs₂) g = some (r₁.1 ++ r₂.1, r₂.2) :=
  runCalls_append_some _ cs₁ cs₂ g h₁ h₂

theorem gfq_iterator_canonical (bits : Nat) (q : Int) (hb : 1 ≤ bits) (hq2 : 2 ≤ q) (hq : q < 2 ^ (bits - 1)) (fn : Nat) (size : Int)
    (hs : 0 ≤ size) (hs6 : fn = 6 → 1 ≤ size ∧ size ≤ q) (hs7 : fn = 7 → 2 ≤ size ∧ size ≤ q) (fuel : Nat) (olds : List Int) (g : Int)
    (r : List Int × Int) (h : gfqRun bits q fn size fuel olds g = some r) :
    r.1.length = olds.length ∧ ∀ e ∈ r.1, canonical q e = true ∧ ((fn = 3 ∨ fn = 5 ∨ fn = 7) → e ≠ 0) := by
  refine runCalls_all _ _ (fun s c o s' hstep => ?_) olds g r h
  rw [gfqStepD_eq] at hstep
  exact gfqStep_spec bits q hb hq2 hq fn size hs hs6 hs7 fuel s (o, s') hstep

example : (gfqRun 32 8 1 100 64 [-1, -1, -1] 7).isSome = true := by decide
example : gfqRun 32 8 1 100 64 [-1, -1, -1] 7 = gfqRun 32 8 1 100 64 [0, 1, 2] 7 := gfqRun_dest_indep 32 8 1 100 64 _ _ rfl 7

/-- polynomial draws: `Poly1Dom::random(g, r, Degree d)` (and the size / "same size as b" / `nonzerorandom` forms that
    forward to it) returns the same polynomial whatever `r` held — longer, shorter, empty or non-canonical -/
theorem poly_dest_indep (bits : Nat) (sgn : Bool) (p : Int) (d : Int) (fuel : Nat) (old old' : List Int) (g : Int) :
    polyRandomD bits sgn p d fuel old g = polyRandomD bits sgn p d fuel old' g := by rw [polyRandomD_eq, polyRandomD_eq]

example : polyRandomD 32 true 101 3 64 (List.replicate 12 1) 7 = polyRandomD 32 true 101 3 64 [] 7 := poly_dest_indep _ _ _ _ _ _ _ _

/-- … and is a polynomial of exactly the requested degree with canonical coefficients (the zero polynomial for degree -∞) -/
theorem poly_randomD_degree (bits : Nat) (sgn : Bool) (p : Int) (hb : 1 ≤ bits) (hp : 1 ≤ p) (hfit : p ≤ 2 ^ (bits - 1))
    (d : Int) (fuel : Nat) (old : List Int) (g : Int) (r : List Int × Int) (h : polyRandomD bits sgn p d fuel old g = some r) :
    polyDegOk p d r.1 = true := by
  rw [polyRandomD_eq] at h
  exact poly_random_any_degree bits sgn p hb hp hfit d fuel g r h

example : (polyRandomD 32 true 101 3 64 (List.replicate 12 1) 7).isSome = true := by decide

/-- a sequence of polynomial draws (each with its own requested degree and destination content) on one generator: the
    polynomials and the generator state left behind depend on the degrees only -/
theorem poly_run_dest_indep (bits : Nat) (sgn : Bool) (p : Int) (fuel : Nat) (cs cs' : List (Int × List Int))
    (h : List.Forall₂ (fun c c' => c.1 = c'.1) cs cs') (g : Int) :
    runCalls (polyStep bits sgn p fuel) cs g = runCalls (polyStep bits sgn p fuel) cs' g := by
  apply runCalls_congr _ (fun c c' => c.1 = c'.1) _ cs cs' h
  intro s c c' hc
  unfold polyStep
  rw [hc]; exact poly_dest_indep bits sgn p c'.1 fuel c.2 c'.2 s

/-! ### RecInt::rand -/

theorem ruTree_range {σ : Type} (leaf : Int → σ → Int × σ) (hleaf : ∀ o s, 0 ≤ (leaf o s).1 ∧ (leaf o s).1 < 2 ^ 64) (k : Nat) :
    ∀ (old : Int) (s : σ), 0 ≤ (ruTree leaf k old s).1 ∧ (ruTree leaf k old s).1 < 2 ^ (64 * 2 ^ k) :=
  fun old s => (ruTree_range_inv leaf (fun _ => True) (fun o s _ => ⟨hleaf o s, trivial⟩) k old s trivial).1

/-- `rand(ruint<K>&)` (and hence `rand(rint<K>&)`, `rand(rmint<K>&)`): the value and the words consumed do not depend on what
    the destination held -/
theorem ru_rand_dest_indep (K : Nat) (old old' : Int) (ws : List Int) : ruRandD K old ws = ruRandD K old' ws :=
  ruTree_dest_indep leafW leafW_dest_indep (K - 6) old old' ws

/-- … and the value is in `[0, 2^(2^K))` for every `K ≥ 6` and every stream of 64-bit words -/
theorem ru_rand_range (K : Nat) (hK : 6 ≤ K) (old : Int) (ws : List Int) (hw : ∀ w ∈ ws, 0 ≤ w ∧ w < 18446744073709551616) :
    0 ≤ (ruRandD K old ws).1 ∧ (ruRandD K old ws).1 < 2 ^ (2 ^ K) := by
  have e : 2 ^ K = 64 * 2 ^ (K - 6) := by
    rw [show 64 = 2 ^ 6 by decide, ← Nat.pow_add]; congr 1; omega
  rw [e]
  -- the invariant: what is left of a stream of words is a stream of words
  refine (ruTree_range_inv leafW (fun l => ∀ w ∈ l, 0 ≤ w ∧ w < 18446744073709551616) (fun o l hl => ?_) (K - 6) old ws hw).1
  cases l with
  | nil => exact ⟨show (0 : Int) ≤ 0 ∧ (0 : Int) < 2 ^ 64 by decide, hl⟩
  | cons w t => exact ⟨hl w (by simp), fun x hx => hl x (List.mem_cons_of_mem w hx)⟩

example : 0 ≤ (ruRandD 7 (2 ^ 128 - 1) [1, 2]).1 ∧ (ruRandD 7 (2 ^ 128 - 1) [1, 2]).1 < 2 ^ (2 ^ 7) := ru_rand_range 7 (by decide) _ _ (by decide)
example : ruRandD 7 (2 ^ 128 - 1) [1, 2] = (1 * 2 ^ 64 + 2, []) := by decide

/-- `rand(rmint<K>&)` (both representations): canonical residue, independent of the destination -/
theorem rm_rand_spec (K : Nat) (p : Int) (hp : 1 ≤ p) (old old' : Int) (ws : List Int) :
    canonical p (rmRandD K p old ws).1 = true ∧ canonical p (rmRandMgD K p old ws).1 = true ∧
    rmRandD K p old ws = rmRandD K p old' ws ∧ rmRandMgD K p old ws = rmRandMgD K p old' ws := by
  refine ⟨canonical_emod _ hp, canonical_emod _ hp, ?_, ?_⟩
  · unfold rmRandD; rw [ru_rand_dest_indep K old old' ws]
  · unfold rmRandMgD; rw [ru_rand_dest_indep K old old' ws]

example : canonical 101 (rmRandD 6 101 (2 ^ 64 - 1) [12345]).1 = true := (rm_rand_spec 6 101 (by decide) _ 0 _).1

/-- `rand(rint<K>&)`: independent of the destination -/
theorem ri_rand_dest_indep (K : Nat) (old old' : Int) (ws : List Int) : riRandD K old ws = riRandD K old' ws := by
  unfold riRandD
  rw [ru_rand_dest_indep K (old % 2 ^ (2 ^ K)) (old' % 2 ^ (2 ^ K)) ws]

/-- a sequence of `rand` calls on the global generator (the stream `ws` left after `srand(s)`): values and remaining stream do
    not depend on the destinations — `srand(s)` followed by the same calls reproduces the same values -/
theorem ru_run_dest_indep (K : Nat) (olds olds' : List Int) (h : olds.length = olds'.length) (ws : List Int) :
    runCalls (fun ws old => some (ruRandD K old ws)) olds ws = runCalls (fun ws old => some (ruRandD K old ws)) olds' ws :=
  runCalls_dest_indep _ (fun s c c' => by rw [ru_rand_dest_indep K c c' s]) olds olds' h ws

/-- `Modular<ruint<K>>::random(g, r)` / `Montgomery<ruint<K>>::random(g, r)` on the generator they are given: canonical,
    independent of the destination -/
theorem ruint_ring_random_spec (K : Nat) (p : Int) (hp : 1 ≤ p) (old old' g : Int) :
    canonical p (ruRingRandomD K p old g).1 = true ∧ ruRingRandomD K p old g = ruRingRandomD K p old' g := by
  refine ⟨canonical_emod _ hp, ?_⟩
  unfold ruRingRandomD; rw [ruTree_dest_indep leafG leafG_dest_indep (K - 6) old old' g]

/-- `nonzerorandom(g, a)` of the same rings: canonical and not zero -/
theorem ruint_ring_nonzero_spec (K : Nat) (p : Int) (hp : 1 ≤ p) (fuel : Nat) (old g : Int) (eg : Int × Int)
    (h : ruRingNonzeroD K p fuel old g = some eg) : canonical p eg.1 = true ∧ eg.1 ≠ 0 := by
  rw [ruRingNonzeroD_loop] at h
  exact untilNonzero_spec _ (canonical p · = true) (fun g => (ruint_ring_random_spec K p hp 0 0 g).1) fuel g eg h

theorem ruRingRun_dest_indep (K : Nat) (p : Int) (hp : 1 ≤ p) (fn fuel : Nat) (olds olds' : List Int) (h : olds.length = olds'.length) (g : Int) :
    ruRingRun K p fn fuel olds g = ruRingRun K p fn fuel olds' g := by
  refine runCalls_dest_indep _ (fun s c c' => ?_) olds olds' h g
  unfold ruRingStepD
  rw [(ruint_ring_random_spec K p hp c c' s).2, ruRingNonzeroD_loop K p fuel c, ruRingNonzeroD_loop K p fuel c']

example : canonical 101 (ruRingRandomD 7 101 (2 ^ 128 - 1) 5).1 = true := (ruint_ring_random_spec 7 101 (by decide) _ 0 5).1
example : (ruRingRun 7 101 5 8 [2 ^ 128 - 1, 0] 5).isSome = true := by decide

/-! ### GivRandom: the constructor for every 64-bit seed; `operator()(XXX&)` -/

/-- a non-zero seed never consults the clock: `GivRandom(s)` is deterministic, for every non-zero `s` -/
theorem givctor_deterministic (s : Int) (hs : s ≠ 0) (clock clock' : List Int) :
    givCtor s clock = givCtor s clock' ∧ givCtor s clock = some (givInit s) := by
  unfold givCtor; simp [hs]

/-- every 64-bit seed — non-zero seeds of any size (multiples of 2^31-1, values ≥ 2^31, 2^63, 2^64-1), and the zero seed for
    every clock reading (`BaseTimer::seed()` is an `int64_t`) — gives a state in `[1, 2^31-2]`: never the absorbing state 0 -/
theorem givctor_range (s : Int) (h0 : 0 ≤ s) (h1 : s < 18446744073709551616) (clock : List Int) (hc : ∀ c ∈ clock, InS64 c)
    (g : Int) (h : givCtor s clock = some g) : 1 ≤ g ∧ g < givMod := by
  unfold givCtor at h
  by_cases hs : s = 0
  · simp only [hs, ne_eq, not_true_eq_false, ↓reduceIte] at h
    split at h
    · cases h
    · rename_i c hf
      cases h
      have hw := wrapU64_pos c (hc c (List.mem_of_find?_eq_some hf)) (by simpa using List.find?_some hf)
      exact givinit_range (wrapU64 c) hw.1 hw.2
  · simp only [hs, ne_eq, not_false_eq_true, ↓reduceIte] at h
    cases h
    exact givinit_range s (by omega) h1

example : givCtor 0 [0, 0, 123456789] = some 123456789 := by decide
example : givCtor 4294967294 [] = some 2 := by decide

/-- a seed handed over as a *signed* 64-bit number (converted to `uint64_t` by the call) is as good as any other: every
    non-zero `int64_t`, negative ones included, gives a valid state -/
theorem givctor_signed (s : Int) (hs : InS64 s) (h0 : s ≠ 0) (clock : List Int) :
    ∃ g, givCtor (wrapU64 s) clock = some g ∧ 1 ≤ g ∧ g < givMod := by
  have hw := wrapU64_pos s hs h0
  exact ⟨givInit (wrapU64 s), (givctor_deterministic _ (by omega) clock clock).2, givinit_range (wrapU64 s) hw.1 hw.2⟩

example : ∃ g, givCtor (wrapU64 (-5)) [] = some g ∧ 1 ≤ g ∧ g < givMod := givctor_signed (-5) (by decide) (by decide) []

/-- seeds that differ by `2^31 - 2` share a sequence (the constructor reduces modulo `2^31 - 2`, shifted by 1) -/
theorem givinit_periodic (s : Int) (h1 : 1 ≤ s) (h2 : s + 2147483646 < 18446744073709551616) : givInit (s + 2147483646) = givInit s := by
  rw [givInit_eq _ (by omega) h2, givInit_eq s h1 (by omega),
      show s + 2147483646 - 1 = s - 1 + 1 * (givMod - 1) by unfold givMod; omega, Int.add_mul_emod_self_right]

/-- the multiples of the modulus `2^31 - 1` are ordinary seeds: `k (2^31-1) ↦ 1 + (k-1) mod (2^31-2)` -/
theorem givinit_multiple (k : Int) (h1 : 1 ≤ k) (h2 : k * 2147483647 < 18446744073709551616) :
    givInit (k * 2147483647) = 1 + (k - 1) % 2147483646 := by
  rw [givInit_eq _ (by omega) h2, show k * 2147483647 - 1 = k - 1 + k * (givMod - 1) by unfold givMod; omega,
      Int.add_mul_emod_self_right]
  rfl

example : givInit (3 * 2147483647) = 3 := by decide

/-- every draw of every sequence from every 64-bit seed (zero seed: for every clock) is in range: combination of the above -/
theorem givrandom_every_seed (s : Int) (h0 : 0 ≤ s) (h1 : s < 18446744073709551616) (clock : List Int) (hc : ∀ c ∈ clock, InS64 c)
    (g : Int) (h : givCtor s clock = some g) (n : Nat) : ∀ x ∈ givDraws n g, givOk x = true := by
  have hg := givctor_range s h0 h1 clock hc g h
  exact givdraws_ok n g hg.1 hg.2

/-- `g(x)` (`template<class XXX> XXX& operator()(XXX& x)`): the value written and the new state do not depend on what `x` held
    (by definition) -/
theorem givdrawinto_dest_indep (cast : Int → Int) (old old' g : Int) : givDrawInto cast old g = givDrawInto cast old' g := rfl

/-- … and the draw behind it is the ordinary one (same state transition, value = the conversion of `operator()()`) -/
theorem givdrawinto_eq (cast : Int → Int) (old g : Int) : givDrawInto cast old g = (cast (givNext g), givNext g) := rfl

end Givaro.Props.C20
