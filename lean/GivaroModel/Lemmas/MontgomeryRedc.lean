/-
C07.  REDC on `Int` for any radix (`Mont B p nim`), the relation `IsRep`, and what it is for a ring to keep its elements in Montgomery form (`IsMont`): on reduced
operands its add / sub / neg are the plain residue operations and its mul / convert are REDC.  Everything about representations follows from that; no model function occurs here.
-/
import GivaroModel.Spec.MontgomerySpec
import GivaroModel.Lemmas.WordLemmas
import Mathlib.Tactic.Ring
import Mathlib.Tactic.Linarith
import Mathlib.Tactic.LinearCombination
import Mathlib.Data.Int.ModEq
import Mathlib.Data.Int.GCD
import Mathlib.RingTheory.Coprime.Basic

namespace Givaro.Lemmas.Montgomery
open Givaro Givaro.Spec.Montgomery

theorem emod_mul_emod' (x b p : Int) : (x % p) * b % p = x * b % p := ((Int.mod_modEq x p).mul_right b)

theorem emod_mul_eq_of_dvd {p x b a : Int} (h : p ∣ x * b - a) : x % p * b % p = a % p := by
  rw [emod_mul_emod']; exact (Int.modEq_iff_dvd.mpr h).symm

/-! ## the pure layer -/

/-- `nim = −p⁻¹ mod B` -/
structure Mont (B p nim : Int) : Prop where
  p0 : 0 < p
  pB : p < B
  inv : (nim * p) % B = B - 1

/-- the last step of every reduction -/
def csub (p t : Int) : Int := if t ≥ p then t - p else t

def redcQuot (B p nim c : Int) : Int := (c + c % B * nim % B * p) / B
def redcPure (B p nim c : Int) : Int := csub p (redcQuot B p nim c)

section pure
variable {B p nim : Int}

theorem coprime_of_nim (hnim : (nim * p) % B = B - 1) : IsCoprime p B := by
  have h := Int.emod_add_mul_ediv (nim * p) B
  refine ⟨-nim, (nim * p) / B + 1, ?_⟩
  rw [hnim] at h
  linear_combination h

theorem cancel_radix (hnim : (nim * p) % B = B - 1) {u v : Int} (h : p ∣ (u - v) * B) : p ∣ u - v :=
  (coprime_of_nim hnim).dvd_of_dvd_mul_right h

theorem redc_dvd (hnim : (nim * p) % B = B - 1) (c : Int) :
    B ∣ c + ((c % B) * nim) % B * p := by
  have h1 := Int.emod_add_mul_ediv (nim * p) B
  have h2 := Int.emod_add_mul_ediv c B
  have h3 := Int.emod_add_mul_ediv ((c % B) * nim) B
  rw [hnim] at h1
  refine ⟨c / B + (c % B) * ((nim * p) / B + 1) - ((c % B) * nim) / B * p, ?_⟩
  linear_combination (-1 : Int) * h2 + (-(c % B)) * h1 + p * h3

theorem redcQuot_spec (h : Mont B p nim) {c : Int} (hc0 : 0 ≤ c) (hc : c < p * B) :
    ∃ m, B * redcQuot B p nim c = c + m * p ∧ 0 ≤ redcQuot B p nim c ∧ redcQuot B p nim c < 2 * p := by
  have hB : 0 < B := lt_trans h.p0 h.pB
  have hm0 : 0 ≤ c % B * nim % B := Int.emod_nonneg _ hB.ne'
  have hmB : c % B * nim % B < B := Int.emod_lt_of_pos _ hB
  have hmp0 : 0 ≤ c % B * nim % B * p := Int.mul_nonneg hm0 h.p0.le
  have hmpB : c % B * nim % B * p < B * p := Int.mul_lt_mul_of_pos_right hmB h.p0
  refine ⟨c % B * nim % B, Int.mul_ediv_cancel' (redc_dvd h.inv c), Int.ediv_nonneg (Int.add_nonneg hc0 hmp0) hB.le,
    Int.ediv_lt_of_lt_mul hB ?_⟩
  rw [show 2 * p * B = p * B + B * p by ring]
  exact add_lt_add hc hmpB

theorem redcPure_spec (h : Mont B p nim) {c : Int} (hc0 : 0 ≤ c) (hc : c < p * B) :
    0 ≤ redcPure B p nim c ∧ redcPure B p nim c < p ∧ p ∣ c - redcPure B p nim c * B := by
  obtain ⟨m, hm, t0, t2⟩ := redcQuot_spec h hc0 hc
  have := h.p0
  unfold redcPure csub
  split
  · exact ⟨by omega, by omega, B - m, by linear_combination -hm⟩
  · exact ⟨by omega, by omega, -m, by linear_combination -hm⟩

theorem lt_mul_radix (h : Mont B p nim) {x : Int} (x1 : x < p) : x < p * B := by
  have hB : 1 ≤ B := by have := h.p0; have := h.pB; omega
  exact lt_of_lt_of_le x1 (le_mul_of_one_le_right h.p0.le hB)

theorem mul_lt_radix (h : Mont B p nim) {x y : Int} (x0 : 0 ≤ x) (x1 : x < p) (y0 : 0 ≤ y) (y1 : y < p) :
    0 ≤ x * y ∧ x * y < p * B := by
  exact ⟨Int.mul_nonneg x0 y0, Int.mul_lt_mul' x1.le (lt_trans y1 h.pB) y0 h.p0⟩

end pure

/-! ## `IsRep B p x a` (`x ∈ [0, p)`, `x ≡ a·B (mod p)`) -/

theorem isRep_iff {M p x a : Int} : IsRep M p x a ↔ 0 ≤ x ∧ x < p ∧ p ∣ a * M - x :=
  and_congr_right' (and_congr_right' Int.modEq_iff_dvd)

section rep
variable {B p : Int}

theorem rep_congr_val {s a a' : Int} (hs : IsRep B p s a) (h : p ∣ a - a') : IsRep B p s a' :=
  ⟨hs.1, hs.2.1, hs.2.2.trans ((Int.modEq_iff_dvd.mpr h).mul_right B).symm⟩

theorem rep_emod {s v : Int} (hs : IsRep B p s (v % p)) : IsRep B p s v :=
  ⟨hs.1, hs.2.1, hs.2.2.trans (emod_mul_emod' v B p)⟩

theorem rep_unique {x y a b : Int} (hx : IsRep B p x a) (hy : IsRep B p y b) (hab : p ∣ a - b) : x = y := by
  have e : b * B % p = a * B % p := (Int.modEq_iff_dvd.mpr hab).mul_right B
  have : x % p = y % p := by rw [hx.2.2, hy.2.2, e]
  rwa [Int.emod_eq_of_lt hx.1 hx.2.1, Int.emod_eq_of_lt hy.1 hy.2.1] at this

theorem rep_of_modEq (hp : 0 < p) {t a : Int} (h : t ≡ a * B [ZMOD p]) : IsRep B p (t % p) a :=
  ⟨Int.emod_nonneg _ hp.ne', Int.emod_lt_of_pos _ hp, (Int.emod_emod_of_dvd t (dvd_refl p)).trans h⟩

end rep

/-! ## a ring that keeps its elements in Montgomery form -/

/-- On reduced operands `add sub neg` are the plain residue operations and `mul`, `conv` (`convert` / `get_ruint`) are REDC; one statement for both rings,
    from which every C07/C04 theorem about operations, `convert`, `init`, `inv`, `div` follows. -/
structure IsMont (add sub : Int → Int → Int) (neg : Int → Int) (mul : Int → Int → Int) (conv : Int → Int) (B p nim : Int) : Prop
    extends Mont B p nim where
  add_val : ∀ {x y : Int}, 0 ≤ x → x < p → 0 ≤ y → y < p → add x y = (x + y) % p
  sub_val : ∀ {x y : Int}, 0 ≤ x → x < p → 0 ≤ y → y < p → sub x y = (x - y) % p
  neg_val : ∀ {x : Int}, 0 ≤ x → x < p → neg x = (-x) % p
  mul_val : ∀ {x y : Int}, 0 ≤ x → x < p → 0 ≤ y → y < p → mul x y = redcPure B p nim (x * y)
  conv_val : ∀ {x : Int}, 0 ≤ x → x < p → conv x = redcPure B p nim x

namespace IsMont
variable {add sub : Int → Int → Int} {neg : Int → Int} {mul : Int → Int → Int} {conv : Int → Int} {B p nim : Int}
  (h : IsMont add sub neg mul conv B p nim) {x y a b : Int}
include h

theorem add_rep (hx : IsRep B p x a) (hy : IsRep B p y b) : IsRep B p (add x y) (a + b) := by
  rw [h.add_val hx.1 hx.2.1 hy.1 hy.2.1]
  exact rep_of_modEq h.p0 (by rw [add_mul]; exact Int.ModEq.add hx.2.2 hy.2.2)

theorem sub_rep (hx : IsRep B p x a) (hy : IsRep B p y b) : IsRep B p (sub x y) (a - b) := by
  rw [h.sub_val hx.1 hx.2.1 hy.1 hy.2.1]
  exact rep_of_modEq h.p0 (by rw [sub_mul]; exact Int.ModEq.sub hx.2.2 hy.2.2)

theorem neg_rep (hx : IsRep B p x a) : IsRep B p (neg x) (-a) := by
  rw [h.neg_val hx.1 hx.2.1]
  exact rep_of_modEq h.p0 (by rw [neg_mul]; exact Int.ModEq.neg hx.2.2)

/-- REDC divides by `B`: a product of reduced words congruent to `a·B²` gives the Montgomery form of `a` -/
theorem mul_rep_of (x0 : 0 ≤ x) (x1 : x < p) (y0 : 0 ≤ y) (y1 : y < p) (hca : p ∣ a * B * B - x * y) : IsRep B p (mul x y) a := by
  obtain ⟨c0, c1⟩ := mul_lt_radix h.toMont x0 x1 y0 y1
  obtain ⟨r0, r1, k, hk⟩ := redcPure_spec h.toMont c0 c1
  obtain ⟨j, hj⟩ := hca
  rw [h.mul_val x0 x1 y0 y1]
  exact isRep_iff.mpr ⟨r0, r1, cancel_radix h.inv ⟨j + k, by linear_combination hj + hk⟩⟩

theorem mul_rep (hx : IsRep B p x a) (hy : IsRep B p y b) : IsRep B p (mul x y) (a * b) := by
  obtain ⟨x0, x1, k1, h1⟩ := isRep_iff.mp hx
  obtain ⟨y0, y1, k2, h2⟩ := isRep_iff.mp hy
  exact h.mul_rep_of x0 x1 y0 y1 ⟨b * B * k1 + x * k2, by linear_combination (b * B) * h1 + x * h2⟩

theorem conv_rep (hx : IsRep B p x a) : conv x = a % p := by
  obtain ⟨x0, x1, k, hk⟩ := isRep_iff.mp hx
  obtain ⟨r0, r1, j, hj⟩ := redcPure_spec h.toMont x0 (lt_mul_radix h.toMont x1)
  rw [h.conv_val x0 x1]
  exact (emod_unique_of_dvd r0 r1 (cancel_radix h.inv ⟨k + j, by linear_combination hk + hj⟩)).symm

theorem conv_self {e : Int} (e0 : 0 ≤ e) (e1 : e < p) : IsRep B p e (conv e) ∧ 0 ≤ conv e ∧ conv e < p := by
  obtain ⟨r0, r1, k, hk⟩ := redcPure_spec h.toMont e0 (lt_mul_radix h.toMont e1)
  rw [h.conv_val e0 e1]
  exact ⟨isRep_iff.mpr ⟨e0, e1, -k, by linear_combination -hk⟩, r0, r1⟩

theorem mul_const_rep {v : Int} (v0 : 0 ≤ v) (v1 : v < p) (W : Int) (ha : a * B * B = v * W) : IsRep B p (mul v (W % p)) a :=
  h.mul_rep_of v0 v1 (Int.emod_nonneg W h.p0.ne') (Int.emod_lt_of_pos W h.p0)
    ⟨v * (W / p), by linear_combination ha - v * Int.emod_add_mul_ediv W p⟩

theorem toMg_rep (v : Int) : IsRep B p (mul (v % p) (B * B % p)) v :=
  rep_emod (h.mul_const_rep (Int.emod_nonneg v h.p0.ne') (Int.emod_lt_of_pos v h.p0) (B * B) (by ring))

/-- the shape of every signed `init` -/
theorem init_signed_rep (v : Int) : IsRep B p (mul (if v < 0 then neg (-v % p) else v % p) (B * B % p)) v := by
  split
  · rw [h.neg_val (Int.emod_nonneg _ h.p0.ne') (Int.emod_lt_of_pos _ h.p0), neg_emod_emod, neg_neg]
    exact h.toMg_rep v
  · exact h.toMg_rep v

/-- `inv`: a modular inverse `t` of the word, times `B³ mod p` -/
theorem inv_div (hp1 : 1 < p) {t : Int} (hx : IsRep B p x a) (hy : IsRep B p y b) (t0 : 0 ≤ t) (t1 : t < p) (ht : p ∣ t * x - 1) :
    conv (mul t (B * B * B % p)) * a % p = 1 ∧ conv (mul (mul t (B * B * B % p)) y) * a % p = b % p ∧
    conv (mul y (mul t (B * B * B % p))) * a % p = b % p := by
  obtain ⟨_, _, k, hk⟩ := isRep_iff.mp hx
  obtain ⟨i, hi⟩ := ht
  have hj : t * B * a - 1 = p * (t * k + i) := by linear_combination t * hk + hi
  have rI : IsRep B p (mul t (B * B * B % p)) (t * B) := h.mul_const_rep t0 t1 (B * B * B) (by ring)
  rw [h.conv_rep rI, h.conv_rep (h.mul_rep rI hy), h.conv_rep (h.mul_rep hy rI)]
  exact ⟨(emod_mul_eq_of_dvd ⟨_, hj⟩).trans (Int.emod_eq_of_lt (by decide) hp1),
    emod_mul_eq_of_dvd ⟨b * (t * k + i), by linear_combination b * hj⟩, emod_mul_eq_of_dvd ⟨b * (t * k + i), by linear_combination b * hj⟩⟩

end IsMont

end Givaro.Lemmas.Montgomery
