/-
C20 — the random-drawing entry points of the ring / field classes that Props/C20.lean does not cover (Model/RandomRings.lean):
`Modular<float|double>`, `ModularBalanced<int32_t|int64_t|float|double>`, `Montgomery<int32_t>`, `ZRing<intN|uintN>`, `GF2`,
`Extension<Modular<int32_t>>`, `Poly1Dom` over any coefficient domain, `QField<Rational>` and `GIV_randIter` as an object that is
copied — `random`, `nonzerorandom` and the iterator classes on top of them.  Every statement is for all moduli, all generator
states (all 64-bit draw values, not only the ones GivRandom can return), all destinations and arbitrarily long call lists.
-/
import GivaroModel.Props.C20
import GivaroModel.Model.RandomRings
import GivaroModel.Lemmas.RandomRingsLemmas
import GivaroModel.Lemmas.MontgomeryLemmas
import GivaroModel.Lemmas.RationalLemmas
namespace Givaro.Props.C20Rings
open Givaro Givaro.Model.Random Givaro.Model.RandomRings Givaro.Spec.Random Givaro.Lemmas.Random Givaro.Props.C20

/-- the class's `init(Element&, uint64_t)` maps every 64-bit value into the set `C` -/
def InitInto (R : RingDraw) (C : Int → Prop) : Prop := ∀ y : Int, 0 ≤ y → y < 18446744073709551616 → C (R.init y)

/-! ### the classes: `init(r, y)` is canonical for every draw value `y` -/

theorem canonicalBal_iff (p e : Int) : canonicalBal p e = true ↔ p / 2 - p + 1 ≤ e ∧ e ≤ p / 2 := by
  unfold canonicalBal; simp only [decide_eq_true_eq]

/-- `Modular<float>` / `Modular<double>`: in `[0, p)` for every modulus and every 64-bit draw -/
theorem flt_init_canonical (p : Int) (hp : 1 ≤ p) : InitInto (fltRing p) (fun e => canonical p e = true) := by
  intro y _ _
  exact canonical_emod y hp

example : canonical 4093 ((fltRing 4093).init 18446744073709551615) = true :=
  flt_init_canonical 4093 (by decide) _ (by decide) (by decide)

/-- `ModularBalanced<T>`: in `[⌊p/2⌋ - p + 1, ⌊p/2⌋]` for every modulus on which the conversion to `T` is the identity
    (`|x| ≤ p`), and every 64-bit draw -/
theorem bal_init_canonical (wr : Int → Int) (p : Int) (hp : 1 ≤ p) (hwr : ∀ x : Int, -p ≤ x → x ≤ p → wr x = x) :
    InitInto (balRing wr p) (fun e => canonicalBal p e = true) := by
  intro y _ _
  have hm := emod_canon (show 0 < p by omega) y
  rw [canonicalBal_iff]
  show p / 2 - p + 1 ≤ (if wr (y % p) > p / 2 then wr (wr (y % p) - p) else wr (y % p)) ∧
       (if wr (y % p) > p / 2 then wr (wr (y % p) - p) else wr (y % p)) ≤ p / 2
  rw [hwr (y % p) (by omega) (by omega)]
  split
  · rw [hwr _ (by omega) (by omega)]; omega
  · omega

/-- `ModularBalanced<int32_t>` (every modulus of the storage type's positive half, beyond `maxCardinality()` = 131072) -/
theorem bal32_init_canonical (p : Int) (hp : 1 ≤ p) (hfit : p ≤ 2147483647) :
    InitInto (balRing wrapS32 p) (fun e => canonicalBal p e = true) :=
  bal_init_canonical wrapS32 p hp (wrapS32_small p hfit)

/-- `ModularBalanced<int64_t>` -/
theorem bal64_init_canonical (p : Int) (hp : 1 ≤ p) (hfit : p ≤ 9223372036854775807) :
    InitInto (balRing wrapS64 p) (fun e => canonicalBal p e = true) :=
  bal_init_canonical wrapS64 p hp (wrapS64_small p hfit)

/-- `ModularBalanced<float>` / `ModularBalanced<double>` -/
theorem balflt_init_canonical (p : Int) (hp : 1 ≤ p) : InitInto (balRing id p) (fun e => canonicalBal p e = true) :=
  bal_init_canonical id p hp (fun _ _ _ => rfl)

example : canonicalBal 101 ((balRing wrapS32 101).init 18446744073709551615) = true :=
  bal32_init_canonical 101 (by decide) (by decide) _ (by decide) (by decide)
example : (balRing wrapS32 101).init 51 = -50 ∧ (balRing wrapS32 101).init 50 = 50 := by decide

/-- `Montgomery<int32_t>`: the stored Montgomery form is in `[0, p)` for every admissible modulus (odd, 3 ≤ p ≤ 40503 =
    `maxCardinality()`) and every 64-bit draw -/
theorem mg_init_canonical (p : Int) (h3 : 3 ≤ p) (hmax : p ≤ 40503) (hodd : p % 2 = 1) :
    InitInto (mgRing p) (fun e => canonical p e = true) := by
  intro y _ _
  have r := Givaro.Lemmas.Montgomery.initU64_rep (v := y) (Givaro.Lemmas.Montgomery.mk32_good h3 hmax hodd)
  have h := Givaro.Lemmas.Montgomery.isRep_iff.mp r
  exact (canonical_iff p _).2 ⟨h.1, h.2.1⟩

example : canonical 40503 ((mgRing 40503).init 18446744073709551615) = true :=
  mg_init_canonical 40503 (by decide) (by decide) (by decide) _ (by decide) (by decide)

/-- `ZRing<intN_t|uintN_t>`: the element is a value of the element type -/
theorem zint_init_range (bits : Nat) (sgn : Bool) (hb : 1 ≤ bits) :
    InitInto (zintRing bits sgn) (fun e => if sgn then -(2 ^ (bits - 1)) ≤ e ∧ e < 2 ^ (bits - 1) else 0 ≤ e ∧ e < 2 ^ bits) := by
  intro y _ _
  have hh := two_pow_pred hb
  simp only [zintRing, castSt]
  cases sgn
  · simp only [Bool.false_eq_true, ↓reduceIte]; exact emod_canon (two_pow_pos bits) y
  · simp only [↓reduceIte]
    have := emod_canon (two_pow_pos bits) (y + 2 ^ (bits - 1))
    omega

example : (zintRing 8 true).init 200 = -56 := by decide

/-- size-bounded sampling on `ZRing<intN|uintN>`: `GeneralRingRandIter(F, seed, size)` with a sampling size that the element type
    holds returns an element of `[0, size)`, from every generator state -/
theorem zring_sized_draw_range (bits : Nat) (sgn : Bool) (hb : 1 ≤ bits) (sz : Int) (h0 : 0 < sz) (h1 : sz ≤ 2 ^ (bits - 1)) (old g : Int) :
    0 ≤ (rRandomSzD (zintRing bits sgn) sz old g).1 ∧ (rRandomSzD (zintRing bits sgn) sz old g).1 < sz := by
  have hm := emod_canon h0 (givNext g)
  simp only [rRandomSzD, overwrite, zintRing]
  rw [if_pos (by omega), castSt_id bits sgn _ hb hm.1 (by omega)]
  exact hm

example : 0 ≤ (rRandomSzD (zintRing 8 true) 100 (-1) 7).1 ∧ (rRandomSzD (zintRing 8 true) 100 (-1) 7).1 < 100 :=
  zring_sized_draw_range 8 true (by decide) 100 (by decide) (by decide) _ _

/-! ### the member functions and iterators, for every class -/

section Generic
variable (R : RingDraw) (C : Int → Prop) (hC : InitInto R C)
include hC

theorem rRandom_in (old g : Int) : C (rRandomD R old g).1 := hC _ (givnext_u64 g).1 (givnext_u64 g).2

/-- `GeneralRingRandIter` with any sampling size (`g() % size`, or `g()` for size 0) -/
theorem rRandomSz_in (sz : Int) (hs : 0 ≤ sz) (old g : Int) : C (rRandomSzD R sz old g).1 := by
  have hg := givnext_u64 g
  simp only [rRandomSzD, overwrite]
  split
  · -- `g() % size` is below `size` if `g()` is not, and is `g()` otherwise: a 64-bit value either way
    have hm := emod_canon (show 0 < sz by omega) (givNext g)
    by_cases hlt : givNext g < sz
    · rw [Int.emod_eq_of_lt hg.1 hlt]; exact hC _ hg.1 hg.2
    · exact hC _ hm.1 (by omega)
  · exact hC _ hg.1 hg.2

theorem rNonzero_spec (fuel : Nat) (old g : Int) (eg : Int × Int) (h : rNonzeroD R fuel old g = some eg) : C eg.1 ∧ eg.1 ≠ 0 := by
  rw [rNonzeroD_loop] at h
  exact untilNonzero_spec _ C (rRandom_in R C hC 0) fuel g eg h

theorem rStep_spec (fn : Nat) (size : Int) (hs : 0 ≤ size) (hcard : 0 ≤ R.card) (fuel : Nat) (g old : Int) (eg : Int × Int)
    (h : rStepD R fn size fuel g old = some eg) : C eg.1 ∧ ((fn = 3 ∨ fn = 5) → eg.1 ≠ 0) := by
  unfold rStepD at h
  split at h
  · cases h; exact ⟨rRandom_in R C hC old g, by omega⟩
  · cases h; exact ⟨rRandomSz_in R C hC _ (by split <;> omega) old g, by omega⟩
  · exact (rNonzero_spec R C hC fuel old g eg h).imp_right fun h _ => h
  · cases h; exact ⟨rRandom_in R C hC old g, by omega⟩
  · exact (rNonzero_spec R C hC fuel old g eg h).imp_right fun h _ => h
  · cases h

/-- every element of an arbitrarily long run of calls of `ModularRandIter`,
    `GeneralRingRandIter` (any sampling size), `GeneralRingNonZeroRandIter`, `random(g, r)` or `nonzerorandom(g, r)` is in the
    class's element set (and non-zero for the non-zero forms), from every generator state and into every destination -/
theorem ring_iterator_canonical (fn : Nat) (size : Int) (hs : 0 ≤ size) (hcard : 0 ≤ R.card) (fuel : Nat) (olds : List Int) (g : Int)
    (r : List Int × Int) (h : rRun R fn size fuel olds g = some r) :
    r.1.length = olds.length ∧ ∀ e ∈ r.1, C e ∧ ((fn = 3 ∨ fn = 5) → e ≠ 0) :=
  runCalls_all _ _ (fun s c o s' hstep => rStep_spec R C hC fn size hs hcard fuel s c (o, s') hstep) olds g r h

end Generic

example : ∀ r, rRun (balRing wrapS32 101) 5 0 64 [-1, -1, -1] 7 = some r →
    r.1.length = 3 ∧ ∀ e ∈ r.1, canonicalBal 101 e = true ∧ ((5 = 3 ∨ 5 = 5) → e ≠ 0) :=
  fun r h => ring_iterator_canonical _ _ (bal32_init_canonical 101 (by decide) (by decide)) 5 0 (by decide) (by decide) 64 _ 7 r h
example : (rRun (balRing wrapS32 101) 5 0 64 [-1, -1, -1] 7).isSome = true := by decide

/-! ### destination independence, determinism, copies -/

theorem rNonzeroD_dest_indep (R : RingDraw) (fuel : Nat) (old old' g : Int) : rNonzeroD R fuel old g = rNonzeroD R fuel old' g := by
  rw [rNonzeroD_loop, rNonzeroD_loop]

theorem rStep_dest_indep (R : RingDraw) (fn : Nat) (size : Int) (fuel : Nat) (g old old' : Int) :
    rStepD R fn size fuel g old = rStepD R fn size fuel g old' := by
  unfold rStepD
  split
  · rfl
  · rfl
  · exact rNonzeroD_dest_indep R fuel old old' g
  · rfl
  · exact rNonzeroD_dest_indep R fuel old old' g
  · rfl

/-- the elements returned for a list of calls and the generator state left behind do not depend on the destinations -/
theorem rRun_dest_indep (R : RingDraw) (fn : Nat) (size : Int) (fuel : Nat) (olds olds' : List Int) (h : olds.length = olds'.length)
    (g : Int) : rRun R fn size fuel olds g = rRun R fn size fuel olds' g :=
  runCalls_dest_indep _ (rStep_dest_indep R fn size fuel) olds olds' h g

example : rRun (fltRing 101) 5 0 64 [-1, -1, -1] 7 = rRun (fltRing 101) 5 0 64 [0, 5, 1000] 7 :=
  rRun_dest_indep _ 5 0 64 _ _ rfl 7

/-- copy semantics: the iterator (or generator) copied after the calls `cs₁` and then given `cs₂` returns what the original
    would have returned -/
theorem rRun_append (R : RingDraw) (fn : Nat) (size : Int) (fuel : Nat) (cs₁ cs₂ : List Int) (g : Int)
    (r₁ : List Int × Int) (h₁ : rRun R fn size fuel cs₁ g = some r₁)
    (r₂ : List Int × Int) (h₂ : rRun R fn size fuel cs₂ r₁.2 = some r₂) :
    rRun R fn size fuel (cs₁ ++ cs₂) g = some (r₁.1 ++ r₂.1, r₂.2) :=
  runCalls_append_some _ cs₁ cs₂ g h₁ h₂

example : (rRun (fltRing 101) 0 0 64 [0, 0] 7).isSome = true := by decide

/-- `rRun_dest_indep` from the state `givInit seed` (the equation between the seeds is a hypothesis): what the destinations held does
    not show in the elements or in the successor state -/
theorem ring_same_seed_same_sequence (R : RingDraw) (fn : Nat) (size : Int) (fuel : Nat) (seed₁ seed₂ : Int) (hseed : seed₁ = seed₂)
    (olds₁ olds₂ : List Int) (h : olds₁.length = olds₂.length) :
    rRun R fn size fuel olds₁ (givInit seed₁) = rRun R fn size fuel olds₂ (givInit seed₂) := by
  rw [hseed]; exact rRun_dest_indep R fn size fuel olds₁ olds₂ h _

example : rRun (mgRing 101) 4 0 8 [0, 0] (givInit 5) = rRun (mgRing 101) 4 0 8 [3, 4] (givInit 5) :=
  ring_same_seed_same_sequence _ 4 0 8 5 5 rfl _ _ rfl

/-! ### termination of the non-zero loops -/

/-- fuel lemma: if the `(k+1)`-th draw from state `g` is not mapped to zero, `k+1` iterations suffice -/
theorem rNonzero_isSome_of_iter (R : RingDraw) (k : Nat) : ∀ old g : Int,
    R.init (givIter (k + 1) g) ≠ 0 → (rNonzeroD R (k + 1) old g).isSome = true := by
  intro old g h
  rw [rNonzeroD_loop]
  exact untilNonzero_isSome_of_iter _ (fun _ => rfl) k g (by rw [givIter_succ] at h; exact h)

/-- `nonzerorandom` terminates for every class in which the draw value 1 is not the zero element (the generator reaches 1
    from every valid state: its multiplier is a primitive root modulo 2^31-1) -/
theorem ring_nonzerorandom_terminates (R : RingDraw) (h1 : R.init 1 ≠ 0) (g : Int) (hg1 : 1 ≤ g) (hg2 : g < givMod) :
    ∃ fuel : Nat, ∀ old : Int, (rNonzeroD R fuel old g).isSome = true := by
  simp only [rNonzeroD_loop, forall_const]
  exact untilNonzero_terminates _ (fun _ => rfl) (fun g hg => by show R.init (givNext g) ≠ 0; rw [hg]; exact h1) g hg1 hg2

/-- `Modular<float|double>::nonzerorandom` and `ModularBalanced<…>::nonzerorandom` terminate for every modulus `p ≥ 2` from every
    valid generator state (every non-zero seed, after any number of draws) -/
theorem flt_bal_nonzerorandom_terminate (p : Int) (hp : 2 ≤ p) (g : Int) (hg1 : 1 ≤ g) (hg2 : g < givMod) :
    (∃ fuel : Nat, ∀ old : Int, (rNonzeroD (fltRing p) fuel old g).isSome = true) ∧
    (∃ fuel : Nat, ∀ old : Int, (rNonzeroD (balRing id p) fuel old g).isSome = true) ∧
    (p ≤ 2147483647 → ∃ fuel : Nat, ∀ old : Int, (rNonzeroD (balRing wrapS32 p) fuel old g).isSome = true) ∧
    (p ≤ 9223372036854775807 → ∃ fuel : Nat, ∀ old : Int, (rNonzeroD (balRing wrapS64 p) fuel old g).isSome = true) :=
  ⟨ring_nonzerorandom_terminates _ (flt_init_one p hp) g hg1 hg2,
   ring_nonzerorandom_terminates _ (bal_init_one id p hp (fun _ _ _ => rfl)) g hg1 hg2,
   fun hf => ring_nonzerorandom_terminates _ (bal_init_one wrapS32 p hp (wrapS32_small p hf)) g hg1 hg2,
   fun hf => ring_nonzerorandom_terminates _ (bal_init_one wrapS64 p hp (wrapS64_small p hf)) g hg1 hg2⟩

example : ∃ fuel : Nat, ∀ old : Int, (rNonzeroD (fltRing 2) fuel old 5).isSome = true :=
  (flt_bal_nonzerorandom_terminate 2 (by decide) 5 (by decide) (by decide)).1

/-! ### GF2 -/

/-- every GF2 draw is 0 or 1; the non-zero forms return 1; `nonzerorandom` leaves the generator where it was -/
theorem gf2Step_spec (fn fuel : Nat) (g old : Int) (eg : Int × Int) (h : gf2StepD fn fuel g old = some eg) :
    (eg.1 = 0 ∨ eg.1 = 1) ∧ ((fn = 3 ∨ fn = 5 ∨ fn = 7) → eg.1 = 1) ∧ ((fn = 5 ∨ fn = 7) → eg.2 = g) := by
  have hr : ∀ o s : Int, (gf2RandomD o s).1 = 0 ∨ (gf2RandomD o s).1 = 1 := by
    intro o s; simp only [gf2RandomD, overwrite]; omega
  have hloop : ∀ r : Int × Int, gf2NzLoopD fuel old g = some r → r.1 = 1 := by
    intro r h
    rw [gf2NzLoopD_loop] at h
    have := untilNonzero_spec _ (fun e => e = 0 ∨ e = 1) (hr 0) fuel g r h
    omega
  unfold gf2StepD at h
  split at h
  · cases h; exact ⟨hr _ _, by omega, by omega⟩
  · cases h; exact ⟨hr _ _, by omega, by omega⟩
  · exact ⟨Or.inr (hloop _ h), fun _ => hloop _ h, by omega⟩
  · cases h; exact ⟨hr _ _, by omega, by omega⟩
  · cases h; exact ⟨Or.inr rfl, fun _ => rfl, fun _ => rfl⟩
  · cases h; exact ⟨hr _ _, by omega, by omega⟩
  · cases h; exact ⟨Or.inr rfl, fun _ => rfl, fun _ => rfl⟩
  · cases h

example : gf2StepD 5 0 7 (-1) = some (1, 7) := by decide

/-- GF2 draws do not depend on the destination, over arbitrarily long call lists -/
theorem gf2Run_dest_indep (fn fuel : Nat) (olds olds' : List Int) (h : olds.length = olds'.length) (g : Int) :
    gf2Run fn fuel olds g = gf2Run fn fuel olds' g :=
  runCalls_dest_indep _ (fun s c c' => by simp only [gf2StepD, gf2NzLoopD_loop, gf2RandomD, gf2NonzeroD, overwrite]) olds olds' h g

example : gf2Run 3 64 [0, 0, 0] 7 = gf2Run 3 64 [1, 1, 1] 7 := gf2Run_dest_indep 3 64 _ _ rfl 7

/-- the non-zero GF2 iterator terminates from every valid generator state: the draw value 1 is odd -/
theorem gf2_nonzero_iterator_terminates (g : Int) (hg1 : 1 ≤ g) (hg2 : g < givMod) :
    ∃ fuel : Nat, ∀ old : Int, (gf2NzLoopD fuel old g).isSome = true := by
  simp only [gf2NzLoopD_loop, forall_const]
  exact untilNonzero_terminates _ (fun _ => rfl) (fun g hg => by show givNext g % 2 ≠ 0; rw [hg]; decide) g hg1 hg2

example : ∃ fuel : Nat, ∀ old : Int, (gf2NzLoopD fuel old 5).isSome = true := gf2_nonzero_iterator_terminates 5 (by decide) (by decide)

/-! ### Extension<Modular<int32_t>> -/

/-- every `Extension::random` / `nonzerorandom` form returns a canonical element of the field: a normalised coefficient
    vector (size = requested degree + 1 ≤ extension order, leading coefficient non-zero, or size 0) of canonical base-field
    elements, whatever the destination held -/
theorem ext_random_canonical (p e : Int) (hp : 1 ≤ p) (hfit : p ≤ 2147483648) (he1 : 1 ≤ e) (he : e < 4294967296)
    (kind : Nat) (arg : Int) (h1 : kind % 3 = 1 → -9223372036854775808 < arg ∧ arg < 9223372036854775808)
    (h2 : kind % 3 = 2 → 0 ≤ arg ∧ arg ≤ e) (fuel : Nat) (old : List Int) (g : Int) (r : List Int × Int)
    (h : extRandomD p e kind arg fuel old g = some r) :
    polyDegOk p (extDegree e kind arg) r.1 = true ∧ (r.1.length : Int) ≤ e := by
  have hd := extDegree_lt e he1 he kind arg h1 h2
  have hok := poly_randomD_degree 32 true p (by decide) hp (by norm_num; exact hfit) (extDegree e kind arg) fuel old g r h
  refine ⟨hok, ?_⟩
  unfold polyDegOk at hok
  split at hok
  · have : r.1 = [] := by simpa using hok
    rw [this]; simp; omega
  · unfold polyOk at hok
    simp only [Bool.and_eq_true, decide_eq_true_eq] at hok
    rw [hok.1.1]; push_cast; omega

example : (extRandomD 101 3 1 7 64 [1, 1, 1, 1, 1] 7).isSome = true := by decide

/-- … and does not depend on what the destination vector held -/
theorem ext_random_dest_indep (p e : Int) (kind : Nat) (arg : Int) (fuel : Nat) (old old' : List Int) (g : Int) :
    extRandomD p e kind arg fuel old g = extRandomD p e kind arg fuel old' g :=
  poly_dest_indep 32 true p _ fuel old old' g

/-- … and is produced after finitely many draws from every valid generator state -/
theorem ext_random_terminates (p e : Int) (hp : 2 ≤ p) (hfit : p ≤ 2147483648) (kind : Nat) (arg : Int) (g : Int) (hg1 : 1 ≤ g) (hg2 : g < givMod)
    (old : List Int) : ∃ fuel : Nat, (extRandomD p e kind arg fuel old g).isSome = true := by
  obtain ⟨fuel, hf⟩ := poly_random_terminates 32 true p (by decide) hp (by norm_num; exact hfit) (extDegree e kind arg) g hg1 hg2
  refine ⟨fuel, ?_⟩
  unfold extRandomD
  rw [polyRandomD_eq]; exact hf

/-! ### Poly1Dom::random over any coefficient domain -/

/-- `Poly1Dom<Domain>::random(g, r, Degree d)` over any coefficient domain whose `random` returns elements of `C` and whose
    `nonzerorandom` returns non-zero elements of `C`: exactly `d + 1` coefficients in `C` with a non-zero leading one (the empty
    vector for `d = -∞`), whatever the destination vector held -/
theorem polyG_degree (D : CoefDraw) (C : Int → Prop) (hr : ∀ old g, C (D.randomD old g).1)
    (hn : ∀ f old g r, D.nonzeroD f old g = some r → C r.1 ∧ r.1 ≠ 0)
    (d : Int) (fuel : Nat) (old : List Int) (g : Int) (r : List Int × Int) (h : polyRandomG D d fuel old g = some r) :
    (d < 0 → r.1 = []) ∧ (0 ≤ d → r.1.length = d.toNat + 1 ∧ (∀ c ∈ r.1, C c) ∧ r.1.getLast? ≠ some 0) := by
  unfold polyRandomG at h
  split at h
  · rename_i hd
    cases h
    exact ⟨fun _ => by simp [vresize], fun h0 => by omega⟩
  · rename_i hd
    refine ⟨fun h0 => by omega, fun _ => ?_⟩
    split at h
    · cases h
    · rename_i lead hlead
      cases h
      have hv := vresize_set old d.toNat lead.1
      obtain ⟨low, h1, h2, h3⟩ := polyFillG_spec D C hr d.toNat ((vresize old (d.toNat + 1)).set d.toNat lead.1) lead.2 (by omega)
      have hld := hn _ _ _ _ hlead
      rw [h1, hv.2]
      refine ⟨by simp [h2], ?_, ?_⟩
      · intro c hc
        simp only [List.mem_append, List.mem_cons, List.not_mem_nil, or_false] at hc
        rcases hc with hc | rfl
        · exact h3 c hc
        · exact hld.1
      · simp only [List.getLast?_append, List.getLast?_singleton, Option.some_or, ne_eq, Option.some.injEq]; exact hld.2

/-- the polynomial draw over any coefficient domain does not depend on what the vector held, provided the coefficient draws
    do not depend on their destinations (proved for every class above) -/
theorem polyG_dest_indep (D : CoefDraw) (hr : ∀ old old' g, D.randomD old g = D.randomD old' g)
    (hn : ∀ f old old' g, D.nonzeroD f old g = D.nonzeroD f old' g) (d : Int) (fuel : Nat) (old old' : List Int) (g : Int) :
    polyRandomG D d fuel old g = polyRandomG D d fuel old' g := by
  unfold polyRandomG
  split
  · simp [vresize]
  · rw [hn fuel ((vresize old (d.toNat + 1)).getD d.toNat 0) ((vresize old' (d.toNat + 1)).getD d.toNat 0) g]
    cases D.nonzeroD fuel ((vresize old' (d.toNat + 1)).getD d.toNat 0) g with
    | none => rfl
    | some lead =>
      have hv := vresize_set old d.toNat lead.1
      have hv' := vresize_set old' d.toNat lead.1
      simp only [Option.some.injEq]
      exact polyFillG_congr D hr _ _ _ _ (by omega) (by omega) (by rw [hv.2, hv'.2])

/-- `Poly1Dom<GFqDom<intN_t>>::random`: exactly `d + 1` table indices in `[0, q)`, the leading one in `[1, q-1]` -/
theorem poly_gfq_degree (bits : Nat) (q : Int) (hb : 1 ≤ bits) (hq2 : 2 ≤ q) (hq : q < 2 ^ (bits - 1))
    (d : Int) (fuel : Nat) (old : List Int) (g : Int) (r : List Int × Int) (h : polyRandomG (gfqCoef bits q) d fuel old g = some r) :
    (d < 0 → r.1 = []) ∧ (0 ≤ d → r.1.length = d.toNat + 1 ∧ (∀ c ∈ r.1, canonical q c = true) ∧ r.1.getLast? ≠ some 0) := by
  refine polyG_degree (gfqCoef bits q) (fun c => canonical q c = true) ?_ ?_ d fuel old g r h
  · intro old g
    simp only [gfqCoef, gfqRandomD_eq]
    exact (gfq_random_canonical bits q q g hb (by omega) (by omega) hq).2.2
  · intro f old g r hr
    simp only [gfqCoef, gfqNonzeroD_eq, Option.some.injEq] at hr
    subst hr
    have := gfq_nonzero_range bits q q g hb hq2 (by omega) hq
    exact ⟨(canonical_iff q _).2 (by omega), by omega⟩

example : (polyRandomG (gfqCoef 32 9) 3 0 [1, 1, 1, 1, 1, 1] 7).isSome = true := by decide

/-- … independent of the destination -/
theorem poly_gfq_dest_indep (bits : Nat) (q : Int) (d : Int) (fuel : Nat) (old old' : List Int) (g : Int) :
    polyRandomG (gfqCoef bits q) d fuel old g = polyRandomG (gfqCoef bits q) d fuel old' g :=
  polyG_dest_indep _ (fun o o' g => by simp only [gfqCoef, gfqRandomD_eq]) (fun f o o' g => by simp only [gfqCoef, gfqNonzeroD_eq]) d fuel old old' g

/-- `Poly1Dom<R>::random` over every `RingDraw` class (floating, balanced, Montgomery, ZRing): coefficients in the class's element set -/
theorem poly_ring_degree (R : RingDraw) (C : Int → Prop) (hC : InitInto R C)
    (d : Int) (fuel : Nat) (old : List Int) (g : Int) (r : List Int × Int) (h : polyRandomG (ringCoef R) d fuel old g = some r) :
    (d < 0 → r.1 = []) ∧ (0 ≤ d → r.1.length = d.toNat + 1 ∧ (∀ c ∈ r.1, C c) ∧ r.1.getLast? ≠ some 0) :=
  polyG_degree (ringCoef R) C (fun old g => rRandom_in R C hC old g) (fun f old g r hr => rNonzero_spec R C hC f old g r hr) d fuel old g r h

example : (polyRandomG (ringCoef (balRing wrapS32 101)) 3 64 [] 7).isSome = true := by decide

theorem poly_ring_dest_indep (R : RingDraw) (d : Int) (fuel : Nat) (old old' : List Int) (g : Int) :
    polyRandomG (ringCoef R) d fuel old g = polyRandomG (ringCoef R) d fuel old' g :=
  polyG_dest_indep _ (fun _ _ _ => rfl) (fun f o o' g => rNonzeroD_dest_indep R f o o' g) d fuel old old' g

/-! ### QField<Rational> -/

section QF
open Givaro.Model.Rational Givaro.Lemmas.Rational

variable {σ : Type} (G : RawGen σ) (hG : G.Lawful)
include hG

theorem qf_random_canon (kind : Nat) (a b : Int) (hb : 2 ≤ kind → 0 < (qfBound a b).num)
    (fuel : Nat) (old : QRep) (st : σ) (r : QRep × σ) (h : qfRandomD G kind a b fuel old st = some r) :
    Canon r.1 ∧ ((kind = 1 ∨ kind = 3) → r.1.num ≠ 0) := by
  have hden := qfBound_den_pos a b
  have posW := fun n f s d hd => (nonzeroW_pos G hG n f s d hd).1
  have posI := fun m hm f s d hd => (nonzeroI_pos G hG m hm f s d hd).1
  -- every form ends in `Rational(n, d)` with a denominator drawn by a non-zero loop
  have fin : ∀ (n d : Int) (s : σ), 1 ≤ d → ((kind = 1 ∨ kind = 3) → n ≠ 0) →
      (mk3 n d 1).map (fun q => (overwrite old q, s)) = some r → Canon r.1 ∧ ((kind = 1 ∨ kind = 3) → r.1.num ≠ 0) := by
    intro n d s hd hn hm
    obtain ⟨q, hq, rfl⟩ := Option.map_eq_some_iff.1 hm
    exact (mk3_canon n d (by omega) q hq).imp_right fun h k => h (hn k)
  unfold qfRandomD at h
  simp only [nonzeroWD_eq, nonzeroID_eq] at h
  split at h
  · split at h
    · cases h
    · rename_i d hd
      exact fin _ _ _ (posW _ _ _ _ hd) (by omega) h
  · split at h
    · cases h
    · rename_i d hd
      split at h
      · cases h
      · rename_i n hn
        exact fin _ _ _ (posW _ _ _ _ hd) (fun _ => by have := posW _ _ _ _ hn; omega) h
  · split at h
    · cases h
    · rename_i d hd
      exact fin _ _ _ (posI _ hden _ _ _ hd) (by omega) h
  · have hnum := hb (by omega)
    split at h
    · cases h
    · rename_i n hn
      split at h
      · cases h
      · rename_i d hd
        exact fin _ _ _ (posI _ hden _ _ _ hd) (fun _ => by have := posI _ hnum _ _ _ hn; omega) h
  · cases h

/-- every `QField<Rational>::random` / `nonzerorandom` form returns a canonical rational (positive denominator, numerator and
    denominator coprime), non-zero for the non-zero forms — for every raw generator satisfying GMP's contract, every size `s`,
    every bound `b` with positive numerator, and whatever `r` held -/
theorem qf_random_canonical (kind : Nat) (a b : Int) (hb : 2 ≤ kind → 0 < (qfBound a b).num ∧ 0 < (qfBound a b).den)
    (fuel : Nat) (old : QRep) (st : σ) (r : QRep × σ) (h : qfRandomD G kind a b fuel old st = some r) :
    Canon r.1 ∧ ((kind = 1 ∨ kind = 3) → r.1.num ≠ 0) :=
  qf_random_canon G hG kind a b (fun hk => (hb hk).1) fuel old st r h

omit hG in
/-- the rational returned and the generator state left behind do not depend on what `r` held -/
theorem qf_random_dest_indep (kind : Nat) (a b : Int) (fuel : Nat) (old old' : QRep) (st : σ) :
    qfRandomD G kind a b fuel old st = qfRandomD G kind a b fuel old' st := by
  unfold qfRandomD
  simp only [overwrite]

end QF

example : (qfRandomD constGen 1 5 1 4 ⟨7, 3⟩ ()).isSome = true := by decide
example : ∀ r, qfRandomD constGen 1 5 1 4 ⟨7, 3⟩ () = some r →
    Givaro.Lemmas.Rational.Canon r.1 ∧ ((1 = 1 ∨ 1 = 3) → r.1.num ≠ 0) :=
  fun r h => qf_random_canonical constGen constGen_lawful 1 5 1 (by decide) 4 _ () r h
example : Givaro.Model.Rational.mk3 6 4 1 = some ⟨3, 2⟩ := by decide

/-! ### copies of GIV_randIter -/

/-- a copy-constructed iterator continues exactly like the original -/
theorem randiter_copy_continues (bits : Nat) (q : Int) (c : GivIt) (old : Int) :
    GivIt.draw bits q c.copy old = GivIt.draw bits q c old := rfl

/-- copy assignment continues like the source when both iterators were built with the same sampling size -/
theorem randiter_assign_continues_partial (bits : Nat) (q : Int) (d c : GivIt) (h : d.size = c.size) (old : Int) :
    GivIt.draw bits q (GivIt.assign d c) old = GivIt.draw bits q c old := by
  simp only [GivIt.draw, GivIt.assign, h]

example : GivIt.draw 32 13 (GivIt.assign ⟨13, 7⟩ ⟨13, givInit 2⟩) 0 = GivIt.draw 32 13 ⟨13, givInit 2⟩ 0 :=
  randiter_assign_continues_partial 32 13 _ _ rfl 0

/-- … and not otherwise: `GFqDom<int32_t> F(13,1); RandIter c(F, 2, 0), d(F, 979, 2); d = c;` — the first element drawn from `d`
    is 1, from `c` it is 5 (reproduced on the upstream code by harness lines `ring 20 d 1 2 9 0 …`; repaired by fixes/C20_5.patch) -/
theorem randiter_assign_counterexample :
    ¬ ∀ (d c : GivIt) (old : Int), GivIt.draw 32 13 (GivIt.assign d c) old = GivIt.draw 32 13 c old := by
  intro h
  have := h ⟨2, givInit 979⟩ ⟨13, givInit 2⟩ 0
  revert this; decide

/-- with `_size` assigned as well (fixes/C20_5.patch) the assigned-to iterator continues like the source, always -/
theorem randiter_assignFixed_continues (bits : Nat) (q : Int) (d c : GivIt) (old : Int) :
    GivIt.draw bits q (GivIt.assignFixed d c) old = GivIt.draw bits q c old := rfl

/-! ### non-vacuity: every hypothesis set above is satisfiable (the theorems are applied to concrete arguments) -/

example : canonicalBal 101 ((balRing wrapS64 101).init 7) = true :=
  bal64_init_canonical 101 (by decide) (by decide) _ (by decide) (by decide)
example : canonicalBal 101 ((balRing id 101).init 7) = true := balflt_init_canonical 101 (by decide) _ (by decide) (by decide)
example : (fun e : Int => if true = true then -(2 ^ (8 - 1)) ≤ e ∧ e < 2 ^ (8 - 1) else 0 ≤ e ∧ e < 2 ^ 8) ((zintRing 8 true).init 200) :=
  zint_init_range 8 true (by decide) 200 (by decide) (by decide)
example : (rNonzeroD (fltRing 101) 1 0 7).isSome = true := rNonzero_isSome_of_iter (fltRing 101) 0 0 7 (by decide)
example : (gf2NzLoopD 1 0 7).isSome = true := by decide
example : -1 ≤ extDegree 3 1 7 ∧ extDegree 3 1 7 < 3 :=
  extDegree_lt 3 (by decide) (by decide) 1 7 (fun _ => by decide) (fun h => absurd h (by decide))
example : ∀ r, extRandomD 101 3 1 7 64 [1, 1, 1, 1, 1] 7 = some r → polyDegOk 101 (extDegree 3 1 7) r.1 = true ∧ (r.1.length : Int) ≤ 3 :=
  fun r h => ext_random_canonical 101 3 (by decide) (by decide) (by decide) (by decide) 1 7 (fun _ => by decide)
    (fun h => absurd h (by decide)) 64 _ 7 r h
example : ∃ fuel : Nat, (extRandomD 101 3 0 0 fuel [] 7).isSome = true :=
  ext_random_terminates 101 3 (by decide) (by decide) 0 0 7 (by decide) (by decide) []
example : ∀ r, polyRandomG (ringCoef (balRing wrapS32 101)) 3 64 [] 7 = some r → r.1.length = (3 : Int).toNat + 1 :=
  fun r h => ((poly_ring_degree _ _ (bal32_init_canonical 101 (by decide) (by decide)) 3 64 [] 7 r h).2 (by decide)).1
example : ∀ r, polyRandomG (gfqCoef 32 9) 3 0 [1, 1, 1, 1, 1, 1] 7 = some r → r.1.length = (3 : Int).toNat + 1 :=
  fun r h => ((poly_gfq_degree 32 9 (by decide) (by decide) (by decide) 3 0 _ 7 r h).2 (by decide)).1
example : ∃ fuel : Nat, ∀ old : Int, (rNonzeroD (balRing wrapS32 101) fuel old 5).isSome = true :=
  ring_nonzerorandom_terminates _ (by decide) 5 (by decide) (by decide)

end Givaro.Props.C20Rings
