/-
C12 — `isprime` on the tabulated range [0, 2^16): the hand-rolled halving search over `IP` / `IP2` answers 1 exactly on the primes.

The search is not a textbook binary search (the step is halved rounding up, and the last probe is not followed by a comparison),
so which arguments it finds, and that no probe leaves the array (in `IP2` the `-1` padding is what turns it back at the low end), are
facts about these tables.  They are established by walking the search tree once per table: a probe at `here` splits the arguments
that reach it into those below the entry, the entry itself, and those above; `walk` collects the entries that are found, in
increasing order.  `walk_sound` says that this list decides the answer of the search for every argument, and the list is compared
with the primes of `primes16` (`Lemmas/Primes16All.lean`) in the range.
-/
import GivaroModel.Model.Primes
import Batteries.Tactic.PermuteGoals
namespace Givaro.Lemmas.PrimesTab
open Givaro Givaro.Model.Primes

/-- The arguments of the open interval `(lo, hi)` reach the probe at `here`.  `none`: some probe is outside the array or reads an entry
    outside `(-2^30, 2^30)` (for `t`, `n` both inside, `|t - n| < 2^31` and the `int` difference of the code is exact); otherwise the arguments of `(lo, hi)` that are answered 1, increasing. -/
def walk (tab : Nat → Int) (size : Nat) : Nat → Nat → Int → Int → Int → Int → Option (List Int)
  | 0, _, _, _, _, _ => some []
  | fuel+1, loop, plus, here, lo, hi =>
    if loop = 0 then some [] else
    if 0 ≤ here + 2 ∧ here + 2 < (size : Int) then
      let t := tab (here + 2).toNat
      if -1073741824 < t ∧ t < 1073741824 then
        let down := if lo + 1 < t then walk tab size fuel (loop / 2) ((plus + 1) / 2) (here - (plus + 1) / 2) lo (min hi t) else some []
        let up := if t + 1 < hi then walk tab size fuel (loop / 2) ((plus + 1) / 2) (here + (plus + 1) / 2) (max lo t) hi else some []
        match down, up with
        | some d, some u => some (d ++ (if lo < t ∧ t < hi then [t] else []) ++ u)
        | _, _ => none
      else none
    else none

theorem walk_mem (tab : Nat → Int) (size : Nat) : ∀ fuel loop plus here lo hi L,
    walk tab size fuel loop plus here lo hi = some L → ∀ x ∈ L, lo < x ∧ x < hi
  | 0, _, _, _, _, _, L, h, x, hx => by
    simp only [walk, Option.some.injEq] at h; subst h; exact absurd hx List.not_mem_nil
  | fuel+1, loop, plus, here, lo, hi, L, h, x, hx => by
    unfold walk at h
    split at h
    · simp only [Option.some.injEq] at h; subst h; exact absurd hx List.not_mem_nil
    split at h
    swap; · exact absurd h (by simp)
    simp only at h
    split at h
    swap; · exact absurd h (by simp)
    split at h
    swap; · exact absurd h (by simp)
    next d u hd hu =>
    simp only [Option.some.injEq] at h; subst h
    rcases List.mem_append.1 hx with hx | hx
    · rcases List.mem_append.1 hx with hx | hx
      · split at hd
        · have := walk_mem tab size fuel _ _ _ _ _ d hd x hx; omega
        · simp only [Option.some.injEq] at hd; subst hd; exact absurd hx List.not_mem_nil
      · split at hx
        · rw [List.mem_singleton] at hx; omega
        · exact absurd hx List.not_mem_nil
    · split at hu
      · have := walk_mem tab size fuel _ _ _ _ _ u hu x hx; omega
      · simp only [Option.some.injEq] at hu; subst hu; exact absurd hx List.not_mem_nil

/-- the list returned by `walk` decides the search for every argument of the interval -/
theorem walk_sound (tab : Nat → Int) (size : Nat) (n : Int) : ∀ fuel loop plus here lo hi L,
    -1073741824 ≤ lo → hi ≤ 1073741824 → lo < n → n < hi →
    walk tab size fuel loop plus here lo hi = some L →
    searchAux tab size n fuel loop plus here = some (if n ∈ L then 1 else 0)
  | 0, _, _, _, _, _, L, _, _, _, _, h => by
    simp only [walk, Option.some.injEq] at h; subst h; rfl
  | fuel+1, loop, plus, here, lo, hi, L, hlo, hhi, h1, h2, h => by
    unfold walk at h
    unfold searchAux
    split at h
    next hl => simp only [Option.some.injEq] at h; subst h; rw [if_pos hl]; rfl
    next hl =>
    rw [if_neg hl]
    split at h
    swap; · exact absurd h (by simp)
    next hb =>
    rw [tpRead, if_pos hb]
    simp only at h ⊢
    split at h
    swap; · exact absurd h (by simp)
    next ht =>
    have hw : wrapS32 (tab (here + 2).toNat - n) = tab (here + 2).toNat - n := by unfold wrapS32; omega
    rw [hw]
    split at h
    swap; · exact absurd h (by simp)
    next d u hd hu =>
    simp only [Option.some.injEq] at h; subst h
    by_cases ha : tab (here + 2).toNat - n = 0
    · rw [if_pos ha, if_pos]
      have : tab (here + 2).toNat = n := by omega
      rw [this, if_pos ⟨h1, h2⟩]
      exact List.mem_append_left _ (List.mem_append_right _ (List.mem_singleton.2 rfl))
    rw [if_neg ha]
    by_cases hgt : tab (here + 2).toNat - n > 0
    · -- below the entry: only the lower subtree can hold `n`
      rw [if_pos hgt]
      rw [if_pos (by omega)] at hd
      rw [walk_sound tab size n fuel _ _ _ _ _ d hlo (by omega) h1 (by omega) hd]
      have hu' : n ∉ u := fun hx => by
        split at hu
        · have := walk_mem tab size fuel _ _ _ _ _ u hu n hx; omega
        · simp only [Option.some.injEq] at hu; subst hu; exact absurd hx List.not_mem_nil
      have hm : n ∉ (if lo < tab (here + 2).toNat ∧ tab (here + 2).toNat < hi then [tab (here + 2).toNat] else []) := by
        split
        · rw [List.mem_singleton]; omega
        · exact List.not_mem_nil
      simp only [List.mem_append, hu', hm, or_false]
    · rw [if_neg hgt]
      rw [if_pos (by omega)] at hu
      rw [walk_sound tab size n fuel _ _ _ _ _ u (by omega) hhi (by omega) h2 hu]
      have hd' : n ∉ d := fun hx => by
        split at hd
        · have := walk_mem tab size fuel _ _ _ _ _ d hd n hx; omega
        · simp only [Option.some.injEq] at hd; subst hd; exact absurd hx List.not_mem_nil
      have hm : n ∉ (if lo < tab (here + 2).toNat ∧ tab (here + 2).toNat < hi then [tab (here + 2).toNat] else []) := by
        split
        · rw [List.mem_singleton]; omega
        · exact List.not_mem_nil
      simp only [List.mem_append, hd', hm, false_or]

end Givaro.Lemmas.PrimesTab
