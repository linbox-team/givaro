/- C06 helper lemmas: rutools.h normalization, rudiv.h div (general divisor), mod_n. -/
import GivaroModel.Lemmas.RecIntShiftGen
import GivaroModel.Lemmas.RecIntDivLimb
namespace Givaro.Model.RecInt

/-- the bit scan of one non-zero limb from mask `2^k` downwards adds the shift `e` that brings its highest set bit to position `k` -/
theorem clzLoop_ok : ∀ (k f l d : Nat), k + 2 ≤ f → 0 < l → l < 2 ^ (k+1) →
    ∃ e, clzLoop f (2 ^ k) l d = d + e ∧ e ≤ k ∧ 2 ^ k ≤ l * 2 ^ e ∧ l * 2 ^ e < 2 ^ (k+1)
  | k, 0, _, _, hf, _, _ => by omega
  | k, f+1, l, d, hf, hl0, hl => by
      have hp : 2 ^ k ≠ 0 := by positivity
      simp only [clzLoop, if_neg hp]
      by_cases hb : l &&& 2 ^ k ≠ 0
      · rw [if_pos hb]
        exact ⟨0, rfl, by omega, by simpa using (and_two_pow_ne k l hl).mp hb, by simpa using hl⟩
      · rw [if_neg hb]
        have hlt : l < 2 ^ k := by
          by_contra hc; exact hb ((and_two_pow_ne k l hl).mpr (by omega))
        cases k with
        | zero => simp at hlt; omega
        | succ k' =>
            have e2 : 2 ^ (k'+1) / 2 = 2 ^ k' := by rw [pow_succ]; omega
            rw [e2]
            obtain ⟨e, h1, h2, h3, h4⟩ := clzLoop_ok k' f l (d+1) (by omega) hl0 hlt
            refine ⟨e + 1, by rw [h1]; omega, by omega, ?_, ?_⟩
            · rw [pow_succ, pow_succ, ← Nat.mul_assoc]; omega
            · rw [pow_succ 2 e, pow_succ 2 (k'+1), ← Nat.mul_assoc]; omega

theorem norm_high {B l h p : Nat} (hl : l < B) (h3 : B ≤ 2 * (h * p)) (h6 : (h + 1) * p ≤ B) :
    B * B ≤ 2 * ((l + B * h) * p) ∧ (l + B * h) * p < B * B := by
  have k1 := Nat.mul_le_mul_left B h3
  have k2 := Nat.mul_le_mul_left B h6
  have hp : 0 < p := by
    rcases Nat.eq_zero_or_pos p with h0 | h0
    · rw [h0, Nat.mul_zero] at h3; omega
    · exact h0
  have k4 : l * p < B * p := Nat.mul_lt_mul_of_pos_right hl hp
  rw [Nat.add_mul, Nat.mul_assoc B h p]
  rw [Nat.add_mul, Nat.one_mul, Nat.mul_add] at k2
  rw [Nat.mul_left_comm] at k1
  omega

theorem norm_low {B l p : Nat} (h3 : B ≤ 2 * (l * p)) (h4 : l * p < B) :
    B * B ≤ 2 * (l * (B * p)) ∧ l * (B * p) < B * B := by
  have hB : 0 < B := by omega
  have k1 := Nat.mul_le_mul_left B h3
  have k2 := Nat.mul_lt_mul_of_pos_left h4 hB
  rw [Nat.mul_left_comm] at k1
  rw [Nat.mul_left_comm l B p]
  exact ⟨k1, k2⟩

/-- the limb scan from the most significant end: a zero value passes the count on, increased by its width; a non-zero one
    stops at its first non-zero limb with the normalising shift `e` of the whole value -/
theorem normGo_ok : ∀ {n : Nat} (b : RU n) (rest : List Nat) (d0 : Nat), WF b →
    (val b = 0 → normGo ((limbsLS b).reverse ++ rest) d0 = normGo rest (d0 + bits n)) ∧
    (val b ≠ 0 → ∃ e, normGo ((limbsLS b).reverse ++ rest) d0 = d0 + e ∧ e < bits n ∧
        Bn n ≤ 2 * (val b * 2 ^ e) ∧ val b * 2 ^ e < Bn n)
  | _, .limb v, rest, d0, hw => by
      simp only [WF] at hw
      have e64 : B64 = 2 ^ 64 := by norm_num [B64]
      have e63 : (9223372036854775808 : Nat) = 2 ^ 63 := by norm_num
      simp only [limbsLS, List.reverse_cons, List.reverse_nil, List.nil_append, List.singleton_append, normGo, val, bits, Bn_zero]
      constructor
      · intro h; rw [if_pos h]
      · intro h; rw [if_neg h, e63]
        obtain ⟨e, h1, h2, h3, h4⟩ := clzLoop_ok 63 65 v d0 (by omega) (by omega) (by rw [e64] at hw; exact hw)
        refine ⟨e, h1, by omega, ?_, ?_⟩
        · rw [e64]; have : (2:Nat) ^ 64 = 2 * 2 ^ 63 := by norm_num
          omega
        · rw [e64]; exact h4
  | _, .node (n := n) l h, rest, d0, hw => by
      have ih := normGo_ok h ((limbsLS l).reverse ++ rest) d0 hw.2
      have hvl := val_lt l hw.1
      have hB := Bn_pos n
      simp only [limbsLS, List.reverse_append, List.append_assoc, val_node, bits, Bn_succ]
      have hmul : Bn n * val h = 0 ↔ val h = 0 := by rw [Nat.mul_eq_zero]; omega
      constructor
      · intro h0
        have hh0 : val h = 0 := hmul.mp (by omega)
        rw [ih.1 hh0, (normGo_ok l rest (d0 + bits n) hw.1).1 (by omega)]; congr 1; omega
      · intro hne
        by_cases hh0 : val h = 0
        · rw [ih.1 hh0]
          obtain ⟨e, h1, h2, h3, h4⟩ := (normGo_ok l rest (d0 + bits n) hw.1).2 (by rw [hh0] at hne; omega)
          refine ⟨bits n + e, by rw [h1]; omega, by omega, ?_⟩
          rw [hh0, Nat.mul_zero, Nat.add_zero, pow_add, ← Bn_eq_two_pow]
          exact norm_low h3 h4
        · obtain ⟨e, h1, h2, h3, h4⟩ := ih.2 hh0
          refine ⟨e, h1, by omega, norm_high hvl h3 ?_⟩
          -- `2^e` divides the base, so `h·2^e < B` leaves room for one more `2^e`
          have hpe : Bn n = 2 ^ (bits n - e) * 2 ^ e := pow_split _ _ (by omega)
          rw [hpe] at h4 ⊢
          exact Nat.mul_le_mul_right _ (Nat.lt_of_mul_lt_mul_right h4)

theorem normalization_ok {n : Nat} (b : RU n) (hw : WF b) (hne : val b ≠ 0) :
    normalization b < bits n ∧ Bn n ≤ 2 * (val b * 2 ^ normalization b) ∧ val b * 2 ^ normalization b < Bn n := by
  obtain ⟨e, h1, h2, h3, h4⟩ := (normGo_ok b [] 0 hw).2 hne
  unfold normalization
  rw [List.append_nil, Nat.zero_add] at h1
  rw [h1]; exact ⟨h2, h3, h4⟩

theorem normalize_ok {n : Nat} (m : RU n) (hm : WF m) (hne : val m ≠ 0) :
    2 ^ normalization m < Bn n ∧ WF (left_shift m (normalization m)) ∧
    val (left_shift m (normalization m)) = val m * 2 ^ normalization m ∧ Bn n ≤ 2 * val (left_shift m (normalization m)) := by
  obtain ⟨hd, hn1, hn2⟩ := normalization_ok m hm hne
  obtain ⟨hw, he⟩ := (shift_ok n m _ hm).1
  rw [Nat.mod_eq_of_lt hn2] at he
  exact ⟨by rw [Bn_eq_two_pow]; exact Nat.pow_lt_pow_right (by decide) hd, hw, he, by rw [he]; exact hn1⟩

/-- undoing the normalisation: a division of `a·p` by `m·p` is one of `a` by `m`, with the remainder scaled by `p` -/
theorem div_unscale {a m Q r p : Nat} (hp : 0 < p) (he : a * p = Q * (m * p) + r) (hlt : r < m * p) :
    a = Q * m + r / p ∧ r / p < m := by
  have hd : p ∣ r := (Nat.dvd_add_right (Dvd.intro_left (Q * m) (Nat.mul_assoc Q m p))).mp (he ▸ Dvd.intro_left a rfl)
  obtain ⟨k, rfl⟩ := hd
  rw [Nat.mul_div_cancel_left k hp]
  constructor
  · apply Nat.eq_of_mul_eq_mul_right hp
    rw [he]; ring
  · rw [Nat.mul_comm m] at hlt; exact Nat.lt_of_mul_lt_mul_left hlt

theorem hi_lt_scale {B l h a p : Nat} (he : l + B * h = a * p) (ha : a < B) (hp : 0 < p) : h < p := by
  have := Nat.mul_lt_mul_of_pos_right ha hp
  exact Nat.lt_of_mul_lt_mul_left (a := B) (by omega)

/-- normalisation shift of both operands, one `div_2_1`, the remainder shifted back (`div_unscale`) -/
theorem div_ok (t : Nat) : ∀ {n : Nat} (a b : RU n), WF a → WF b → val b ≠ 0 →
    WF (div t a b).1 ∧ WF (div t a b).2 ∧ val a = val (div t a b).1 * val b + val (div t a b).2 ∧ val (div t a b).2 < val b
  | 0, .limb a, .limb b, ha, hb, hne => by
      simp only [WF, val] at ha hb hne
      simp only [div, WF, val]
      have hb0 : 0 < b := Nat.pos_of_ne_zero hne
      refine ⟨Nat.lt_of_le_of_lt (Nat.div_le_self _ _) ha, Nat.lt_trans (Nat.mod_lt _ hb0) hb, ?_, Nat.mod_lt _ hb0⟩
      rw [Nat.mul_comm]; exact (Nat.div_add_mod a b).symm
  | n+1, a, b, ha, hb, hne => by
      obtain ⟨hpd, hbbw, hbbe, hnorm⟩ := normalize_ok b hb hne
      have hva := val_lt a ha
      simp only [div]
      generalize normalization b = d at hpd hbbw hbbe hnorm ⊢
      have hpd0 : 0 < 2 ^ d := by positivity
      obtain ⟨haaw, haae⟩ := left_shift_x_ok a d ha
      rw [Nat.mod_eq_of_lt (by rw [Bn_succ (n+1)]; exact Nat.mul_lt_mul'' hva hpd)] at haae
      generalize left_shift b d = bb at hbbw hbbe hnorm ⊢
      generalize left_shift_x a d = aa at haaw haae ⊢
      obtain ⟨haal, haah⟩ := (WF_lo_hi aa).mp haaw
      rw [val_lo_hi aa] at haae
      have hhi : val (hi aa) < val bb := by
        have h1 := hi_lt_scale haae hva hpd0
        have h2 : 2 ^ d ≤ val b * 2 ^ d := Nat.le_mul_of_pos_left _ (Nat.pos_of_ne_zero hne)
        omega
      obtain ⟨hq, hr, he, hlt⟩ := div_2_1_ok t (hi aa) (lo aa) bb haah haal hbbw hnorm hhi
      generalize div_2_1 t (hi aa) (lo aa) bb = x at hq hr he hlt ⊢
      obtain ⟨hrw, hre⟩ := (shift_ok (n+1) x.2 d hr).2
      rw [hbbe] at he hlt
      rw [hre]
      exact ⟨hq, hrw, div_unscale hpd0 (by rw [← haae, ← he]; ring) hlt⟩

theorem div_vals (t : Nat) {n : Nat} (a b : RU n) (ha : WF a) (hb : WF b) (hne : val b ≠ 0) :
    WF (div t a b).1 ∧ WF (div t a b).2 ∧ val (div t a b).1 = val a / val b ∧ val (div t a b).2 = val a % val b := by
  obtain ⟨hq, hr, he, hlt⟩ := div_ok t a b ha hb hne
  have hrv : val (div t a b).2 = val a % val b := mod_of_add_mul (by rw [he, Nat.mul_comm, Nat.add_comm]) hlt
  refine ⟨hq, hr, ?_, hrv⟩
  have hpos : 0 < val b := Nat.pos_of_ne_zero hne
  have h2 := Nat.div_add_mod (val a) (val b)
  rw [← hrv] at h2
  have : val b * (val a / val b) = val b * val (div t a b).1 := by rw [Nat.mul_comm (val b) (val (div t a b).1)]; omega
  exact (Nat.eq_of_mul_eq_mul_left hpos this).symm

theorem div_int (t : Nat) {n : Nat} (x y : RU n) (hx : WF x) (hy : WF y) (hne : val y ≠ 0) :
    WF (div t x y).1 ∧ WF (div t x y).2 ∧ (val (div t x y).1 : Int) = (val x : Int) / val y ∧ (val (div t x y).2 : Int) = (val x : Int) % val y := by
  obtain ⟨hq, hr, hqe, hre⟩ := div_vals t x y hx hy hne
  exact ⟨hq, hr, by rw [hqe, Int.natCast_ediv], by rw [hre, Int.natCast_mod]⟩

/-- the same with a double-width dividend: two `div_2_1` steps down the three significant halves of the shifted dividend -/
theorem mod_n2_ok (t : Nat) {n : Nat} (b : RU (n+1)) (m : RU n) (hb : WF b) (hm : WF m) (hne : val m ≠ 0) :
    WF (mod_n2 t b m) ∧ val (mod_n2 t b m) = val b % val m := by
  obtain ⟨hpd, hnnw, hnne, hnorm⟩ := normalize_ok m hm hne
  have hvb := val_lt b hb
  have hB := Bn_pos n
  simp only [mod_n2]
  generalize normalization m = d at hpd hnnw hnne hnorm ⊢
  have hpd0 : 0 < 2 ^ d := by positivity
  obtain ⟨hbbw, hbbe⟩ := left_shift_x_ok b d hb
  have hbblt : val b * 2 ^ d < Bn (n+1+1) := by
    rw [Bn_succ (n+1)]
    exact Nat.mul_lt_mul'' hvb (Nat.lt_of_lt_of_le hpd (by rw [Bn_succ]; exact Nat.le_mul_of_pos_left _ hB))
  rw [Nat.mod_eq_of_lt hbblt] at hbbe
  generalize left_shift m d = nn at hnnw hnne hnorm ⊢
  generalize left_shift_x b d = bb at hbbw hbbe ⊢
  obtain ⟨hwl, hwh⟩ := (WF_lo_hi bb).mp hbbw
  obtain ⟨hw0, hw1⟩ := (WF_lo_hi (lo bb)).mp hwl
  obtain ⟨hw2, hw3⟩ := (WF_lo_hi (hi bb)).mp hwh
  rw [val_lo_hi bb] at hbbe
  -- of the four digits of the shifted `b` the top one is zero and the next is below `2^d`
  have hhi := hi_lt_scale hbbe hvb hpd0
  rw [val_lo_hi (hi bb)] at hhi hbbe
  have hd3 : val (hi (hi bb)) = 0 := by
    rcases Nat.eq_zero_or_pos (val (hi (hi bb))) with h | h
    · exact h
    · have := Nat.le_mul_of_pos_right (Bn n) h
      omega
  simp only [hd3, Nat.mul_zero, Nat.add_zero] at hhi hbbe
  have hd2 : val (lo (hi bb)) < val nn := by
    have : 2 ^ d ≤ val m * 2 ^ d := Nat.le_mul_of_pos_left _ (Nat.pos_of_ne_zero hne)
    omega
  obtain ⟨hx1, hx2, hxe, hxlt⟩ := div_2_1_ok t (lo (hi bb)) (hi (lo bb)) nn hw2 hw1 hnnw hnorm hd2
  generalize div_2_1 t (lo (hi bb)) (hi (lo bb)) nn = x at hx1 hx2 hxe hxlt ⊢
  obtain ⟨hy1, hy2, hye, hylt⟩ := div_2_1_ok t x.2 (lo (lo bb)) nn hx2 hw0 hnnw hnorm hxlt
  generalize div_2_1 t x.2 (lo (lo bb)) nn = y at hy1 hy2 hye hylt ⊢
  obtain ⟨hrw, hre⟩ := (shift_ok n y.2 d hy2).2
  rw [val_lo_hi (lo bb), Bn_succ n] at hbbe
  rw [hnne] at hxe hye hylt
  obtain ⟨U1, U2⟩ := div_unscale (Q := Bn n * val x.1 + val y.1) hpd0
    (by rw [← hbbe]; linear_combination Bn n * hxe + hye) hylt
  rw [hre]
  exact ⟨hrw, mod_of_add_mul (by rw [U1, Nat.mul_comm, Nat.add_comm]) U2⟩

end Givaro.Model.RecInt
