/-
C17 — `RefCountPtr<T>` is the one-cell special case of `Array0<T>`: constructing from a raw pointer is `Array0(1, v)`,
the copy constructor is the NoCopy constructor, `operator=` is `logcopy`, the destructor is `destroy()`.
-/
import GivaroModel.Lemmas.Array0Ops
import GivaroModel.Model.RefPtr
import GivaroModel.Model.RefPtrArray0

namespace Givaro.Model.RefPtr

theorem st_ext {a b : St} (h1 : a.slot = b.slot) (h2 : a.cnt = b.cnt) (h3 : a.alive = b.alive) (h4 : a.val = b.val)
    (h5 : a.next = b.next) : a = b := by
  cases a; cases b; simp only [St.mk.injEq]; exact ⟨h1, h2, h3, h4, h5⟩

theorem updR_updR {β : Type} (f : Nat → β) (j : Nat) (a b : β) : updR (updR f j a) j b = updR f j b := by
  funext x; unfold updR; split <;> rfl

/-- `*S[j] = *S[k]` (`j ≠ k`, both occupied) is `delete S[j]`, then copy construction of `S[j]` -/
theorem assign_eq_del_copy {r : St} {k j o o' : Nat} (ne : k ≠ j) (hk : r.slot k = some o) (hj : r.slot j = some o') :
    step r (.assign k j) = step (step r (.del j)) (.copy k j) := by
  have e1 : step r (.del j) = { (release r o') with slot := updR (release r o').slot j none } := by
    show (match r.slot j with | none => r | some o => _) = _
    rw [hj]; rfl
  have e2 : (step r (.del j)).slot k = some o := by
    rw [e1]; show updR r.slot j none k = _
    unfold updR; rw [if_neg ne]; exact hk
  have e3 : (step r (.del j)).slot j = none := by
    rw [e1]; show updR r.slot j none j = _
    unfold updR; rw [if_pos rfl]
  show (match r.slot k, r.slot j with | some o, some o' => if k = j then r else _ | _, _ => r) =
    match (step r (.del j)).slot k, (step r (.del j)).slot j with | some o, none => _ | _, _ => step r (.del j)
  rw [hk, hj, e2, e3]; dsimp only
  rw [if_neg ne, e1]
  exact st_ext (updR_updR _ _ _ _).symm rfl rfl rfl rfl

end Givaro.Model.RefPtr

namespace Givaro.Model.Array0
open Givaro.Model

/-- data blocks and counter cells are created and released in lockstep, every array has exactly one cell -/
structure OneCell (s : State Nat) : Prop where
  next : s.cnext = s.dnext
  same : ∀ k, k < s.n → (s.hs k).psz ≠ 0 → (s.hs k).cnt = (s.hs k).d ∧ (s.hs k).size = 1 ∧ (s.hs k).psz = 1
  live : ∀ o, s.clive o = s.dlive o

theorem onecell_init (n : Nat) : OneCell (init Nat n) := ⟨rfl, fun _ _ h => absurd rfl h, fun _ => rfl⟩

theorem upd_eq_updR {β : Type} (f : Nat → β) (i : Nat) (v : β) : upd f i v = RefPtr.updR f i v := rfl

theorem proj_slot_upd (hs : Nat → Handle) (j : Nat) (H : Handle) :
    (fun k => if (upd hs j H k).psz = 0 then none else (upd hs j H k).d) =
      RefPtr.updR (fun k => if (hs k).psz = 0 then none else (hs k).d) j (if H.psz = 0 then none else H.d) := by
  funext k; unfold upd RefPtr.updR; split <;> rfl

/-- `s'`, read as pointers, is one step of the RefCountPtr model from `s` -/
structure ESim (s s' : State Nat) (op : RefPtr.Op) : Prop where
  inv : Inv s'
  one : OneCell s'
  n : s'.n = s.n
  sim : proj s' = RefPtr.step (proj s) op

theorem occupied {s : State Nat} (I : Inv s) (E : OneCell s) {k : Nat} (kn : k < s.n) (kp : (s.hs k).psz ≠ 0) :
    ∃ o, (s.hs k).cnt = some o ∧ (s.hs k).d = some o ∧ (proj s).slot k = some o ∧ s.clive o = true ∧ s.dlive o = true ∧
      (s.hs k).size = 1 ∧ (s.hs k).psz = 1 := by
  obtain ⟨c, b, h1, h2, h3, h4, _⟩ := (I.wf k kn).2 kp
  obtain ⟨e1, e2, e3⟩ := E.same k kn kp
  have : c = b := by rw [h1, h2] at e1; exact Option.some.inj e1
  subst this
  exact ⟨c, h1, h2, by show (if (s.hs k).psz = 0 then none else (s.hs k).d) = some c; rw [if_neg kp, h2], h3, h4, e2, e3⟩

theorem empty_slot {s : State Nat} {k : Nat} (kp : (s.hs k).psz = 0) : (proj s).slot k = none := by
  show (if (s.hs k).psz = 0 then none else (s.hs k).d) = none; rw [if_pos kp]

theorem onecell_upd {s s' : State Nat} (E : OneCell s) (j : Nat) (H : Handle)
    (hhs : s'.hs = upd s.hs j H) (hn : s'.n = s.n) (hnext : s'.cnext = s'.dnext) (hlive : ∀ o, s'.clive o = s'.dlive o)
    (hH : H.psz ≠ 0 → H.cnt = H.d ∧ H.size = 1 ∧ H.psz = 1) : OneCell s' := by
  refine ⟨hnext, ?_, hlive⟩
  intro x xn
  rw [hhs]
  by_cases e : x = j
  · rw [e, upd_same]; exact hH
  · rw [upd_other _ _ _ _ e]; exact E.same x (by rw [← hn]; exact xn)

/-- `new RefCountPtr(new T(v))` into an empty slot is `Array0(1, v)` -/
theorem embed_new {s : State Nat} (I : Inv s) (E : OneCell s) {k : Nat} (kn : k < s.n) (v : Nat) :
    ESim s (embed s (.new k v)) (.new k v) := by
  simp only [embed]
  by_cases kp : (s.hs k).psz = 0
  · rw [if_pos kp]
    have he := (I.wf k kn).1 kp
    have e1 : step s (.build k 1 v) = attachFresh s k [v] 1 := by
      rw [step_eq_core I (.build k 1 v) (lt_of_mem_one kn)]
      show ctorBuild s k 1 v = _
      rw [ctorBuild_eq I kn, if_pos (by decide), destroy_empty I kn he]; rfl
    rw [e1]
    refine ⟨attachFresh_inv I kn he (by simp) (by simp), ?_, rfl, ?_⟩
    · apply onecell_upd (s' := attachFresh s k [v] 1) E k ⟨some s.cnext, 1, 1, some s.dnext⟩ rfl rfl
      · show s.cnext + 1 = s.dnext + 1; rw [E.next]
      · intro o
        show upd s.clive s.cnext true o = upd s.dlive s.dnext true o
        rw [E.next]; unfold upd; split
        · rfl
        · exact E.live o
      · intro _; exact ⟨by show some s.cnext = some s.dnext; rw [E.next], rfl, rfl⟩
    · show proj (attachFresh s k [v] 1) = match (proj s).slot k with | some _ => proj s | none => _
      rw [empty_slot kp]
      dsimp only
      apply RefPtr.st_ext
      · show (fun x => if (upd s.hs k _ x).psz = 0 then none else (upd s.hs k _ x).d) = _
        rw [proj_slot_upd]; rfl
      · show upd s.cval s.cnext 1 = RefPtr.updR s.cval s.dnext 1; rw [E.next]; rfl
      · rfl
      · show (fun o => (upd s.ddata s.dnext [v] o).headD 0) = RefPtr.updR (fun o => (s.ddata o).headD 0) s.dnext v
        funext o; unfold upd RefPtr.updR; split <;> rfl
      · rfl
  · rw [if_neg kp]
    obtain ⟨o, _, _, sl, _⟩ := occupied I E kn kp
    refine ⟨I, E, rfl, ?_⟩
    show proj s = match (proj s).slot k with | some _ => proj s | none => _
    rw [sl]

/-- `new RefCountPtr(*S[k])` into an empty slot is the NoCopy constructor -/
theorem embed_copy {s : State Nat} (I : Inv s) (E : OneCell s) {k j : Nat} (kn : k < s.n) (jn : j < s.n) :
    ESim s (embed s (.copy k j)) (.copy k j) := by
  simp only [embed]
  by_cases c : (s.hs k).psz ≠ 0 ∧ (s.hs j).psz = 0
  · rw [if_pos c]
    obtain ⟨kp, jp⟩ := c
    have ne : j ≠ k := fun q => kp (by rw [← q]; exact jp)
    have he := (I.wf j jn).1 jp
    obtain ⟨o, h1, _, sl, _⟩ := occupied I E kn kp
    have e1 : step s (.noCopy j k) = attachShare s j k := by
      rw [step_eq_core I (.noCopy j k) (lt_of_mem_two jn kn)]
      show ctorNoCopy s j k = _
      rw [ctorNoCopy_eq_logcopy, logcopy_eq I jn ne, destroy_empty I jn he]
    have eq : attachShare s j k = ({ s with cval := upd s.cval o (s.cval o + 1), hs := upd s.hs j (s.hs k) } : State Nat) := by
      rcases attachShare_cases I j kn with ⟨q, _⟩ | ⟨c', hc', e⟩
      · exact absurd q kp
      · rw [h1] at hc'; cases hc'; exact e
    rw [e1]
    refine ⟨(attachShare_inv I jn kn he).1, ?_, (attachShare_inv I jn kn he).2.2.1, ?_⟩
    · rw [eq]
      exact onecell_upd E j (s.hs k) rfl rfl E.next E.live (fun _ => E.same k kn kp)
    · show proj (attachShare s j k) = match (proj s).slot k, (proj s).slot j with
        | some o, none => _ | _, _ => proj s
      rw [sl, empty_slot jp, eq]
      dsimp only
      refine RefPtr.st_ext ?_ rfl rfl rfl rfl
      show (fun x => if (upd s.hs j _ x).psz = 0 then none else (upd s.hs j _ x).d) = _
      rw [proj_slot_upd]
      show RefPtr.updR _ j ((proj s).slot k) = _
      rw [sl]; rfl
  · rw [if_neg c]
    refine ⟨I, E, rfl, ?_⟩
    show proj s = match (proj s).slot k, (proj s).slot j with | some o, none => _ | _, _ => proj s
    by_cases kp : (s.hs k).psz = 0
    · rw [empty_slot kp]
    · have jp : (s.hs j).psz ≠ 0 := fun q => c ⟨kp, q⟩
      obtain ⟨o, _, _, sl, _⟩ := occupied I E kn kp
      obtain ⟨o', _, _, sl', _⟩ := occupied I E jn jp
      rw [sl, sl']

/-- `delete S[k]` is `destroy()`; `RefPtr.release` (the `if (--*_count == 0)` of givpointer.h) has the shape of `destroy_owner` -/
theorem embed_del {s : State Nat} (I : Inv s) (E : OneCell s) {k : Nat} (kn : k < s.n) :
    ESim s (embed s (.del k)) (.del k) ∧ embed s (.del k) = destroy s k := by
  have e0 : embed s (.del k) = destroy s k :=
    step_eq_core I (.destroy k) (lt_of_mem_one kn)
  refine ⟨?_, e0⟩
  rw [e0]
  by_cases kp : (s.hs k).psz = 0
  · rw [destroy_empty I kn ((I.wf k kn).1 kp)]
    refine ⟨I, E, rfl, ?_⟩
    show proj s = match (proj s).slot k with | none => proj s | some o => _
    rw [empty_slot kp]
  · obtain ⟨o, g1, g2, sl, _⟩ := occupied I E kn kp
    have D := destroy_inv I kn
    have e := destroy_owner I kn g1 g2
    refine ⟨D.1, ?_, D.2.2.1, ?_⟩
    · rw [e]
      refine onecell_upd E k Handle.empty rfl rfl E.next (fun x => ?_) (fun z => absurd rfl z)
      show (if s.cval o - 1 = 0 then upd s.clive o false else s.clive) x = (if s.cval o - 1 = 0 then upd s.dlive o false else s.dlive) x
      split
      · unfold upd; split
        · rfl
        · exact E.live x
      · exact E.live x
    · show _ = match (proj s).slot k with | none => proj s | some o => _
      rw [sl, e]
      refine RefPtr.st_ext ?_ rfl rfl rfl rfl
      show (fun x => if (upd s.hs k _ x).psz = 0 then none else (upd s.hs k _ x).d) = _
      rw [proj_slot_upd]; rfl

/-- `*S[j] = *S[k]` is `logcopy` -/
theorem embed_assign {s : State Nat} (I : Inv s) (E : OneCell s) {k j : Nat} (kn : k < s.n) (jn : j < s.n) :
    ESim s (embed s (.assign k j)) (.assign k j) := by
  simp only [embed]
  by_cases c : (s.hs k).psz ≠ 0 ∧ (s.hs j).psz ≠ 0
  · rw [if_pos c]
    obtain ⟨kp, jp⟩ := c
    obtain ⟨o, _, _, sl, _⟩ := occupied I E kn kp
    obtain ⟨o', _, _, sl', _⟩ := occupied I E jn jp
    rw [step_eq_core I (.logcopy j k) (lt_of_mem_two jn kn)]
    show ESim s (logcopy s j k) _
    by_cases ne : j = k
    · have : logcopy s j k = s := by unfold logcopy; rw [if_pos ne]
      rw [this]
      refine ⟨I, E, rfl, ?_⟩
      show proj s = match (proj s).slot k, (proj s).slot j with
        | some o, some o' => if k = j then proj s else _ | _, _ => proj s
      rw [sl, sl']; dsimp only; rw [if_pos ne.symm]
    · obtain ⟨S1, e1⟩ := embed_del I E jn
      obtain ⟨G, he⟩ := good_destroy I jn
      rw [e1] at S1
      have S2 := embed_copy S1.inv S1.one (G.lt kn) (G.lt jn)
      have e2 : embed (destroy s j) (.copy k j) = logcopy s j k := by
        have kne : k ≠ j := fun q => ne q.symm
        simp only [embed]
        rw [if_pos ⟨by rw [G.frame k kne]; exact kp, by rw [he]; rfl⟩,
          step_eq_core G.inv (.noCopy j k) (lt_of_mem_two (G.lt jn) (G.lt kn))]
        show ctorNoCopy (destroy s j) j k = _
        rw [ctorNoCopy_eq_logcopy, logcopy_eq G.inv (G.lt jn) ne, destroy_empty G.inv (G.lt jn) he, logcopy_eq I jn ne]
      rw [e2] at S2
      exact ⟨S2.inv, S2.one, S2.n.trans S1.n, by
        rw [S2.sim, S1.sim, RefPtr.assign_eq_del_copy (fun q => ne q.symm) sl sl']⟩
  · rw [if_neg c]
    refine ⟨I, E, rfl, ?_⟩
    show proj s = match (proj s).slot k, (proj s).slot j with
      | some o, some o' => if k = j then proj s else _ | _, _ => proj s
    by_cases kp : (s.hs k).psz = 0
    · rw [empty_slot kp]
    · have jp : (s.hs j).psz = 0 := Classical.byContradiction (fun q => c ⟨kp, q⟩)
      obtain ⟨o, _, _, sl, _⟩ := occupied I E kn kp
      rw [sl, empty_slot jp]

theorem embed_sim {s : State Nat} (I : Inv s) (E : OneCell s) (op : RefPtr.Op) (hb : ∀ k, k ∈ op.slots → k < s.n) :
    ESim s (embed s op) op := by
  cases op with
  | new k v => exact embed_new I E (first_lt hb) v
  | copy k j => exact embed_copy I E (first_lt hb) (second_lt hb)
  | del k => exact (embed_del I E (first_lt hb)).1
  | assign k j => exact embed_assign I E (first_lt hb) (second_lt hb)

theorem erun_sim (ops : List RefPtr.Op) : ∀ {s : State Nat}, Inv s → OneCell s →
    (∀ op, op ∈ ops → ∀ k, k ∈ op.slots → k < s.n) →
    Inv (erun s ops) ∧ OneCell (erun s ops) ∧ (erun s ops).n = s.n ∧ proj (erun s ops) = RefPtr.run (proj s) ops := by
  induction ops with
  | nil => intro s I E _; exact ⟨I, E, rfl, rfl⟩
  | cons op rest ih =>
    intro s I E hb
    have S := embed_sim I E op (hb op List.mem_cons_self)
    have R := ih S.inv S.one (fun o ho k hk => by rw [S.n]; exact hb o (List.mem_cons_of_mem _ ho) k hk)
    refine ⟨R.1, R.2.1, R.2.2.1.trans S.n, ?_⟩
    show proj (erun (embed s op) rest) = RefPtr.run (RefPtr.step (proj s) op) rest
    rw [R.2.2.2, S.sim]

theorem proj_counts {s : State Nat} (I : Inv s) (E : OneCell s) :
    (∀ k o, k < s.n → (proj s).slot k = some o →
      (proj s).alive o = true ∧ (proj s).cnt o = (countBelow (fun j => (proj s).slot j == some o) s.n : Int) ∧
      1 ≤ countBelow (fun j => (proj s).slot j == some o) s.n) ∧
    (∀ o, (proj s).alive o = true → ∃ k, k < s.n ∧ (proj s).slot k = some o) := by
  have slot_iff : ∀ j o, j < s.n → (((proj s).slot j == some o) = ((s.hs j).cnt == some o)) := by
    intro j o jn
    show ((if (s.hs j).psz = 0 then none else (s.hs j).d) == some o) = _
    by_cases jp : (s.hs j).psz = 0
    · rw [if_pos jp, (I.wf j jn).1 jp]; rfl
    · rw [if_neg jp, (E.same j jn jp).1]
  constructor
  · intro k o kn hk
    have kp : (s.hs k).psz ≠ 0 := fun q => by rw [empty_slot q] at hk; cases hk
    obtain ⟨o', _, _, sl, cl, dl, _⟩ := occupied I E kn kp
    rw [sl] at hk; cases hk
    rw [countBelow_congr (q := fun j => (s.hs j).cnt == some o) s.n (fun j jn => slot_iff j o jn)]
    exact ⟨dl, I.rc o cl⟩
  · intro o ho
    obtain ⟨h, hn, hd, hp⟩ := I.down o ho
    exact ⟨h, hn, by show (if (s.hs h).psz = 0 then none else (s.hs h).d) = some o; rw [if_neg hp, hd]⟩

theorem proj_init (n : Nat) : proj (init Nat n) = RefPtr.St.init := rfl

end Givaro.Model.Array0
