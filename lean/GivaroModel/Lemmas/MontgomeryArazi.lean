/-
C07.  `arazi_qi` inverts every odd word modulo `2^(2^K)` (the limb loop by its invariant, a Newton step per level), and what the RecInt constructors compute from it.
-/
import GivaroModel.Lemmas.MontgomeryLemmas

namespace Givaro.Lemmas.Montgomery
open Givaro Givaro.Model.Montgomery Givaro.Spec.Montgomery Givaro.Lemmas.MontInit

/-! ## arazi_qi -/
def W64 : Int := 18446744073709551616

theorem wrapU64_modEq (t : Int) : wrapU64 t ≡ t [ZMOD W64] := Int.mod_modEq t _

/-- `Y` is what `amone` holds before the wrap-arounds.  With `c = 1 - X²` fixed, a round keeps `u·c ≡ 1 - Y²`:
    `u·(1 + Y²)·c ≡ (1 - Y²)(1 + Y²) = 1 - (Y²)²`. -/
theorem araziLoop_inv (c : Int) : ∀ (k : Nat) (am u Y : Int), am ≡ Y [ZMOD W64] → u * c ≡ 1 - Y * Y [ZMOD W64] →
    araziLimbLoop k am u * c ≡ 1 - (Y * Y) ^ 2 ^ k [ZMOD W64] := by
  intro k
  induction k with
  | zero => intro am u Y _ h2; simpa [araziLimbLoop] using h2
  | succ k ih =>
    intro am u Y h1 h2
    unfold araziLimbLoop
    simp only
    have a1 : wrapU64 (am * am) ≡ Y * Y [ZMOD W64] := (wrapU64_modEq _).trans (h1.mul h1)
    have a2 : wrapU64 (wrapU64 (am * am) + 1) ≡ Y * Y + 1 [ZMOD W64] := (wrapU64_modEq _).trans (a1.add_right 1)
    have a3 := ((wrapU64_modEq (u * wrapU64 (wrapU64 (am * am) + 1))).mul_right c).trans ((mul_right_comm u _ c).symm ▸ h2.mul a2)
    have a4 : wrapU64 (wrapU64 (wrapU64 (am * am) + 1) - 1) ≡ Y * Y [ZMOD W64] := by
      have := (wrapU64_modEq _).trans (a2.sub_right 1)
      rwa [add_sub_cancel_right] at this
    rw [show (1 - Y * Y) * (Y * Y + 1) = 1 - Y * Y * (Y * Y) by ring] at a3
    have := ih _ _ _ a4 a3
    rwa [← pow_two (Y * Y), ← pow_mul, ← pow_succ'] at this

/-- with `X = a - 1`: `u·(2 - a)·a = u·(1 - X²) ≡ 1 - X^64`, and `X` is even -/
theorem araziLimb_exact (a : Int) (h0 : 0 ≤ a) (h1 : a < W64) (hodd : a % 2 = 1) :
    0 ≤ araziLimb a ∧ araziLimb a < W64 ∧ (araziLimb a * a) % W64 = 1 := by
  unfold araziLimb
  split
  · rename_i h; subst h; decide
  · refine ⟨Int.emod_nonneg _ (by decide), Int.emod_lt_of_pos _ (by decide), ?_⟩
    have hl := araziLoop_inv ((2 - a) * a) 5 (wrapU64 (a - 1)) 1 (a - 1) (wrapU64_modEq _)
      (by rw [Int.one_mul, show (2 - a) * a = 1 - (a - 1) * (a - 1) by ring])
    simp only
    generalize araziLimbLoop 5 (wrapU64 (a - 1)) 1 = L at hl ⊢
    have h3 : wrapU64 (L * wrapU64 (2 - a)) * a ≡ L * ((2 - a) * a) [ZMOD W64] := by
      rw [← Int.mul_assoc]
      exact ((wrapU64_modEq (L * wrapU64 (2 - a))).trans ((wrapU64_modEq (2 - a)).mul_left L)).mul_right a
    have hd : W64 ∣ ((a - 1) * (a - 1)) ^ 2 ^ 5 := by
      have h2 : (2 : Int) ∣ a - 1 := by omega
      exact pow_dvd_pow_of_dvd (mul_dvd_mul h2 h2) (2 ^ 5)
    have h5 : (1 - ((a - 1) * (a - 1)) ^ 2 ^ 5 : Int) ≡ 1 [ZMOD W64] :=
      Int.modEq_iff_dvd.mpr (by rw [sub_sub_cancel]; exact hd)
    exact Eq.trans ((h3.trans hl).trans h5) (by decide)

theorem radix_zero : radix 0 = W64 := by unfold radix bitsOf W64; norm_num
theorem radix_succ (n : Nat) : radix (n + 1) = radix n * radix n := by
  unfold radix bitsOf
  rw [← pow_add]
  congr 1
  rw [pow_succ]
  omega
theorem radix_pos (n : Nat) : 0 < radix n := by unfold radix; positivity
theorem two_dvd_radix (n : Nat) : (2 : Int) ∣ radix n := by
  unfold radix bitsOf
  exact dvd_pow_self 2 (by positivity)

theorem W64_le_radix (n : Nat) : W64 ≤ radix n := by
  rw [← radix_zero]
  unfold radix bitsOf
  exact pow_le_pow_right₀ (by decide) (Nat.mul_le_mul_left 64 (Nat.pow_le_pow_right (by decide) (Nat.zero_le n)))

/-- one level of `arazi_qi`: a Newton step from modulus `H` to `H²` -/
theorem arazi_lift {H uL aL aH : Int} (u0 : 0 ≤ uL) (u1 : uL < H) (hu : uL * aL % H = 1) :
    let uH := uNeg H (uMul H (uAdd H (uL * aL / H) (uMul H uL aH)) uL)
    0 ≤ uL + H * uH ∧ uL + H * uH < H * H ∧ (uL + H * uH) * (aL + H * aH) % (H * H) = 1 := by
  intro uH
  have hH0 : 0 < H := lt_of_le_of_lt u0 u1
  have hH : 1 < H := hu ▸ Int.emod_lt_of_pos (uL * aL) hH0
  have v0 : 0 ≤ uH := Int.emod_nonneg _ hH0.ne'
  have v1 : uH < H := Int.emod_lt_of_pos _ hH0
  have hv : uH ≡ -((uL * aL / H + uL * aH) * uL) [ZMOD H] := by
    refine (Int.mod_modEq _ _).trans (Int.ModEq.neg ?_)
    refine (Int.mod_modEq _ _).trans (Int.ModEq.mul_right _ ?_)
    exact (Int.mod_modEq _ _).trans ((Int.mod_modEq _ _).add_left _)
  have e1 := Int.emod_add_mul_ediv (uL * aL) H
  rw [hu] at e1
  generalize uL * aL / H = t at e1 hv
  obtain ⟨z, hz⟩ := hv.dvd
  obtain ⟨y, hy⟩ : H ∣ t + uL * aH + uH * aL :=
    ⟨-(t + uL * aH) * t - z * aL, by linear_combination (t + uL * aH) * e1 - aL * hz⟩
  have b1 : H * uH ≤ H * (H - 1) := Int.mul_le_mul_of_nonneg_left (Int.le_sub_one_of_lt v1) hH0.le
  have hHH : (1 : Int) < H * H := lt_of_lt_of_le hH (le_mul_of_one_le_right hH0.le hH.le)
  refine ⟨Int.add_nonneg u0 (Int.mul_nonneg hH0.le v0), ?_, emod_unique (by decide) hHH (y + uH * aH) ?_⟩
  · rw [show H * (H - 1) = H * H - H by ring] at b1; omega
  · linear_combination H * hy - e1

theorem arazi_exact : ∀ (n : Nat) (a : Int), 0 ≤ a → a < radix n → a % 2 = 1 →
    0 ≤ arazi n a ∧ arazi n a < radix n ∧ (arazi n a * a) % radix n = 1 := by
  intro n
  induction n with
  | zero => intro a h0 h1 h2; rw [radix_zero] at *; exact araziLimb_exact a h0 h1 h2
  | succ n ih =>
    intro a h0 h1 hodd
    have hH := radix_pos n
    rw [radix_succ]
    have aLodd : a % radix n % 2 = 1 := by rw [Int.emod_emod_of_dvd a (two_dvd_radix n)]; exact hodd
    obtain ⟨u0, u1, u2⟩ := ih (a % radix n) (Int.emod_nonneg a hH.ne') (Int.emod_lt_of_pos a hH) aLodd
    have := arazi_lift (aH := a / radix n) u0 u1 u2
    rw [Int.emod_add_mul_ediv a (radix n)] at this
    exact this

/-! ## the RecInt constructors -/

theorem uNeg_eq {R p : Int} (p0 : 0 < p) (pR : p < R) : uNeg R p = R - p := by
  unfold uNeg; exact emod_unique (sub_nonneg.mpr pR.le) (sub_lt_self _ p0) (-1) (by ring)

/-- `mod_n(_r, -_p, _p)` -/
theorem uNeg_emod {R p : Int} (p0 : 0 < p) (pR : p < R) : uNeg R p % p = R % p := by
  rw [uNeg_eq p0 pR]; exact Int.sub_emod_right R p

theorem arazi_neg_spec (n : Nat) (p : Int) (hp0 : 0 < p) (hpR : p < radix n) (hodd : p % 2 = 1) :
    0 ≤ arazi n (uNeg (radix n) p) ∧ arazi n (uNeg (radix n) p) < radix n ∧
    (arazi n (uNeg (radix n) p) * p) % radix n = radix n - 1 := by
  have h2 := two_dvd_radix n
  rw [uNeg_eq hp0 hpR]
  obtain ⟨a0, a1, a2⟩ := arazi_exact n (radix n - p) (sub_nonneg.mpr hpR.le) (sub_lt_self _ hp0) (by omega)
  have hd := Int.emod_add_mul_ediv (arazi n (radix n - p) * (radix n - p)) (radix n)
  rw [a2] at hd
  refine ⟨a0, a1, emod_unique (Int.le_sub_one_of_lt (lt_trans hp0 hpR)) (sub_one_lt _)
    (arazi n (radix n - p) - (arazi n (radix n - p) * (radix n - p)) / radix n - 1) ?_⟩
  linear_combination hd

theorem mkA_adm (n : Nat) (p : Int) (hp0 : 0 < p) (hpR : p < radix n) (hodd : p % 2 = 1) : AdmR (mkA n p) :=
  ⟨hp0, hpR, (arazi_neg_spec n p hp0 hpR hodd).2.2⟩

theorem mkR_r2 (n : Nat) (p : Int) (hp0 : 0 < p) (hpR : p < radix n) : (mkR n p).r2 = (radix n * radix n) % p := by
  show uNeg (radix n) p % p * (uNeg (radix n) p % p) % p = _
  rw [uNeg_emod hp0 hpR]; exact (Int.mul_emod _ _ _).symm

theorem mkR_good_of_pos (n : Nat) (p : Int) (hp0 : 0 < p) (hpR : p < radix n) (hodd : p % 2 = 1) : GoodR (mkR n p) where
  p0 := hp0
  pR := hpR
  p1p := (arazi_neg_spec n p hp0 hpR hodd).2.2
  r2 := mkR_r2 n p hp0 hpR


end Givaro.Lemmas.Montgomery
