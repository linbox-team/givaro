/- C12 — `FermatDom` (model: Model/PrimesMisc.lean): `pepin(n)` decides the primality of the Fermat number
   (Pépin's criterion in both directions: sufficiency is Mathlib's `Nat.pepin_primality'` (Lucas), necessity is quadratic
   reciprocity: for n ≥ 1, F_n ≡ 1 mod 4 and F_n ≡ 2 mod 3, so 3 is a non-residue modulo a prime F_n, and Euler's criterion). -/
import GivaroModel.Model.PrimesMisc
import GivaroModel.Lemmas.PrimesMR
import Mathlib.NumberTheory.Fermat
import Mathlib.NumberTheory.LegendreSymbol.QuadraticReciprocity
namespace Givaro.Lemmas.Primes
open Givaro Givaro.Model.Primes

theorem two_not_sq_mod_three : ¬ IsSquare (2 : ZMod 3) := by decide

theorem pepin_criterion (n : Nat) (hn : 1 ≤ n) :
    Nat.Prime (Nat.fermatNumber n) ↔
      3 ^ ((Nat.fermatNumber n - 1) / 2) % Nat.fermatNumber n = Nat.fermatNumber n - 1 := by
  have h2F := Nat.two_lt_fermatNumber n
  constructor
  · intro hp
    generalize hF : Nat.fermatNumber n = F at hp h2F ⊢
    -- F = 4^(2^(n-1)) + 1, so F ≡ 1 mod 4 and F ≡ 2 mod 3
    obtain ⟨m, rfl⟩ := Nat.exists_eq_add_of_le hn
    rw [Nat.fermatNumber, Nat.add_comm 1 m, pow_succ, Nat.mul_comm, pow_mul] at hF
    have hF4 : F % 4 = 1 := by
      rw [← hF, Nat.add_mod, Nat.mod_eq_zero_of_dvd (show 4 ∣ (2 ^ 2) ^ 2 ^ m from dvd_pow_self (2 ^ 2) (Nat.two_pow_pos m).ne')]
    have hF3 : F % 3 = 2 := by
      rw [← hF, Nat.add_mod, Nat.pow_mod, show 2 ^ 2 % 3 = 1 from rfl, Nat.one_pow]
    clear hF
    have h5 : 5 ≤ F := by omega
    have := Fact.mk hp
    have : Fact (Nat.Prime 3) := ⟨Nat.prime_three⟩
    rcases euler_residue F 3 hp (le_trans (by decide) h5)
        (by rw [Nat.mod_eq_of_lt (lt_of_lt_of_le (by decide) h5)]; decide) with ⟨_, hsq⟩ | ⟨h, _⟩
    · -- 3 a square mod F would make F ≡ 2 a square mod 3
      have hF2 : ((F : Nat) : ZMod 3) = 2 := by
        simpa using (ZMod.natCast_eq_natCast_iff' F 2 3).2 hF3
      have := (ZMod.exists_sq_eq_prime_iff_of_mod_four_eq_one (p := F) (q := 3) hF4 (by decide)).1 hsq
      exact absurd (hF2 ▸ this) two_not_sq_mod_three
    · exact h
  · intro h
    apply Nat.pepin_primality' n
    simpa using (zmod_eq_neg_one_iff _ _ (by omega)).2 h

theorem pepinOf_iff (F : Nat) (hF : 2 < F) : pepinOf F = true ↔ 3 ^ ((F - 1) / 2) % F = F - 1 := by
  unfold pepinOf
  have hlt : 3 ^ ((F - 1) / 2) % F < F := Nat.mod_lt _ (by omega)
  simp only [decide_eq_true_eq, powModNat_spec 3 _ F (by omega)]
  omega

end Givaro.Lemmas.Primes
