/-
C10, tie T: encoders and the proof script for the generated theorems `Gen body = hand model`
(Generated/RationalThms.lean, written by translate/gen_rational.py).
-/
import GivaroModel.Prim.Gmp
import GivaroModel.Model.Rational
import GivaroModel.Lemmas.IntegerTactics
namespace Givaro.GenQ
open Givaro Givaro.Model.Rational

/-- a Rational returned by value (`none` = the call threw `GivMathDivZero`) -/
def encQ (o : Option QRep) : Res :=
  match o with
  | none => Res.thrown
  | some q => ⟨0, [q.num, q.den], false⟩
/-- a non-const method returning `*this`: the returned reference and the object -/
def encQQ (o : Option QRep) : Res :=
  match o with
  | none => Res.thrown
  | some q => ⟨0, [q.num, q.den, q.num, q.den], false⟩
/-- a constructor: the constructed object -/
def encC (o : Option QRep) : Res := encQ o
/-- a returned word or Integer -/
def encW (x : Int) : Res := ⟨x, [], false⟩

theorem encQ_ite (c : Prop) [Decidable c] (a b : Option QRep) : encQ (if c then a else b) = if c then encQ a else encQ b := by
  split <;> rfl
theorem encQQ_ite (c : Prop) [Decidable c] (a b : Option QRep) : encQQ (if c then a else b) = if c then encQQ a else encQQ b := by
  split <;> rfl
theorem encW_ite (c : Prop) [Decidable c] (a b : Int) : encW (if c then a else b) = if c then encW a else encW b := by
  split <;> rfl
theorem some_ite (c : Prop) [Decidable c] (a b : QRep) : some (if c then a else b) = if c then some a else some b := by
  split <;> rfl
theorem igcd_nonneg (a b : Int) : ¬ (igcd a b < 0) := by unfold igcd; omega
theorem mpz_gcd_eq (a b : Int) : mpz_gcd a b = igcd a b := rfl
theorem mpz_tdiv_q_eq (a b : Int) : mpz_tdiv_q a b = idiv a b := rfl
theorem gcd_pos_iff (a b : Int) : (0 < (Int.gcd a b : Int)) ↔ ((Int.gcd a b : Int) ≠ 0) := by omega

theorem encQ_none : encQ none = Res.thrown := rfl
theorem encQ_some (q : QRep) : encQ (some q) = ⟨0, [q.num, q.den], false⟩ := rfl
theorem encQQ_some (q : QRep) : encQQ (some q) = ⟨0, [q.num, q.den, q.num, q.den], false⟩ := rfl
theorem num_ite (c : Prop) [Decidable c] (p q : QRep) : (if c then p else q).num = if c then p.num else q.num := by
  split <;> rfl
theorem den_ite (c : Prop) [Decidable c] (p q : QRep) : (if c then p else q).den = if c then p.den else q.den := by
  split <;> rfl

/-- `sign(const Integer&)` as the translated code computes it from `_mp_size`, and as the model writes it -/
theorem sgn_eq (x : Int) : (if x < 0 then -1 else if 0 < x then 1 else 0) = isign x := by
  unfold isign
  by_cases h1 : x < 0
  · rw [if_pos h1, if_pos h1]
  rw [if_neg h1, if_neg h1]
  by_cases h2 : x = 0
  · rw [if_pos h2, if_neg (by omega)]
  · rw [if_neg h2, if_pos (by omega)]
theorem isign_pos_nonneg (x : Int) : (0 < isign x ↔ 0 < x) ∧ (0 ≤ isign x ↔ ¬ x < 0) := by
  unfold isign
  by_cases h1 : x < 0
  · rw [if_pos h1]; omega
  rw [if_neg h1]
  by_cases h2 : x = 0
  · rw [if_pos h2]; omega
  · rw [if_neg h2]; omega
theorem isign_pos (x : Int) : 0 < isign x ↔ 0 < x := (isign_pos_nonneg x).1
theorem isign_nonneg (x : Int) : 0 ≤ isign x ↔ ¬ x < 0 := (isign_pos_nonneg x).2
/-- the sign test inside `abs` of a gcd -/
theorem sgn_nonneg_not_neg (c : Prop) [Decidable c] : ¬ ((if c then (1 : Int) else 0) < 0) := by split <;> omega
/-- `Integer::operator/` and `/=` return a zero dividend as it is -/
theorem idiv_zero_shortcut' (x g : Int) : (if x = 0 then 0 else idiv x g) = idiv x g := by
  by_cases h : x = 0
  · rw [if_pos h, h, idiv, Int.zero_tdiv]
  · rw [if_neg h]
theorem idiv_zero_shortcut (x g : Int) : (if x = 0 then x else idiv x g) = idiv x g := by
  by_cases h : x = 0
  · rw [if_pos h, h, idiv, Int.zero_tdiv]
  · rw [if_neg h]

/-- Both sides are brought to one normal form: contracts and model unfolded, sign tests turned into comparisons of the
    operands, every `if` pushed from pairs and encoded results down to the `Int` it selects. -/
macro "genq_link" : tactic => `(tactic|
  simp only [Model.Rational.neg, Model.Rational.abs, Model.Rational.trunc, Model.Rational.floor, Model.Rational.ceil,
    Model.Rational.mk3, Model.Rational.reduce, Model.Rational.ofInteger, iabs,
    mpz_gcd_eq, mpz_tdiv_q_eq, mpz_fdiv_q, mpz_cdiv_q, mpz_neg, mpz_cmp_ui, cmp3_eq0, mp_size_lt0, mp_size_gt0,
    sgn_eq, isign_pos, isign_nonneg, igcd_nonneg, sgn_nonneg_not_neg, idiv_zero_shortcut, idiv_zero_shortcut',
    gt_iff_lt, ge_iff_le, ne_eq, not_not, ite_not, ite_self, Int.reduceEq, ↓reduceIte, Int.neg_neg,
    encC, encW, encQ_ite, encQ_none, encQ_some, encQQ_some, num_ite, den_ite])

end Givaro.GenQ
