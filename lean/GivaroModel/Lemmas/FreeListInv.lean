/-
C17 — the pooled allocator: `search_binary` returns the smallest class that fits; the free lists never hold a block
that a client still holds, nor a block twice; every block obtained from malloc is held or waits on the list of its class.
-/
import GivaroModel.Model.FreeList
namespace Givaro.Model.FreeList
open Givaro.Gen.C17

theorem le_of_adjacent {t : Nat → Nat} {N : Nat} (hadj : ∀ i, i + 1 ≤ N → t i < t (i + 1)) :
    ∀ j, j ≤ N → ∀ i, i ≤ j → t i ≤ t j
  | 0, _, i, hi => by rw [Nat.le_zero.mp hi]; exact Nat.le_refl _
  | j + 1, hj, i, hi => by
    rcases Nat.lt_or_ge i (j + 1) with lt | ge
    · exact Nat.le_trans (le_of_adjacent hadj j (by omega) i (by omega)) (Nat.le_of_lt (hadj j hj))
    · rw [Nat.le_antisymm hi ge]; exact Nat.le_refl _

theorem mid_inside {lo hi : Nat} (h : lo < hi) (ne : lo ≠ (hi + lo) / 2) : lo < (hi + lo) / 2 ∧ (hi + lo) / 2 < hi := by omega

theorem mid_stop {lo hi : Nat} (h : lo < hi) (e : lo = (hi + lo) / 2) : hi = lo + 1 := by omega

/-- started with `t min < sz ≤ t max` the loop returns the index in `(min, max]` at which `t` first reaches `sz` -/
theorem sbLoop_spec (t : Nat → Nat) (N : Nat) (hadj : ∀ i, i + 1 ≤ N → t i < t (i + 1)) (hN : t N < 4294967296) :
    ∀ fuel sz min max med, max - min ≤ fuel → min < med → med < max → max ≤ N → t min < sz → sz ≤ t max →
      min < sbLoop t fuel sz min max med ∧ sbLoop t fuel sz min max med ≤ max ∧ sz ≤ t (sbLoop t fuel sz min max med) ∧
      t (sbLoop t fuel sz min max med - 1) < sz := by
  intro fuel
  induction fuel with
  | zero => intro sz min max med h1 h2 h3; omega
  | succ f ih =>
    intro sz min max med hf h1 h2 h3 h4 h5
    have medN : med ≤ N := Nat.le_trans (Nat.le_of_lt h2) h3
    have u32 : t med % 4294967296 = t med :=
      Nat.mod_eq_of_lt (Nat.lt_of_le_of_lt (le_of_adjacent hadj N (Nat.le_refl _) med medN) hN)
    have below : t (med - 1) < t med := by
      have e : med - 1 + 1 = med := Nat.sub_add_cancel (Nat.lt_of_le_of_lt (Nat.zero_le _) h1)
      have := hadj (med - 1) (by rw [e]; exact medN)
      rwa [e] at this
    unfold sbLoop
    simp only [u32]
    by_cases e : t med = sz
    · rw [if_pos e, ← e]
      exact ⟨h1, Nat.le_of_lt h2, Nat.le_refl _, below⟩
    · rw [if_neg e]
      by_cases lt : t med < sz
      · rw [if_pos lt, if_pos lt]
        by_cases stop : med = (max + med) / 2
        · rw [if_neg (fun ne => ne stop)]
          obtain rfl := mid_stop h2 stop
          exact ⟨Nat.lt_succ_of_lt h1, Nat.le_refl _, h5, lt⟩
        · rw [if_pos stop]
          obtain ⟨a, b⟩ := mid_inside h2 stop
          obtain ⟨r1, r2⟩ := ih sz med max ((max + med) / 2) (by omega) a b h3 lt h5
          exact ⟨Nat.lt_trans h1 r1, r2⟩
      · rw [if_neg lt, if_neg lt]
        have gt : sz ≤ t med := Nat.le_of_not_lt lt
        by_cases stop : min = (med + min) / 2
        · rw [if_neg (fun ne => ne stop)]
          obtain rfl := mid_stop h1 stop
          exact ⟨Nat.lt_succ_self _, Nat.le_of_lt h2, gt, h4⟩
        · rw [if_pos stop]
          obtain ⟨a, b⟩ := mid_inside h1 stop
          obtain ⟨r1, r2, r3⟩ := ih sz min med ((med + min) / 2) (by omega) a b medN h4 gt
          exact ⟨r1, Nat.le_trans r2 (Nat.le_of_lt h2), r3⟩

def ascending : List Nat → Bool
  | a :: b :: l => a < b && ascending (b :: l)
  | _ => true

theorem ascending_lt : ∀ (l : List Nat), ascending l = true → ∀ i, i + 1 < l.length → l.getD i 0 < l.getD (i + 1) 0
  | a :: b :: l, h, i, hi => by
    simp only [ascending, Bool.and_eq_true, decide_eq_true_eq] at h
    cases i with
    | zero => exact h.1
    | succ i => exact ascending_lt (b :: l) h.2 i (by simpa using hi)
  | [_], _, i, hi => by simp at hi
  | [], _, i, hi => by simp at hi

theorem tab_eq (i : Nat) : tab i = tabSizeArr.toList.getD i 0 := by
  unfold tab
  rw [Array.getD_eq_getD_getElem?, ← Array.getElem?_toList, List.getD_eq_getElem?_getD]

/- the table extracted from givaromm.C, by evaluation: length, order (one pass), first 32 entries, last entry -/
theorem table_len : lenTables = 512 ∧ tabSizeArr.toList.length = 512 := by decide +kernel
theorem table_ascending : ascending tabSizeArr.toList = true := by decide +kernel
theorem table_small : tabSizeArr.toList.take 32 = List.range' 1 32 := by decide +kernel
theorem tab_last : tab 511 = 8054880 := by decide +kernel

theorem tab_adj (i : Nat) (h : i + 1 ≤ 511) : tab i < tab (i + 1) := by
  rw [tab_eq, tab_eq]
  exact ascending_lt _ table_ascending i (by rw [table_len.2]; omega)

theorem tab_small (sz : Nat) (h0 : 0 < sz) (h : sz ≤ 32) : tab (sz - 1) = sz := by
  have lt : sz - 1 < 32 := by omega
  rw [tab_eq, List.getD_eq_getElem?_getD, ← List.getElem?_take_of_lt lt, table_small, List.getElem?_range' lt]
  show 1 + 1 * (sz - 1) = sz
  omega

theorem searchBinary_spec (sz : Nat) :
    match searchBinary sz with
    | none => tab 511 < sz
    | some i => i < 512 ∧ sz ≤ tab i ∧ (i = 0 ∨ tab (i - 1) < sz) := by
  unfold searchBinary
  rw [table_len.1]
  show match (if sz ≤ 32 then _ else if sz > tab 511 then _ else some (sbLoop tab 512 sz 0 511 8)) with | none => _ | some i => _
  by_cases h : sz ≤ 32
  · rw [if_pos h]
    by_cases z : sz = 0
    · subst z; rw [if_pos rfl]; exact ⟨by omega, by omega, Or.inl rfl⟩
    · rw [if_neg z]
      have := tab_small sz (by omega) h
      refine ⟨by omega, by omega, ?_⟩
      by_cases o : sz - 1 = 0
      · exact Or.inl o
      · right
        have := tab_small (sz - 1) (by omega) (by omega)
        omega
  · rw [if_neg h]
    have t0 : tab 0 = 1 := tab_small 1 (by omega) (by omega)
    have spec := sbLoop_spec tab 511 tab_adj (by have := tab_last; omega) 512 sz 0 511 8
      (by omega) (by omega) (by omega) (by omega) (by omega)
    -- as a variable: a case split on `tab 511 < sz` itself starts evaluating the lookup
    generalize tab 511 = T at spec ⊢
    by_cases big : T < sz
    · rw [if_pos big]; exact big
    · rw [if_neg big]
      obtain ⟨_, r2, r3, r4⟩ := spec (Nat.not_lt.mp big)
      exact ⟨by omega, r3, Or.inr r4⟩

theorem updF_same {β : Type} (f : Nat → β) (i : Nat) (v : β) : updF f i v i = v := by unfold updF; rw [if_pos rfl]
theorem updF_other {β : Type} (f : Nat → β) (i : Nat) (v : β) {j : Nat} (h : j ≠ i) : updF f i v j = f j := by
  unfold updF; rw [if_neg h]
theorem updF_self {β : Type} {f : Nat → β} {i : Nat} {v : β} (e : f i = v) : updF f i v = f := by
  funext j; unfold updF; split
  · rename_i q; rw [q, e]
  · rfl

theorem allocate_facts {p p' : Pool} {sz b : Nat} (e : allocate p sz = some (p', b)) :
    ∃ i, searchBinary sz = some i ∧ p'.idx b = i ∧ (∀ x, x ≠ b → p'.idx x = p.idx x) ∧
      ((p.free i = b :: p'.free i ∧ p'.next = p.next ∧ ∀ j, j ≠ i → p'.free j = p.free j) ∨
       (p.free i = [] ∧ b = p.next ∧ p'.next = p.next + 1 ∧ p'.free = p.free)) := by
  unfold allocate at e
  cases hs : searchBinary sz with
  | none => rw [hs] at e; cases e
  | some i =>
    rw [hs] at e; dsimp only at e
    refine ⟨i, rfl, ?_⟩
    cases hf : p.free i with
    | nil =>
      rw [hf] at e; cases e
      exact ⟨updF_same _ _ _, fun x hx => updF_other _ _ _ hx, Or.inr ⟨rfl, rfl, rfl, rfl⟩⟩
    | cons b0 rest =>
      rw [hf] at e; cases e
      exact ⟨updF_same _ _ _, fun x hx => updF_other _ _ _ hx,
        Or.inl ⟨congrArg (b :: ·) (updF_same p.free i rest).symm, rfl, fun j hj => updF_other _ _ _ hj⟩⟩

theorem allocate_free {p p' : Pool} {sz b : Nat} (e : allocate p sz = some (p', b)) :
    (∀ j x, x ∈ p'.free j → x ∈ p.free j) ∧ (∀ j x, x ∈ p.free j → x = b ∨ x ∈ p'.free j) := by
  obtain ⟨i, _, _, _, ⟨hl, _, hj⟩ | ⟨_, _, _, hf⟩⟩ := allocate_facts e
  · refine ⟨fun j x hx => ?_, fun j x hx => ?_⟩
    · by_cases ej : j = i
      · rw [ej, hl]; rw [ej] at hx; exact List.mem_cons_of_mem _ hx
      · rw [← hj j ej]; exact hx
    · by_cases ej : j = i
      · rw [ej, hl] at hx; rw [ej]; exact List.mem_cons.mp hx
      · rw [hj j ej]; exact Or.inr hx
  · rw [hf]
    exact ⟨fun _ _ hx => hx, fun _ _ hx => Or.inr hx⟩

/-- pool invariant relative to the set `H` of blocks the client holds -/
structure PI (p : Pool) (H : Nat → Prop) : Prop where
  nodup : ∀ i, (p.free i).Nodup
  hfree : ∀ b i, H b → b ∉ p.free i
  /-- the blocks obtained from malloc are exactly the held ones and those on the free lists -/
  acct : ∀ b, b < p.next ↔ H b ∨ ∃ i, b ∈ p.free i
  /-- a block waits on the free list of the class it was allocated from, a class of the table -/
  home : ∀ i b, b ∈ p.free i → p.idx b = i ∧ i < 512
  hidx : ∀ b, H b → p.idx b < 512

theorem PI.disj {p : Pool} {H : Nat → Prop} (I : PI p H) : ∀ i j b, b ∈ p.free i → b ∈ p.free j → i = j :=
  fun i j b hi hj => (I.home i b hi).1.symm.trans (I.home j b hj).1

theorem PI.congr {p : Pool} {H H' : Nat → Prop} (I : PI p H) (h : ∀ b, H' b ↔ H b) : PI p H' :=
  ⟨I.nodup, fun b i hb => I.hfree b i ((h b).mp hb), fun b => (I.acct b).trans (or_congr_left (h b).symm), I.home,
   fun b hb => I.hidx b ((h b).mp hb)⟩

theorem pi_init : PI Pool.init (fun _ => False) :=
  ⟨fun _ => List.nodup_nil, fun _ _ h => h.elim,
   fun b => ⟨fun h => by simp [Pool.init] at h, fun h => h.elim False.elim (fun ⟨_, q⟩ => by simp [Pool.init] at q)⟩,
   fun _ _ h => by simp [Pool.init] at h, fun _ h => h.elim⟩

theorem allocate_pi {p p' : Pool} {H : Nat → Prop} {sz b : Nat} (I : PI p H) (e : allocate p sz = some (p', b)) :
    ¬ H b ∧ PI p' (fun x => H x ∨ x = b) ∧ sz ≤ tab (p'.idx b) ∧ ∀ x, x ≠ b → p'.idx x = p.idx x := by
  obtain ⟨sub, sup⟩ := allocate_free e
  -- where the block comes from: the head of a free list, or malloc
  have key : ¬ H b ∧ (∀ j, (p'.free j).Nodup) ∧ (∀ j, b ∉ p'.free j) ∧ (∀ x, x < p'.next ↔ x = b ∨ x < p.next) := by
    obtain ⟨i, _, _, _, ⟨hl, hn, hj⟩ | ⟨_, hb, hn, hf⟩⟩ := allocate_facts e
    · have bin : b ∈ p.free i := by rw [hl]; exact List.mem_cons_self
      have nd := I.nodup i; rw [hl] at nd
      refine ⟨fun hb => I.hfree b i hb bin, fun j => ?_, fun j q => ?_, fun x => ?_⟩
      · by_cases ej : j = i
        · rw [ej]; exact (List.nodup_cons.mp nd).2
        · rw [hj j ej]; exact I.nodup j
      · by_cases ej : j = i
        · rw [ej] at q; exact (List.nodup_cons.mp nd).1 q
        · exact ej (I.disj j i b (sub j b q) bin)
      · have := (I.acct b).mpr (Or.inr ⟨i, bin⟩)
        rw [hn]; exact ⟨Or.inr, fun h => h.elim (fun q => q ▸ this) id⟩
    · -- `b = p.next` is neither held nor on a free list: both would put it below `p.next`
      have nheld : ¬ H b := fun h => by have := (I.acct b).mpr (Or.inl h); omega
      have nfree : ∀ j, b ∉ p.free j := fun j q => by have := (I.acct b).mpr (Or.inr ⟨j, q⟩); omega
      rw [hf]
      exact ⟨nheld, I.nodup, nfree, fun x => by omega⟩
  obtain ⟨nh, nd, nb, nx⟩ := key
  obtain ⟨i, hs, hidx, hoth, _⟩ := allocate_facts e
  have sp := searchBinary_spec sz
  rw [hs] at sp
  refine ⟨nh, ⟨nd, fun x j hx q => ?_, fun x => ?_, fun j x hx => ?_, fun x hx => ?_⟩, by rw [hidx]; exact sp.2.1, hoth⟩
  · exact hx.elim (fun hx => I.hfree x j hx (sub j x q)) (fun hx => nb j (hx ▸ q))
  · rw [nx x, I.acct x]
    constructor
    · rintro (q | q | ⟨j, q⟩)
      · exact Or.inl (Or.inr q)
      · exact Or.inl (Or.inl q)
      · exact (sup j x q).elim (fun q => Or.inl (Or.inr q)) (fun q => Or.inr ⟨j, q⟩)
    · rintro ((q | q) | ⟨j, q⟩)
      · exact Or.inr (Or.inl q)
      · exact Or.inl q
      · exact Or.inr (Or.inr ⟨j, sub j x q⟩)
  · rw [hoth x (fun q => nb j (q ▸ hx))]; exact I.home j x (sub j x hx)
  · rcases hx with hx | hx
    · rw [hoth x (fun q => nh (q ▸ hx))]; exact I.hidx x hx
    · rw [hx, hidx]; exact sp.1

theorem mem_desallocate {p : Pool} {b j x : Nat} :
    x ∈ (desallocate p b).free j ↔ (x = b ∧ j = p.idx b) ∨ x ∈ p.free j := by
  show x ∈ updF p.free (p.idx b) (b :: p.free (p.idx b)) j ↔ _
  by_cases ej : j = p.idx b
  · rw [ej, updF_same, List.mem_cons]
    exact ⟨fun q => q.elim (fun q => Or.inl ⟨q, rfl⟩) Or.inr, fun q => q.elim (fun q => Or.inl q.1) Or.inr⟩
  · rw [updF_other _ _ _ ej]
    exact ⟨Or.inr, fun q => q.elim (fun q => absurd q.2 ej) id⟩

theorem desallocate_pi {p : Pool} {H : Nat → Prop} {b : Nat} (I : PI p H) (hb : H b) :
    PI (desallocate p b) (fun x => H x ∧ x ≠ b) := by
  have nf : ∀ i, b ∉ p.free i := fun i => I.hfree b i hb
  refine ⟨fun j => ?_, fun x j hx q => ?_, fun x => ?_, fun j x hx => ?_, fun x hx => I.hidx x hx.1⟩
  · show (updF p.free (p.idx b) (b :: p.free (p.idx b)) j).Nodup
    by_cases ej : j = p.idx b
    · rw [ej, updF_same]; exact List.nodup_cons.mpr ⟨nf _, I.nodup _⟩
    · rw [updF_other _ _ _ ej]; exact I.nodup j
  · exact (mem_desallocate.mp q).elim (fun q2 => hx.2 q2.1) (I.hfree x j hx.1)
  · show x < p.next ↔ _
    rw [I.acct x]
    constructor
    · rintro (q | ⟨j, q⟩)
      · by_cases ex : x = b
        · exact Or.inr ⟨p.idx b, mem_desallocate.mpr (Or.inl ⟨ex, rfl⟩)⟩
        · exact Or.inl ⟨q, ex⟩
      · exact Or.inr ⟨j, mem_desallocate.mpr (Or.inr q)⟩
    · rintro (q | ⟨j, q⟩)
      · exact Or.inl q.1
      · exact (mem_desallocate.mp q).elim (fun q2 => Or.inl (q2.1 ▸ hb)) (fun q2 => Or.inr ⟨j, q2⟩)
  · show p.idx x = j ∧ j < 512
    rcases mem_desallocate.mp hx with ⟨ex, ej⟩ | q
    · rw [ex, ej]; exact ⟨rfl, I.hidx b hb⟩
    · exact I.home j x q

def Held (c : Client) (b : Nat) : Prop := ∃ k, c.slot k = some b

def Fit (c : Client) : Prop := ∀ k b, c.slot k = some b → c.sz k ≤ tab (c.pool.idx b)

structure CI (c : Client) : Prop where
  pi : PI c.pool (Held c)
  inj : ∀ k k' b, c.slot k = some b → c.slot k' = some b → k = k'
  fit : Fit c

theorem ci_init : CI Client.init :=
  ⟨pi_init.congr (fun _ => ⟨fun ⟨_, h⟩ => by simp [Client.init] at h, False.elim⟩), fun _ _ _ h => by simp [Client.init] at h,
   fun _ _ h => by simp [Client.init] at h⟩

theorem held_replace {c : Client} (inj : ∀ k k' b, c.slot k = some b → c.slot k' = some b → k = k') {k : Nat}
    {old v : Option Nat} (hk : c.slot k = old) {p : Pool} {z : Nat → Nat} {x : Nat} :
    Held { pool := p, slot := updF c.slot k v, sz := z } x ↔ v = some x ∨ (Held c x ∧ old ≠ some x) := by
  constructor
  · intro ⟨k', hk'⟩
    have hk'' : updF c.slot k v k' = some x := hk'
    by_cases ek : k' = k
    · rw [ek, updF_same] at hk''; exact Or.inl hk''
    · rw [updF_other _ _ _ ek] at hk''
      exact Or.inr ⟨⟨k', hk''⟩, fun e => ek (inj k' k x hk'' (hk.trans e))⟩
  · rintro (q | ⟨⟨k', q⟩, ne⟩)
    · exact ⟨k, (updF_same _ _ _).trans q⟩
    · exact ⟨k', (updF_other _ _ _ (fun e => ne (by rw [← hk, ← e, q]))).trans q⟩

theorem inj_updF {slot : Nat → Option Nat} (inj : ∀ k k' b, slot k = some b → slot k' = some b → k = k') {k : Nat}
    {v : Option Nat} (fresh : ∀ b, v = some b → ∀ k', k' ≠ k → slot k' ≠ some b) :
    ∀ k1 k2 b, updF slot k v k1 = some b → updF slot k v k2 = some b → k1 = k2 := by
  intro k1 k2 x h1 h2
  by_cases e1 : k1 = k
  · by_cases e2 : k2 = k
    · rw [e1, e2]
    · rw [e1, updF_same] at h1; rw [updF_other _ _ _ e2] at h2
      exact absurd h2 (fresh x h1 k2 e2)
  · by_cases e2 : k2 = k
    · rw [e2, updF_same] at h2; rw [updF_other _ _ _ e1] at h1
      exact absurd h1 (fresh x h2 k1 e1)
    · rw [updF_other _ _ _ e1] at h1; rw [updF_other _ _ _ e2] at h2
      exact inj k1 k2 x h1 h2

theorem fit_updF {c : Client} (F : Fit c) {k b : Nat} {p' : Pool} {z : Nat → Nat}
    (hb : z k ≤ tab (p'.idx b)) (hz : ∀ k', k' ≠ k → z k' = c.sz k')
    (hidx : ∀ k' x, k' ≠ k → c.slot k' = some x → p'.idx x = c.pool.idx x) :
    Fit { pool := p', slot := updF c.slot k (some b), sz := z } := by
  intro k' x hk'
  have hk'' : updF c.slot k (some b) k' = some x := hk'
  show z k' ≤ tab (p'.idx x)
  by_cases ek : k' = k
  · rw [ek, updF_same] at hk''; cases hk''; rw [ek]; exact hb
  · rw [updF_other _ _ _ ek] at hk''
    rw [hz k' ek, hidx k' x ek hk'']; exact F k' x hk''

theorem resize_cases {p p' : Pool} {b b' o n : Nat} (e : resize p (some b) o n = some (p', b')) :
    (p' = p ∧ b' = b ∧ (n ≤ o ∨ n ≤ tab (p.idx b))) ∨ (o < n ∧ ∃ p1, allocate p n = some (p1, b') ∧ p' = desallocate p1 b) := by
  unfold resize at e
  dsimp only at e
  split at e
  · cases e; exact Or.inl ⟨rfl, rfl, Or.inl ‹_›⟩
  · split at e
    · cases e; exact Or.inl ⟨rfl, rfl, Or.inr ‹_›⟩
    · cases ha : allocate p n with
      | none => rw [ha] at e; cases e
      | some r =>
        obtain ⟨p1, b1⟩ := r
        rw [ha] at e; dsimp only at e; cases e
        exact Or.inr ⟨by omega, p1, rfl, rfl⟩

/-- slot `k` takes the block `b` of `allocate`; `P''` says what else happens to the pool (nothing, or the block the slot
    held goes back), `H` who holds what afterwards -/
theorem ci_take {c : Client} (I : CI c) {k sz : Nat} {z : Nat → Nat} {p' : Pool} {b : Nat} {H : Nat → Prop}
    (e : allocate c.pool sz = some (p', b)) (hz : z k = sz) (hzo : ∀ k', k' ≠ k → z k' = c.sz k')
    {p'' : Pool} (P'' : ¬ Held c b → PI p' (fun x => Held c x ∨ x = b) → PI p'' H) (eidx : p''.idx = p'.idx)
    (hH : ¬ Held c b → ∀ x, Held { pool := p'', slot := updF c.slot k (some b), sz := z } x ↔ H x) :
    CI { pool := p'', slot := updF c.slot k (some b), sz := z } ∧ ¬ Held c b := by
  obtain ⟨nh, P, fb, hoth⟩ := allocate_pi I.pi e
  refine ⟨⟨(P'' nh P).congr (hH nh), inj_updF I.inj (fun x ex k' _ q => nh ⟨k', by rw [q, ex]⟩), fit_updF I.fit ?_ hzo ?_⟩, nh⟩
  · rw [hz]
    show sz ≤ tab (p''.idx b)
    rw [eidx]; exact fb
  · intro k' x _ q
    show p''.idx x = _
    rw [eidx]; exact hoth x (fun e => nh ⟨k', e ▸ q⟩)

/-- the second component of `cstep` is the block handed out -/
theorem cstep_ci {c : Client} (I : CI c) (op : Op) :
    CI (cstep c op).1 ∧ (∀ b, (cstep c op).2 = some b → (∀ k, c.slot k = some b → (match op with | .resize k' _ => k = k' | _ => False))) := by
  have idle : CI c ∧ ∀ b, (none : Option Nat) = some b → ∀ k, c.slot k = some b → (match op with | .resize k' _ => k = k' | _ => False) :=
    ⟨I, fun b h => by cases h⟩
  -- `allocate` into the empty slot `k`; also `resize(0, 0, sz)`, the same call
  have alloc : ∀ k sz, CI (cstep c (.alloc k sz)).1 ∧ ∀ b, (cstep c (.alloc k sz)).2 = some b → ∀ k', c.slot k' = some b → False := by
    intro k sz
    simp only [cstep]
    cases hk : c.slot k with
    | some b0 => exact ⟨I, fun b h => by cases h⟩
    | none =>
      dsimp only
      cases ha : allocate c.pool sz with
      | none => exact ⟨I, fun b h => by cases h⟩
      | some r =>
        obtain ⟨T, nh⟩ := ci_take (k := k) (z := updF c.sz k sz) I ha (updF_same _ _ _) (fun _ ne => updF_other _ _ _ ne)
          (fun _ P => P) rfl (fun _ x => (held_replace I.inj hk).trans (by simp [or_comm, eq_comm]))
        exact ⟨T, fun b' h k' hk' => by cases h; exact nh ⟨k', hk'⟩⟩
  cases op with
  | alloc k sz => exact alloc k sz
  | resizeNull k sz => exact alloc k sz
  | free k =>
    simp only [cstep]
    cases hk : c.slot k with
    | none => exact idle
    | some b =>
      refine ⟨⟨?_, inj_updF I.inj (fun _ e => by cases e), ?_⟩, fun b h => by cases h⟩
      · exact (desallocate_pi I.pi ⟨k, hk⟩).congr (fun x => (held_replace I.inj hk).trans (by simp [eq_comm]))
      · intro k' x hk'
        have hk'' : updF c.slot k none k' = some x := hk'
        show updF c.sz k 0 k' ≤ tab (c.pool.idx x)
        by_cases ek : k' = k
        · rw [ek, updF_same] at hk''; cases hk''
        · rw [updF_other _ _ _ ek] at hk'' ⊢; exact I.fit k' x hk''
  | resize k sz =>
    simp only [cstep]
    cases hk : c.slot k with
    | none => exact idle
    | some b =>
      dsimp only
      cases hr : resize c.pool (some b) (c.sz k) sz with
      | none => exact idle
      | some r =>
        obtain ⟨p', b'⟩ := r
        dsimp only
        rcases resize_cases hr with ⟨e1, e2, room⟩ | ⟨grow, p1, ha, e1⟩
        · rw [e1, e2]
          refine ⟨⟨?_, ?_, fit_updF I.fit ?_ (fun k' ne => updF_other _ _ _ ne) (fun _ _ _ _ => rfl)⟩,
            fun x h k' hk' => by cases h; exact I.inj k' k _ hk' hk⟩
          · rw [updF_self hk]; exact I.pi
          · rw [updF_self hk]; exact I.inj
          · rw [updF_same]
            have := I.fit k b hk
            split <;> omega
        · rw [e1]
          obtain ⟨T, nh⟩ := ci_take (k := k) (z := updF c.sz k (if sz > c.sz k then sz else c.sz k)) I ha
            (by rw [updF_same, if_pos grow]) (fun _ ne => updF_other _ _ _ ne)
            (fun _ P => desallocate_pi P (Or.inl ⟨k, hk⟩)) rfl (fun nh x => by
              have nb : b' ≠ b := fun e => nh ⟨k, by rw [hk, e]⟩
              refine (held_replace I.inj hk).trans ?_
              by_cases e : x = b'
              · simp [e, nb]
              · simp [e, eq_comm, Ne.symm e])
          exact ⟨T, fun x h k' hk' => by cases h; exact absurd ⟨k', hk'⟩ nh⟩

theorem crun_ci (ops : List Op) : ∀ {c : Client}, CI c → CI (crun c ops) := by
  induction ops with
  | nil => intro c I; exact I
  | cons op rest ih => intro c I; exact ih (cstep_ci I op).1

end Givaro.Model.FreeList
