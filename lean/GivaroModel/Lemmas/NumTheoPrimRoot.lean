/- C13 — primitive roots: lifting from `p` to `p^k` and `2p^k`, and the search and correction steps of `prim_root`. -/
import GivaroModel.Lemmas.NumTheoOrder
import Mathlib.RingTheory.ZMod.UnitsCyclic
namespace Givaro.Lemmas.NumTheo
open Givaro.Model.NumTheo

theorem gcd_small_prime (p : Nat) (hp : p.Prime) (c : Nat) (hc0 : 0 < c) (hcp : c < p) : Int.gcd (c : Int) (p : Int) = 1 := by
  rw [Int.gcd_natCast_natCast]
  exact Nat.Coprime.symm ((Nat.Prime.coprime_iff_not_dvd hp).mpr (Nat.not_dvd_of_pos_of_lt hc0 hcp))

theorem orderOf_dvd_of_dvd_modulus (g : Int) (M N : Nat) (hMN : M ∣ N) :
    orderOf (g : ZMod M) ∣ orderOf (g : ZMod N) := by
  simpa using orderOf_map_dvd (ZMod.castHom hMN (ZMod M)).toMonoidHom (g : ZMod N)

/-- lifting of primitive roots: a primitive root `g` modulo `p` is one modulo every `p^(n+1)` unless `g^(p-1) ≡ 1 (mod p²)` -/
theorem orderOf_prime_pow_of_lift (p : Nat) (hp : p.Prime) (hp2 : p ≠ 2) (g : Int)
    (hord : orderOf (g : ZMod p) = p - 1) (hl : ¬ (p : Int) ^ 2 ∣ g ^ (p - 1) - 1) (n : Nat) :
    orderOf (g : ZMod (p ^ (n + 1))) = p ^ n * (p - 1) := by
  have hp1 : 0 < p - 1 := by have := hp.two_le; omega
  obtain ⟨c, hc⟩ : (p : Int) ∣ g ^ (p - 1) - 1 := by
    rw [← ZMod.intCast_zmod_eq_zero_iff_dvd]; push_cast; rw [← hord, pow_orderOf_eq_one, sub_self]
  have hcp : ¬ (p : Int) ∣ c := fun ⟨d, hd⟩ => hl ⟨d, by rw [hc, hd]; ring⟩
  have h1 : orderOf ((g : ZMod (p ^ (n + 1))) ^ (p - 1)) = p ^ n := by
    rw [show (g : ZMod (p ^ (n + 1))) ^ (p - 1) = 1 + (p : ZMod (p ^ (n + 1))) * (c : ZMod (p ^ (n + 1))) by
      have := congrArg (fun z : Int => (z : ZMod (p ^ (n + 1)))) (sub_eq_iff_eq_add'.mp hc); simpa using this]
    exact ZMod.orderOf_one_add_mul_prime hp hp2 c hcp n
  have hdvd : (p - 1) ∣ orderOf (g : ZMod (p ^ (n + 1))) := by
    rw [← hord]; exact orderOf_dvd_of_dvd_modulus g p (p ^ (n + 1)) (dvd_pow_self p (by omega))
  rw [orderOf_pow' _ (by omega : p - 1 ≠ 0), Nat.gcd_eq_right hdvd] at h1
  rw [← h1, Nat.div_mul_cancel hdvd]

/-- the `A += p` correction of `prim_root`: if `A` fails to lift then `A^(p-1) ≡ 1 (mod p²)`, and
    `(A+p)^(p-1) ≡ A^(p-1) + (p-1)·A^(p-2)·p (mod p²)` with `p ∤ (p-1)·A^(p-2)`, so `A + p` lifts -/
theorem prim_root_correction (p : Nat) (hp : p.Prime) (hp2 : p ≠ 2) (A : Int)
    (hord : orderOf (A : ZMod p) = p - 1) (n : Nat)
    (hnot : orderOf (A : ZMod (p ^ (n + 1))) ≠ p ^ n * (p - 1)) :
    orderOf ((A + p : Int) : ZMod (p ^ (n + 1))) = p ^ n * (p - 1) := by
  have := Fact.mk hp
  have hp1 : 2 ≤ p - 1 := by have := hp.two_le; omega
  have hpI : Prime (p : Int) := Nat.prime_iff_prime_int.mp hp
  obtain ⟨c0, hc0⟩ := not_not.mp fun hl => hnot (orderOf_prime_pow_of_lift p hp hp2 A hord hl n)
  obtain ⟨t, ht⟩ := Polynomial.powAddExpansion A (p : Int) (p - 1)
  refine orderOf_prime_pow_of_lift p hp hp2 (A + p) (by push_cast; rw [ZMod.natCast_self, add_zero]; exact hord) (fun ⟨w, hw⟩ => ?_) n
  have h2 : (p : Int) ∣ ((p - 1 : Nat) : Int) * A ^ (p - 1 - 1) :=
    (mul_dvd_mul_iff_left hpI.ne_zero).mp ⟨w - c0 - t, by linear_combination hw - hc0 - ht⟩
  rcases hpI.dvd_or_dvd h2 with h | h
  · have hle := Int.le_of_dvd (by positivity) h
    omega
  · have : (A : ZMod p) = 0 := (ZMod.intCast_zmod_eq_zero_iff_dvd A p).mpr (hpI.dvd_of_dvd_pow h)
    rw [this, orderOf_zero_zmod p] at hord
    omega

theorem orderOf_two_mul (M : Nat) (hM : 3 ≤ M) (hMo : M % 2 = 1) (x : Int) (hxo : x % 2 = 1)
    (hord : orderOf (x : ZMod M) = M.totient) : orderOf (x : ZMod (2 * M)) = (2 * M).totient := by
  have htot : (2 * M).totient = M.totient := by
    rw [Nat.totient_mul (by rw [Nat.coprime_two_left]; exact Nat.odd_iff.mpr hMo)]; simp
  have hpos : 0 < M.totient := Nat.totient_pos.mpr (by omega)
  have hunit : IsUnit (x : ZMod M) := by
    have h1 : (x : ZMod M) ^ M.totient = 1 := by rw [← hord]; exact pow_orderOf_eq_one _
    exact IsUnit.of_pow_eq_one h1 (by omega)
  have hcM : IsCoprime (M : Int) x := (ZMod.coe_int_isUnit_iff_isCoprime x M).mp hunit
  have hc2 : IsCoprime (2 : Int) x := ⟨-(x / 2), 1, by omega⟩
  have hu : IsUnit (x : ZMod (2 * M)) :=
    (ZMod.coe_int_isUnit_iff_isCoprime x (2 * M)).mpr (by push_cast; exact hc2.mul_left hcM)
  have hxphi := pow_totient_of_coprime x (2 * M) ((isUnit_iff_gcd x _).mp hu)
  have h1 : orderOf (x : ZMod (2 * M)) ∣ M.totient := by
    rw [← htot]; exact orderOf_dvd_of_pow_eq_one hxphi
  have h2 : M.totient ∣ orderOf (x : ZMod (2 * M)) := by
    rw [← hord]; exact orderOf_dvd_of_dvd_modulus x M (2 * M) (Dvd.intro_left 2 rfl)
  rw [htot]; exact Nat.dvd_antisymm h1 h2

/-- `7 ≤ p`: the fixed candidates 2, 3, 5, 6 must be non-zero modulo `p`, and the code draws `A mod (p-7) + 7` -/
theorem primRootCand_spec (rnd : Nat → Int) (p : Nat) (hp : p.Prime) (h7 : 7 ≤ p) (Lf : List Nat) (hF : PhiFactors p Lf)
    (A0 : Int) (hA0 : primRootCand rnd p ((primeFactors (phi p)).map (fun f => Int.tdiv (phi p) f)) = some A0) :
    orderOf (A0 : ZMod p) = p.totient := by
  apply (primTest_iff_order A0 p (by omega) Lf hF).mp
  unfold primRootCand at hA0
  split at hA0
  · next A1 hfind =>
    injection hA0 with hA0; subst hA0
    have hmem := List.mem_of_find?_eq_some hfind
    have htest := List.find?_some hfind
    refine ⟨?_, htest⟩
    simp only [List.mem_cons, List.not_mem_nil, or_false] at hmem
    rcases hmem with h | h | h | h <;> subst h
    · exact gcd_small_prime p hp 2 (by norm_num) (by omega)
    · exact gcd_small_prime p hp 3 (by norm_num) (by omega)
    · exact gcd_small_prime p hp 5 (by norm_num) (by omega)
    · exact gcd_small_prime p hp 6 (by norm_num) (by omega)
  · obtain ⟨hstop, _⟩ := firstDraw_spec _ _ _ _ _ hA0
    simp only [Bool.and_eq_true, beq_iff_eq] at hstop
    exact hstop

theorem odd_adjust (M : Nat) (hM : M % 2 = 1) (x : Int) (even : Bool) :
    ((if even = true ∧ x % 2 = 0 then x + (M : Int) else x : Int) : ZMod M) = (x : ZMod M) ∧
      (even = true → (if even = true ∧ x % 2 = 0 then x + (M : Int) else x) % 2 = 1) := by
  by_cases hc : even = true ∧ x % 2 = 0
  · rw [if_pos hc]
    exact ⟨by push_cast; rw [ZMod.natCast_self, add_zero], fun _ => by omega⟩
  · rw [if_neg hc]
    exact ⟨rfl, fun he => by have : ¬ x % 2 = 0 := fun h => hc ⟨he, h⟩; omega⟩

theorem primRootFinish_spec (p : Nat) (hp : p.Prime) (hp2 : p ≠ 2) (k : Nat) (hk : 1 ≤ k)
    (Lf2 : List Nat) (hF2 : PhiFactors (p ^ k) Lf2) (A0 : Int) (hA0 : orderOf (A0 : ZMod p) = p.totient) (even : Bool) :
    orderOf ((primRootFinish A0 p ((p : Int) ^ k) even (decide ((p : Int) ^ k = p)) : Int) : ZMod (p ^ k)) = (p ^ k).totient ∧
      (even = true → primRootFinish A0 p ((p : Int) ^ k) even (decide ((p : Int) ^ k = p)) % 2 = 1) := by
  have hMo : (p ^ k) % 2 = 1 := by rw [Nat.pow_mod, hp.eq_two_or_odd.resolve_left hp2]; simp
  -- the value `A1` after the `A += p` correction is a primitive root modulo `p^k`; the result is `A1` made odd
  obtain ⟨A1, hfin, hA1⟩ : ∃ A1 : Int, primRootFinish A0 p ((p : Int) ^ k) even (decide ((p : Int) ^ k = p))
      = (if even = true ∧ A1 % 2 = 0 then A1 + ((p ^ k : Nat) : Int) else A1) ∧ orderOf (A1 : ZMod (p ^ k)) = (p ^ k).totient := by
    unfold primRootFinish
    by_cases hk1 : (p : Int) ^ k = p
    · have hpk : p ^ k = p := by exact_mod_cast hk1
      exact ⟨A0, by simp [hk1, hpk], by rw [hpk]; exact hA0⟩
    · obtain ⟨n, rfl⟩ : ∃ n, k = n + 1 := ⟨k - 1, by omega⟩
      have hiff := isPrimRoot_iff_order A0 (p ^ (n + 1)) (hp.two_le.trans (Nat.le_self_pow (by omega) p)) Lf2 hF2
      rw [Nat.cast_pow] at hiff
      refine ⟨if (!isPrimRoot A0 ((p : Int) ^ (n + 1))) = true then A0 + p else A0,
        by simp only [hk1, decide_false, Bool.false_eq_true, ↓reduceIte, Nat.cast_pow], ?_⟩
      by_cases hpr : isPrimRoot A0 ((p : Int) ^ (n + 1)) = true
      · rw [if_neg (by simp [hpr])]; exact hiff.mp hpr
      · rw [if_pos (by simpa using hpr), Nat.totient_prime_pow_succ hp n]
        apply prim_root_correction p hp hp2 A0 (by rw [hA0, Nat.totient_prime hp]) n
        rw [← Nat.totient_prime_pow_succ hp n]
        exact fun hc => hpr (hiff.mpr hc)
  rw [hfin]
  obtain ⟨e1, e2⟩ := odd_adjust (p ^ k) hMo A1 even
  exact ⟨by rw [e1]; exact hA1, e2⟩

theorem prime_pow_ge_odd (p : Nat) (hp : p.Prime) (h7 : 7 ≤ p) (k : Nat) (hk : 1 ≤ k) :
    7 ≤ p ^ k ∧ (p ^ k) % 2 = 1 := by
  have hpodd : p % 2 = 1 := by
    rcases hp.eq_two_or_odd with h | h
    · omega
    · exact h
  refine ⟨?_, by rw [Nat.pow_mod, hpodd]; simp⟩
  calc 7 ≤ p := h7
    _ = p ^ 1 := (pow_one p).symm
    _ ≤ p ^ k := Nat.pow_le_pow_right hp.pos hk

theorem primRoot_eq (rnd : Nat → Int) (n p no2 : Int) (tl : List Int) (h4 : 4 < n) (h44 : n % 4 ≠ 0)
    (hno2 : (if n % 2 = 0 then Int.tdiv n 2 else n) = no2) (hpf : primeFactors no2 = p :: tl) :
    primRoot rnd n = (primRootCand rnd p ((primeFactors (phi p)).map (fun f => Int.tdiv (phi p) f))).map
      (fun A => primRootFinish A p no2 (decide (n % 2 = 0)) (decide (no2 = p))) := by
  unfold primRoot
  rw [if_neg (by omega), if_neg h44]
  simp only [hno2, hpf]

end Givaro.Lemmas.NumTheo
