/-
C05 — the generator search of the prime-field constructor, `lowest_prim_root` as transcribed in `Model/GFqCtor.lean`: for a prime `p > 4` the loop stops at a primitive root modulo `p`.
A second transcription beside C13's (`Model/NumTheo.lean`): this one is linked into the constructor model, works on `Nat` and takes
`phi(p)` and the prime factors of `p - 1` as inputs, C13's computes them itself; both tests rest on Lemmas/OrderTest.lean.
-/
import GivaroModel.Model.GFqCtor
import GivaroModel.Lemmas.OrderTest
import Mathlib.RingTheory.IntegralDomain
import Mathlib.FieldTheory.Finite.Basic
import Mathlib.Data.ZMod.Basic
namespace Givaro.Lemmas.GFqZech
open Givaro.Model.GFqCtor Givaro.Lemmas.NumTheo

theorem primSearch_finds (n : Nat) (exps : List Nat) (g : Nat) (hg : primTest n exps g = true) (hgn : g ≤ n) :
    ∀ fuel A, A ≤ g → g - A + 1 ≤ fuel →
      A ≤ primSearch n exps fuel A ∧ primSearch n exps fuel A ≤ g ∧ primTest n exps (primSearch n exps fuel A) = true := by
  intro fuel
  induction fuel with
  | zero => intro A _ h; omega
  | succ fuel ih =>
    intro A hA hf
    simp only [primSearch, show A ≤ n by omega, ↓reduceIte]
    by_cases ht : primTest n exps A = true
    · rw [if_pos ht]; exact ⟨le_refl _, hA, ht⟩
    · rw [if_neg ht]
      have hne : A ≠ g := fun h => ht (h ▸ hg)
      obtain ⟨h1, h2, h3⟩ := ih (A + 1) (by omega) (by omega)
      exact ⟨by omega, h2, h3⟩

theorem primTest_iff_primitive (p : Nat) [Fact (Nat.Prime p)] (Lf : List Nat) (hLf : ∀ r, r ∈ Lf ↔ r.Prime ∧ r ∣ p - 1) (A : Nat) :
    primTest p (Lf.map (fun f => (p - 1) / f)) A = true ↔ orderOf ((A : Nat) : ZMod p) = p - 1 := by
  have hp : Nat.Prime p := Fact.out
  have hp1 : 0 < p - 1 := Nat.sub_pos_of_lt hp.one_lt
  have hP : ∀ e, A ^ e % p = 1 ↔ ((A : Nat) : ZMod p) ^ e = 1 := fun e => by
    rw [← Nat.cast_pow, ← Nat.cast_one (R := ZMod p), ZMod.natCast_eq_natCast_iff', Nat.mod_eq_of_lt hp.one_lt]
  unfold primTest
  simp only [Bool.and_eq_true, beq_iff_eq, List.all_map, List.all_eq_true, Function.comp, bne_iff_ne, ne_eq, hP]
  by_cases h0 : ((A : Nat) : ZMod p) = 0
  · have hd : p ∣ A := (ZMod.natCast_eq_zero_iff A p).mp h0
    rw [h0, orderOf_zero_zmod]
    exact ⟨fun h => absurd (Nat.dvd_one.mp (h.1 ▸ Nat.dvd_gcd hd dvd_rfl)) hp.one_lt.ne', fun h => by omega⟩
  · have hc : Nat.gcd A p = 1 :=
      ((Nat.Prime.coprime_iff_not_dvd hp).mpr (mt (ZMod.natCast_eq_zero_iff A p).mpr h0)).symm
    rw [and_iff_right hc]
    exact orderOf_eq_iff_pow_div_ne_one _ hp1 (ZMod.pow_card_sub_one_eq_one h0) (fun f hf => (hLf f).mp hf)
      (fun q h1 h2 => (hLf q).mpr ⟨h1, h2⟩)

theorem exists_primitive_root (p : Nat) [Fact (Nat.Prime p)] :
    ∃ g : Nat, 0 < g ∧ g < p ∧ orderOf ((g : Nat) : ZMod p) = p - 1 := by
  have hp : Nat.Prime p := Fact.out
  obtain ⟨u, hu⟩ := IsCyclic.exists_generator (α := (ZMod p)ˣ)
  have hou : orderOf u = p - 1 := by
    rw [orderOf_eq_card_of_forall_mem_zpowers hu, Nat.card_eq_fintype_card, ZMod.card_units]
  refine ⟨(u : ZMod p).val, ?_, ZMod.val_lt _, ?_⟩
  · rw [Nat.pos_iff_ne_zero, Ne, ZMod.val_eq_zero]; exact u.ne_zero
  · rw [ZMod.natCast_zmod_val, orderOf_units, hou]

theorem orderOf_two_mod_three : orderOf ((2 : Nat) : ZMod 3) = 2 := by
  rw [orderOf_eq_iff (by decide)]
  refine ⟨by decide, ?_⟩
  intro m hm hm0
  have : m = 1 := by omega
  subst this; decide

/-- some primitive root `g ≥ 2` exists, the loop stops at or before it, and what it stops at passes the test -/
theorem primSearch_post (p : Nat) [Fact (Nat.Prime p)] (h4 : 4 < p) (Lf : List Nat) (hLf : ∀ r, r ∈ Lf ↔ r.Prime ∧ r ∣ p - 1) :
    0 < primSearch p (Lf.map (fun f => (p - 1) / f)) p 2 ∧ primSearch p (Lf.map (fun f => (p - 1) / f)) p 2 < p ∧
    orderOf ((primSearch p (Lf.map (fun f => (p - 1) / f)) p 2 : Nat) : ZMod p) = p - 1 := by
  obtain ⟨g, hg0, hgp, hgo⟩ := exists_primitive_root p
  have hg2 : 2 ≤ g := by
    by_contra hlt
    have : g = 1 := by omega
    subst this
    simp at hgo
    omega
  obtain ⟨l1, l2, l3⟩ := primSearch_finds p _ g ((primTest_iff_primitive p Lf hLf g).mpr hgo) (by omega) p 2 hg2 (by omega)
  exact ⟨by omega, by omega, (primTest_iff_primitive p Lf hLf _).mp l3⟩

end Givaro.Lemmas.GFqZech
