/-
C03, RecInt-backed rings: for every level (`n = 2^K` bits, any `n ≥ 64` even) and every modulus up to `maxCardinality()` no
intermediate of the bodies of modular-ruint.inl wraps modulo `2^n`; the `inv_mod` loop of ruinvmod.h keeps `a·b ≡ a2`,
`x·b ≡ b2 (mod p)` with `a, x ∈ [0,p)` (`RRows`; its carry-out test makes it correct for every `p < 2^n`).
-/
import GivaroModel.Lemmas.ModRingHist
namespace Givaro.Model.ModRing
open Givaro.Spec.ModRing Givaro.Lemmas.Euclid

/-- nothing below these bounds is changed by a store into the element / wide type -/
structure ROk (k : RCfg) (p : Int) : Prop where
  p2 : 2 ≤ p
  w_id : ∀ x, 0 ≤ x → x < (if k.wide then 2 * p else p * p) → k.w x = x
  w2_id : ∀ x, 0 ≤ x → x < p * p → k.w2 x = x
  pn : p < (2 : Int) ^ k.n
  w_neg : ∀ x, -p ≤ x → x < 0 → k.sg = true → k.w x = x

/-- the element type is `k.asI` (`k.w = k.asI.toE` by `rfl`), so its range is that of the integral width calculus; the wide type
    then holds `p²`, since `p < 2^n` -/
theorem rok_of_bounds {k : RCfg} {p : Int} (hn : 1 ≤ k.n) (hp : 2 ≤ p)
    (hE : (if k.wide then 2 * p else p * p) ≤ k.asI.eTop) : ROk k p := by
  have hpp := lt_sq hp
  have htop : k.asI.eTop ≤ (2 : Int) ^ k.n := k.asI.eTop_le
  have hpt : p < k.asI.eTop := by split at hE <;> omega
  have hW := sq_le_two_pow (by omega) (by omega : p ≤ (2 : Int) ^ k.n) (Nat.le_refl (2 * k.n))
  refine ⟨hp, fun x h0 h1 => ICfg.toE_nn (k := k.asI) hn h0 (by omega), fun x h0 h1 => wrapUw_id h0 (by omega),
    by omega, fun x h0 h1 hsg => ICfg.toE_id (k := k.asI) hn (by rw [if_pos (show k.asI.sg = true from hsg)]; omega) (by omega)⟩

theorem rok_of_valid (k : RCfg) (hv : k.valid) (p : Int) (hp : 2 ≤ p) (hm : p ≤ k.maxCard) : ROk k p := by
  obtain ⟨hn, he, hws⟩ := hv
  apply rok_of_bounds (by omega) hp
  unfold RCfg.maxCard at hm
  show _ ≤ (if k.sg then (2 : Int) ^ (k.n - 1) else (2 : Int) ^ k.n)
  split
  · -- `ruint` with the wide compute type: `p ≤ 2^(n-1)`
    next hw =>
    rw [if_pos hw] at hm
    rw [if_neg (by simp [hws hw]), two_pow_pred (show 1 ≤ k.n by omega)]; omega
  · next hw =>
    rw [if_neg hw] at hm
    split
    · -- `rint`: `p ≤ 3037000499·2^(n/2-32)` and `3037000499² < 2^63`
      next hsg =>
      rw [if_pos hsg] at hm
      have h1 : p * p ≤ (3037000499 * (2 : Int) ^ (k.n / 2 - 32)) * (3037000499 * (2 : Int) ^ (k.n / 2 - 32)) :=
        Int.mul_le_mul hm hm (by omega) (by have := two_pow_pos (k.n / 2 - 32); omega)
      have h2 : (3037000499 * (2 : Int) ^ (k.n / 2 - 32)) * (3037000499 * (2 : Int) ^ (k.n / 2 - 32))
          = 9223372030926249001 * (2 : Int) ^ (k.n - 64) := by
        rw [show k.n - 64 = (k.n / 2 - 32) + (k.n / 2 - 32) by omega, pow_add]; ring
      have h3 : (2 : Int) ^ (k.n - 1) = 9223372036854775808 * (2 : Int) ^ (k.n - 64) := by
        rw [show k.n - 1 = 63 + (k.n - 64) by omega, pow_add]; norm_num
      have := two_pow_pos (k.n - 64)
      omega
    · -- `ruint`: `p ≤ 2^(n/2)`
      next hsg =>
      rw [if_neg hsg] at hm
      exact sq_le_two_pow (by omega) hm (by omega)

section ops
variable {k : RCfg} {p a b c : Int}

/-- `2p − 2` is the largest sum of two canonical operands (`≤ p(p−1)` by `sq_pred`) -/
theorem ROk.small (ok : ROk k p) {x : Int} (h0 : 0 ≤ x) (h1 : x ≤ 2 * p - 2) : k.w x = x := by
  apply ok.w_id x h0
  have hp := ok.p2
  have := sq_pred hp
  split <;> omega

theorem ROk.wp (ok : ROk k p) {x : Int} (h0 : 0 ≤ x) (h1 : x ≤ p) : k.w x = x :=
  ok.small h0 (by have := ok.p2; omega)

theorem ROk.w_emod (ok : ROk k p) (z : Int) : k.w (z % p) = z % p :=
  ok.wp (emod_canon (by have := ok.p2; omega) z).1 (Int.le_of_lt (emod_canon (by have := ok.p2; omega) z).2)

theorem rmul_model (ok : ROk k p) (ha : 0 ≤ a ∧ a < p) (hb : 0 ≤ b ∧ b < p) : k.mul p a b = (a * b) % p := by
  have hp := ok.p2
  have hab := mul_lt_sq hp ha hb
  have hsq := sq_pred hp
  unfold RCfg.mul RCfg.modn
  split
  · next hw =>
    rw [ok.w2_id _ hab.1 (by omega)]
    exact ok.w_emod _
  · next hw =>
    rw [ok.w_id (a * b) hab.1 (by rw [if_neg hw]; omega)]
    exact ok.w_emod _

theorem radd_model (ok : ROk k p) (ha : 0 ≤ a ∧ a < p) (hb : 0 ≤ b ∧ b < p) : k.add p a b = (a + b) % p := by
  have hp := ok.p2
  unfold RCfg.add
  simp only
  rw [ok.small (by omega : 0 ≤ a + b) (by omega), add_emod_canon ha hb]
  split
  · rw [if_neg (by omega)]; exact ok.small (by omega) (by omega)
  · rw [if_pos (by omega)]

theorem rsub_model (ok : ROk k p) (ha : 0 ≤ a ∧ a < p) (hb : 0 ≤ b ∧ b < p) : k.sub p a b = (a - b) % p := by
  have hp := ok.p2
  unfold RCfg.sub
  rw [sub_emod_canon ha hb]
  split
  · rw [ok.wp (by omega : 0 ≤ b - a) (by omega), ok.small (by omega : 0 ≤ p - (b - a)) (by omega)]; omega
  · exact ok.small (by omega) (by omega)

theorem rsubin_model (ok : ROk k p) (ha : 0 ≤ a ∧ a < p) (hb : 0 ≤ b ∧ b < p) : k.subin p a b = (a - b) % p := by
  have hp := ok.p2
  unfold RCfg.subin
  rw [sub_emod_canon ha hb]
  split
  · rw [ok.wp (by omega : 0 ≤ p - b) (by omega), ok.small (by omega : 0 ≤ a + (p - b)) (by omega)]; omega
  · exact ok.small (by omega) (by omega)

theorem rneg_model (ok : ROk k p) (ha : 0 ≤ a ∧ a < p) : k.neg p a = (-a) % p := by
  have hp := ok.p2
  unfold RCfg.neg
  rw [neg_emod_eq a p (by omega), Int.emod_eq_of_lt ha.1 ha.2]
  split
  · rfl
  · exact ok.wp (by omega) (by omega)

theorem raxpy_model (ok : ROk k p) (ha : 0 ≤ a ∧ a < p) (hb : 0 ≤ b ∧ b < p) (hc : 0 ≤ c ∧ c < p) :
    k.axpy p a b c = (a * b + c) % p := by
  have hp := ok.p2
  have hab := mul_lt_sq hp ha hb
  have hsq := sq_pred hp
  unfold RCfg.axpy
  split
  · -- the wide compute type: `_mul`, then the body of `add`
    show k.add p (k.mul p a b) c = _
    rw [rmul_model ok ha hb, radd_model ok (emod_canon (by omega) _) hc, Int.emod_add_emod]
  · next hw =>
    unfold RCfg.modn
    rw [ok.wp hc.1 (by omega), ok.w_id (c + a * b) (by omega) (by rw [if_neg hw]; omega), Int.add_comm c]
    exact ok.w_emod _

theorem raxpyin_model (ok : ROk k p) (hc : 0 ≤ c ∧ c < p) (ha : 0 ≤ a ∧ a < p) (hb : 0 ≤ b ∧ b < p) :
    k.axpyin p c a b = (a * b + c) % p := by
  have hp := ok.p2
  have hab := mul_lt_sq hp ha hb
  have hsq := sq_pred hp
  unfold RCfg.axpyin
  split
  · exact raxpy_model ok ha hb hc
  · next hw =>
    unfold RCfg.modn
    rw [ok.w_id (c + a * b) (by omega) (by rw [if_neg hw]; omega), Int.add_comm c]
    exact ok.w_emod _

theorem rmaxpy_model (ok : ROk k p) (ha : 0 ≤ a ∧ a < p) (hb : 0 ≤ b ∧ b < p) (hc : 0 ≤ c ∧ c < p) :
    k.maxpy p a b c = (c - a * b) % p := by
  have hp := ok.p2
  unfold RCfg.maxpy
  rw [rmul_model ok ha hb,
    rsub_model ok hc (emod_canon (by omega) _), Int.sub_emod, Int.emod_emod_of_dvd _ (Int.dvd_refl p), ← Int.sub_emod]

theorem raxmy_model (ok : ROk k p) (ha : 0 ≤ a ∧ a < p) (hb : 0 ≤ b ∧ b < p) (hc : 0 ≤ c ∧ c < p) :
    k.axmy p a b c = (a * b - c) % p := by
  have hp := ok.p2
  unfold RCfg.axmy
  rw [rmul_model ok ha hb,
    rsub_model ok (emod_canon (by omega) _) hc, Int.sub_emod, Int.emod_emod_of_dvd _ (Int.dvd_refl p), ← Int.sub_emod]

theorem rmaxpyin_model (ok : ROk k p) (hc : 0 ≤ c ∧ c < p) (ha : 0 ≤ a ∧ a < p) (hb : 0 ≤ b ∧ b < p) :
    k.maxpyin p c a b = (c - a * b) % p := by
  have hp := ok.p2
  have hab := mul_lt_sq hp ha hb
  have hsq := sq_pred hp
  unfold RCfg.maxpyin
  split
  · -- the wide compute type: `_mul`, then the body of `subin`
    show k.subin p c (k.mul p a b) = _
    rw [rmul_model ok ha hb, rsubin_model ok hc (emod_canon (by omega) _), Int.sub_emod_emod]
  · next hw =>
    unfold RCfg.modn
    obtain ⟨hn0, hn1⟩ := emod_canon (by omega : 0 < p) (-c)
    rw [rneg_model ok hc, ok.w_id (a * b) hab.1 (by rw [if_neg hw]; omega),
      ok.w_id ((-c) % p + a * b) (by omega) (by rw [if_neg hw]; omega)]
    obtain ⟨hm0, hm1⟩ := emod_canon (by omega : 0 < p) ((-c) % p + a * b)
    rw [ok.wp hm0 (by omega), rneg_model ok ⟨hm0, hm1⟩, Int.emod_add_emod, neg_emod_emod,
      show -(-c + a * b) = c - a * b by ring]

theorem ROk.exactOps (ok : ROk k p) : ExactOps (k.ops p) (canonU p) (isCanonU p) where
  cn_ok x := canonU_isCanon p x (by have := ok.p2; omega)
  add _ _ ha hb := congrArg some (radd_model ok ha hb)
  sub _ _ ha hb := congrArg some (rsub_model ok ha hb)
  mul _ _ ha hb := congrArg some (rmul_model ok ha hb)
  neg _ ha := congrArg some (rneg_model ok ha)
  axpy _ _ _ ha hx hy := congrArg some (raxpy_model ok ha hx hy)
  axmy _ _ _ ha hx hy := congrArg some (raxmy_model ok ha hx hy)
  maxpy _ _ _ ha hx hy := congrArg some (rmaxpy_model ok ha hx hy)
  axpyin _ _ _ hr ha hx := congrArg some (raxpyin_model ok hr ha hx)
  axmyin _ _ _ hr ha hx := congrArg some (raxmy_model ok ha hx hr)
  maxpyin _ _ _ hr ha hx := congrArg some (rmaxpyin_model ok hr ha hx)
  addin _ _ hr ha := congrArg some (radd_model ok hr ha)
  subin _ _ hr ha := congrArg some (rsubin_model ok hr ha)
  mulin _ _ hr ha := congrArg some (rmul_model ok hr ha)
  negin _ hr := congrArg some (rneg_model ok hr)

end ops

structure RRows (p b : Int) (st : RCfg.RInv) : Prop where
  a0 : 0 ≤ st.a
  a1 : st.a < p
  x0 : 0 ≤ st.x
  x1 : st.x < p
  a2n : 0 ≤ st.a2
  a2p : st.a2 ≤ p
  b2n : 0 ≤ st.b2
  b2p : st.b2 ≤ p
  rows : ModRows b p st.a2 st.b2 st.a st.x

theorem rinv_step {k : RCfg} {p b : Int} (ok : ROk k p) {st : RCfg.RInv} (h : RRows p b st) (hz : st.b2 ≠ 0) :
    RRows p b (k.invStep p st) ∧ (k.invStep p st).b2 = st.a2 % st.b2 ∧ (k.invStep p st).b2 < st.b2 := by
  have hp := ok.p2
  obtain ⟨ha0, ha1, hx0, hx1, ha2n, ha2p, hb2n, hb2p, hrows⟩ := h
  have hb2 : 0 < st.b2 := by omega
  have hq0 : 0 ≤ st.a2 / st.b2 := Int.ediv_nonneg ha2n hb2n
  have hqa : st.a2 / st.b2 ≤ st.a2 := Int.ediv_le_self _ ha2n
  obtain ⟨hm0, hm1⟩ := emod_canon hb2 st.a2
  have hdm := Int.ediv_mul_add_emod st.a2 st.b2
  have hN := ok.pn
  generalize hq : st.a2 / st.b2 = q at *
  generalize hr : st.a2 % st.b2 = r at *
  have hqx0 : 0 ≤ q * st.x := Int.mul_nonneg hq0 hx0
  have hqx1 : q * st.x < p * p := by
    have h1 : q * st.x ≤ p * st.x := Int.mul_le_mul_of_nonneg_right (by omega) hx0
    have h2 : p * st.x < p * p := Int.mul_lt_mul_of_pos_left hx1 (by omega)
    omega
  obtain ⟨ht0, ht1⟩ := emod_canon (by omega : 0 < p) (q * st.x)
  have hnew : (k.invStep p st) = ⟨st.x, (st.a - q * st.x) % p, st.b2, r⟩ := by
    unfold RCfg.invStep RCfg.modn
    simp only [hq, hr]
    rw [ok.w2_id _ hqx0 hqx1]
    exact congrArg (fun t => (⟨st.x, t, st.b2, r⟩ : RCfg.RInv))
      ((neg_add_carry hN ht0 ht1 ha0 ha1).trans (Int.sub_emod_emod st.a (q * st.x) p))
  rw [hnew]
  obtain ⟨hc0, hc1⟩ := emod_canon (by omega : 0 < p) (st.a - q * st.x)
  exact ⟨⟨hx0, hx1, hc0, hc1, hb2n, hb2p, hm0, by show r ≤ p; omega,
    hrows.step hdm.symm ⟨-((st.a - q * st.x) / p), by rw [Int.emod_def]; ring⟩⟩, rfl, hm1⟩

theorem rinv_loop {k : RCfg} {p b : Int} (ok : ROk k p) :
    ∀ (fuel : Nat) (st : RCfg.RInv), RRows p b st → st.b2 < fuel →
      RRows p b (k.invLoop p fuel st) ∧ (k.invLoop p fuel st).b2 = 0 := by
  intro fuel
  induction fuel with
  | zero => intro st h hf; have := h.b2n; omega
  | succ n ih =>
    intro st h hf
    unfold RCfg.invLoop
    split
    · next hz => exact ⟨h, hz⟩
    · next hz =>
      obtain ⟨h', _, hlt⟩ := rinv_step ok h hz
      exact ih _ h' (by push_cast at hf; omega)

theorem rinv_spec {k : RCfg} {p b : Int} (ok : ROk k p) (hb : 0 ≤ b ∧ b < p) :
    0 ≤ k.inv p b ∧ k.inv p b < p ∧ p ∣ k.inv p b * b - (Int.gcd b p : Int) := by
  have hp := ok.p2
  have h0 : RRows p b ⟨1, 0, b, p⟩ :=
    { a0 := Int.one_nonneg
      a1 := show (1 : Int) < p by omega
      x0 := Int.le_refl _
      x1 := show (0 : Int) < p by omega
      a2n := hb.1
      a2p := show b ≤ p by omega
      b2n := show (0 : Int) ≤ p by omega
      b2p := Int.le_refl _
      rows := ModRows.init_swap b p }
  have hz : (⟨1, 0, b, p⟩ : RCfg.RInv).b2 ≠ 0 := by show p ≠ 0; omega
  obtain ⟨h1, hb2, _⟩ := rinv_step ok h0 hz
  have hb2' : (k.invStep p ⟨1, 0, b, p⟩).b2 = b := by rw [hb2]; exact Int.emod_eq_of_lt hb.1 hb.2
  have hfuel : (k.invStep p ⟨1, 0, b, p⟩).b2 < ((b.natAbs + 1 : Nat) : Int) := by
    rw [hb2']; have := hb.1; omega
  obtain ⟨hI, hzero⟩ := rinv_loop ok (b.natAbs + 1) _ h1 hfuel
  have hunf : k.inv p b = (k.invLoop p (b.natAbs + 1) (k.invStep p ⟨1, 0, b, p⟩)).a := by
    unfold RCfg.inv
    have : b.natAbs + 2 = (b.natAbs + 1) + 1 := rfl
    rw [this]
    conv_lhs => unfold RCfg.invLoop
    rw [if_neg hz]
  rw [hunf]
  generalize k.invLoop p (b.natAbs + 1) (k.invStep p ⟨1, 0, b, p⟩) = st at hI hzero
  exact ⟨hI.a0, hI.a1, ((hzero ▸ hI.rows).gcd hI.a2n).2⟩

/-- the generic `extended_euclid<Element>` instantiated with a RecInt element type (no promotion: `n ≥ 64`) never wraps -/
theorem reok {k : RCfg} {p : Int} (ok : ROk k p) (hv : k.valid) : EOk k.asI p := by
  have hE : ∀ x, 0 ≤ x → x ≤ p → k.asI.toE x = x := fun x h0 h1 => ok.wp h0 h1
  refine ⟨hE, fun x h0 h1 => ?_⟩
  have hn : ¬ k.asI.s < 32 := by have : 64 ≤ k.asI.s := hv.1; omega
  simp only [ICfg.arE, if_neg hn]
  exact hE x h0 h1

end Givaro.Model.ModRing
