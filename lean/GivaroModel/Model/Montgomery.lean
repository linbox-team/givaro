/-
Model of the Montgomery-form residue arithmetic of givaro (C07).  Core Lean only.

(a) `Montgomery<int32_t>`           src/kernel/ring/montgomery-int32.h / .inl
    `uint32_t` arithmetic is `Int` with an explicit `wrapU32` after every operation that the C++ performs
    in `uint32_t`; `x & MASK32` (MASK32 = 2^16 - 1) on an unsigned word is `x % 65536`, `x >> HALF_BITS32`
    is `x / 65536`.  `extended_euclid<Storage_t>` (ring/modular-general.inl) is transcribed with the
    conversion to `Storage_t` after every arithmetic operation; it is used at `uint32_t` (for `_nim`) and at
    `int32_t` (for `inv`, `isUnit`).

(b) `Montgomery<RecInt::ruint<K>>`  src/kernel/ring/montgomery-ruint.h / .inl
    `RecInt::rmint<K, MG_ACTIVE>`   src/kernel/recint/rmg*.h + rmadd.h rmsub.h rmneg.h rmmul.h rmdiv.h
    `RecInt::rmint<K, MG_INACTIVE>` src/kernel/recint/rmb*.h + the same common files
    A `ruint<K>` is an `Int` in `[0, R)`, `R = 2^(2^K)`.  The `ruint` primitives these files call
    (`mul`, `lmul`, `lsquare`, `laddmul`, `add`, `sub`, `cmp`, `div`, `mod_n`, unary minus) are used through
    their arithmetic contracts modulo `R` (they are the subject of C06); everything above them — the
    Montgomery reduction with its carry test, `to_mg`, `arazi_qi`, `inv_mod`, the two exponentiation loops,
    the constructors — is transcribed branch by branch.
-/
import GivaroModel.Prim.Word
namespace Givaro.Model.Montgomery
open Givaro

/-! ## extended_euclid (modular-general.inl, integral version) -/

/-- The `while (r1 != 0)` loop.  State `(u0, u1, r1, d, neg)`; returns `(u0, d, neg)` at exit.
    `wrap` = conversion to `Storage_t`, `dv` = division of `Storage_t`. -/
def eeLoop (wrap : Int → Int) (dv : Int → Int → Int) : Nat → Int → Int → Int → Int → Bool → Int × Int × Bool
  | 0, u0, _, _, d, neg => (u0, d, neg)
  | fuel + 1, u0, u1, r1, d, neg =>
    if r1 = 0 then (u0, d, neg)
    else
      let q := dv d r1                          -- q = d / r1;
      let u1' := wrap (wrap (q * u1) + u0)      -- t = u1; u1 = q * u1 + u0; u0 = t;
      let r1' := wrap (d - wrap (q * r1))       -- t = r1; r1 = d - q * r1; d = t;
      eeLoop wrap dv fuel u1 u1' r1' r1 (!neg)

/-- `extended_euclid(x, d, a, b)`: returns `(x, d)`.  The fuel `a + 2` suffices whenever `0 ≤ a`
    (`r1` decreases strictly from the second iteration on): `eeLoop_rows` in Lemmas/MontgomeryLemmas. -/
def extendedEuclid (wrap : Int → Int) (dv : Int → Int → Int) (a b : Int) : Int × Int :=
  let s := eeLoop wrap dv (a.toNat + 2) 0 1 a b true
  let u0 := s.1
  let d := s.2.1
  let neg := s.2.2
  (if neg = true ∧ u0 > 0 then wrap (b - u0) else u0, d)

/-- `invext<uint32_t>(a, b)` -/
def invextU32 (a b : Int) : Int := (extendedEuclid wrapU32 (fun x y => x / y) a b).1
/-- `invext<int32_t>(x, a, b)` (signed division truncates) -/
def invextS32 (a b : Int) : Int := (extendedEuclid wrapS32 Int.tdiv a b).1

/-! ## (a) Montgomery<int32_t> -/

/-- `maxCardinality()` of `Montgomery<int32_t>` -/
def maxCard32 : Int := 40503

/-- the data members of the ring object -/
structure Ring32 where
  p : Int
  Bp : Int
  B2p : Int
  B3p : Int
  nim : Int
  one : Int
  mOne : Int
deriving Repr, DecidableEq

/-- `Montgomery(Residu_t p, int = 1)` (the member initialisers in declaration order) -/
def mk32 (p : Int) : Ring32 :=
  let Bp := wrapU32 (65536 % p)                               -- (Residu_t) B32 % p
  let B2p := wrapU32 (wrapU32 (Bp * 65536) % p)               -- (_Bp << HALF_BITS32) % p
  let B3p := wrapU32 (wrapU32 (B2p * 65536) % p)              -- (_B2p << HALF_BITS32) % p
  let nim := wrapU32 (65536 - invextU32 p 65536)              -- B32 - invext(_p, B32)
  { p := p, Bp := Bp, B2p := B2p, B3p := B3p, nim := nim, one := Bp, mOne := wrapU32 (p - Bp) }

/-- final step shared by the six reductions: `return (r >= _p ? r -= _p : r)` -/
def condSub (p r : Int) : Int := if r ≥ p then wrapU32 (r - p) else r

/-- `redc(r, c)` -/
def redc (F : Ring32) (c : Int) : Int :=
  let r := c % 65536                  -- r = c & MASK32
  let r := wrapU32 (r * F.nim)        -- r *= _nim
  let r := r % 65536                  -- r &= MASK32
  let r := wrapU32 (r * F.p)          -- r *= _p
  let r := wrapU32 (r + c)            -- r += c
  let r := r / 65536                  -- r >>= HALF_BITS32
  condSub F.p r

/-- `redcal(c)` -/
def redcal (F : Ring32) (c : Int) : Int :=
  let c0 := c % 65536
  let c0 := wrapU32 (c0 * F.nim) % 65536
  let c0 := wrapU32 (c + wrapU32 (c0 * F.p))
  let c0 := c0 / 65536
  condSub F.p c0

/-- `redcsal(c)` -/
def redcsal (F : Ring32) (c : Int) : Int :=
  let c0 := wrapU32 (c * F.nim) % 65536
  let c0 := wrapU32 (c + wrapU32 (c0 * F.p))
  let c0 := c0 / 65536
  condSub F.p c0

/-- `redcs(r, c)` -/
def redcs (F : Ring32) (c : Int) : Int :=
  let r := wrapU32 (c * F.nim) % 65536
  let r := wrapU32 (c + wrapU32 (r * F.p))
  let r := r / 65536
  condSub F.p r

/-- `redcin(r)` -/
def redcin (F : Ring32) (r : Int) : Int :=
  let c0 := r % 65536
  let c0 := wrapU32 (c0 * F.nim) % 65536
  let r := wrapU32 (r + wrapU32 (c0 * F.p))
  let r := r / 65536
  condSub F.p r

/-- `redcsin(r)` -/
def redcsin (F : Ring32) (r : Int) : Int :=
  let c0 := wrapU32 (r * F.nim) % 65536
  let r := wrapU32 (r + wrapU32 (c0 * F.p))
  let r := r / 65536
  condSub F.p r

/-- `__GIVARO_MONTG32_MUL` -/
def mul32 (F : Ring32) (a b : Int) : Int := redc F (wrapU32 (a * b))
/-- `__GIVARO_MONTG32_MULIN`: `redcin(r *= a)` -/
def mulin32 (F : Ring32) (r a : Int) : Int := redcin F (wrapU32 (r * a))
/-- `__GIVARO_MONTG32_SUB`: `r = (a>=b) ? a-b : (p-b)+a` -/
def sub32 (F : Ring32) (a b : Int) : Int :=
  if a ≥ b then wrapU32 (a - b) else wrapU32 (wrapU32 (F.p - b) + a)
/-- `__GIVARO_MONTG32_SUBIN`: `if (r<a) r += (p-a); else r -= a;` -/
def subin32 (F : Ring32) (r a : Int) : Int :=
  if r < a then wrapU32 (r + wrapU32 (F.p - a)) else wrapU32 (r - a)
/-- `__GIVARO_MONTG32_ADD` / `ADDIN`: `r = a+b; r = (r < p ? r : r-p)` -/
def add32 (F : Ring32) (a b : Int) : Int :=
  let r := wrapU32 (a + b)
  if r < F.p then r else wrapU32 (r - F.p)
/-- `__GIVARO_MONTG32_NEG` / `NEGIN` -/
def neg32 (F : Ring32) (a : Int) : Int := if a = 0 then 0 else wrapU32 (F.p - a)
/-- `inv(r, a)` -/
def inv32 (F : Ring32) (a : Int) : Int :=
  let t := invextS32 (wrapS32 a) (wrapS32 F.p)          -- invext(t, int32_t(a), int32_t(_p))
  let t := if t < 0 then wrapS32 (wrapU32 t + F.p) else t    -- if (t < 0) t += _p   (computed in uint32_t, stored in int32_t)
  redc F (wrapU32 (wrapU32 t * F.B3p))
/-- `isUnit(a)` -/
def isUnit32 (F : Ring32) (a : Int) : Bool :=
  let d := (extendedEuclid wrapS32 Int.tdiv (wrapS32 a) (wrapS32 F.p)).2
  d = 1 || d = -1
/-- `div(r, a, b)`: `mulin(inv(r, b), a)` -/
def div32 (F : Ring32) (a b : Int) : Int := mulin32 F (inv32 F b) a
/-- `divin(r, a)`: `inv(ia, a); mulin(r, ia)` -/
def divin32 (F : Ring32) (r a : Int) : Int := mulin32 F r (inv32 F a)
/-- `__GIVARO_MONTG32_MULADD`: `r = redcal(a*b) + c; r = (r < p ? r : r-p)` -/
def axpy32 (F : Ring32) (a b c : Int) : Int :=
  let r := wrapU32 (redcal F (wrapU32 (a * b)) + c)
  if r < F.p then r else wrapU32 (r - F.p)
/-- `__GIVARO_MONTG32_MULADDIN`: `r += redcal(a*b); …` -/
def axpyin32 (F : Ring32) (r a b : Int) : Int :=
  let r := wrapU32 (r + redcal F (wrapU32 (a * b)))
  if r < F.p then r else wrapU32 (r - F.p)
/-- `axmy(r,a,b,c)`: `subin(mul(r,a,b), c)` -/
def axmy32 (F : Ring32) (a b c : Int) : Int := subin32 F (mul32 F a b) c
/-- `maxpy(r,a,b,c)`: `sub(r, c, mul(t,a,b))` -/
def maxpy32 (F : Ring32) (a b c : Int) : Int := sub32 F c (mul32 F a b)
/-- `maxpyin(r,a,b)`: `subin(r, mul(t,a,b))` -/
def maxpyin32 (F : Ring32) (r a b : Int) : Int := subin32 F r (mul32 F a b)
/-- `axmyin(r,a,b)`: `maxpyin(r,a,b); negin(r)` -/
def axmyin32 (F : Ring32) (r a b : Int) : Int := neg32 F (maxpyin32 F r a b)

/-- `init(r, const uint64_t a)` -/
def initU64 (F : Ring32) (a : Int) : Int :=
  let r := wrapU32 (a % F.p)                         -- static_cast<Element>(a % uint64_t(_p))
  redc F (wrapU32 (r * F.B2p))
/-- `init(r, const int64_t a)` (also the model of the `Integer` overload and of the template overload:
    they differ only in the type in which `|a| % p` is computed) -/
def initI64 (F : Ring32) (a : Int) : Int :=
  let r := wrapU32 ((if a < 0 then -a else a) % F.p) -- static_cast<Element>(std::abs(a) % int64_t(_p))
  let r := if a < 0 then neg32 F r else r            -- if (a < 0) negin(r)
  redc F (wrapU32 (r * F.B2p))
/-- `convert(r, a)` -/
def convert32 (F : Ring32) (a : Int) : Int := redc F a

/-! ## (b) RecInt -/

/-- `ruint<K>` primitives through their contracts modulo `R` -/
def uMul (R a b : Int) : Int := (a * b) % R                 -- mul(a, b, c): low part
def uAdd (R a b : Int) : Int := (a + b) % R                 -- add(a, b)
def uCarry (R a b : Int) : Bool := decide (a + b ≥ R)       -- add(r, a, b, c): the carry
def uSub (R a b : Int) : Int := (a - b) % R                 -- sub(a, b, c)
def uNeg (R a : Int) : Int := (-a) % R                      -- operator-

/-- number of bits of level `n` (`ruint<6+n>`) -/
def bitsOf (n : Nat) : Nat := 64 * 2 ^ n
def radix (n : Nat) : Int := 2 ^ bitsOf n

/-- `arazi_qi` at a limb (`ruint<6>`): `uint64_t` arithmetic, the loop `for (i = 2; i < 64; i <<= 1)` runs 5 times -/
def araziLimbLoop : Nat → Int → Int → Int
  | 0, _, u => u
  | k + 1, amone, u =>
    let amone := wrapU64 (amone * amone)       -- amone *= amone
    let amone1 := wrapU64 (amone + 1)          -- ++amone
    let u := wrapU64 (u * amone1)              -- u.Value *= amone
    let amone := wrapU64 (amone1 - 1)          -- --amone
    araziLimbLoop k amone u

def araziLimb (a : Int) : Int :=
  if a = 1 then 1
  else
    let amone := wrapU64 (a - 1)
    let u := araziLimbLoop 5 amone 1
    wrapU64 (u * wrapU64 (2 - a))              -- u.Value *= (2 - a.Value)

/-- `arazi_qi(u, a)` on `ruint<6+n>` -/
def arazi : Nat → Int → Int
  | 0, a => araziLimb a
  | n + 1, a =>
    let H := radix n
    let aL := a % H
    let aH := a / H
    let uL := arazi n aL                       -- arazi_qi(u.Low, a.Low)
    let t1 := (uL * aL) / H                    -- lmul(t1, t2, u.Low, a.Low): t1 = high half
    let t2 := uMul H uL aH                     -- mul(t2, u.Low, a.High)
    let t1 := uAdd H t1 t2                     -- add(t1, t2)
    let t1 := uMul H t1 uL                     -- mul(t1, u.Low)
    uL + H * uNeg H t1                         -- copy(u.High, -t1)

/-- the data of a Montgomery context over `ruint<K>` (`R = 2^(2^K)`) -/
structure MgCtx where
  R : Int
  p : Int
  p1 : Int
  r : Int
  r2 : Int
  r3 : Int
deriving Repr, DecidableEq

/-- `mg_reduc(a, b)` of `Montgomery<ruint<K>>` (both overloads: `b` an `Element` or a `LargeElement`) and
    `reduction(t, a)` of `rmint<K, MGA>` (both overloads) — the four bodies are the same text:
    `mul(b0, b.Low, p1); laddmul(r, a, b0, b0, p, b); if (r || a >= p) sub(a, p);` -/
def mgReduc (C : MgCtx) (b : Int) : Int :=
  let b0 := uMul C.R (b % C.R) C.p1            -- m = b * p1 mod r
  let t := b0 * C.p + b                        -- (r | a | b0) = b0 * p + b
  let a := (t / C.R) % C.R
  let r : Bool := decide (t / (C.R * C.R) ≠ 0)
  if r = true ∨ a ≥ C.p then uSub C.R a C.p else a

/-- `Montgomery<ruint<K>>::Montgomery(const Residu_t& p)` for `K = 6 + n` -/
def mkR (n : Nat) (p : Int) : MgCtx :=
  let R := radix n
  let mp := uNeg R p
  let p1 := arazi n mp                         -- arazi_qi(_p1, -_p)
  let r := mp % p                              -- mod_n(_r, -_p, _p)
  let r2 := (r * r) % p                        -- lmul; mod_n
  let r3 := (r2 * r) % p
  { R := R, p := p, p1 := p1, r := r, r2 := r2, r3 := r3 }

def mulR (C : MgCtx) (a b : Int) : Int := mgReduc C (a * b)          -- lmul(res, a, b); mg_reduc(r, res)
def toMgR (C : MgCtx) (b : Int) : Int := mulR C b C.r2               -- to_mg(a, b): mul(a, b, _r2)
/-- `add` / `addin` (and `rmint` `add`): `add(ret, r, a, b); if (ret || r >= p) sub(r, p)` -/
def addR (C : MgCtx) (a b : Int) : Int :=
  let ret := uCarry C.R a b
  let r := uAdd C.R a b
  if ret = true ∨ r ≥ C.p then uSub C.R r C.p else r
/-- `sub(r, a, b)`: `if (a < b) { sub(r, p, b); add(r, a); } else sub(r, a, b)` -/
def subR (C : MgCtx) (a b : Int) : Int :=
  if a < b then uAdd C.R (uSub C.R C.p b) a else uSub C.R a b
/-- `subin(r, a)`: `if (r < a) add(r, p - a); else sub(r, a)` -/
def subinR (C : MgCtx) (r a : Int) : Int :=
  if r < a then uAdd C.R r (uSub C.R C.p a) else uSub C.R r a
def negR (C : MgCtx) (a : Int) : Int := if a = 0 then 0 else uSub C.R C.p a

/-- the loop of `inv_mod(a, b, c)` (ruinvmod.h); state `(a2, b2, a, x)` -/
def invModLoop (R c : Int) : Nat → Int → Int → Int → Int → Int
  | 0, _, _, a, _ => a
  | fuel + 1, a2, b2, a, x =>
    if b2 = 0 then a
    else
      let q := a2 / b2                                   -- div(q, r, a2, b2)
      let r := a2 % b2
      let temp := (q * x) % c                            -- lmul(resmul, q, x); mod_n(temp, resmul, c)
      let temp := if temp ≠ 0 then uSub R c temp else temp
      let ret := uCarry R temp a                         -- add(ret, temp, a)
      let temp := uAdd R temp a
      let temp := if ret = true ∨ temp ≥ c then uSub R temp c else temp
      invModLoop R c fuel b2 r x temp
/-- `inv_mod(a, b, c)` -/
def invMod (R b c : Int) : Int := invModLoop R c (c.toNat + 2) b c 1 0

def invR (C : MgCtx) (a : Int) : Int := mulR C (invMod C.R a C.p) C.r3      -- inv_mod(r, a, _p); mulin(r, _r3)
def divR (C : MgCtx) (a b : Int) : Int := mulR C (invR C b) a               -- mulin(inv(r, b), a)
def divinR (C : MgCtx) (r a : Int) : Int := mulR C r (invR C a)             -- mulin(r, inv(ia, a))
def axpyR (C : MgCtx) (a b c : Int) : Int := addR C (mulR C a b) c          -- mul(r,a,b); addin(r,c)
def axpyinR (C : MgCtx) (r a b : Int) : Int := addR C r (mulR C a b)
def maxpyR (C : MgCtx) (a b c : Int) : Int := subR C c (mulR C a b)         -- mul(r,a,b); sub(r,c,r)
def maxpyinR (C : MgCtx) (r a b : Int) : Int := subinR C r (mulR C a b)
def axmyR (C : MgCtx) (a b c : Int) : Int := subinR C (mulR C a b) c        -- mul(r,a,b); subin(r,c)
def axmyinR (C : MgCtx) (r a b : Int) : Int := subR C (mulR C a b) r        -- mul(res,a,b); sub(r,res,r)
/-- `init(r, a)`: `reduce(r, |a|); if (a < 0) negin(r); to_mg(r)` -/
def initR (C : MgCtx) (a : Int) : Int :=
  let r := ((if a < 0 then -a else a) % C.R) % C.p
  let r := if a < 0 then negR C r else r
  toMgR C r
def convertR (C : MgCtx) (a : Int) : Int := mgReduc C a
/-- `isUnit`: `gcd(d, a, _p); d == 1 || d == -1` (gcd through its contract) -/
def isUnitR (C : MgCtx) (a : Int) : Bool := Int.gcd a C.p = 1

/-! ### rmint<K, MG_ACTIVE> -/

/-- `rmint<K,MGA>::init_module(p)`: `p1 = arazi_qi(-p); r = (-p) mod p` (`r2`, `r3` unused: 0) -/
def mkA (n : Nat) (p : Int) : MgCtx :=
  let R := radix n
  let mp := uNeg R p
  { R := R, p := p, p1 := arazi n mp, r := mp % p, r2 := 0, r3 := 0 }

/-- `to_mg(a, b)`: `res.High = b; res.Low = 0; mod_n(a, res, p)` -/
def toMgA (C : MgCtx) (b : Int) : Int := (b * C.R) % C.p
def mulA (C : MgCtx) (b c : Int) : Int := mgReduc C (b * c)
def squareA (C : MgCtx) (b : Int) : Int := mgReduc C (b * b)
def getRuintA (C : MgCtx) (a : Int) : Int := mgReduc C a
def addmulA (C : MgCtx) (a b c : Int) : Int := addR C a (mulA C b c)
/-- `inv(a, b)`: `reduction(a, b); inv_mod(a, a, p); to_mg(a)` -/
def invA (C : MgCtx) (b : Int) : Int := toMgA C (invMod C.R (mgReduc C b) C.p)
/-- `div(a, b, c)` (rmdiv.h): `inv(ci, c); if (ci == 0) reset(a); else mul(a, b, ci)` -/
def divA (C : MgCtx) (b c : Int) : Int :=
  let ci := invA C c
  if ci = 0 then 0 else mulA C b ci
/-- `exp(a, b, const UDItype& c)` (rmgexp.h): right-to-left binary -/
def expBinLoopA (C : MgCtx) : Nat → Int → Int → Int → Int
  | 0, a, _, _ => a
  | fuel + 1, a, x, e =>
    if e = 0 then a
    else
      let a := if e % 2 = 1 then mulA C a x else a
      expBinLoopA C fuel a (mulA C x x) (e / 2)
def expU64A (C : MgCtx) (b e : Int) : Int := expBinLoopA C 64 C.r b e

/-- table `g[0..15]` of `exp(a, b, const ruint<K>& c)`: `g[0] = r; g[i] = g[i-1] * b` -/
def gTable (C : MgCtx) (b : Int) : Nat → List Int → List Int
  | 0, acc => acc.reverse
  | k + 1, acc =>
    match acc with
    | [] => gTable C b k [C.r]
    | g :: _ => gTable C b k (mulA C g b :: acc)

/-- the window loops: nibbles `j = top … 1` do `a = a * g[nib]; a = a^16`, the last nibble only multiplies -/
def expWinLoopA (C : MgCtx) (g : List Int) (e : Int) : Nat → Int → Int
  | 0, a => mulA C a (g.getD (e % 16).toNat 0)
  | j + 1, a =>
    let nib := (e / 16 ^ (j + 1)) % 16
    let a := mulA C a (g.getD nib.toNat 0)
    let a := squareA C (squareA C (squareA C (squareA C a)))
    expWinLoopA C g e j a
/-- `exp(a, b, const ruint<K>& c)` for `K = 6 + n` (`2^K / 4` nibbles) -/
def expWinA (n : Nat) (C : MgCtx) (b e : Int) : Int :=
  let g := gTable C b 16 []
  expWinLoopA C g e (bitsOf n / 4 - 1) C.r
/-- `rmint(const T b)` for signed `T`: `Value(|b|); mod_n(Value, p); if (b < 0) sub(Value, p, Value); to_mg` -/
def ctorSignedA (C : MgCtx) (b : Int) : Int :=
  let v := (if b < 0 then -b else b) % C.p
  let v := if b < 0 then uSub C.R C.p v else v
  toMgA C v

/-! ### rmint<K, MG_INACTIVE> -/
def mulI (p b c : Int) : Int := (b * c) % p                         -- lmul; mod_n
def addmulI (p a b c : Int) : Int := (b * c + a) % p                -- laddmul(res, b, c, a); reduction
/-- `exp_mod(a, b, c, n)` (ruexp.h): all bits of the exponent type are scanned -/
def expModLoop (n : Int) : Nat → Int → Int → Int → Int
  | 0, a, _, _ => a
  | fuel + 1, a, x, e =>
    let a := if e % 2 = 1 then (a * x) % n else a
    expModLoop n fuel a ((x * x) % n) (e / 2)
def expModI (bits : Nat) (p b e : Int) : Int := expModLoop p bits 1 b e
def divI (R p b c : Int) : Int :=
  let ci := invMod R c p
  if ci = 0 then 0 else mulI p b ci
/-- `rmint<K,MGI>(const T b)` for signed `T`:
    `Value(|b|); mod_n(Value, p); if (b < 0 && Value != 0) sub(Value, p, Value)` -/
def ctorSignedI (R p b : Int) : Int :=
  let v := (if b < 0 then -b else b) % p
  if b < 0 ∧ v ≠ 0 then uSub R p v else v
/-- `rmint<K,MGI>(const rmint<K,MGA>& c)`: `Value(get_ruint(c)) { reduction(*this); }` -/
def ctorIfromA (C : MgCtx) (x : Int) : Int := (getRuintA C x) % C.p

/-! ### built-in scalars mixed with `rmint` operands (`T` arithmetic): every overload first builds `rmint(c)` -/
/-- `mul(a, b, const T& c)` (rmgmul.h): `cr(c); mul(a, b, cr)` -/
def mulScalarA (C : MgCtx) (b v : Int) : Int := mulA C b (ctorSignedA C v)
/-- `mul(a, b, const T& c)` (rmbmul.h): `cr(c); mul(a, b, cr)` -/
def mulScalarI (R p b v : Int) : Int := mulI p b (ctorSignedI R p v)
/-- `inv(a, const T& b)` (rmginv.h): `br(b); inv(a, br)` -/
def invScalarA (C : MgCtx) (v : Int) : Int := invA C (ctorSignedA C v)
/-- `inv(a, const T& b)` (rmbinv.h): `br(b); inv(a, br)` -/
def invScalarI (R p v : Int) : Int := invMod R (ctorSignedI R p v) p

/-! ### sources of any magnitude: construction from `ruint<K>` / `rint<K>`, `mpz_to_rmint`, `init` from an `Integer`, `==` -/

/-- `rint<K>::isNegative()`: the top bit of the word -/
def rintNeg (R c : Int) : Bool := decide (c ≥ R / 2)
/-- `rmint<K,MGA>(const ruint<K>& c)`: `Value(c) { to_mg(*this); }` — any word `c` -/
def ctorRuintA (C : MgCtx) (c : Int) : Int := toMgA C c
/-- `rmint<K,MGI>(const ruint<K>& c)`: `Value(c) { reduction(*this); }` with `reduction(t)`: `mod_n(t.Value, t.p)` -/
def ctorRuintI (p c : Int) : Int := c % p
/-- `rmint<K,MGA>(const rint<K>& c)`: `Value(c.isNegative() ? (-c).Value : c.Value) { to_mg(*this); if (c.isNegative()) neg(*this); }` -/
def ctorRintA (C : MgCtx) (c : Int) : Int :=
  let m := if rintNeg C.R c = true then uNeg C.R c else c
  let x := toMgA C m
  if rintNeg C.R c = true then negR C x else x
/-- `rmint<K,MGI>(const rint<K>& c)`: `Value(|c|) { reduction(*this); if (c.isNegative()) neg(*this); }` -/
def ctorRintI (R p c : Int) : Int :=
  let m := if rintNeg R c = true then uNeg R c else c
  let v := m % p
  if rintNeg R c = true then negR ⟨R, p, 0, 0, 0, 0⟩ v else v
/-- `mpz_to_rmint(a, b)` (rmconvert.h, repaired): `c = b mod p` over Z; `mpz_to_ruint(a.Value, c); get_ready(a)` -/
def mpzToA (C : MgCtx) (b : Int) : Int := toMgA C (b % C.p)
def mpzToI (p b : Int) : Int := (b % p) % p
/-- `Montgomery<ruint<K>>::init(Element&, const Integer&)` (repaired): `Integer::mod(t, a, p); r = t; to_mg(r)` -/
def initZ (C : MgCtx) (a : Int) : Int := toMgR C (a % C.p)
/-- `operator==(const rmint<K,MGA>& a, const T& b)` / `(…, const ruint<K>& b)`: `rmint<K,MGA> br(b); a.Value == br.Value` -/
def eqScalarA (C : MgCtx) (x b : Int) : Bool := decide (x = ctorSignedA C b)
/-- `operator==(const rmint<K,MGI>& a, const T& b)` (repaired): `rmint<K,MGI> br(b); a.Value == br.Value` -/
def eqScalarI (R p v b : Int) : Bool := decide (v = ctorSignedI R p b)

end Givaro.Model.Montgomery
