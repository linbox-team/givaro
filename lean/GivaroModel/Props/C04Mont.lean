/-
C04 — init / convert of the Montgomery rings implement the canonical map Z → Z/p for every source type.

Model: `Model/ModInitMont.lean` (one function per overload that resolution selects; `Montgomery<int32_t>`: the template for
8/16/32-bit integers and `float`, the `double`, `int64_t`, `uint64_t`, `Integer` overloads; `Montgomery<ruint<K>>`: the two
`_init` bodies (machine integers; finite floating values) and the `Integer` overload) on the ring objects *the constructors compute* (`mk32 p`, `mkR n p`).
Every theorem is for every admissible odd modulus and every value of the source type.
-/
import GivaroModel.Lemmas.ModInitMont
import GivaroModel.Props.C07
namespace Givaro.Props.C04Mont
open Givaro Givaro.Model.Montgomery Givaro.Model.MontInit Givaro.Spec.Montgomery Givaro.Lemmas.Montgomery
  Givaro.Lemmas.MontInit

/-! ## Montgomery<int32_t> -/

/-- **init is the canonical map, for every source type.**  For every odd `3 ≤ p ≤ 40503`, every source type and every value
    `a` of it (`int8_t … uint64_t` with their minima and maxima, `Integer` of any size and sign, every integer-valued
    `double`; `float` within the documented contract of the template, `|a| < 2^32`): the stored word is a canonical
    Montgomery representation (`< p`, the representation of `a`), and `convert` returns `a mod p ∈ [0, p)`. -/
theorem mont32_init_canonical (p : Int) (h3 : 3 ≤ p) (hmax : p ≤ maxCard32) (hodd : p % 2 = 1)
    (s : Src) (a : Int) (ha : s.holds a) (hf : s = .f32 → -4294967296 < a ∧ a < 4294967296) :
    let F := mk32 p
    IsRep 65536 p (init32 F s a) a ∧ convert32 F (init32 F s a) = a % p ∧
    0 ≤ convert32 F (init32 F s a) ∧ convert32 F (init32 F s a) < p := by
  intro F
  have g : Good32 F := mk32_good h3 hmax hodd
  have r := init32_rep g s a ha hf
  have c : convert32 F (init32 F s a) = a % p := g.toAdm32.isMont.conv_rep r
  refine ⟨r, c, ?_, ?_⟩
  · rw [c]; exact Int.emod_nonneg _ g.mont.p0.ne'
  · rw [c]; exact Int.emod_lt_of_pos _ g.mont.p0
example : Src.s32.holds (-2147483648) ∧ convert32 (mk32 40503) (init32 (mk32 40503) .s32 (-2147483648)) = (-2147483648) % 40503 := by
  unfold Src.holds; decide +kernel
example : convert32 (mk32 101) (init32 (mk32 101) .u64 18446744073709551615) = 18446744073709551615 % 101 := by decide +kernel
example : convert32 (mk32 101) (init32 (mk32 101) .s64 (-9223372036854775808)) = (-9223372036854775808) % 101 := by decide +kernel

/-- **init ∘ convert = id**: for every stored element `e < p` and every source type that holds its lift,
    `init(convert(e)) = e` (the same word, not merely the same residue). -/
theorem mont32_init_convert (p : Int) (h3 : 3 ≤ p) (hmax : p ≤ maxCard32) (hodd : p % 2 = 1)
    (s : Src) (e : Int) (he0 : 0 ≤ e) (he1 : e < p) (hs : s.holds (convert32 (mk32 p) e)) :
    init32 (mk32 p) s (convert32 (mk32 p) e) = e := by
  have g : Good32 (mk32 p) := mk32_good h3 hmax hodd
  unfold maxCard32 at hmax
  obtain ⟨r2, c0, c1⟩ := g.toAdm32.isMont.conv_self he0 (show e < (mk32 p).p from he1)
  have c1' : convert32 (mk32 p) e < p := c1
  exact rep_unique (init32_rep g s _ hs (fun _ => ⟨by omega, by omega⟩)) r2 ⟨0, by ring⟩
example : Src.u16.holds (convert32 (mk32 40503) 40502) ∧ init32 (mk32 40503) .u16 (convert32 (mk32 40503) 40502) = 40502 := by
  unfold Src.holds; decide +kernel

/-- `init(x)` with no source (`init0`), `one`, `mOne` convert to `0, 1, p - 1`; `reduce` maps every 32-bit word to a canonical word. -/
theorem mont32_constants_are_images (p : Int) (h3 : 3 ≤ p) (hmax : p ≤ maxCard32) (hodd : p % 2 = 1) :
    let F := mk32 p
    convert32 F init0 = 0 ∧ convert32 F F.one = 1 ∧ convert32 F F.mOne = p - 1 ∧
    F.one = init32 F .s8 1 ∧ F.mOne = init32 F .s8 (-1) ∧
    ∀ y, 0 ≤ reduce32 F y ∧ reduce32 F y < p ∧ (0 ≤ y → y < p → reduce32 F y = y) := by
  intro F
  have g : Good32 F := mk32_good h3 hmax hodd
  have h := g.toAdm32
  obtain ⟨_, _, _, _, _, _, k1, km⟩ := Givaro.Props.C07.constants_exact p h3 hmax hodd
  have z : Rep32 F init0 0 := ⟨le_refl 0, h.mont.p0, by simp [init0]⟩
  have c0 : convert32 F init0 = 0 := by simpa using h.isMont.conv_rep z
  have c1 : convert32 F F.one = 1 :=
    (h.isMont.conv_rep k1).trans (Int.emod_eq_of_lt (by decide) (show (1 : Int) < p by omega))
  have cm : convert32 F F.mOne = p - 1 :=
    (h.isMont.conv_rep km).trans (show (-1 : Int) % p = p - 1 from emod_unique (by omega) (by omega) (-1) (by ring))
  have i1 := init32_rep g .s8 1 (by unfold Src.holds; omega) (by intro h; cases h)
  have im := init32_rep g .s8 (-1) (by unfold Src.holds; omega) (by intro h; cases h)
  refine ⟨c0, c1, cm, rep_unique k1 i1 ⟨0, by ring⟩, rep_unique km im ⟨0, by ring⟩, fun y => ?_⟩
  show 0 ≤ y % p ∧ y % p < p ∧ (0 ≤ y → y < p → y % p = y)
  exact ⟨Int.emod_nonneg _ h.mont.p0.ne', Int.emod_lt_of_pos _ h.mont.p0, fun y0 y1 => Int.emod_eq_of_lt y0 y1⟩
example : convert32 (mk32 40503) (mk32 40503).mOne = 40502 := by decide +kernel

/-! ## Montgomery<ruint<K>>, K = 6 + n -/

/-- the ring object the constructor computes is good, for every level and every odd modulus below the radix -/
theorem mkR_good (n : Nat) (p : Int) (h3 : 3 ≤ p) (hpR : p < radix n) (hodd : p % 2 = 1) : GoodR (mkR n p) :=
  mkR_good_of_pos n p (by omega) hpR hodd
example : (3 : Int) ≤ 1009 ∧ (1009 : Int) < radix 0 ∧ (1009 : Int) % 2 = 1 := by decide +kernel

/-- **init is the canonical map, for every source type**: every level `K = 6 + n`, every odd `3 ≤ p < 2^(2^K)`, every
    machine-integer value (minima and maxima included), every `Integer`, every finite integer-valued floating value. -/
theorem montR_init_canonical (n : Nat) (p : Int) (h3 : 3 ≤ p) (hpR : p < radix n) (hodd : p % 2 = 1)
    (s : Src) (a : Int) (ha : s.holds a) :
    let C := mkR n p
    IsRep (radix n) p (initRSrc C s a) a ∧ convertR C (initRSrc C s a) = a % p ∧
    0 ≤ convertR C (initRSrc C s a) ∧ convertR C (initRSrc C s a) < p := by
  intro C
  have g : GoodR C := mkR_good n p h3 hpR hodd
  have r := initRSrc_rep g (W64_le_radix n) s a ha
  have c : convertR C (initRSrc C s a) = a % p := g.isMont.conv_rep r
  refine ⟨r, c, ?_, ?_⟩
  · rw [c]; exact Int.emod_nonneg _ g.mont.p0.ne'
  · rw [c]; exact Int.emod_lt_of_pos _ g.mont.p0
example : convertR (mkR 0 1009) (initRSrc (mkR 0 1009) .s64 (-9223372036854775808)) = (-9223372036854775808) % 1009 := by decide +kernel

/-- **init ∘ convert = id** on stored elements, for every source type that holds the lift -/
theorem montR_init_convert (n : Nat) (p : Int) (h3 : 3 ≤ p) (hpR : p < radix n) (hodd : p % 2 = 1)
    (s : Src) (e : Int) (he0 : 0 ≤ e) (he1 : e < p) (hs : s.holds (convertR (mkR n p) e)) :
    initRSrc (mkR n p) s (convertR (mkR n p) e) = e := by
  have g : GoodR (mkR n p) := mkR_good n p h3 hpR hodd
  exact rep_unique (montR_init_canonical n p h3 hpR hodd s _ hs).1 (g.isMont.conv_self he0 he1).1 ⟨0, by ring⟩
example : initRSrc (mkR 0 1009) .u16 (convertR (mkR 0 1009) 1008) = 1008 := by decide +kernel

end Givaro.Props.C04Mont
