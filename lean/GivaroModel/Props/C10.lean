/-
C10 — Rational numbers are exact, canonical and totally ordered.

Every theorem below is about the executable model `Model/Rational.lean`, the branch-by-branch transcription of
givrataddsub.C, givratmuldiv.C, givratcompare.C, givratcstor.C, givratmisc.C, givratio.C, givrational.inl and
qfield.h that the correspondence check ties to the compiled code on every run.

* value of a stored pair: `val r = (r.num : ℚ) / (r.den : ℚ)` in Mathlib's `ℚ` (Lemmas/RationalValue.lean);
* `Valid red r`: the operand invariant of mode `red` — positive denominator, and coprime numerator/denominator
  when `red = true` (`Rational::Reduce`, the default).  `Valid true r ↔ Canon r` (`valid_true_iff_canon`), and
  `Canon` forces zero to be `0/1` (`canon_zero_is_0_1`);
* every operator theorem has the shape  `Valid red a → Valid red b → ∃ r, op a b = some r ∧ Valid red r ∧ val r = …`:
  the operation does not throw, the result satisfies the invariant again (so under the default mode it is canonical)
  and its value is exactly the mathematical one — for all numerators and denominators (unbounded), in both modes;
* the order theorems quantify over every function `c` that meets the documented contract of `mpz_cmpabs`
  (`CmpAbsOK`): nothing is assumed about the magnitude of a three-way comparison result.

No numerator/denominator size, exponent size (beyond the C++ parameter type) or double class is bounded anywhere.
-/
import GivaroModel.Lemmas.RationalValue
import GivaroModel.Lemmas.RationalIntegerLayer
namespace Givaro.Props.C10
open Givaro Givaro.Model.Rational Givaro.Spec.Rational Givaro.Lemmas.Rational

/-! ### canonical form -/

/-- under the default mode the operand invariant is exactly canonical form -/
theorem valid_true_iff_canon (r : QRep) : Valid true r ↔ Canon r :=
  ⟨valid_true, fun h => canon_valid h true⟩

/-- canonical form stores zero as 0/1 -/
theorem canon_zero_is_0_1 (r : QRep) (h : Canon r) (h0 : val r = 0) : r = ⟨0, 1⟩ :=
  canon_unique h (canon_int 0) (h0.trans (val_int 0).symm)
example : Canon ⟨0, 1⟩ ∧ val ⟨0, 1⟩ = 0 := ⟨⟨by decide, by decide⟩, by simp [val]⟩

/-- canonical form is a normal form: two canonical pairs of the same value are the same pair -/
theorem canon_unique_value (r s : QRep) (hr : Canon r) (hs : Canon s) (h : val r = val s) : r = s :=
  canon_unique hr hs h
example : Canon ⟨1, 2⟩ ∧ val ⟨1, 2⟩ = val ⟨1, 2⟩ := ⟨⟨by decide, by decide⟩, rfl⟩

/-- soundness and completeness of the check the correspondence driver applies to every result produced under
    the default mode: `r = normalize n d` holds exactly when `r` is canonical and denotes `n/d` -/
theorem driver_canonical_check_iff (r : QRep) (n d : Int) (hd : d ≠ 0) :
    r = normalize n d ↔ (Canon r ∧ val r = (n : ℚ) / (d : ℚ)) := by
  obtain ⟨c, e⟩ := normalize_val n d hd
  exact ⟨fun h => h ▸ ⟨c, e⟩, fun ⟨hc, he⟩ => canon_unique hc c (he.trans e.symm)⟩
example : (⟨-1, 2⟩ : QRep) = normalize 3 (-6) := by decide

/-! ### + - * / and negation: exact, invariant-preserving, across every shortcut branch, both modes -/

theorem add_exact (red : Bool) (a b : QRep) (ha : Valid red a) (hb : Valid red b) :
    ∃ r, add red a b = some r ∧ Valid red r ∧ val r = val a + val b :=
  add_val id a b ha hb
example : Valid true ⟨1, 6⟩ ∧ Valid true ⟨1, 3⟩ ∧ add true ⟨1, 6⟩ ⟨1, 3⟩ = some ⟨1, 2⟩ :=
  ⟨⟨by decide, fun _ => by decide⟩, ⟨by decide, fun _ => by decide⟩, by decide⟩

theorem sub_exact (red : Bool) (a b : QRep) (ha : Valid red a) (hb : Valid red b) :
    ∃ r, sub red a b = some r ∧ Valid red r ∧ val r = val a - val b :=
  sub_val id a b ha hb
example : sub true ⟨1, 2⟩ ⟨1, 2⟩ = some ⟨0, 1⟩ ∧ sub true ⟨1, 6⟩ ⟨1, 3⟩ = some ⟨-1, 6⟩ := by decide

theorem mul_exact (c : Int → Int → Int) (hc : CmpAbsOK c) (red : Bool) (a b : QRep) (ha : Valid red a) (hb : Valid red b) :
    ∃ r, mul c red a b = some r ∧ Valid red r ∧ val r = val a * val b :=
  mul_val id a b ha hb hc

theorem div_exact (c : Int → Int → Int) (hc : CmpAbsOK c) (red : Bool) (a b : QRep) (ha : Valid red a) (hb : Valid red b)
    (hnz : val b ≠ 0) :
    ∃ r, div c red a b = some r ∧ Valid red r ∧ val r = val a / val b :=
  div_val id a b ha hb hc hnz

/-- division by zero is rejected (`GivMathDivZero`), by both forms -/
theorem div_by_zero_throws (c : Int → Int → Int) (red : Bool) (a b : QRep) (hb : Valid red b) (hz : val b = 0) :
    div c red a b = none ∧ divin red a b = none :=
  have hbn := (val_eq_zero_iff (ine hb)).mp hz
  ⟨div_zero c red a b hbn, divin_zero red a b hbn⟩

theorem neg_exact (red : Bool) (a : QRep) (ha : Valid red a) :
    ∃ r, neg a = some r ∧ Valid red r ∧ val r = -val a :=
  exact_of_spec (ine ha) (val_neg a) (neg_spec red a ha)

theorem abs_exact (red : Bool) (a : QRep) (ha : Valid red a) :
    ∃ r, Model.Rational.abs a = some r ∧ Valid red r ∧ val r = |val a| :=
  exact_of_spec (ine ha) (val_abs a ha.1) (abs_spec red a ha)

-- non-vacuity of the contract hypothesis: the ±1-normalised comparison `cUnit` meets it (`cUnit_ok`)
example : mul cUnit true ⟨2, 3⟩ ⟨9, 4⟩ = some ⟨3, 2⟩ ∧ div cUnit true ⟨2, 3⟩ ⟨-4, 9⟩ = some ⟨-3, 2⟩ := by decide

/-! ### in-place forms -/

/-- `+=` and `-=` store exactly the pair `+` and `-` return -/
theorem addin_subin_same_as_value_forms (red : Bool) (a b : QRep) (ha : Valid red a) (hb : Valid red b) :
    addin red a b = add red a b ∧ subin red a b = sub red a b :=
  ⟨addin_eq_add red a b ha.1 hb.1, subin_eq_sub red a b ha.1 hb.1⟩

theorem addin_exact (red : Bool) (a b : QRep) (ha : Valid red a) (hb : Valid red b) :
    ∃ r, addin red a b = some r ∧ Valid red r ∧ val r = val a + val b :=
  addin_val id a b ha hb

theorem subin_exact (red : Bool) (a b : QRep) (ha : Valid red a) (hb : Valid red b) :
    ∃ r, subin red a b = some r ∧ Valid red r ∧ val r = val a - val b :=
  subin_val id a b ha hb

theorem mulin_exact (c : Int → Int → Int) (hc : CmpAbsOK c) (red : Bool) (a b : QRep) (ha : Valid red a) (hb : Valid red b) :
    ∃ r, mulin c red a b = some r ∧ Valid red r ∧ val r = val a * val b :=
  mulin_val id a b ha hb hc

theorem divin_exact (red : Bool) (a b : QRep) (ha : Valid red a) (hb : Valid red b) (hnz : val b ≠ 0) :
    ∃ r, divin red a b = some r ∧ Valid red r ∧ val r = val a / val b :=
  divin_val id a b ha hb hnz
example : addin true ⟨1, 6⟩ ⟨1, 3⟩ = some ⟨1, 2⟩ ∧ divin true ⟨2, 3⟩ ⟨-4, 9⟩ = some ⟨-3, 2⟩ ∧ val ⟨-4, 9⟩ ≠ 0 := by
  refine ⟨by decide, by decide, ?_⟩
  unfold val; norm_num

/-! ### floor / ceil / trunc / round -/

theorem floor_exact (red : Bool) (a : QRep) (ha : Valid red a) : floor a = ⌊val a⌋ := by
  unfold floor
  rw [Int.fdiv_eq_ediv_of_nonneg _ ha.1.le]
  exact ediv_eq_floor _ _ ha.1

theorem ceil_exact (red : Bool) (a : QRep) (ha : Valid red a) : ceil a = ⌈val a⌉ := by
  unfold ceil val
  rw [Int.fdiv_eq_ediv_of_nonneg _ ha.1.le, ediv_eq_floor _ _ ha.1, Int.cast_neg, neg_div, Int.floor_neg, neg_neg]

/-- truncation towards zero -/
theorem trunc_exact (red : Bool) (a : QRep) (ha : Valid red a) :
    trunc a = if 0 ≤ val a then ⌊val a⌋ else ⌈val a⌉ := by
  rw [trunc_spec a ha.1, ← floor_exact red a ha, ← ceil_exact red a ha]
  simp only [val_nonneg_iff ha.1]

/-- `round`: an integer nearest to the value, and a tie is never resolved towards zero
    (half away from zero, as C's `round`), for every admissible `mpz_cmpabs` -/
theorem round_exact (c : Int → Int → Int) (hc : CmpAbsOK c) (red : Bool) (a : QRep) (ha : Valid red a) :
    |(round c a : ℚ) - val a| ≤ 1 / 2 ∧
    (0 ≤ val a → val a - (round c a : ℚ) ≠ 1 / 2) ∧
    (val a < 0 → (round c a : ℚ) - val a ≠ 1 / 2) := by
  have hs := val_nonneg_iff ha.1
  rw [← roundSpec_eq hc a ha.1, roundSpec_val a ha.1]
  by_cases h : 0 ≤ a.num
  · obtain ⟨p1, p2⟩ := floor_half (val a)
    rw [if_pos h]
    exact ⟨p1, fun _ => p2, fun e => absurd (hs.mpr h) (not_le.mpr e)⟩
  · -- a negative value: the magnitude `-v` is rounded half up, then negated
    obtain ⟨p1, p2⟩ := floor_half (-val a)
    rw [if_neg h, Int.cast_neg, show -(⌊-val a + 1 / 2⌋ : ℚ) - val a = -(⌊-val a + 1 / 2⌋ - -val a) by ring, abs_neg]
    exact ⟨p1, fun e => absurd (hs.mp e) h, fun _ e => p2 (by linarith)⟩
example : floor ⟨-7, 2⟩ = -4 ∧ ceil ⟨-7, 2⟩ = -3 ∧ trunc ⟨-7, 2⟩ = -3 ∧ round cUnit ⟨-7, 2⟩ = -4 ∧ round cUnit ⟨5, 2⟩ = 3
    ∧ round cUnit ⟨7, 3⟩ = 2 := by decide

/-! ### the order of ℚ -/

/-- `compare` returns a value whose sign is the sign of `a - b` — for every admissible `mpz_cmpabs`,
    all sizes of numerators and denominators, both modes (only positive denominators are needed) -/
theorem compare_sign (c : Int → Int → Int) (hc : CmpAbsOK c) (a b : QRep) (ha : 0 < a.den) (hb : 0 < b.den) :
    (Model.Rational.compare c a b < 0 ↔ val a < val b) ∧ (Model.Rational.compare c a b = 0 ↔ val a = val b) ∧
    (Model.Rational.compare c a b > 0 ↔ val a > val b) :=
  isCmp_val ha hb (compare_spec hc a b ha hb)

/-- the six comparison operators realise the order of ℚ -/
theorem order_operators (c : Int → Int → Int) (hc : CmpAbsOK c) (a b : QRep) (ha : 0 < a.den) (hb : 0 < b.den) :
    (lt c a b = true ↔ val a < val b) ∧ (gt c a b = true ↔ val a > val b) ∧
    (le c a b = true ↔ val a ≤ val b) ∧ (ge c a b = true ↔ val a ≥ val b) ∧
    (eq c a b = true ↔ val a = val b) ∧ (ne c a b = true ↔ val a ≠ val b) := by
  obtain ⟨h1, h2, h3⟩ := compare_sign c hc a b ha hb
  unfold lt gt le ge eq ne
  simp only [decide_eq_true_eq, beq_iff_eq, bne_iff_ne, ne_eq]
  exact ⟨h1, h3, by rw [← not_lt, ← not_lt]; exact not_congr h3,
    by rw [ge_iff_le, ge_iff_le, ← not_lt, ← not_lt]; exact not_congr h1, h2, not_congr h2⟩

/-- total order: for any `a`, `b` exactly one of `a<b`, `a==b`, `a>b` holds, and it matches `sign (a - b)` -/
theorem order_total (c : Int → Int → Int) (hc : CmpAbsOK c) (a b : QRep) (ha : 0 < a.den) (hb : 0 < b.den) :
    ((lt c a b = true ∧ eq c a b = false ∧ gt c a b = false) ∨
     (lt c a b = false ∧ eq c a b = true ∧ gt c a b = false) ∨
     (lt c a b = false ∧ eq c a b = false ∧ gt c a b = true)) ∧
    (lt c a b = true ↔ val a - val b < 0) ∧ (eq c a b = true ↔ val a - val b = 0) ∧ (gt c a b = true ↔ val a - val b > 0) := by
  obtain ⟨h1, h2, _, _, h5, _⟩ := order_operators c hc a b ha hb
  refine ⟨?_, by rw [h1, sub_neg], by rw [h5, sub_eq_zero], by rw [h2, gt_iff_lt, gt_iff_lt, sub_pos]⟩
  -- the three operators test the sign of one integer
  unfold lt eq gt
  generalize Model.Rational.compare c a b = r
  simp only [decide_eq_true_eq, decide_eq_false_iff_not, beq_iff_eq, beq_eq_false_iff_ne, ne_eq]
  omega
example : CmpAbsOK cUnit ∧ lt cUnit ⟨1, 3⟩ ⟨100000000000000000000000000000000000000001, 3⟩ = true := ⟨cUnit_ok, by decide⟩

/-! ### construction: integers, pairs, text, doubles -/

/-- `Rational(int32_t|uint32_t|int64_t|uint64_t)`, `Rational(const Integer&)`, `Rational(Neutral)`, and `QField::init` from them -/
theorem of_integer_exact (n : Int) (one : Bool) :
    Canon (ofWord n) ∧ val (ofWord n) = n ∧ Canon (ofInteger n) ∧ val (ofInteger n) = n ∧
    Canon (ofNeutral one) ∧ val (ofNeutral one) = (if one then 1 else 0) := by
  rw [ofInteger_eq]
  refine ⟨canon_int n, val_int n, canon_int n, val_int n, ?_, ?_⟩
  · cases one <;> exact canon_int _
  · cases one <;> simp [val, ofNeutral]

/-- the reducing pair constructors `Rational(Integer,Integer)`, `Rational(int64_t,int64_t)`, `Rational(int32_t,int32_t)`,
    `QField::init(a,n,d)` and text `n/d`: canonical and exact for every numerator and every non-zero denominator of either sign -/
theorem of_pair_exact (n d : Int) (hd : d ≠ 0) :
    (∃ r, mk3 n d 1 = some r ∧ Canon r ∧ val r = (n : ℚ) / d) ∧
    (∃ r, mk2S n d = some r ∧ Canon r ∧ val r = (n : ℚ) / d) ∧
    (∃ r, ofText n (some d) = some r ∧ Canon r ∧ val r = (n : ℚ) / d) := by
  obtain ⟨r, h1, h2, h3⟩ := mk3_red_spec n d hd
  have hv := val_of_den (by have := h2.1; omega) hd h3
  exact ⟨⟨r, h1, h2, hv⟩, ⟨r, by rw [mk2S_eq]; exact h1, h2, hv⟩, ⟨r, h1, h2, hv⟩⟩
example : mk3 6 (-8) 1 = some ⟨-3, 4⟩ ∧ mk2S (-9223372036854775808) (-1) = some ⟨9223372036854775808, 1⟩ := by decide

/-- the unsigned pair constructors `Rational(uint64_t,uint64_t)`, `Rational(uint32_t,uint32_t)` -/
theorem of_unsigned_pair_exact (n d : Int) (hn : 0 ≤ n) (hd : 0 < d) :
    ∃ r, mk2U n d = some r ∧ Canon r ∧ val r = (n : ℚ) / d := by
  obtain ⟨r, h1, h2, h3⟩ := mk2U_spec n d hd
  exact ⟨r, h1, h2, val_of_den (by have := h2.1; omega) (by omega) h3⟩
example : mk2U 6 8 = some ⟨3, 4⟩ := by decide

/-- a zero denominator is rejected by every pair constructor -/
theorem of_pair_zero_den_throws (n red : Int) : mk3 n 0 red = none ∧ mk2S n 0 = none ∧ mk2U n 0 = none := by
  refine ⟨mk3_zero n red, by rw [mk2S_eq]; exact mk3_zero n 1, mk2U_zero n⟩

/-- `Rational(n, d, 0)`: sign-normalised and exact, not reduced -/
theorem of_pair_noreduce_exact (n d red : Int) (hd : d ≠ 0) (hr : red ≠ 1) :
    ∃ r, mk3 n d red = some r ∧ 0 < r.den ∧ val r = (n : ℚ) / d := by
  obtain ⟨r, h1, h2, h3⟩ := mk3_nored_spec (k := false) n d red hd hr nofun
  exact ⟨r, h1, h2.1, val_of_den (ine h2) hd h3⟩
example : mk3 6 (-8) 0 = some ⟨-6, 8⟩ := by decide

/-- text without a denominator -/
theorem of_text_integer_exact (n : Int) : ∃ r, ofText n none = some r ∧ Canon r ∧ val r = n := by
  refine ⟨⟨n, 1⟩, by simp [ofText, ofInteger_eq], canon_int n, val_int n⟩

/-- the value of the IEEE-754 double with sign bit `s`, biased exponent `e` and mantissa `m` -/
def doubleVal (s e m : Int) : ℚ :=
  (if s = 1 then -1 else 1) *
    (if e = 0 then (m : ℚ) * (2 : ℚ) ^ (-1074 : ℤ) else ((2 : ℚ) ^ 52 + m) * (2 : ℚ) ^ (e - 1075))

theorem doubleFrac_val (s e m : Int) :
    (doubleFrac s e m).2 ≠ 0 ∧ ((doubleFrac s e m).1 : ℚ) / ((doubleFrac s e m).2 : ℚ) = doubleVal s e m := by
  unfold doubleFrac doubleVal
  by_cases h0 : e = 0
  · simp only [h0, ↓reduceIte]
    refine ⟨by positivity, ?_⟩
    rw [zpow_neg, zpow_ofNat, Int.cast_pow, Int.cast_ofNat]
    generalize (2 : ℚ) ^ 1074 = P
    push_cast
    ring
  simp only [h0, ↓reduceIte]
  by_cases h1 : e ≥ 1075
  · simp only [h1, ↓reduceIte]
    refine ⟨one_ne_zero, ?_⟩
    obtain ⟨k, hk⟩ := Int.eq_ofNat_of_zero_le (by omega : 0 ≤ e - 1075)
    rw [hk, Int.toNat_natCast, zpow_natCast]
    push_cast
    ring
  · simp only [h1, ↓reduceIte]
    refine ⟨by positivity, ?_⟩
    obtain ⟨k, hk⟩ := Int.eq_ofNat_of_zero_le (by omega : 0 ≤ 1075 - e)
    rw [hk, Int.toNat_natCast, show e - 1075 = -(k : ℤ) by omega, zpow_neg, zpow_natCast]
    push_cast
    ring

/-- `Rational(double)` / `QField::init(r, double)`: for every finite double — both signs, ±0, every subnormal,
    every normal exponent — the result is the exact value, and canonical under the default mode -/
theorem of_double_exact (red : Bool) (s e m : Int) (hs : s = 0 ∨ s = 1) (he0 : 0 ≤ e) (he : e < 2047)
    (hm0 : 0 ≤ m) (hm : m < 4503599627370496) :
    ∃ r, ofDouble red s e m = some r ∧ Valid red r ∧ val r = doubleVal s e m :=
  have ⟨hd, hv⟩ := doubleFrac_val s e m
  exact_of_spec hd hv (ofDouble_spec red s e m hs he0 he hm0 hm)
example : ofDouble true 0 1023 0 = some ⟨1, 1⟩ ∧ ofDouble true 1 1022 0 = some ⟨-1, 2⟩ := by decide

/-! ### the field interface QField<Rational> -/

/-- `neg`, `negin`, `inv`, `invin` -/
theorem qfield_neg_inv_exact (red : Bool) (a : QRep) (ha : Valid red a) :
    Valid red (fneg a) ∧ val (fneg a) = -val a ∧
    (val a ≠ 0 → Valid red (finv a) ∧ val (finv a) = (val a)⁻¹) := by
  obtain ⟨v, d⟩ := fneg_spec red a ha
  refine ⟨v, (val_of_den (ine v) (ine ha) d).trans (val_neg a), fun hnz => ?_⟩
  have hn : a.num ≠ 0 := mt (val_eq_zero_iff (ine ha)).mpr hnz
  obtain ⟨v', d'⟩ := finv_spec red a ha hn
  exact ⟨v', (val_of_den (ine v') hn d').trans (val_inv a)⟩
example : finv ⟨-3, 7⟩ = ⟨-7, 3⟩ ∧ fneg ⟨-3, 7⟩ = ⟨3, 7⟩ := by decide

/-- `add sub mul div addin subin mulin divin` are the operators (qfield.h forwards), so the theorems above apply;
    the fused forms compose them: `axpy`, `axpyin`, `maxpy`, `axmy`, `axmyin`, `maxpyin` -/
theorem qfield_fused_exact (c : Int → Int → Int) (hc : CmpAbsOK c) (red : Bool) (a b z : QRep)
    (ha : Valid red a) (hb : Valid red b) (hz : Valid red z) :
    (∃ r, axpy c red a b z = some r ∧ Valid red r ∧ val r = val a * val b + val z) ∧
    (∃ r, axpyin c red z a b = some r ∧ Valid red r ∧ val r = val z + val a * val b) ∧
    (∃ r, maxpy c red a b z = some r ∧ Valid red r ∧ val r = val z - val a * val b) ∧
    (∃ r, axmy c red a b z = some r ∧ Valid red r ∧ val r = val a * val b - val z) ∧
    (∃ r, axmyin c red z a b = some r ∧ Valid red r ∧ val r = val a * val b - val z) ∧
    (∃ r, maxpyin c red z a b = some r ∧ Valid red r ∧ val r = val z - val a * val b) :=
  fused_val id a b ha hb hc z hz
example : axpy cUnit true ⟨1, 2⟩ ⟨2, 3⟩ ⟨1, 6⟩ = some ⟨1, 2⟩ := by decide

/-- `isZero`, `isOne`, `isMOne`, `areEqual` of the field interface are comparisons with the constants -/
theorem qfield_predicates_exact (c : Int → Int → Int) (hc : CmpAbsOK c) (a b : QRep) (ha : 0 < a.den) (hb : 0 < b.den) :
    (Model.Rational.compare c a ⟨0, 1⟩ = 0 ↔ val a = 0) ∧ (Model.Rational.compare c a ⟨1, 1⟩ = 0 ↔ val a = 1) ∧
    (Model.Rational.compare c a ⟨-1, 1⟩ = 0 ↔ val a = -1) ∧ (Model.Rational.compare c a b = 0 ↔ val a = val b) := by
  have h0 := (compare_sign c hc a ⟨0, 1⟩ ha Int.one_pos).2.1
  have h1 := (compare_sign c hc a ⟨1, 1⟩ ha Int.one_pos).2.1
  have h2 := (compare_sign c hc a ⟨-1, 1⟩ ha Int.one_pos).2.1
  rw [val_int, Int.cast_zero] at h0
  rw [val_int, Int.cast_one] at h1
  rw [val_int, Int.cast_neg, Int.cast_one] at h2
  exact ⟨h0, h1, h2, (compare_sign c hc a b ha hb).2.1⟩

/-! ### powers -/

/-- `pow(Rational, int64_t)`: exact for every `int64_t` exponent of either sign (`INT64_MIN` included);
    a zero base with a negative exponent is the excluded division by zero -/
theorem pow_exact (red : Bool) (x : QRep) (y : Int) (hx : Valid red x) (hy : InS64 y) (hnz : ¬ (val x = 0 ∧ y < 0)) :
    Valid red (powS64 x y) ∧ val (powS64 x y) = val x ^ y := by
  have hv := valid_pow red x.num x.den y.natAbs hx
  rw [powS64_eq x y hy]
  by_cases h0 : 0 ≤ y
  · obtain ⟨k, rfl⟩ := Int.eq_ofNat_of_zero_le h0
    rw [if_pos h0, val_pow, zpow_natCast, Int.natAbs_natCast]
    exact ⟨hv, rfl⟩
  · -- a negative exponent: the inverse of the power, formed as `QField::inv` forms it
    have hy0 : y < 0 := by omega
    have e : val x ^ y = (val x ^ y.natAbs)⁻¹ := by
      obtain ⟨k, rfl⟩ := Int.exists_eq_neg_ofNat hy0.le
      rw [zpow_neg, zpow_natCast, Int.natAbs_neg, Int.natAbs_natCast]
    rw [if_neg h0, e, ← val_pow]
    exact (qfield_neg_inv_exact red _ hv).2.2 (by rw [val_pow]; exact pow_ne_zero _ fun h => hnz ⟨h, hy0⟩)
example : Valid true ⟨-2, 3⟩ ∧ InS64 (-3) ∧ powS64 ⟨-2, 3⟩ (-3) = ⟨-27, 8⟩ :=
  ⟨⟨by decide, fun _ => by decide⟩, by decide, by decide⟩

/-- `pow(Rational, uint32_t|uint64_t)` and the `QField::pow` wrappers -/
theorem pow_unsigned_exact (red : Bool) (x : QRep) (l : Int) (hx : Valid red x) (hl : 0 ≤ l) :
    Valid red (powU x l) ∧ val (powU x l) = val x ^ l.toNat := by
  rw [powU_eq, val_pow]
  exact ⟨valid_pow red _ _ _ hx, rfl⟩
example : powU ⟨-2, 3⟩ 3 = ⟨-8, 27⟩ := by decide

/-! ### further public entry points -/

/-- the mixed forms of givrational.inl (`r + int`, `int - r`, …) apply the operator to `Rational(int)`, which is a valid operand -/
theorem mixed_int_operand_valid (red : Bool) (i : Int) : Valid red (ofWord i) ∧ val (ofWord i) = i :=
  ⟨valid_int red i, val_int i⟩

/-- `Rational::reduce(const Rational&)`: canonical and of the same value, whatever the mode -/
theorem reduce_exact (a : QRep) (ha : 0 < a.den) : Canon (reduce a) ∧ val (reduce a) = val a := by
  obtain ⟨c, d⟩ := reduce_spec a ha
  exact ⟨c, val_of_den (by have := c.1; omega) (by omega) d⟩
example : reduce ⟨-6, 8⟩ = ⟨-3, 4⟩ := by decide

/-- `absCompare(Rational, Rational)` orders absolute values (numerators non-zero, as at its call sites in `compare`) -/
theorem abs_compare_sign (c : Int → Int → Int) (hc : CmpAbsOK c) (a b : QRep) (ha : 0 < a.den) (hb : 0 < b.den)
    (hna : val a ≠ 0) (hnb : val b ≠ 0) :
    (absCompare c a b < 0 ↔ |val a| < |val b|) ∧ (absCompare c a b = 0 ↔ |val a| = |val b|) := by
  have h := absCompare_spec hc a b ha hb (mt (val_eq_zero_iff (Int.ne_of_gt ha)).mpr hna)
    (mt (val_eq_zero_iff (Int.ne_of_gt hb)).mpr hnb)
  rw [← val_abs a ha, ← val_abs b hb]
  exact ⟨h.1.trans (val_lt_iff ⟨|a.num|, a.den⟩ ⟨|b.num|, b.den⟩ ha hb).symm,
    h.2.trans (val_eq_iff ⟨|a.num|, a.den⟩ ⟨|b.num|, b.den⟩ ha hb).symm⟩
example : absCompare cUnit ⟨-1, 2⟩ ⟨1, 3⟩ = 1 := by decide

/-! ### the Integer layer underneath -/

/-- the `Int` operations the model uses for the `Integer` calls of givrat*.C are what the translated gmp++ bodies
    (regenerated from /repo, C01/C02) return, and the framework's `mpz_cmpabs` (opaque magnitude) is an admissible
    comparison — so the order theorems apply to the model of the real `absCompare(Integer,Integer)` -/
theorem integer_layer_is_translated_code (a b : Int) (hb : b ≠ 0) :
    igcd a b = (Gen.gcd_Zc_Zc a b).ret ∧ idiv a b = (Gen.Integer_op_div_Zc_const a b).ret ∧
    idiv a b = (Gen.Integer_op_divin_Zc a b).ret ∧ isign a = (Gen.sign_Zc a).ret ∧ iabs a = (Gen.abs_Zc a).ret ∧
    a + b = (Gen.Integer_op_add_Zc_const a b).ret ∧ a - b = (Gen.Integer_op_sub_Zc_const a b).ret ∧
    a * b = (Gen.Integer_op_mul_Zc_const a b).ret ∧
    Int.fdiv a b = (Gen.Integer_floor_Zc_Zc a b).ret ∧ -(Int.fdiv (-a) b) = (Gen.Integer_ceil_Zc_Zc a b).ret ∧
    ipowS64 a b = (Gen.pow_Zc_s64 a b).ret ∧ ipowU a b = (Gen.pow_Zc_u64 a b).ret ∧
    (Gen.absCompare_Zc_Zc a b).ret = mpz_cmpabs a b ∧ CmpAbsOK mpz_cmpabs := by
  obtain ⟨f1, f2⟩ := floor_ceil_translated ⟨a, b⟩ hb
  exact ⟨(gcdT a b).symm, (divT a b hb).symm, (divinT a b hb).symm, isign_translated a, iabs_translated a,
    (addT a b).symm, (subT a b).symm, (mulT a b).symm, f1, f2, (ipow_translated a b).1, (ipow_translated a b).2, cmpabs_translated.1 a b, cmpabs_translated.2⟩
example : igcd 12 (-18) = 6 ∧ idiv (-7) 2 = -3 := by decide

/-- the headline order statement for the framework's model of GMP itself -/
theorem order_total_gmp (a b : QRep) (ha : 0 < a.den) (hb : 0 < b.den) :
    (lt mpz_cmpabs a b = true ↔ val a < val b) ∧ (eq mpz_cmpabs a b = true ↔ val a = val b) ∧
    (gt mpz_cmpabs a b = true ↔ val a > val b) := by
  obtain ⟨h1, h2, _, _, h5, _⟩ := order_operators mpz_cmpabs cmpabs_translated.2 a b ha hb
  exact ⟨h1, h5, h2⟩

/-- soundness of the other reference functions the correspondence driver compares the implementation with:
    `cmpSpec` is the sign of `a - b`; `floorSpec/ceilSpec/truncSpec/roundSpec` are the floor, the ceiling, the truncation
    and the (unique) nearest integer with ties away from zero — they coincide with the model, hence with ℚ by the
    theorems above -/
theorem driver_reference_functions_sound (c : Int → Int → Int) (hc : CmpAbsOK c) (a b : QRep) (ha : 0 < a.den) (hb : 0 < b.den) :
    (cmpSpec a b < 0 ↔ val a < val b) ∧ (cmpSpec a b = 0 ↔ val a = val b) ∧ (cmpSpec a b > 0 ↔ val a > val b) ∧
    floorSpec a.num a.den = ⌊val a⌋ ∧ ceilSpec a.num a.den = ⌈val a⌉ ∧
    truncSpec a.num a.den = trunc a ∧ roundSpec a.num a.den = round c a :=
  have va : Valid false a := ⟨ha, nofun⟩
  have ⟨s1, s2, s3⟩ := isCmp_val ha hb (isCmp_cmpSpec a b)
  ⟨s1, s2, s3, (floorSpec_eq a ha).trans (floor_exact false a va), (ceilSpec_eq a ha).trans (ceil_exact false a va),
    truncSpec_eq a ha, roundSpec_eq hc a ha⟩
example : cmpSpec ⟨1, 3⟩ ⟨1, 2⟩ = -1 ∧ roundSpec (-5) 2 = -3 ∧ truncSpec (-5) 2 = -2 := by decide

/-! ### whole computations: the operand invariant is inductive -/

/-- a computation built from the constructors and operations of the class -/
inductive Expr where
  | ofInt (n : Int)                       -- Rational(word) / Rational(Integer)
  | ofPair (n d : Int)                    -- Rational(n, d), init(a, n, d), text "n/d"
  | ofDouble (s e m : Int)                -- Rational(double) by IEEE-754 fields
  | add (a b : Expr) | sub (a b : Expr) | mul (a b : Expr) | div (a b : Expr)
  | addin (a b : Expr) | subin (a b : Expr) | mulin (a b : Expr) | divin (a b : Expr)
  | neg (a : Expr) | inv (a : Expr) | powi (a : Expr) (y : Int)

/-- what the code computes (the model; `none` = an exception) -/
def run (c : Int → Int → Int) (red : Bool) : Expr → Option QRep
  | .ofInt n => some (ofInteger n)
  | .ofPair n d => mk3 n d 1
  | .ofDouble s e m => ofDouble red s e m
  | .add a b => bind2 (Model.Rational.add red) (run c red a) (run c red b)
  | .sub a b => bind2 (Model.Rational.sub red) (run c red a) (run c red b)
  | .mul a b => bind2 (Model.Rational.mul c red) (run c red a) (run c red b)
  | .div a b => bind2 (Model.Rational.div c red) (run c red a) (run c red b)
  | .addin a b => bind2 (Model.Rational.addin red) (run c red a) (run c red b)
  | .subin a b => bind2 (Model.Rational.subin red) (run c red a) (run c red b)
  | .mulin a b => bind2 (Model.Rational.mulin c red) (run c red a) (run c red b)
  | .divin a b => bind2 (Model.Rational.divin red) (run c red a) (run c red b)
  | .neg a => (run c red a).bind Model.Rational.neg
  | .inv a => (run c red a).map finv
  | .powi a y => (run c red a).map (fun x => powS64 x y)

/-- what the computation means in ℚ (`none` = not defined: zero denominator, division by zero, 0 to a negative power,
    or an argument outside its C++ type: non-finite double, exponent outside `int64_t`) -/
def meaning : Expr → Option ℚ
  | .ofInt n => some n
  | .ofPair n d => if d = 0 then none else some ((n : ℚ) / d)
  | .ofDouble s e m =>
    if (s = 0 ∨ s = 1) ∧ 0 ≤ e ∧ e < 2047 ∧ 0 ≤ m ∧ m < 4503599627370496 then some (doubleVal s e m) else none
  | .add a b | .addin a b => match meaning a, meaning b with
    | some x, some y => some (x + y) | _, _ => none
  | .sub a b | .subin a b => match meaning a, meaning b with
    | some x, some y => some (x - y) | _, _ => none
  | .mul a b | .mulin a b => match meaning a, meaning b with
    | some x, some y => some (x * y) | _, _ => none
  | .div a b | .divin a b => match meaning a, meaning b with
    | some x, some y => if y = 0 then none else some (x / y) | _, _ => none
  | .neg a => (meaning a).map (fun x => -x)
  | .inv a => match meaning a with
    | some x => if x = 0 then none else some x⁻¹ | none => none
  | .powi a y => match meaning a with
    | some x => if InS64 y ∧ ¬ (x = 0 ∧ y < 0) then some (x ^ y) else none | none => none

/-- Every defined computation is exact and ends in a value satisfying the invariant (canonical under the default
    mode): the hypotheses `Valid` of the one-step theorems are discharged by the steps before them. -/
theorem computation_exact (c : Int → Int → Int) (hc : CmpAbsOK c) (red : Bool) (e : Expr) (q : ℚ)
    (h : meaning e = some q) : ∃ r, run c red e = some r ∧ Valid red r ∧ val r = q := by
  -- the six total binary operators: both arguments are defined, and `bind2` composes the two exact results
  have bin : ∀ {f : QRep → QRep → Option QRep} {g : ℚ → ℚ → ℚ}
      (_ : ∀ a b, Valid red a → Valid red b → ∃ r, f a b = some r ∧ Valid red r ∧ val r = g (val a) (val b))
      {x y : Option QRep} {mx my : Option ℚ} {q : ℚ}
      (_ : (match mx, my with | some u, some v => some (g u v) | _, _ => none) = some q)
      (_ : ∀ q, mx = some q → ∃ r, x = some r ∧ Valid red r ∧ val r = q)
      (_ : ∀ q, my = some q → ∃ r, y = some r ∧ Valid red r ∧ val r = q),
      ∃ r, bind2 f x y = some r ∧ Valid red r ∧ val r = q := by
    intro f g hf x y mx my q h iha ihb
    split at h
    · rename_i u v
      cases h
      exact bind2_exact hf (iha u rfl) (ihb v rfl)
    · cases h
  induction e generalizing q with
  | ofInt n =>
    cases h
    exact ⟨_, rfl, by rw [ofInteger_eq]; exact valid_int red n, (of_integer_exact n true).2.2.2.1⟩
  | ofPair n d =>
    obtain ⟨hd, ⟨⟩⟩ := Option.ite_none_left_eq_some.mp h
    obtain ⟨r, h1, h2, h3⟩ := (of_pair_exact n d hd).1
    exact ⟨r, h1, canon_valid h2 red, h3⟩
  | ofDouble s e m =>
    obtain ⟨hr, ⟨⟩⟩ := Option.ite_none_right_eq_some.mp h
    exact of_double_exact red s e m hr.1 hr.2.1 hr.2.2.1 hr.2.2.2.1 hr.2.2.2.2
  | add a b iha ihb => exact bin (g := (· + ·)) (add_exact red) h iha ihb
  | addin a b iha ihb => exact bin (g := (· + ·)) (addin_exact red) h iha ihb
  | sub a b iha ihb => exact bin (g := (· - ·)) (sub_exact red) h iha ihb
  | subin a b iha ihb => exact bin (g := (· - ·)) (subin_exact red) h iha ihb
  | mul a b iha ihb => exact bin (g := (· * ·)) (mul_exact c hc red) h iha ihb
  | mulin a b iha ihb => exact bin (g := (· * ·)) (mulin_exact c hc red) h iha ihb
  | div a b iha ihb =>
    simp only [meaning] at h
    split at h
    · rename_i x y hx hy
      obtain ⟨hy0, ⟨⟩⟩ := Option.ite_none_left_eq_some.mp h
      obtain ⟨ra, ea, va, rfl⟩ := iha x hx
      obtain ⟨rb, eb, vb, rfl⟩ := ihb y hy
      simp only [run, ea, eb, bind2]
      exact div_exact c hc red ra rb va vb hy0
    · cases h
  | divin a b iha ihb =>
    simp only [meaning] at h
    split at h
    · rename_i x y hx hy
      obtain ⟨hy0, ⟨⟩⟩ := Option.ite_none_left_eq_some.mp h
      obtain ⟨ra, ea, va, rfl⟩ := iha x hx
      obtain ⟨rb, eb, vb, rfl⟩ := ihb y hy
      simp only [run, ea, eb, bind2]
      exact divin_exact red ra rb va vb hy0
    · cases h
  | neg a iha =>
    obtain ⟨x, hx, rfl⟩ := Option.map_eq_some_iff.mp h
    obtain ⟨ra, ea, va, rfl⟩ := iha x hx
    simp only [run, ea, Option.bind_some]
    exact neg_exact red ra va
  | inv a iha =>
    simp only [meaning] at h
    split at h
    · rename_i x hx
      obtain ⟨hx0, ⟨⟩⟩ := Option.ite_none_left_eq_some.mp h
      obtain ⟨ra, ea, va, rfl⟩ := iha x hx
      exact ⟨finv ra, by simp only [run, ea, Option.map_some], (qfield_neg_inv_exact red ra va).2.2 hx0⟩
    · cases h
  | powi a y iha =>
    simp only [meaning] at h
    split at h
    · rename_i x hx
      obtain ⟨hy, ⟨⟩⟩ := Option.ite_none_right_eq_some.mp h
      obtain ⟨ra, ea, va, rfl⟩ := iha x hx
      exact ⟨powS64 ra y, by simp only [run, ea, Option.map_some], pow_exact red ra y va hy.1 hy.2⟩
    · cases h
-- non-vacuity: ((1/6 + 1/3) / (-3/4))^(-2) * 0.5  is defined, and the model computes 9/8 in canonical form
example : run cUnit true (.mul (.powi (.div (.add (.ofPair 1 6) (.ofPair 2 6)) (.ofPair 3 (-4))) (-2)) (.ofDouble 0 1022 0))
    = some ⟨9, 8⟩ := by decide
example : meaning (.mul (.powi (.div (.add (.ofPair 1 6) (.ofPair 2 6)) (.ofPair 3 (-4))) (-2)) (.ofDouble 0 1022 0))
    = some (9 / 8) := by
  simp only [meaning, doubleVal, InS64]
  norm_num

end Givaro.Props.C10
