/- C06 helper lemmas: conversions between ruint/rint and built-in words. -/
import GivaroModel.Lemmas.RecIntConv
import GivaroModel.Model.RecIntWords
namespace Givaro.Model.RecInt

theorem B64_dvd_Bn : ∀ n : Nat, ∃ k, Bn n = B64 * k
  | 0 => ⟨1, by rw [Bn_zero, Nat.mul_one]⟩
  | n+1 => by obtain ⟨k, hk⟩ := B64_dvd_Bn n; exact ⟨k * Bn n, by rw [Bn_succ]; nth_rewrite 1 [hk]; ring⟩

theorem u_of_signed_nonneg : ∀ (n : Nat) (w : Int), 0 ≤ w → w < B64 → u_of_signed n w = ofLimb n w.toNat
  | 0, w, h0, h1 => by
      have : w % 18446744073709551616 = w := Int.emod_eq_of_lt h0 (by simpa [B64] using h1)
      simp only [u_of_signed, ofLimb, this]
  | n+1, w, h0, h1 => by
      simp only [u_of_signed, ofLimb, if_neg (not_lt.mpr h0), u_of_signed_nonneg n w h0 h1]

theorem limb_word (w : Int) : Img (RU.limb (w % 18446744073709551616).toNat) w := by
  have hp : (0 : Int) < 18446744073709551616 := by decide
  have a0 := Int.emod_nonneg w (ne_of_gt hp)
  have a1 := Int.emod_lt_of_pos w hp
  simp only [Img, WF, val, Bn_zero]
  refine ⟨by simp only [B64]; omega, ?_⟩
  rw [Int.toNat_of_nonneg a0]; rfl

theorem u_of_signed_ok : ∀ (n : Nat) (w : Int), -(B64 : Int) ≤ w → w < B64 → Img (u_of_signed n w) w
  | 0, w, _, _ => limb_word w
  | n+1, w, h0, h1 => by
      have hB : (B64 : Int) ≤ Bn n := by exact_mod_cast B64_le_Bn n
      by_cases hneg : w < 0
      · -- `~(-(w+1)) = -(-(w+1)) - 1 = w`
        have h := (Img.widen (u_of_signed_ok n (-(w + 1)) (by omega) (by omega)) (by omega) (by omega)).not
        rw [show -(-(w + 1)) - 1 = w by ring] at h
        rw [u_of_signed, if_pos hneg]; exact h
      · rw [u_of_signed, if_neg hneg]; exact Img.widen (u_of_signed_ok n w h0 h1) (by omega) (by omega)

/-- the cast operators read the least significant limb -/
theorem ls_limb_ok : ∀ {n : Nat} (a : RU n), WF a → ls_limb a = val a % B64
  | _, .limb v, h => by simp only [WF] at h; simp only [ls_limb, val]; exact (Nat.mod_eq_of_lt h).symm
  | _, .node (n := n) l h, hw => by
      have il := ls_limb_ok l hw.1
      obtain ⟨k, hk⟩ := B64_dvd_Bn n
      simp only [ls_limb, val_node, il, hk]
      rw [Nat.mul_assoc, Nat.add_mul_mod_self_left]

theorem to_bool_eq : ∀ {n : Nat} (a : RU n), to_bool a = !isZero a
  | _, .limb v => by simp only [to_bool, isZero, bne]
  | _, .node l h => by simp only [to_bool, isZero, Bool.not_and]

theorem to_bool_ok {n : Nat} (a : RU n) : to_bool a = true ↔ val a ≠ 0 := by
  rw [to_bool_eq, Bool.not_eq_true', ← Bool.not_eq_true, isZero_iff]

theorem to_s64_of_signed (n : Nat) (w : Int) (h0 : -(2 : Int) ^ 63 ≤ w) (h1 : w < (2 : Int) ^ 63) : to_s64 (u_of_signed n w) = w := by
  obtain ⟨hw, he⟩ := u_of_signed_ok n w (by simp only [B64]; omega) (by simp only [B64]; omega)
  obtain ⟨k, hk⟩ := B64_dvd_Bn n
  have hm : ((val (u_of_signed n w) % B64 : Nat) : Int) = w % (B64 : Int) := by
    rw [Int.natCast_mod, he, hk, Nat.cast_mul]; exact Int.emod_emod_of_dvd _ (Dvd.intro _ rfl)
  unfold to_s64
  rw [ls_limb_ok _ hw]
  have hlt := Nat.mod_lt (val (u_of_signed n w)) (show 0 < B64 by decide)
  by_cases hx : val (u_of_signed n w) % B64 < 9223372036854775808
  · rw [if_pos hx]; simp only [B64] at hm hlt hx ⊢; omega
  · rw [if_neg hx]; simp only [B64] at hm hlt hx ⊢; omega

theorem u_of_double_nonneg : ∀ (n : Nat) (w : Int), 0 ≤ w → w < B64 → u_of_double n w = ofLimb n w.toNat
  | 0, w, h0, h1 => by
      have : w % 18446744073709551616 = w := Int.emod_eq_of_lt h0 (by simpa [B64] using h1)
      simp only [u_of_double, ofLimb, this]
  | n+1, w, h0, h1 => by
      simp only [u_of_double, ofLimb, if_neg (not_lt.mpr h0), u_of_double_nonneg n w h0 h1]

theorem u_of_double_ok : ∀ (n : Nat) (d : Int), -(B64 : Int) < d → d < B64 → Img (u_of_double n d) d
  | 0, w, _, _ => limb_word w
  | n+1, d, h0, h1 => by
      have hB : (B64 : Int) ≤ Bn n := by exact_mod_cast B64_le_Bn n
      by_cases hneg : d < 0
      · have h := (Img.widen (u_of_double_ok n (-d) (by omega) (by omega)) (by omega) (by omega)).negate
        rw [Int.neg_neg] at h
        rw [u_of_double, if_pos hneg]; exact h
      · rw [u_of_double, if_neg hneg]; exact Img.widen (u_of_double_ok n d h0 h1) (by omega) (by omega)

theorem dbl_of_u64_small (v : Nat) (h : v < 9007199254740992) : dbl_of_u64 v = v := by
  unfold dbl_of_u64; rw [if_pos h]

theorem rne_core (q r half p : Nat) (hh : 0 < half) (hp : p = 2 * half) (hr : r < p) :
    ∀ R, R = (if (decide (r > half) || (r == half && q % 2 == 1)) = true then (q + 1) * p else q * p) →
    R % p = 0 ∧ 2 * R ≤ 2 * (p * q + r) + p ∧ 2 * (p * q + r) ≤ 2 * R + p ∧
    ((2 * R = 2 * (p * q + r) + p ∨ 2 * (p * q + r) = 2 * R + p) → (R / p) % 2 = 0) := by
  intro R hR
  have hp0 : 0 < p := by omega
  have hc : (decide (r > half) || (r == half && q % 2 == 1)) = true ↔ (half < r ∨ (r = half ∧ q % 2 = 1)) := by
    simp only [Bool.or_eq_true, decide_eq_true_eq, Bool.and_eq_true, beq_iff_eq, gt_iff_lt]
  by_cases h : (decide (r > half) || (r == half && q % 2 == 1)) = true
  · rw [if_pos h] at hR
    rw [hc] at h
    rw [hR, Nat.mul_mod_left, Nat.mul_div_cancel _ hp0, Nat.add_mul, Nat.one_mul, Nat.mul_comm q p]
    omega
  · rw [if_neg h] at hR
    rw [hc] at h
    rw [hR, Nat.mul_mod_left, Nat.mul_div_cancel _ hp0, Nat.mul_comm q p]
    omega

/-- round-to-nearest-even, stated on the result: with `p = 2^e` the spacing of doubles at `v ≥ 2^53`, the result is a multiple of `p`
    at distance at most `p/2` from `v`, and in a tie its quotient by `p` is even -/
theorem dbl_of_u64_rne (v : Nat) (h : 9007199254740992 ≤ v) :
    dbl_of_u64 v % 2 ^ (Nat.log2 v - 52) = 0 ∧ 2 * dbl_of_u64 v ≤ 2 * v + 2 ^ (Nat.log2 v - 52) ∧
    2 * v ≤ 2 * dbl_of_u64 v + 2 ^ (Nat.log2 v - 52) ∧
    ((2 * dbl_of_u64 v = 2 * v + 2 ^ (Nat.log2 v - 52) ∨ 2 * v = 2 * dbl_of_u64 v + 2 ^ (Nat.log2 v - 52)) →
      (dbl_of_u64 v / 2 ^ (Nat.log2 v - 52)) % 2 = 0) := by
  have hlog : 53 ≤ Nat.log2 v := by
    have hv : v ≠ 0 := by omega
    rw [Nat.le_log2 hv]; exact h
  have he : Nat.log2 v - 52 = (Nat.log2 v - 52 - 1) + 1 := by omega
  have hp2 : 2 ^ (Nat.log2 v - 52) = 2 * 2 ^ (Nat.log2 v - 52 - 1) := by rw [he, pow_succ]; simp; ring
  have hh : 0 < 2 ^ (Nat.log2 v - 52 - 1) := by positivity
  have hdm := Nat.div_add_mod v (2 ^ (Nat.log2 v - 52))
  have hml : v % 2 ^ (Nat.log2 v - 52) < 2 ^ (Nat.log2 v - 52) := Nat.mod_lt _ (by omega)
  have key := rne_core (v / 2 ^ (Nat.log2 v - 52)) (v % 2 ^ (Nat.log2 v - 52)) (2 ^ (Nat.log2 v - 52 - 1)) (2 ^ (Nat.log2 v - 52)) hh hp2 hml
    (dbl_of_u64 v) (by unfold dbl_of_u64; rw [if_neg (by omega)])
  rw [hdm] at key
  exact key

theorem u_to_double_ok {n : Nat} (a : RU n) (ha : WF a) : u_to_double a = dbl_of_u64 (val a % B64) := by
  unfold u_to_double; rw [ls_limb_ok a ha]

theorem u_to_double_exact {n : Nat} (a : RU n) (ha : WF a) (h : val a < 9007199254740992) : u_to_double a = val a := by
  rw [u_to_double_ok a ha, Nat.mod_eq_of_lt (by simp only [B64]; omega), dbl_of_u64_small _ h]

theorem s_to_double_exact {n : Nat} (a : RU n) (ha : WF a) (h0 : -9007199254740992 < sval a) (h1 : sval a < 9007199254740992) :
    s_to_double a = sval a := by
  unfold s_to_double
  rcases sign_cases a ha with ⟨hna, va, -⟩ | ⟨hna, hw, he, -⟩ <;> simp only [hna, Bool.false_eq_true, ↓reduceIte]
  · rw [u_to_double_exact a ha (by omega)]; exact va
  · rw [u_to_double_exact (neg a) hw (by omega), he, Int.neg_neg]

end Givaro.Model.RecInt
