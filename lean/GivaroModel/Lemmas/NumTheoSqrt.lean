/- C13 — the modular square roots above a prime: the lifting steps (all of them one Newton step), the branches of
   `sqrootmodprimepower` and `sqrootmodpoweroftwo` as equations, their finishing steps, CRT recombination, sums of two squares. -/
import GivaroModel.Lemmas.NumTheoLemmas
import GivaroModel.Lemmas.CRTGarner
import Mathlib.Tactic.Linarith
import Mathlib.RingTheory.Coprime.Lemmas
import Mathlib.RingTheory.PrincipalIdealDomain
import Mathlib.RingTheory.Int.Basic
namespace Givaro.Lemmas.NumTheo
open Givaro.Model.NumTheo

/-! ## the branch `a = b·p^t` -/

theorem stripP_inv (p : Int) (fuel : Nat) (b : Int) (t : Nat) :
    (stripP fuel b p t).1 * p ^ (stripP fuel b p t).2 = b * p ^ t := by
  fun_induction stripP fuel b p t with
  | case1 => rfl
  | case2 _ b p t h ih => rw [ih, pow_succ', ← mul_assoc, mul_comm (Int.tdiv b p), Int.mul_tdiv_cancel' (Int.dvd_of_tmod_eq_zero h.1)]
  | case3 => rfl

theorem stripTwo_inv (fuel : Nat) (b : Int) (t : Nat) : (stripTwo fuel b t).1 * 2 ^ (stripTwo fuel b t).2 = b * 2 ^ t := by
  fun_induction stripTwo fuel b t with
  | case1 => rfl
  | case2 _ b t h ih => rw [ih, pow_succ', ← mul_assoc, mul_comm (b / 2), Int.mul_ediv_cancel' (Int.dvd_of_emod_eq_zero h.1)]
  | case3 => rfl

theorem strip_root {s b q M X : Int} (hs : s * s ≡ b [ZMOD M]) (hX : X ≡ q * s [ZMOD M]) : X * X ≡ b * (q * q) [ZMOD M] :=
  calc X * X ≡ q * s * (q * s) [ZMOD M] := hX.mul hX
    _ = s * s * (q * q) := by ring
    _ ≡ b * (q * q) [ZMOD M] := hs.mul_right _

/-! ## lifting steps -/

/-- Newton's step for `x² = a`; every lift below is an instance -/
theorem newton_step (x a N q h w : Int) (hq : q ∣ N) (hw : x * x - a = N * w) (hh : q ∣ w + x * 2 * h) :
    (x + h * N) * (x + h * N) ≡ a [ZMOD N * q] := by
  obtain ⟨m, hm⟩ := hq
  obtain ⟨e, he⟩ := hh
  exact (Int.modEq_iff_dvd.mpr ⟨e + h * h * m, by linear_combination hw + N * he + (h * h * N) * hm⟩).symm

theorem lift_corr_dvd (r inv c u q : Int) (hinv : (r * inv - 1) % q = 0) (hu : q ∣ u + c) :
    q ∣ c + r * Int.tmod (inv * u) q := by
  obtain ⟨e, he⟩ := Int.dvd_of_emod_eq_zero hinv
  obtain ⟨f, hf⟩ := hu
  obtain ⟨d, hd⟩ := tmod_exists (inv * u) q
  rw [hd]
  exact ⟨f + e * u - r * d, by linear_combination hf + u * he⟩

theorem tdiv_neg_of_root {x a pk c : Int} (hpk : pk ≠ 0) (hc : x * x - a = pk * c) : Int.tdiv (a - x * x) pk = -c := by
  rw [show a - x * x = pk * (-c) by linarith, Int.mul_tdiv_cancel_left _ hpk]

theorem sqroothensellift_sound (x a pk : Int) (hpk : pk ≠ 0) (hx : x * x ≡ a [ZMOD pk])
    (hinv : (x * 2 * invmod (x * 2) pk - 1) % pk = 0) :
    sqroothensellift x a pk * sqroothensellift x a pk ≡ a [ZMOD pk * pk] := by
  obtain ⟨c, hc⟩ := hx.symm.dvd
  unfold sqroothensellift
  simp only []
  split
  · next h0 => rw [show x * x = a by linarith]
  · rw [tdiv_neg_of_root hpk hc]
    exact newton_step x a pk pk _ c (dvd_refl _) hc (lift_corr_dvd _ _ _ _ _ hinv ⟨0, by ring⟩)

/-- the common body of `sqrootonemorelift` and `sqrootmodtwolift`: `x` is a root of `a` modulo `N`; the defect `(a - x²)/N` is taken modulo `q`, divided by
    `r` modulo `q` (`r = 2x`, or `x` where 2 has no inverse), and that multiple of `N'` is added -/
def liftStep (x a N q N' r : Int) : Int :=
  let u := Int.tmod (Int.tdiv (a - x * x) N) q
  if u = 0 then x else x + Int.tmod (invmod r q * u) q * N'

theorem sqrootonemorelift_eq (x a p pk : Int) : sqrootonemorelift x a p pk = liftStep x a pk p pk (x * 2) := rfl

/-- with `pk = 2^k` the step works modulo `q = N' = 2^(k-1)`, hence the `2^k → 2^(2k-2)` of the header of `sqrootmodtwolift`
    (`twolift_root`) -/
theorem sqrootmodtwolift_eq (x a pk : Int) : sqrootmodtwolift x a pk = liftStep x a pk (pk / 2) (pk / 2) x := rfl

/-- `hrel`: `r = 2x`, `w = c` at an odd prime; `r = x`, `w = 2c` for the 2-adic lift, where `2x` is not invertible -/
theorem liftStep_sound (x a N q N' r c w : Int) (hN : N ≠ 0) (hc : x * x - a = N * c) (hw : x * x - a = N' * w) (hq : q ∣ N')
    (hrel : w * r = x * 2 * c) (hinv : (r * invmod r q - 1) % q = 0) :
    liftStep x a N q N' r * liftStep x a N q N' r ≡ a [ZMOD N' * q] := by
  unfold liftStep
  simp only [tdiv_neg_of_root hN hc]
  obtain ⟨e, he⟩ := Int.dvd_of_emod_eq_zero hinv
  obtain ⟨d, hd⟩ := tmod_exists (-c) q
  have key : ∀ h : Int, q ∣ h - invmod r q * (-c) → (x + h * N') * (x + h * N') ≡ a [ZMOD N' * q] := by
    rintro h ⟨f, hf⟩
    exact newton_step x a N' q h w hq hw ⟨x * 2 * f - w * e, by linear_combination (x * 2) * hf + invmod r q * hrel - w * he⟩
  split
  · next h0 => simpa using key 0 ⟨-(invmod r q * d), by rw [hd] at h0; linear_combination (-invmod r q) * h0⟩
  · obtain ⟨d', hd'⟩ := tmod_exists (invmod r q * Int.tmod (-c) q) q
    exact key _ ⟨-(d' + invmod r q * d), by rw [hd', hd]; ring⟩

/-! ## `sqrootlinear` and the unit branch of `sqrootmodprimepower` at an odd prime -/

theorem tdiv_pow_self (p : Int) (hp : p ≠ 0) (k : Nat) (hk : 1 ≤ k) : Int.tdiv (p ^ k) p = p ^ (k - 1) := by
  obtain ⟨j, rfl⟩ : ∃ j, k = j + 1 := ⟨k - 1, by omega⟩
  rw [pow_succ', Int.mul_tdiv_cancel_left _ hp]; rfl

theorem coprime_two_root (p : Int) (hp : Prime p) (hp2 : ¬ p ∣ 2) (a x m : Int) (hpm : p ∣ m)
    (hx : x * x ≡ a [ZMOD m]) (ha : ¬ p ∣ a) : IsCoprime (x * 2) p := by
  apply IsCoprime.symm
  rw [(Prime.irreducible hp).coprime_iff_not_dvd]
  intro hd
  rcases hp.dvd_or_dvd hd with h | h
  · exact ha ((hx.of_dvd hpm).dvd_iff.mp (h.mul_left x))
  · exact hp2 h

theorem sqrootlinear_eq {rnd : Nat → Int} {a p x : Int} (k : Nat) (h : sqrootmodprime rnd a p = some x) :
    sqrootlinear rnd a p k = some (if x = -1 then x else linearLoop a p (k - 1) x p) := by
  unfold sqrootlinear; rw [h]; rfl

/-- the unit branch of `sqrootmodprimepower` (`k ≥ 3`) after its recursive call (`sqrootmodprimepower_unit`); the counterpart of
    the model's `twoBigFinish` -/
def primePowerFinish (x a p : Int) (k : Nat) (pk : Int) : Int :=
  if x = -1 then x else
  let y := sqroothensellift x a (p ^ (k / 2))
  if k % 2 = 1 then (if y = -1 then y else sqrootonemorelift y a p (Int.tdiv pk p)) else y

theorem primePowerFinish_ne {x a p : Int} {k : Nat} {pk : Int} (hne : primePowerFinish x a p k pk ≠ -1) :
    x ≠ -1 ∧ (k % 2 = 1 → sqroothensellift x a (p ^ (k / 2)) ≠ -1) := by
  unfold primePowerFinish at hne
  refine ⟨fun hx => hne (by rw [if_pos hx]; exact hx), fun hk hy => hne ?_⟩
  by_cases hx : x = -1
  · rw [if_pos hx]; exact hx
  · simp only [hx, hk, hy, ↓reduceIte]

section
variable {rnd : Nat → Int} {n : Nat} {a p : Int} {k : Nat} {pk : Int}

theorem sqrootmodprimepower_early (h01 : a % pk = 0 ∨ a % pk = 1) : sqrootmodprimepower rnd (n + 1) a p k pk = some (a % pk) := by
  rw [sqrootmodprimepower]
  rcases h01 with h | h <;> simp [h]

variable (h01 : ¬ (a % pk = 0 ∨ a % pk = 1))
include h01

theorem sqrootmodprimepower_exp_one : sqrootmodprimepower rnd (n + 1) a p 1 pk = sqrootmodprime rnd (a % pk) p := by
  obtain ⟨h0, h1⟩ := not_or.mp h01
  rw [sqrootmodprimepower]; simp only [h0, h1, ↓reduceIte]

theorem sqrootmodprimepower_unit (hk : k ≠ 1) (hd : Int.tmod (a % pk) p ≠ 0) :
    sqrootmodprimepower rnd (n + 1) a p k pk =
      if k < 3 then sqrootlinear rnd a p k
      else (sqrootmodprimepower rnd n a p (k / 2) (p ^ (k / 2))).map (fun x => primePowerFinish x a p k pk) := by
  obtain ⟨h0, h1⟩ := not_or.mp h01
  rw [sqrootmodprimepower]
  simp only [h0, h1, hk, hd, ↓reduceIte]
  split
  · rfl
  · unfold primePowerFinish
    cases sqrootmodprimepower rnd n a p (k / 2) (p ^ (k / 2)) with
    | none => split <;> rfl
    | some x =>
      simp only [Option.map_some]
      by_cases hx : x = -1
      · simp only [hx, ↓reduceIte, ite_self]
      · simp only [hx, ↓reduceIte]
        split_ifs <;> rfl

end

section
variable {p a : Int} (hp : Prime p) (hp2 : ¬ p ∣ 2) (hna : ¬ p ∣ a)
  (hinv : ∀ z m : Int, IsCoprime z m → (z * invmod z m - 1) % m = 0)
include hp hp2 hna hinv

theorem hensellift_root (x : Int) (j : Nat) (hj : 1 ≤ j) (hx : x * x ≡ a [ZMOD p ^ j]) :
    sqroothensellift x a (p ^ j) * sqroothensellift x a (p ^ j) ≡ a [ZMOD p ^ (j + j)] := by
  rw [pow_add]
  exact sqroothensellift_sound x a _ (pow_ne_zero _ hp.ne_zero) hx
    (hinv _ _ (coprime_two_root p hp hp2 a x _ (dvd_pow_self p (by omega)) hx hna).pow_right)

theorem onemorelift_root (x : Int) (j : Nat) (hj : 1 ≤ j) (hx : x * x ≡ a [ZMOD p ^ j]) :
    sqrootonemorelift x a p (p ^ j) * sqrootonemorelift x a p (p ^ j) ≡ a [ZMOD p ^ (j + 1)] := by
  have hd : p ∣ p ^ j := dvd_pow_self p (by omega)
  obtain ⟨c, hc⟩ := hx.symm.dvd
  rw [sqrootonemorelift_eq, pow_succ]
  exact liftStep_sound x a _ p _ (x * 2) c c (pow_ne_zero _ hp.ne_zero) hc hc hd (mul_comm _ _)
    (hinv _ _ (coprime_two_root p hp hp2 a x _ hd hx hna))

theorem linearLoop_sound (n : Nat) : ∀ (j : Nat) (x : Int), 1 ≤ j → x * x ≡ a [ZMOD p ^ j] →
    linearLoop a p n x (p ^ j) * linearLoop a p n x (p ^ j) ≡ a [ZMOD p ^ (j + n)] := by
  induction n with
  | zero => intro j x _ hx; exact hx
  | succ n ih =>
    intro j x hj hx
    rw [linearLoop, ← pow_succ, show j + (n + 1) = j + 1 + n by omega]
    exact ih (j + 1) _ (by omega) (onemorelift_root hp hp2 hna hinv x j hj hx)

theorem linearLoop_root (k : Nat) (hk : 1 ≤ k) (x : Int) (hx : x * x ≡ a [ZMOD p]) :
    linearLoop a p (k - 1) x p * linearLoop a p (k - 1) x p ≡ a [ZMOD p ^ k] := by
  have := linearLoop_sound hp hp2 hna hinv (k - 1) 1 x (le_refl 1) (by rwa [pow_one])
  rwa [pow_one, show 1 + (k - 1) = k by omega] at this

theorem primePowerFinish_root (k : Nat) (hk : 3 ≤ k) (x : Int) (hx : x * x ≡ a [ZMOD p ^ (k / 2)]) (hx1 : x ≠ -1)
    (hy : k % 2 = 1 → sqroothensellift x a (p ^ (k / 2)) ≠ -1) :
    primePowerFinish x a p k (p ^ k) * primePowerFinish x a p k (p ^ k) ≡ a [ZMOD p ^ k] := by
  have h1 := hensellift_root hp hp2 hna hinv x (k / 2) (by omega) hx
  unfold primePowerFinish
  simp only [hx1, ↓reduceIte]
  split
  · next hodd =>
    rw [if_neg (hy hodd), tdiv_pow_self p hp.ne_zero k (by omega)]
    rw [show k / 2 + k / 2 = k - 1 by omega] at h1
    have := onemorelift_root hp hp2 hna hinv _ (k - 1) (by omega) h1
    rwa [show k - 1 + 1 = k by omega] at this
  · rwa [show k / 2 + k / 2 = k by omega] at h1

end

theorem sqroothensellift_one_ne (a pk : Int) (h : ¬ pk ∣ 2) : sqroothensellift 1 a pk ≠ -1 := by
  unfold sqroothensellift
  simp only []
  split
  · omega
  · intro hc
    exact h ⟨-(Int.tmod (invmod (1 * 2) pk * Int.tdiv (a - 1 * 1) pk) pk), by linarith⟩

/-- a returned root is never the report -1 (`emod_eq_one_of_root_neg_one`) -/
theorem primepower_result_ne_neg_one (rnd : Nat → Int) (fuel : Nat) (a p : Int) (k : Nat) (h3 : 3 ≤ p ^ k) (res : Int)
    (h : sqrootmodprimepower rnd fuel a p k (p ^ k) = some res) (hroot : res * res ≡ a [ZMOD p ^ k]) : res ≠ -1 := by
  intro hc
  cases fuel with
  | zero => simp [sqrootmodprimepower] at h
  | succ n =>
    have h1 := emod_eq_one_of_root_neg_one hc h3 hroot
    rw [sqrootmodprimepower_early (Or.inr h1)] at h
    injection h with h; omega

/-! ## square roots modulo powers of two -/

theorem odd_of_sq_congr (x a m : Int) (h2 : (2 : Int) ∣ m) (hx : x * x ≡ a [ZMOD m]) (ha : a % 2 = 1) : x % 2 = 1 := by
  have h : (2 : Int) ∣ x * x - a := dvd_trans h2 hx.symm.dvd
  obtain ⟨c, hc⟩ := h
  rcases Int.emod_two_eq_zero_or_one x with h0 | h1
  · exfalso
    obtain ⟨y, hy⟩ : ∃ y, x = 2 * y := ⟨x / 2, by omega⟩
    subst hy
    have : a = 2 * (2 * y * y - c) := by linear_combination -hc
    omega
  · exact h1

theorem sqrootmod8_sound (t : Int) (h : sqrootmod8 t ≠ -1) : sqrootmod8 t * sqrootmod8 t ≡ t [ZMOD 8] := by
  refine root_iff.mp ?_
  unfold sqrootmod8 at h ⊢
  simp only [] at h ⊢
  split_ifs at h ⊢ <;> omega

theorem sqrootmod8_odd (t : Int) (ht : t % 2 = 1) (h : sqrootmod8 t ≠ -1) : sqrootmod8 t = 1 := by
  unfold sqrootmod8 at h ⊢
  simp only [] at h ⊢
  split_ifs at h ⊢ <;> omega

theorem sqrootmod8_of_one (t : Int) (h : t % 8 = 1) : sqrootmod8 t = 1 := by
  unfold sqrootmod8; simp [h]

theorem mod8_of_mod_pow (a : Int) (k : Nat) (hk : 3 ≤ k) : (a % 2 ^ k) % 8 = a % 8 :=
  Int.emod_emod_of_dvd a (by rw [show (8 : Int) = 2 ^ 3 by norm_num]; exact pow_dvd_pow 2 hk)

/-- the correction `x + 2^(i-2)` of `sqroottwolinear` and of the odd-`k` branch: the Newton step with `N = Q`, `q = 4`, `h = 1` -/
theorem two_step (x a Q : Int) (hQ : 4 ∣ Q) (hxo : x % 2 = 1) (hx : 2 * Q ∣ x * x - a) (hn : ¬ 4 * Q ∣ x * x - a) :
    4 * Q ∣ (x + Q) * (x + Q) - a := by
  obtain ⟨c, hc⟩ := hx
  have hco : c % 2 = 1 := by
    rcases Int.emod_two_eq_zero_or_one c with h0 | h1
    · have h2 : c = 2 * (c / 2) := by omega
      exact absurd ⟨c / 2, by rw [hc]; linear_combination (2 * Q) * h2⟩ hn
    · exact h1
  have := (newton_step x a Q 4 1 (2 * c) hQ (by rw [hc]; ring) ⟨(c + x) / 2, by omega⟩).symm.dvd
  rwa [one_mul, mul_comm Q 4] at this

/-- the loop of `sqroottwolinear` with `pk = 4Q`, `pk2 = Q` -/
theorem twoLinearLoop_sound (a : Int) (ha0 : 0 ≤ a) : ∀ (n : Nat) (Q x : Int), 4 ∣ Q → x % 2 = 1 →
    2 * Q ∣ x * x - a → 2 * Q * 2 ^ n ∣ twoLinearLoop a n x (4 * Q) Q * twoLinearLoop a n x (4 * Q) Q - a := by
  intro n
  induction n with
  | zero => intro Q x _ _ hx; simpa [twoLinearLoop] using hx
  | succ n ih =>
    intro Q x hQ4 hxo hx
    rw [twoLinearLoop, show 4 * Q * 2 = 4 * (2 * Q) by ring, show 4 * Q / 2 = 2 * Q by omega,
      show 2 * Q * 2 ^ (n + 1) = 2 * (2 * Q) * 2 ^ n by rw [pow_succ]; ring]
    have hiff : (Int.tmod (x * x) (4 * Q) ≠ Int.tmod a (4 * Q)) ↔ ¬ 4 * Q ∣ x * x - a := by
      rw [Int.tmod_eq_emod_of_nonneg (mul_self_nonneg x), Int.tmod_eq_emod_of_nonneg ha0, not_iff_not,
        Int.emod_eq_emod_iff_emod_sub_eq_zero, ← Int.dvd_iff_emod_eq_zero]
    have hQ8 : (4 : Int) ∣ 2 * Q := Dvd.dvd.mul_left hQ4 2
    have e : 2 * (2 * Q) = 4 * Q := by ring
    by_cases hc : 4 * Q ∣ x * x - a
    · rw [if_neg (by rw [hiff]; exact not_not.mpr hc)]
      exact ih (2 * Q) x hQ8 hxo (by rwa [e])
    · rw [if_pos (hiff.mpr hc)]
      refine ih (2 * Q) _ hQ8 ?_ (by rw [e]; exact two_step x a Q hQ4 hxo hx hc)
      obtain ⟨Q', hQ'⟩ := hQ4
      omega

theorem sqroottwolinear_ne {t : Int} {k : Nat} (hne : sqroottwolinear t k ≠ -1) : sqrootmod8 t ≠ -1 := by
  intro h8
  apply hne
  unfold sqroottwolinear
  simp only [h8, true_or, ↓reduceIte]

theorem sqroottwolinear_root (t : Int) (k : Nat) (ht0 : 0 ≤ t) (hto : t % 2 = 1) (hk : 4 ≤ k) (h8 : sqrootmod8 t ≠ -1) :
    sqroottwolinear t k * sqroottwolinear t k ≡ t [ZMOD 2 ^ k] := by
  have hx8 := sqrootmod8_sound t h8
  have hx1 := sqrootmod8_odd t hto h8
  rw [hx1] at hx8
  have e : sqroottwolinear t k = twoLinearLoop t (k - 3) 1 (4 * 4) 4 := by
    unfold sqroottwolinear
    simp only [hx1]
    rw [if_neg (by omega)]; rfl
  have := twoLinearLoop_sound t ht0 (k - 3) 4 1 (dvd_refl 4) (by norm_num)
    (by norm_num; exact hx8.symm.dvd)
  rw [← e, show (2 : Int) * 4 * 2 ^ (k - 3) = 2 ^ k by
    rw [show (2 : Int) * 4 = 2 ^ 3 by norm_num, ← pow_add]; congr 1; omega] at this
  exact (Int.modEq_iff_dvd.mpr this).symm

section
variable (hinv : ∀ z m : Int, IsCoprime z m → (z * invmod z m - 1) % m = 0)
include hinv

theorem twolift_root (x t : Int) (j : Nat) (hto : t % 2 = 1) (hx : x * x ≡ t [ZMOD 2 ^ (j + 1)]) :
    sqrootmodtwolift x t (2 ^ (j + 1)) * sqrootmodtwolift x t (2 ^ (j + 1)) ≡ t [ZMOD 2 ^ (j + j)] := by
  have hxo := odd_of_sq_congr x _ _ (dvd_pow_self 2 (by omega)) hx hto
  have hhalf : (2 : Int) ^ (j + 1) / 2 = 2 ^ j := by rw [pow_succ, Int.mul_ediv_cancel _ (by norm_num)]
  obtain ⟨c, hc⟩ := hx.symm.dvd
  rw [sqrootmodtwolift_eq, hhalf, show (2 : Int) ^ (j + j) = 2 ^ j * 2 ^ j from pow_add 2 j j]
  exact liftStep_sound x t _ _ _ x c (2 * c) (by positivity) hc (by rw [hc, pow_succ]; ring) (dvd_refl _) (by ring)
    (hinv _ _ (IsCoprime.pow_right ⟨1, -(x / 2), by omega⟩))

/-- `hx1`, `hy`: the two tests `if (x == -1) return` of the `k ≥ 29` branch do not fire -/
theorem twoBigFinish_root (x t : Int) (k : Nat) (hk : 4 ≤ k) (hto : t % 2 = 1) (hx : x * x ≡ t [ZMOD 2 ^ (k / 2 + 1)])
    (hx1 : x ≠ -1) (hy : k % 2 = 1 → sqrootmodtwolift x t (2 ^ (k / 2 + 1)) ≠ -1) :
    twoBigFinish x t k (2 ^ k) (2 ^ (k / 2 + 1)) * twoBigFinish x t k (2 ^ k) (2 ^ (k / 2 + 1)) ≡ t [ZMOD 2 ^ k] := by
  have hl := twolift_root hinv x t (k / 2) hto hx
  unfold twoBigFinish
  simp only [hx1, ↓reduceIte]
  split
  · rwa [show k / 2 + k / 2 = k by omega] at hl
  · next hko =>
    rw [if_neg (hy (by omega)), show k / 2 + k / 2 = k - 1 by omega] at *
    have hxo' := odd_of_sq_congr _ _ _ (dvd_pow_self 2 (by omega)) hl hto
    -- with Q = 2^(k-2): the lifted value is a root modulo 2^(k-1) = 2Q, the modulus is 2^k = 4Q
    have e4 : (2 : Int) ^ k = 4 * 2 ^ (k - 2) := by
      rw [show (4 : Int) = 2 ^ 2 by norm_num, ← pow_add]; congr 1; omega
    have e2 : (2 : Int) ^ (k - 1) = 2 * 2 ^ (k - 2) := by rw [← pow_succ']; congr 1; omega
    have hQ : (4 : Int) ∣ 2 ^ (k - 2) := by
      rw [show (4 : Int) = 2 ^ 2 by norm_num]; exact pow_dvd_pow 2 (by omega)
    rw [e2] at hl
    rw [e4, Int.mul_ediv_cancel_left _ (by norm_num)]
    split
    · next hu => exact Int.modEq_iff_dvd.mpr (Int.dvd_of_tmod_eq_zero hu)
    · next hu =>
      refine (Int.modEq_iff_dvd.mpr (two_step _ _ _ hQ hxo' hl.symm.dvd fun hc => ?_)).symm
      exact hu (Int.tmod_eq_zero_of_dvd (dvd_sub_comm.mp hc))

end

theorem twoBigFinish_ne {x t : Int} {k : Nat} {pk spk : Int} (hne : twoBigFinish x t k pk spk ≠ -1) :
    x ≠ -1 ∧ (k % 2 = 1 → sqrootmodtwolift x t spk ≠ -1) := by
  unfold twoBigFinish at hne
  refine ⟨fun hx => hne (by rw [if_pos hx]; exact hx), fun hk hy => hne ?_⟩
  by_cases hx : x = -1
  · rw [if_pos hx]; exact hx
  · simp only [hx, hy, show ¬ k % 2 = 0 by omega, ↓reduceIte]

theorem sqrootmodtwolift_one_ne (a pk : Int) (h : ¬ pk / 2 ∣ 2) : sqrootmodtwolift 1 a pk ≠ -1 := by
  unfold sqrootmodtwolift
  simp only []
  split
  · omega
  · intro hc
    exact h ⟨-(Int.tmod (invmod 1 (pk / 2) * Int.tmod (Int.tdiv (a - 1 * 1) pk) (pk / 2)) (pk / 2)), by linarith⟩

section
variable {n : Nat} {a : Int} (k : Nat) {pk : Int}

theorem sqrootmodpoweroftwo_exp_one : sqrootmodpoweroftwo (n + 1) a 1 pk = some (a % pk) := by
  rw [sqrootmodpoweroftwo]; rfl

theorem sqrootmodpoweroftwo_exp_two :
    sqrootmodpoweroftwo (n + 1) a 2 pk = some (if a % pk = 0 ∨ a % pk = 1 then a % pk else -1) := by
  rw [sqrootmodpoweroftwo]
  simp only [OfNat.ofNat_ne_one, ↓reduceIte]
  by_cases h0 : a % pk = 0
  · simp [h0]
  · by_cases h1 : a % pk = 1 <;> simp [h0, h1]

theorem sqrootmodpoweroftwo_exp_three : sqrootmodpoweroftwo (n + 1) a 3 pk = some (sqrootmod8 (a % pk)) := by
  rw [sqrootmodpoweroftwo]; rfl

theorem sqrootmodpoweroftwo_early (hk : 4 ≤ k) (h01 : a % pk = 0 ∨ a % pk = 1) :
    sqrootmodpoweroftwo (n + 1) a k pk = some (a % pk) := by
  rw [sqrootmodpoweroftwo]
  rcases h01 with h | h <;> simp [show k ≠ 1 by omega, show k ≠ 2 by omega, show k ≠ 3 by omega, h]

theorem sqrootmodpoweroftwo_of_odd (hk : 4 ≤ k) (h01 : ¬ (a % pk = 0 ∨ a % pk = 1)) (ho : a % pk % 2 ≠ 0) :
    sqrootmodpoweroftwo (n + 1) a k pk =
      if k < 29 then some (sqroottwolinear (a % pk) k)
      else (sqrootmodpoweroftwo n (a % pk) (k / 2 + 1) (2 * 2 ^ (k / 2))).map
        (fun x => twoBigFinish x (a % pk) k pk (2 * 2 ^ (k / 2))) := by
  obtain ⟨h0, h1⟩ := not_or.mp h01
  rw [sqrootmodpoweroftwo]
  simp only [show k ≠ 1 by omega, show k ≠ 2 by omega, show k ≠ 3 by omega, h0, h1, ho, ↓reduceIte]
  split
  · rfl
  · cases sqrootmodpoweroftwo n (a % pk) (k / 2 + 1) (2 * 2 ^ (k / 2)) <;> rfl

end

theorem pow2_result_ne_neg_one (fuel : Nat) (a : Int) (k : Nat) (hk : 4 ≤ k) (res : Int)
    (h : sqrootmodpoweroftwo fuel a k (2 ^ k) = some res) (hroot : res * res ≡ a [ZMOD 2 ^ k]) : res ≠ -1 := by
  intro hc
  cases fuel with
  | zero => simp [sqrootmodpoweroftwo] at h
  | succ n =>
    have h16 : (2 : Int) ^ 4 ≤ 2 ^ k := pow_le_pow_right₀ (by norm_num) hk
    have h1 := emod_eq_one_of_root_neg_one hc (by omega) hroot
    rw [sqrootmodpoweroftwo_early k hk (Or.inr h1)] at h
    injection h with h; omega

/-! ## CRT recombination and sums of two squares -/

/-- Garner recombination (`IntRNSsystem::RnsToRing` as modelled) -/
theorem rnsGo_spec (hinv : ∀ z m : Int, IsCoprime z m → (z * invmod z m - 1) % m = 0) :
    ∀ (rest : List (Int × Int)) (v prod : Int),
      (∀ pr ∈ rest, IsCoprime prod pr.1) → List.Pairwise (fun x y : Int × Int => IsCoprime x.1 y.1) rest →
      rnsGo rest v prod ≡ v [ZMOD prod] ∧ ∀ pr ∈ rest, rnsGo rest v prod ≡ pr.2 [ZMOD pr.1] := by
  intro rest
  induction rest with
  | nil => intro v prod _ _; simp [rnsGo, Int.ModEq.refl]
  | cons pr t ih =>
    intro v prod hco hpw
    obtain ⟨p, r⟩ := pr
    rw [rnsGo]
    obtain ⟨hp, ht⟩ := List.pairwise_cons.mp hpw
    obtain ⟨h1, h2⟩ := ih (v + (r - v) * invmod prod p % p * prod) (prod * p)
      (fun q hq => (hco q (by simp [hq])).mul_left (hp q hq)) ht
    have hstep : v + (r - v) * invmod prod p % p * prod ≡ r [ZMOD p] :=
      CRT.garner_step (Int.mod_modEq _ _) (by rw [mul_comm]; exact root_iff.mp (hinv _ _ (hco (p, r) (by simp))))
    refine ⟨(h1.of_mul_right p).trans ?_, fun q hq => ?_⟩
    · exact Int.modEq_iff_dvd.mpr ⟨-((r - v) * invmod prod p % p), by ring⟩
    · rcases List.mem_cons.mp hq with rfl | h
      · exact (h1.of_mul_left prod).trans hstep
      · exact h2 q h

theorem rnsToRing_spec (hinv : ∀ z m : Int, IsCoprime z m → (z * invmod z m - 1) % m = 0) {α : Type} (f g : α → Int) :
    ∀ l : List α, l.Pairwise (fun x y => IsCoprime (f x) (f y)) →
      ∀ x ∈ l, rnsToRing (l.map f) (l.map g) ≡ g x [ZMOD f x] := by
  intro l hpw
  unfold rnsToRing
  rw [List.zip_map']
  cases l with
  | nil => intro x hx; simp at hx
  | cons y t =>
    obtain ⟨hy, ht⟩ := List.pairwise_cons.mp hpw
    obtain ⟨h1, h2⟩ := rnsGo_spec hinv (t.map fun x => (f x, g x)) (g y) (f y)
      (by simpa using hy) (by rw [List.pairwise_map]; exact ht)
    intro x hx
    rcases List.mem_cons.mp hx with rfl | hx
    · exact h1
    · exact h2 (f x, g x) (List.mem_map_of_mem hx)

/-- one component of `sqrootmod`: what the model's `sqrootmodL` maps over the factor list (`sqrootmodL_eq`) -/
def sqrtComponent (rnd : Nat → Int) (a : Int) (pe : Int × Nat) : Option Int :=
  if pe.1 = 2 then sqrootmodpoweroftwo (ppFuel pe.2) a pe.2 (pe.1 ^ pe.2)
  else sqrootmodprimepower rnd (ppFuel pe.2) a pe.1 pe.2 (pe.1 ^ pe.2)

theorem sqrootmodL_eq (rnd : Nat → Int) (a : Int) (fs : List (Int × Nat)) : sqrootmodL rnd a fs =
    if (fs.map (sqrtComponent rnd a)).any Option.isNone then none
    else if ((fs.map (sqrtComponent rnd a)).map fun r => r.getD 0).any (· == -1) then some (-1)
    else
      let x := rnsToRing (fs.map fun pe => pe.1 ^ pe.2) ((fs.map (sqrtComponent rnd a)).map fun r => r.getD 0)
      some (if x < 0 then -x else x) := rfl

theorem sqrootmodL_sound_components (rnd : Nat → Int) (a : Int) (fs : List (Int × Nat))
    (hinv : ∀ z m : Int, IsCoprime z m → (z * invmod z m - 1) % m = 0)
    (hpw : List.Pairwise (fun x y : Int × Nat => IsCoprime (x.1 ^ x.2) (y.1 ^ y.2)) fs)
    (hcomp : ∀ pe ∈ fs, ∀ r, sqrtComponent rnd a pe = some r → r ≠ -1 → r * r ≡ a [ZMOD pe.1 ^ pe.2])
    (res : Int) (h : sqrootmodL rnd a fs = some res) (hne : res ≠ -1) :
    ∀ pe ∈ fs, res * res ≡ a [ZMOD pe.1 ^ pe.2] := by
  rw [sqrootmodL_eq] at h
  split at h
  · simp at h
  next hnone =>
  split at h
  · injection h with h; exact absurd h.symm hne
  next hm1 =>
  injection h with h
  intro pe hpe
  have hcrt := rnsToRing_spec hinv (fun pe : Int × Nat => pe.1 ^ pe.2) ((fun r : Option Int => r.getD 0) ∘ sqrtComponent rnd a)
    fs hpw pe hpe
  rw [← List.map_map] at hcrt
  cases hr : sqrtComponent rnd a pe with
  | none => exact absurd (List.any_eq_true.mpr ⟨_, List.mem_map_of_mem hpe, by rw [hr]; rfl⟩) hnone
  | some r =>
    have hr1 : r ≠ -1 := fun hc =>
      hm1 (List.any_eq_true.mpr ⟨_, List.mem_map_of_mem (List.mem_map_of_mem hpe), by rw [hr, hc]; rfl⟩)
    rw [Function.comp_apply, hr, Option.getD_some] at hcrt
    have hsq : ∀ X : Int, (if X < 0 then -X else X) * (if X < 0 then -X else X) = X * X := by
      intro X; split <;> ring
    rw [← h, hsq]
    exact (hcrt.mul hcrt).trans (hcomp pe hpe r hr hr1)

theorem leastNonresidue_spec (p : Int) (fuel : Nat) (s l : Int) (h : leastNonresidue p fuel s = some l) : legendre l p = -1 := by
  fun_induction leastNonresidue p fuel s with
  | case1 => cases h
  | case2 _ _ hs => cases h; exact hs
  | case3 _ _ _ ih => exact ih h

/-- `sumofsquaresmodprimewithnonresidue(a, b, k, s, p)`: `b² ≡ s - 1` and `a² ≡ k/s`, so `a² + (ba)² ≡ a²·s ≡ k` -/
theorem sosqWithNonresidue_sound (rnd : Nat → Int) (k s p : Int)
    (hprime : ∀ a' r, sqrootmodprime rnd a' p = some r → r ≠ -1 → (r * r - a') % p = 0)
    (hinvs : (s * invmod s p - 1) % p = 0) (a b : Int)
    (h : sosqWithNonresidue rnd k s p = some (a, b)) :
    sqrootmodprime rnd (s - 1) p = some (-1) ∨ a = -1 ∨ a * a + b * b ≡ k [ZMOD p] := by
  unfold sosqWithNonresidue at h
  simp only [] at h
  split at h
  · simp at h
  · next b0 hb0 =>
    split at h
    · simp at h
    · next a0 ha0 =>
      simp only [Option.some.injEq, Prod.mk.injEq] at h
      obtain ⟨rfl, rfl⟩ := h
      by_cases hb1 : b0 = -1
      · left; rw [hb0, hb1]
      by_cases ha1 : a0 = -1
      · right; left; exact ha1
      right; right
      have hb := root_iff.mp (hprime _ _ hb0 hb1)
      have ha := (root_iff.mp (hprime _ _ ha0 ha1)).trans (Int.mod_modEq _ p)
      have ht := tmod_modEq (b0 * a0) p
      calc a0 * a0 + Int.tmod (b0 * a0) p * Int.tmod (b0 * a0) p ≡ a0 * a0 + b0 * a0 * (b0 * a0) [ZMOD p] := (ht.mul ht).add_left _
        _ = a0 * a0 * (1 + b0 * b0) := by ring
        _ ≡ k * invmod s p * (1 + (s - 1)) [ZMOD p] := ha.mul (hb.add_left 1)
        _ = k * (s * invmod s p) := by ring
        _ ≡ k * 1 [ZMOD p] := (root_iff.mp hinvs).mul_left k
        _ = k := mul_one k

/-- `sumofsquaresmodprime(a, b, k, p)` (= `…Deterministic`): `a² + b² ≡ k (mod p)` unless a square-root call of the run reported -1; the third
    alternative is the call `sqrootmodprime(b, l - 1, p)` for the least non-residue `l` that the run found -/
theorem sosqDeterministic_sound_bound (rnd : Nat → Int) (k p : Int)
    (hprime : ∀ a' r, sqrootmodprime rnd a' p = some r → r ≠ -1 → (r * r - a') % p = 0)
    (hinv : ∀ s : Int, legendre s p = -1 → (s * invmod s p - 1) % p = 0) (a b : Int)
    (h : sosqDeterministic rnd k p = some (a, b)) :
    a = -1 ∨ b = -1 ∨ (∃ l, leastNonresidue p drawFuel 2 = some l ∧ sqrootmodprime rnd (l - 1) p = some (-1)) ∨
      (a * a + b * b - k) % p = 0 := by
  unfold sosqDeterministic at h
  simp only [] at h
  split at h
  · next h0 =>
    simp only [Option.some.injEq, Prod.mk.injEq] at h
    right; right; right
    rw [← h.1, ← h.2]
    apply Int.emod_eq_zero_of_dvd
    simpa using Int.dvd_of_emod_eq_zero h0
  · split at h
    · obtain ⟨a0, hs, hab⟩ := Option.map_eq_some_iff.mp h
      obtain ⟨rfl, rfl⟩ := Prod.mk.inj hab
      by_cases ha1 : a0 = -1
      · exact Or.inl ha1
      right; right; right
      simpa using sub_emod_emod _ _ _ (hprime _ _ hs ha1)
    · split at h
      · obtain ⟨b0, hs, hab⟩ := Option.map_eq_some_iff.mp h
        obtain ⟨rfl, rfl⟩ := Prod.mk.inj hab
        by_cases hb1 : b0 = -1
        · exact Or.inr (Or.inl hb1)
        right; right; right
        have := hprime _ _ hs hb1
        rw [show b0 * b0 - (k % p - 1) = 1 * 1 + b0 * b0 - k % p by ring] at this
        exact sub_emod_emod _ _ _ this
      · split at h
        · simp at h
        · next l hl =>
          have hleg : legendre l p = -1 := leastNonresidue_spec p _ _ _ hl
          rcases sosqWithNonresidue_sound rnd (k % p) l p hprime (hinv l hleg) a b h with h1 | h1 | h1
          · exact Or.inr (Or.inr (Or.inl ⟨l, hl, h1⟩))
          · exact Or.inl h1
          · exact Or.inr (Or.inr (Or.inr (root_iff.mpr (h1.trans (Int.mod_modEq k p)))))

end Givaro.Lemmas.NumTheo
