/-
C14 — the system objects as state machines: the cache invariant, its closure under every operation (used alike by the histories
of one object and by the operation lists over several objects), and the answers of an object satisfying it as functions of its
moduli alone.
-/
import GivaroModel.Lemmas.CRTGarner

namespace Givaro.Lemmas.CRT
open Givaro.Model.CRT
open Givaro.Spec.CRT (prod mrValue)

/-! ### caches and environments, whatever the class -/

/-- the guard of every `ComputeCk` (`if (_ck.size() != 0) return;`): on a cache that is empty or already holds `fresh`,
    the guarded fill is the unconditional one -/
theorem guarded_fill {σ α : Type} (get : σ → List α) (set : σ → List α → σ) (hset : ∀ s, set s (get s) = s) {s : σ}
    {fresh : List α} (h : get s = [] ∨ get s = fresh) :
    (if (get s).length != 0 then s else set s fresh) = set s fresh := by
  rcases h with h | h
  · simp [h]
  · rw [ite_eq_right_iff]
    intro _
    rw [← h, hset]

theorem forall_set {σ : Type} {P : σ → Prop} {e : Nat → σ} (he : ∀ i, P (e i)) (s : Nat) {v : σ} (hv : P v) :
    ∀ i, P (if i = s then v else e i) := by
  intro i
  split
  · exact hv
  · exact he i

theorem obs_set_same {σ α : Type} (f : σ → α) (e : Nat → σ) {s : Nat} {v : σ} (h : f v = f (e s)) (i : Nat) :
    f (if i = s then v else e i) = f (e i) := by
  split
  · next hi => rw [h, hi]
  · rfl

/-! ### IntRNSsystem as a state machine -/

/-- every way of obtaining an `IntRNSsystem` object -/
inductive IntHist
  | default                          -- `IntRNSsystem()`
  | mk (ps : List Int)               -- `IntRNSsystem(primes)` (either constructor)
  | copy (h : IntHist)               -- copy constructor
  | assign (dst src : IntHist)       -- `dst = src`
  | useCk (h : IntHist)              -- any call that triggers `ComputeCk` (RnsToMixedRadix, RnsToRing, Reciprocals, reciprocal)
  | useProd (h : IntHist)            -- `product()`

def IntHist.eval (cof : Int → Int → Int) : IntHist → IntSys
  | .default => IntSys.empty
  | .mk ps => IntSys.ofPrimes ps
  | .copy h => (h.eval cof).copy
  | .assign d s => IntSys.assign (d.eval cof) (s.eval cof)
  | .useCk h => (h.eval cof).computeCk cof
  | .useProd h => (h.eval cof).computeProd

/-- the cache invariant of `IntRNSsystem` (`_prod = 1` means not yet computed) -/
def IntGood (cof : Int → Int → Int) (s : IntSys) : Prop :=
  (s.ck = [] ∨ s.ck = intComputeCk cof s.primes) ∧ (s.prod = 1 ∨ s.prod = prod s.primes)

theorem IntSys.computeCk_primes (cof : Int → Int → Int) (s : IntSys) : (s.computeCk cof).primes = s.primes := by
  unfold IntSys.computeCk; split <;> rfl

theorem IntSys.computeProd_primes (s : IntSys) : s.computeProd.primes = s.primes := by
  unfold IntSys.computeProd; split <;> rfl

theorem IntSys.rnsToRing_snd (cof : Int → Int → Int) (s : IntSys) (rs : List Int) :
    (s.rnsToRing cof rs).2 = mixedRadixToRing s.primes (s.rnsToMixedRadix cof rs).2 := by
  simp only [IntSys.rnsToRing, IntSys.rnsToMixedRadix, IntSys.computeCk_primes]

theorem IntSys.computeCk_eq {cof : Int → Int → Int} {s : IntSys} (h : s.ck = [] ∨ s.ck = intComputeCk cof s.primes) :
    s.computeCk cof = { s with ck := intComputeCk cof s.primes } :=
  guarded_fill IntSys.ck (fun s c => { s with ck := c }) (fun _ => rfl) h

theorem IntSys.computeProd_eq {s : IntSys} (h : s.prod = 1 ∨ s.prod = prod s.primes) :
    s.computeProd = { s with prod := prod s.primes } := by
  unfold IntSys.computeProd
  split
  · next h1 =>
    rw [h1]
    show { s with prod := prodList s.primes } = _
    rw [prodList_eq]
  · next h1 => rw [← h.resolve_left h1]

/-- a newly constructed object: `_prod(one), _ck(0)` -/
theorem IntGood.fresh (cof : Int → Int → Int) (ps : List Int) : IntGood cof ⟨ps, 1, []⟩ := ⟨Or.inl rfl, Or.inl rfl⟩

theorem IntGood.computeCk {cof : Int → Int → Int} {s : IntSys} (h : IntGood cof s) : IntGood cof (s.computeCk cof) := by
  rw [IntSys.computeCk_eq h.1]; exact ⟨Or.inr rfl, h.2⟩

theorem IntGood.computeProd {cof : Int → Int → Int} {s : IntSys} (h : IntGood cof s) : IntGood cof s.computeProd := by
  rw [IntSys.computeProd_eq h.2]; exact ⟨h.1, Or.inr rfl⟩

/-- copies and assignments carry the three members over, so their cases are the induction hypothesis of the source -/
theorem intHist_good (cof : Int → Int → Int) : ∀ h : IntHist, IntGood cof (h.eval cof)
  | .default => IntGood.fresh cof []
  | .mk ps => IntGood.fresh cof ps
  | .copy h => intHist_good cof h
  | .assign _ s => intHist_good cof s
  | .useCk h => (intHist_good cof h).computeCk
  | .useProd h => (intHist_good cof h).computeProd

/-- under the invariant every answer is a function of the primes alone -/
theorem IntGood.answers {cof : Int → Int → Int} {s : IntSys} (h : IntGood cof s) (rs : List Int) (a : Int) :
    (s.rnsToMixedRadix cof rs).2 = intRnsToMixedRadix s.primes (intComputeCk cof s.primes) rs ∧
    (s.rnsToRing cof rs).2 = mixedRadixToRing s.primes (intRnsToMixedRadix s.primes (intComputeCk cof s.primes) rs) ∧
    (s.reciprocals cof).2 = intComputeCk cof s.primes ∧
    s.product.2 = prod s.primes ∧
    s.toRns a = ringToRns s.primes a := by
  simp only [IntSys.rnsToMixedRadix, IntSys.rnsToRing, IntSys.reciprocals, IntSys.product, IntSys.toRns,
    IntSys.computeCk_eq h.1, IntSys.computeProd_eq h.2, and_self]

theorem IntGood.garner {cof : Int → Int → Int} (hcof : CofOK cof) {s : IntSys} (h : IntGood cof s) {rs : List Int}
    (hco : PairwiseCoprime s.primes) (hcan : Canon s.primes rs) :
    GarnerResult s.primes rs (s.rnsToMixedRadix cof rs).2 (s.rnsToRing cof rs).2 := by
  obtain ⟨a1, a2, _⟩ := h.answers rs 0
  rw [a1, a2]
  exact int_garner_result hcof _ rs hco.isCoprime hcan

/-! ### programs over several `IntRNSsystem` objects -/

theorem intStep_good (cof : Int → Int → Int) (e : IntEnv) (he : ∀ i, IntGood cof (e i)) :
    ∀ (op : IntOp) (i : Nat), IntGood cof (intStep cof e op i)
  | .construct s ps => forall_set he s (IntGood.fresh cof ps)
  | .default s => forall_set he s (IntGood.fresh cof [])
  | .copyConstruct s t | .assign s t => forall_set he s (he t)
  | .toRing s _ | .reciprocals s => forall_set he s (he s).computeCk
  | .product s => forall_set he s (he s).computeProd
  | .toRns _ _ => he

theorem intRun_good (cof : Int → Int → Int) (ops : List IntOp) (e : IntEnv) (he : ∀ i, IntGood cof (e i)) :
    ∀ i, IntGood cof (intRun cof e ops i) :=
  List.foldlRecOn (motive := fun e => ∀ i, IntGood cof (e i)) ops _ he (fun e he op _ => intStep_good cof e he op)

theorem intStep_primes (cof : Int → Int → Int) (e : IntEnv) (op : IntOp) :
    (fun i => (intStep cof e op i).primes) = intPrimesStep (fun i => (e i).primes) op := by
  funext i
  cases op with
  | toRing s _ | reciprocals s => exact obs_set_same IntSys.primes e (IntSys.computeCk_primes cof (e s)) i
  | product s => exact obs_set_same IntSys.primes e (IntSys.computeProd_primes (e s)) i
  | toRns s a => rfl
  | _ => exact apply_ite IntSys.primes _ _ _

theorem intRun_primes (cof : Int → Int → Int) (ops : List IntOp) (e : IntEnv) :
    (fun i => (intRun cof e ops i).primes) = intPrimesRun (fun i => (e i).primes) ops :=
  (List.foldl_hom (fun (e : IntEnv) i => (e i).primes) (fun e op => (intStep_primes cof e op).symm)).symm

theorem intRun_init_primes (cof : Int → Int → Int) (ops : List IntOp) (s : Nat) :
    (intRun cof IntEnv.init ops s).primes = intPrimesRun (fun _ => []) ops s :=
  congrFun (intRun_primes cof ops IntEnv.init) s

/-! ### RNSsystem<RING,Domain> as a state machine -/

inductive RnsHist
  | default                              -- `RNSsystem()`
  | mk (ps : List Int)                   -- `RNSsystem(domains)`
  | copy (h : RnsHist)                   -- copy constructor
  | assign (dst src : RnsHist)           -- `dst = src`
  | setPrimes (h : RnsHist) (ps : List Int)
  | useCk (h : RnsHist)

def RnsHist.eval (cof : Int → Int → Int) : RnsHist → RnsSys
  | .default => RnsSys.empty
  | .mk ps => RnsSys.ofPrimes ps
  | .copy h => (h.eval cof).copy
  | .assign d s => RnsSys.assign (d.eval cof) (s.eval cof)
  | .setPrimes h ps => (h.eval cof).setPrimes ps
  | .useCk h => (h.eval cof).computeCk cof

/-- the cache invariant of `RNSsystem` -/
def RnsGood (cof : Int → Int → Int) (s : RnsSys) : Prop :=
  s.ck = [] ∨ s.ck = rnsComputeCk cof s.primes

theorem RnsSys.computeCk_primes (cof : Int → Int → Int) (s : RnsSys) : (s.computeCk cof).primes = s.primes := by
  unfold RnsSys.computeCk; split <;> rfl

theorem RnsSys.rnsToRing_snd (cof : Int → Int → Int) (s : RnsSys) (rs : List Int) :
    (s.rnsToRing cof rs).2 = mixedRadixToRing s.primes (s.rnsToMixedRadix cof rs).2 := by
  simp only [RnsSys.rnsToRing, RnsSys.rnsToMixedRadix, RnsSys.computeCk_primes]

theorem RnsSys.computeCk_eq {cof : Int → Int → Int} {s : RnsSys} (h : RnsGood cof s) :
    s.computeCk cof = { s with ck := rnsComputeCk cof s.primes } :=
  guarded_fill RnsSys.ck (fun s c => { s with ck := c }) (fun _ => rfl) h

/-- a newly constructed object, and one after `setPrimes` (`_ck.resize(0)`) -/
theorem RnsGood.fresh (cof : Int → Int → Int) (ps : List Int) : RnsGood cof ⟨ps, []⟩ := Or.inl rfl

theorem RnsGood.computeCk {cof : Int → Int → Int} {s : RnsSys} (h : RnsGood cof s) : RnsGood cof (s.computeCk cof) := by
  rw [RnsSys.computeCk_eq h]; exact Or.inr rfl

theorem rnsHist_good (cof : Int → Int → Int) : ∀ h : RnsHist, RnsGood cof (h.eval cof)
  | .default => RnsGood.fresh cof []
  | .mk ps => RnsGood.fresh cof ps
  | .copy h => rnsHist_good cof h
  | .assign _ s => rnsHist_good cof s
  | .setPrimes _ ps => RnsGood.fresh cof ps
  | .useCk h => (rnsHist_good cof h).computeCk

theorem RnsGood.answers {cof : Int → Int → Int} {s : RnsSys} (h : RnsGood cof s) (rs : List Int) (a : Int) :
    (s.rnsToMixedRadix cof rs).2 = rnsRnsToMixedRadix s.primes (rnsComputeCk cof s.primes) rs ∧
    (s.rnsToRing cof rs).2 = mixedRadixToRing s.primes (rnsRnsToMixedRadix s.primes (rnsComputeCk cof s.primes) rs) ∧
    (s.reciprocals cof).2 = rnsComputeCk cof s.primes ∧
    s.toRns a = ringToRns s.primes a := by
  simp only [RnsSys.rnsToMixedRadix, RnsSys.rnsToRing, RnsSys.reciprocals, RnsSys.toRns, RnsSys.computeCk_eq h, and_self]

theorem RnsGood.garner {cof : Int → Int → Int} (hcof : CofOK cof) {s : RnsSys} (h : RnsGood cof s) {rs : List Int}
    (hco : PairwiseCoprime s.primes) (hcan : Canon s.primes rs) :
    GarnerResult s.primes rs (s.rnsToMixedRadix cof rs).2 (s.rnsToRing cof rs).2 := by
  obtain ⟨a1, a2, _⟩ := h.answers rs 0
  rw [a1, a2]
  exact rns_garner_result hcof _ rs hco.isCoprime hcan

/-! ### programs over several `RNSsystem` objects -/

theorem rnsStep_good (cof : Int → Int → Int) (e : RnsEnv) (he : ∀ i, RnsGood cof (e i)) :
    ∀ (op : RnsOp) (i : Nat), RnsGood cof (rnsStep cof e op i)
  | .construct s ps | .setPrimes s ps => forall_set he s (RnsGood.fresh cof ps)
  | .default s => forall_set he s (RnsGood.fresh cof [])
  | .copyConstruct s t | .assign s t => forall_set he s (he t)
  | .toRing s _ | .reciprocals s => forall_set he s (he s).computeCk
  | .toRns _ _ => he

theorem rnsRun_good (cof : Int → Int → Int) (ops : List RnsOp) (e : RnsEnv) (he : ∀ i, RnsGood cof (e i)) :
    ∀ i, RnsGood cof (rnsRun cof e ops i) :=
  List.foldlRecOn (motive := fun e => ∀ i, RnsGood cof (e i)) ops _ he (fun e he op _ => rnsStep_good cof e he op)

theorem rnsStep_primes (cof : Int → Int → Int) (e : RnsEnv) (op : RnsOp) :
    (fun i => (rnsStep cof e op i).primes) = rnsPrimesStep (fun i => (e i).primes) op := by
  funext i
  cases op with
  | toRing s _ | reciprocals s => exact obs_set_same RnsSys.primes e (RnsSys.computeCk_primes cof (e s)) i
  | toRns s a => rfl
  | _ => exact apply_ite RnsSys.primes _ _ _

theorem rnsRun_primes (cof : Int → Int → Int) (ops : List RnsOp) (e : RnsEnv) :
    (fun i => (rnsRun cof e ops i).primes) = rnsPrimesRun (fun i => (e i).primes) ops :=
  (List.foldl_hom (fun (e : RnsEnv) i => (e i).primes) (fun e op => (rnsStep_primes cof e op).symm)).symm

theorem rnsRun_init_primes (cof : Int → Int → Int) (ops : List RnsOp) (s : Nat) :
    (rnsRun cof RnsEnv.init ops s).primes = rnsPrimesRun (fun _ => []) ops s :=
  congrFun (rnsRun_primes cof ops RnsEnv.init) s

end Givaro.Lemmas.CRT
