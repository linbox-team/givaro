/-
C03 / C04: stores and `int` promotions of the machine types against powers of two; C's `%` followed by the sign fix-up is the canonical map
(`tmod_range`, `reduce_store`); the integral `Modular<Storage,Compute>` on
canonical operands (the one observable wrap-around is `add_wrap`); the shared `extended_euclid` on the rows of Lemmas/EuclidRows.
-/
import GivaroModel.Model.ModRing
import GivaroModel.Spec.ModRingSpec
import Mathlib.Tactic.Ring
import Mathlib.Tactic.Linarith
import Mathlib.Tactic.NormNum
import Mathlib.Data.Int.GCD
import GivaroModel.Lemmas.EuclidRows
import GivaroModel.Lemmas.WordLemmas
namespace Givaro.Model.ModRing
open Givaro.Spec.ModRing Givaro.Lemmas.Euclid

theorem canonU_isCanon (m x : Int) (hm : 0 < m) : isCanonU m (canonU m x) := emod_canon hm x

theorem canonU_sub_emod (m x : Int) : (canonU m x - x) % m = 0 := by
  unfold canonU
  rw [Int.emod_def x m, show x - m * (x / m) - x = m * (-(x / m)) by ring]
  exact Int.mul_emod_right _ _

theorem wrapUw_id {w : Nat} {x : Int} (h0 : 0 ≤ x) (h1 : x < (2 : Int) ^ w) : wrapUw w x = x :=
  Int.emod_eq_of_lt h0 h1

theorem wrapSw_id {w : Nat} {x : Int} (hw : 1 ≤ w) (h0 : -((2 : Int) ^ (w - 1)) ≤ x) (h1 : x < (2 : Int) ^ (w - 1)) :
    wrapSw w x = x := by
  unfold wrapSw
  have := two_pow_pred hw
  rw [Int.emod_eq_of_lt (by omega) (by omega)]; omega

theorem two_pow_mono {m n : Nat} (h : m ≤ n) : (2 : Int) ^ m ≤ (2 : Int) ^ n :=
  pow_le_pow_right₀ (by norm_num) h

theorem wrapUw_wrapUw (s : Nat) (z : Int) : wrapUw s (wrapUw s z) = wrapUw s z :=
  Int.emod_emod_of_dvd _ (Int.dvd_refl _)

theorem wrapUw_sub_congr {s : Nat} {X X' Y Y' : Int} (hX : wrapUw s X' = wrapUw s X) (hY : wrapUw s Y' = wrapUw s Y) :
    wrapUw s (X' - Y') = wrapUw s (X - Y) := by
  unfold wrapUw at *
  rw [Int.sub_emod, hX, hY, ← Int.sub_emod]

theorem wrapUw_wrapSw {s w : Nat} (h : s ≤ w) (z : Int) : wrapUw s (wrapSw w z) = wrapUw s z := by
  have hd : (2 : Int) ^ s ∣ (2 : Int) ^ w := pow_dvd_pow 2 h
  unfold wrapUw wrapSw
  rw [Int.sub_emod, Int.emod_emod_of_dvd _ hd, ← Int.sub_emod, Int.add_sub_cancel]

theorem wrapSw_add_left (w : Nat) (x y : Int) : wrapSw w (wrapSw w x + y) = wrapSw w (x + y) := by
  unfold wrapSw
  rw [show (x + (2 : Int) ^ (w - 1)) % (2 : Int) ^ w - (2 : Int) ^ (w - 1) + y + (2 : Int) ^ (w - 1)
    = (x + (2 : Int) ^ (w - 1)) % (2 : Int) ^ w + y by ring, Int.emod_add_emod]
  congr 2; ring

theorem wrapSw_sub_right (w : Nat) (x y : Int) : wrapSw w (x - wrapSw w y) = wrapSw w (x - y) := by
  unfold wrapSw
  rw [show x - ((y + (2 : Int) ^ (w - 1)) % (2 : Int) ^ w - (2 : Int) ^ (w - 1)) + (2 : Int) ^ (w - 1)
    = (x + (2 : Int) ^ (w - 1) + (2 : Int) ^ (w - 1)) - (y + (2 : Int) ^ (w - 1)) % (2 : Int) ^ w by ring, Int.sub_emod_emod]
  congr 2; ring

theorem promote_id {w : Nat} {x : Int} (hw : w < 32) (h0 : -((2 : Int) ^ w) ≤ x) (h1 : x < (2 : Int) ^ w) :
    wrapSw 32 x = x := by
  have : (2 : Int) ^ w ≤ (2 : Int) ^ (32 - 1) := two_pow_mono (by omega)
  exact wrapSw_id (by norm_num) (by omega) (by omega)

/-- `|y|` formed by negating in the unsigned type: safe at the minimum of the signed type -/
theorem wrapUw_neg_wrapUw {w : Nat} {y : Int} (h0 : y ≤ 0) (h1 : -((2 : Int) ^ w) < y) :
    wrapUw w (0 - wrapUw w y) = -y :=
  neg_wrap h1 h0

theorem uabs_eq {w : Nat} {y : Int} (h0 : -((2 : Int) ^ w) < y) (h1 : y < (2 : Int) ^ w) :
    (if y < 0 then wrapUw w (0 - wrapUw w y) else wrapUw w y) = if y < 0 then -y else y := by
  split
  · exact wrapUw_neg_wrapUw (by omega) h0
  · exact wrapUw_id (by omega) h1

theorem uabs_cast_eq {w : Nat} (hw : 1 ≤ w) {x : Int} (h0 : -((2 : Int) ^ (w - 1)) ≤ x) (h1 : x < (2 : Int) ^ w) :
    wrapUw w (if x < 0 then wrapUw w (0 - wrapUw w x) else x) = if x < 0 then -x else x := by
  have := two_pow_pred hw
  split
  · rw [wrapUw_neg_wrapUw (by omega) (by omega)]; exact wrapUw_id (by omega) (by omega)
  · exact wrapUw_id (by omega) h1

theorem wrapUw_arUSrc (w : Nat) (z : Int) : wrapUw w (ICfg.arUSrc w z) = wrapUw w z := by
  unfold ICfg.arUSrc; split
  · exact wrapUw_wrapSw (by omega) z
  · exact wrapUw_wrapUw _ _

theorem tmod_range (x p : Int) (hp : 0 < p) :
    -p < Int.tmod x p ∧ Int.tmod x p < p ∧ (Int.tmod x p < 0 → Int.tmod x p + p = x % p)
      ∧ (0 ≤ Int.tmod x p → Int.tmod x p = x % p) := by
  obtain ⟨h0, h1⟩ := emod_canon hp x
  have hn : (p.natAbs : Int) = p := Int.natAbs_of_nonneg (by omega)
  rw [Int.tmod_eq_emod]
  split
  · exact ⟨by omega, by omega, fun _ => by omega, fun _ => by omega⟩
  · rw [hn]
    exact ⟨by omega, by omega, fun _ => by omega, fun h => absurd h (by omega)⟩

theorem tmod_fix (x p : Int) (hp : 0 < p) :
    (if Int.tmod x p < 0 then Int.tmod x p + p else Int.tmod x p) = x % p := by
  obtain ⟨_, _, tn, tp⟩ := tmod_range x p hp
  split
  · next h => exact tn h
  · next h => exact tp (by omega)

/-- C's `%` (sign of the dividend), stored, `+ p` when negative; for an unsigned type `y ≥ 0` and `hneg` is vacuous -/
theorem reduce_store {st st' : Int → Int} {p y : Int} (hp : 0 < p) (hst : ∀ x, 0 ≤ x → x < p → st x = x)
    (hst' : ∀ x, 0 ≤ x → x < p → st' x = x) (hneg : Int.tmod y p < 0 → st (Int.tmod y p) = Int.tmod y p) :
    (if st (Int.tmod y p) < 0 then st' (st (Int.tmod y p) + p) else st (Int.tmod y p)) = y % p := by
  obtain ⟨t0, t1, tn, tp⟩ := tmod_range y p hp
  obtain ⟨h0, h1⟩ := emod_canon hp y
  by_cases h : Int.tmod y p < 0
  · rw [hneg h, if_pos h, tn h]; exact hst' _ h0 h1
  · rw [hst _ (by omega) t1, if_neg h]; exact tp (by omega)

namespace ICfg
variable {k : ICfg} {x : Int}

/-- one past the largest value of `Element` -/
def eTop (k : ICfg) : Int := if k.sg then (2 : Int) ^ (k.s - 1) else (2 : Int) ^ k.s

theorem eTop_le (k : ICfg) : k.eTop ≤ (2 : Int) ^ k.s := by
  unfold eTop; split
  · exact two_pow_mono (by omega)
  · exact Int.le_refl _

theorem eTop_pos (k : ICfg) : 0 < k.eTop := by
  unfold eTop; split <;> exact two_pow_pos _

theorem toC_id (h0 : 0 ≤ x) (h1 : x < (2 : Int) ^ k.c) : k.toC x = x := wrapUw_id h0 h1

theorem arC_id (h0 : 0 ≤ x) (h1 : x < (2 : Int) ^ k.c) : k.arC x = x := by
  unfold arC; split
  · next h => exact promote_id h (by omega) h1
  · exact wrapUw_id h0 h1

theorem toR_id (h0 : 0 ≤ x) (h1 : x < (2 : Int) ^ k.s) : k.toR x = x := wrapUw_id h0 h1

theorem arU_id (h0 : 0 ≤ x) (h1 : x < (2 : Int) ^ k.s) : k.arU x = x := by
  unfold arU; split
  · next h => exact promote_id h (by omega) h1
  · exact wrapUw_id h0 h1

theorem toE_id (hs : 1 ≤ k.s) (h0 : (if k.sg then -k.eTop else 0) ≤ x) (h1 : x < k.eTop) : k.toE x = x := by
  unfold eTop at h0 h1; unfold toE
  split
  · next h => rw [if_pos h] at h0 h1; rw [if_pos h] at h0; exact wrapSw_id hs h0 h1
  · next h => rw [if_neg h] at h0 h1; exact wrapUw_id h0 h1

theorem arE_id (hs : 1 ≤ k.s) (h0 : (if k.sg then -k.eTop else 0) ≤ x) (h1 : x < k.eTop) : k.arE x = x := by
  have ht := k.eTop_le
  unfold arE; split
  · next h => exact promote_id h (by split at h0 <;> omega) (by omega)
  · exact toE_id hs h0 h1

theorem toE_nn (hs : 1 ≤ k.s) (h0 : 0 ≤ x) (h1 : x < k.eTop) : k.toE x = x :=
  toE_id hs (by have := k.eTop_pos; split <;> omega) h1

theorem arE_nn (hs : 1 ≤ k.s) (h0 : 0 ≤ x) (h1 : x < k.eTop) : k.arE x = x :=
  arE_id hs (by have := k.eTop_pos; split <;> omega) h1

theorem wrapUw_arU (k : ICfg) (z : Int) : wrapUw k.s (k.arU z) = wrapUw k.s z := by
  unfold arU; split
  · next h => exact wrapUw_wrapSw (by omega) z
  · exact wrapUw_wrapUw _ _

theorem toE_arE_unsigned (hsg : k.sg = false) (z : Int) : k.toE (k.arE z) = wrapUw k.s z := by
  unfold toE arE toE
  simp only [hsg, Bool.false_eq_true, if_false]
  split
  · next h => exact wrapUw_wrapSw (by omega) z
  · exact wrapUw_wrapUw _ _

end ICfg

/-- the stores and promotions of a configuration are the identity on `[0, p]` (`Element`, `Residu_t`) resp. `[0, p²)` (`Compute_t`) -/
structure IOk (k : ICfg) (p : Int) : Prop where
  toE_id : ∀ x, 0 ≤ x → x ≤ p → k.toE x = x
  toC_id : ∀ x, 0 ≤ x → x < p * p → k.toC x = x
  arC_id : ∀ x, 0 ≤ x → x < p * p → k.arC x = x
  arE_id : ∀ x, 0 ≤ x → x ≤ p → k.arE x = x
  arU_id : ∀ x, 0 ≤ x → x ≤ p → k.arU x = x

theorem IOk.toE_emod {k : ICfg} {p : Int} (ok : IOk k p) (hp : 0 < p) (z : Int) : k.toE (z % p) = z % p :=
  ok.toE_id _ (emod_canon hp z).1 (Int.le_of_lt (emod_canon hp z).2)

theorem iok_of_bounds {k : ICfg} {p : Int} (hs : 1 ≤ k.s) (hE : p < k.eTop) (hC : p * p ≤ (2 : Int) ^ k.c) : IOk k p where
  toE_id x h0 h1 := ICfg.toE_nn hs h0 (by omega)
  toC_id x h0 h1 := ICfg.toC_id h0 (by omega)
  arC_id x h0 h1 := ICfg.arC_id h0 (by omega)
  arE_id x h0 h1 := ICfg.arE_nn hs h0 (by omega)
  arU_id x h0 h1 := ICfg.arU_id h0 (by have := k.eTop_le; omega)

theorem sq_le_two_pow {p : Int} {m n : Nat} (h0 : 0 ≤ p) (h : p ≤ (2 : Int) ^ m) (hmn : 2 * m ≤ n) :
    p * p ≤ (2 : Int) ^ n := by
  have h1 : p * p ≤ (2 : Int) ^ m * (2 : Int) ^ m := Int.mul_le_mul h h h0 (Int.le_of_lt (two_pow_pos m))
  rw [← pow_add] at h1
  exact Int.le_trans h1 (two_pow_mono (by omega))

theorem ICfg.bounds_of_maxCard {k : ICfg} (hs : 3 ≤ k.s) (hc : k.c = k.s ∨ k.c = 2 * k.s) {p : Int} (hp : 0 ≤ p)
    (hm : p ≤ k.maxCard) : p < k.eTop ∧ p * p ≤ (2 : Int) ^ k.c := by
  unfold ICfg.maxCard at hm
  unfold ICfg.eTop
  rcases hc with hc | hc
  · rw [if_pos hc] at hm
    have h1 : (2 : Int) ^ (k.s / 2) < (2 : Int) ^ (k.s - 1) := pow_lt_pow_right₀ (by norm_num) (by omega)
    have h2 := two_pow_mono (show k.s - 1 ≤ k.s by omega)
    exact ⟨by split <;> omega, sq_le_two_pow hp hm (by omega)⟩
  · rw [if_neg (by omega)] at hm
    split at hm
    · next hsg => rw [if_pos hsg]; exact ⟨by omega, sq_le_two_pow hp (by omega : p ≤ (2 : Int) ^ (k.s - 1)) (by omega)⟩
    · next hsg => rw [if_neg hsg]; exact ⟨by omega, sq_le_two_pow hp (by omega : p ≤ (2 : Int) ^ k.s) (by omega)⟩

theorem ICfg.valid.width {k : ICfg} (hv : k.valid) : 8 ≤ k.s ∧ (k.c = k.s ∨ k.c = 2 * k.s) := by
  obtain ⟨h1 | h1 | h1 | h1, h2⟩ := hv <;> exact ⟨by omega, h2⟩

theorem ICfg.valid.bounds {k : ICfg} (hv : k.valid) {p : Int} (hp : 0 ≤ p) (hm : p ≤ k.maxCard) :
    8 ≤ k.s ∧ p < k.eTop ∧ p * p ≤ (2 : Int) ^ k.c := by
  obtain ⟨hs, hc⟩ := hv.width
  exact ⟨hs, ICfg.bounds_of_maxCard (by omega) hc hp hm⟩

theorem iok_of_valid (k : ICfg) (hv : k.valid) (p : Int) (hp : 2 ≤ p) (hm : p ≤ k.maxCard) : IOk k p := by
  obtain ⟨hs, hE, hC⟩ := hv.bounds (by omega) hm
  exact iok_of_bounds (by omega) hE hC

/-- the unsigned `GenericAdd`: a lost carry shows as `r < a` -/
theorem add_wrap {M p a b : Int} (hM : p < M) (ha : 0 ≤ a ∧ a < p) (hb : 0 ≤ b ∧ b < p) :
    (if (a + b) % M ≥ p ∨ (a + b) % M < a then ((a + b) % M - p) % M else (a + b) % M) = (a + b) % p := by
  rw [add_emod_canon ha hb]
  by_cases hc : a + b < M
  · rw [Int.emod_eq_of_lt (by omega) hc]
    split
    · rw [if_neg (by omega)]; exact Int.emod_eq_of_lt (by omega) (by omega)
    · rw [if_pos (by omega)]
  · rw [emod_unique (by omega) (by omega) 1 (by ring : a + b = (a + b - M) + M * 1), if_pos (Or.inr (by omega)),
      if_neg (by omega)]
    exact emod_unique (by omega) (by omega) (-1) (by ring)

section ops
variable {k : ICfg} {p a b c : Int}

theorem mul_lt_sq (hp : 2 ≤ p) (ha : 0 ≤ a ∧ a < p) (hb : 0 ≤ b ∧ b < p) :
    0 ≤ a * b ∧ a * b ≤ (p - 1) * (p - 1) :=
  ⟨Int.mul_nonneg ha.1 hb.1, Int.mul_le_mul (by omega) (by omega) hb.1 (by omega)⟩

/-- `(p−1)² + p = p(p−1) + 1 < p²`: the largest intermediate of the fused operations, `a·b + (p − c)`, stays below `p²` -/
theorem sq_pred (hp : 2 ≤ p) :
    (p - 1) * (p - 1) + p = p * (p - 1) + 1 ∧ p * (p - 1) + 1 < p * p ∧ p - 1 ≤ (p - 1) * (p - 1) := by
  have h1 : p * (p - 1) = p * p - p := by ring
  have h2 : (p - 1) * 1 ≤ (p - 1) * (p - 1) := Int.mul_le_mul_of_nonneg_left (by omega) (by omega)
  exact ⟨by ring, by omega, by omega⟩

theorem lt_sq (hp : 2 ≤ p) : p < p * p := by
  have := sq_pred hp
  omega

theorem IOk.prod (ok : IOk k p) (hp : 2 ≤ p) (ha : 0 ≤ a ∧ a < p) (hb : 0 ≤ b ∧ b < p) :
    k.arC (k.toC a * k.toC b) = a * b := by
  have hab := mul_lt_sq hp ha hb
  have := sq_pred hp
  have := lt_sq hp
  rw [ok.toC_id a ha.1 (by omega), ok.toC_id b hb.1 (by omega), ok.arC_id _ hab.1 (by omega)]

theorem IOk.residue (ok : IOk k p) (hp : 2 ≤ p) {X : Int} (h0 : 0 ≤ X) : k.toE (Int.tmod X p) = X % p := by
  rw [Int.tmod_eq_emod_of_nonneg h0]
  exact ok.toE_emod (by omega) X

theorem mul_model (ok : IOk k p) (hp : 2 ≤ p) (ha : 0 ≤ a ∧ a < p) (hb : 0 ≤ b ∧ b < p) :
    k.mul p a b = (a * b) % p := by
  unfold ICfg.mul
  rw [ok.prod hp ha hb, ok.toC_id p (by omega) (lt_sq hp)]
  exact ok.residue hp (mul_lt_sq hp ha hb).1

theorem axpy_model (ok : IOk k p) (hp : 2 ≤ p) (ha : 0 ≤ a ∧ a < p) (hb : 0 ≤ b ∧ b < p) (hc : 0 ≤ c ∧ c < p) :
    k.axpy p a b c = (a * b + c) % p := by
  have hab := mul_lt_sq hp ha hb
  have hsq := sq_pred hp
  unfold ICfg.axpy
  have hpp := lt_sq hp
  rw [ok.prod hp ha hb, ok.toC_id c hc.1 (by omega), ok.toC_id p (by omega) hpp,
    ok.arC_id (a * b + c) (by omega) (by omega)]
  exact ok.residue hp (by omega)

theorem IOk.residue_axmy (ok : IOk k p) (hp : 2 ≤ p) (ha : 0 ≤ a ∧ a < p) (hb : 0 ≤ b ∧ b < p) (hc : 0 ≤ c ∧ c < p)
    {X : Int} (hX : X = a * b - c + p) : k.toE (Int.tmod X p) = (a * b - c) % p := by
  have hab := mul_lt_sq hp ha hb
  rw [ok.residue hp (by omega), hX, Int.add_emod_right]

theorem axmy_model (ok : IOk k p) (hp : 2 ≤ p) (ha : 0 ≤ a ∧ a < p) (hb : 0 ≤ b ∧ b < p) (hc : 0 ≤ c ∧ c < p) :
    k.axmy p a b c = (a * b - c) % p := by
  have hab := mul_lt_sq hp ha hb
  have hsq := sq_pred hp
  have hpp := lt_sq hp
  unfold ICfg.axmy
  rw [ok.prod hp ha hb, ok.toC_id c hc.1 (by omega), ok.toC_id p (by omega) hpp,
    ok.arC_id (a * b + p) (by omega) (by omega), ok.arC_id (a * b + p - c) (by omega) (by omega)]
  exact ok.residue_axmy hp ha hb hc (by omega)

theorem neg_model (ok : IOk k p) (hp : 2 ≤ p) (ha : 0 ≤ a ∧ a < p) :
    k.neg p a = (-a) % p := by
  unfold ICfg.neg
  rw [neg_emod_eq a p (by omega), Int.emod_eq_of_lt ha.1 ha.2]
  split
  · rfl
  · rw [ok.toE_id p (by omega) (by omega), ok.arE_id _ (by omega) (by omega), ok.toE_id _ (by omega) (by omega)]

theorem maxpy_model (ok : IOk k p) (hp : 2 ≤ p) (ha : 0 ≤ a ∧ a < p) (hb : 0 ≤ b ∧ b < p) (hc : 0 ≤ c ∧ c < p) :
    k.maxpy p a b c = (c - a * b) % p := by
  have hab := mul_lt_sq hp ha hb
  have hsq := sq_pred hp
  have hpp := lt_sq hp
  unfold ICfg.maxpy
  simp only
  rw [ok.prod hp ha hb, ok.toC_id c hc.1 (by omega), ok.toC_id p (by omega) hpp,
    ok.arC_id (p - c) (by omega) (by omega), ok.arC_id (a * b + (p - c)) (by omega) (by omega),
    ok.residue_axmy hp ha hb hc (by omega),
    neg_model ok hp (emod_canon (by omega) _), neg_emod_emod, Int.neg_sub]

theorem sub_model (ok : IOk k p) (hp : 2 ≤ p) (ha : 0 ≤ a ∧ a < p) (hb : 0 ≤ b ∧ b < p) :
    k.sub p a b = (a - b) % p := by
  unfold ICfg.sub
  rw [sub_emod_canon ha hb, ok.toE_id p (by omega) (by omega)]
  split
  · rw [ok.arE_id (p - b) (by omega) (by omega), ok.arE_id (p - b + a) (by omega) (by omega),
      ok.toE_id _ (by omega) (by omega)]
    omega
  · rw [ok.arE_id (a - b) (by omega) (by omega), ok.toE_id _ (by omega) (by omega)]

theorem negin_model (ok : IOk k p) (hp : 2 ≤ p) (ha : 0 ≤ a ∧ a < p) : k.negin p a = (-a) % p :=
  neg_model ok hp ha

/-- both variants are `add_wrap` modulo `2^s`: the signed one computes in the unsigned type of the same width -/
theorem add_model (hs : 1 ≤ k.s) (hE : p < k.eTop) (ha : 0 ≤ a ∧ a < p) (hb : 0 ≤ b ∧ b < p) :
    k.add p a b = (a + b) % p := by
  have hM : p < (2 : Int) ^ k.s := lt_of_lt_of_le hE k.eTop_le
  have hw := add_wrap hM ha hb
  unfold ICfg.add
  split
  · have hR : ∀ x, 0 ≤ x → x ≤ p → k.toR x = x := fun x h0 h1 => ICfg.toR_id h0 (by omega)
    obtain ⟨h0, h1⟩ := emod_canon (by omega : 0 < p) (a + b)
    simp only
    rw [hR a ha.1 (by omega), hR b hb.1 (by omega), hR p (by omega) (by omega)]
    unfold ICfg.toR
    rw [k.wrapUw_arU, k.wrapUw_arU]
    unfold wrapUw
    rw [hw]
    exact ICfg.toE_nn hs h0 (by omega)
  · next hsg =>
    have hsg : k.sg = false := by simpa using hsg
    have hp : k.toE p = p := by unfold ICfg.toE; rw [if_neg (by simp [hsg])]; exact wrapUw_id (by omega) hM
    simp only
    rw [ICfg.toE_arE_unsigned hsg, hp, ICfg.toE_arE_unsigned hsg]
    exact hw

end ops

theorem not_dvd_of_inverse {b x a : Int} (hb : 2 ≤ b) (h : b ∣ x * a - 1) : ¬ b ∣ x := fun hx => by
  have h1 : b ∣ 1 := (Int.dvd_iff_dvd_of_dvd_sub h).1 (Dvd.dvd.mul_right hx a)
  have := Int.le_of_dvd (by decide) h1
  omega

theorem emod_eq_one_of_dvd {p x a : Int} (h : p ∣ x * a - 1) : (x * a) % p = 1 % p :=
  Int.emod_eq_emod_iff_emod_sub_eq_zero.2 (Int.emod_eq_zero_of_dvd h)

theorem isQuot_of_inverse {p a b i : Int} (hp : 0 < p) (hi : (i * b) % p = 1 % p) :
    isQuot false p a b ((i * a) % p) = true := by
  unfold isQuot
  simp only [decide_eq_true_eq, isCanon, Bool.false_eq_true, if_false]
  refine ⟨emod_canon hp _, Int.emod_eq_zero_of_dvd ?_⟩
  have h1 : p ∣ i * b - 1 := Int.dvd_of_emod_eq_zero (Int.emod_eq_emod_iff_emod_sub_eq_zero.1 hi)
  have e : (i * a) % p * b - a = a * (i * b - 1) - p * ((i * a) / p * b) := by rw [Int.emod_def]; ring
  rw [e]
  exact Int.dvd_sub (Dvd.dvd.mul_left h1 _) (Int.dvd_mul_right _ _)

/-- `isOne(d) || isMOne(d)`, `mOne = p − 1`: `p − 1` divides `p` only for `p = 2` -/
theorem gcd_one_or_pred {a p : Int} (hp : 2 ≤ p) :
    ((Int.gcd a p : Int) = 1 ∨ (Int.gcd a p : Int) = p - 1) ↔ Int.gcd a p = 1 := by
  constructor
  · rintro (h | h)
    · exact_mod_cast h
    · have hd : p - 1 ∣ p := h ▸ Int.gcd_dvd_right a p
      have h1 : p - 1 ∣ 1 := by
        have := Int.dvd_sub hd (Int.dvd_refl (p - 1))
        rwa [show p - (p - 1) = 1 by omega] at this
      have := Int.le_of_dvd (by decide) h1
      have hp2 : p - 1 = 1 := by omega
      rw [hp2] at h; exact_mod_cast h
  · intro h; left; rw [h]; rfl

/-- what `extended_euclid<Element>` needs of an element type: stores and expressions are the identity on `[0, b]` -/
structure EOk (k : ICfg) (b : Int) : Prop where
  toE_id : ∀ x, 0 ≤ x → x ≤ b → k.toE x = x
  arE_id : ∀ x, 0 ≤ x → x ≤ b → k.arE x = x

theorem IOk.toEOk {k : ICfg} {p : Int} (ok : IOk k p) : EOk k p := ⟨ok.toE_id, ok.arE_id⟩

theorem sgn_not (ng : Bool) : (if (!ng) = true then (1 : Int) else -1) = -(if ng = true then 1 else -1) := by
  cases ng <;> rfl

/-- the sign follows the `neg` flag -/
abbrev ERows (a b : Int) (st : ICfg.EuState) : Prop :=
  SRows a b (if st.ng then 1 else -1) st.d st.r1 st.u0 st.u1

/-- nothing wraps in a pass (every intermediate is in `[0, b]`), so the pass is the row step -/
theorem euStep_rows {k : ICfg} {a b : Int} (ok : EOk k b) {st : ICfg.EuState} (h : ERows a b st) (hr : st.r1 ≠ 0) :
    ERows a b (k.euStep st) ∧ (k.euStep st).r1 < st.r1 := by
  obtain ⟨⟨hq0, hqb⟩, ⟨hqV0, hV'b⟩, ⟨hqr0, hqrb⟩, hrem⟩ := h.bounds hr
  have hs := h.step hr
  have hU := h.U0
  have hd : 0 ≤ st.d := le_of_lt (lt_of_le_of_lt h.r0 h.rd)
  have hmb : st.d % st.r1 ≤ b := le_of_lt (lt_of_lt_of_le hs.rd hs.db)
  have hv : k.euStep st = ⟨st.u1, st.d / st.r1 * st.u1 + st.u0, st.r1, st.d % st.r1, !st.ng⟩ := by
    unfold ICfg.euStep
    simp only
    rw [Int.tdiv_eq_ediv_of_nonneg hd, ok.toE_id _ hq0 hqb, ok.arE_id _ hqV0 (by omega), ok.arE_id _ (by omega) hV'b,
      ok.toE_id _ (by omega) hV'b, ok.arE_id _ hqr0 hqrb, hrem, ok.arE_id _ hs.r0 hmb, ok.toE_id _ hs.r0 hmb]
  rw [hv]
  refine ⟨?_, hs.rd⟩
  show SRows a b (if (!st.ng) = true then 1 else -1) _ _ _ _
  rw [sgn_not]; exact hs

theorem euLoop_rows {k : ICfg} {a b : Int} (ok : EOk k b) :
    ∀ (fuel : Nat) (st : ICfg.EuState), ERows a b st → st.r1 < fuel →
      ERows a b (k.euLoop fuel st) ∧ (k.euLoop fuel st).r1 = 0 := by
  intro fuel
  induction fuel with
  | zero => intro st h hf; have := h.r0; omega
  | succ n ih =>
    intro st h hf
    unfold ICfg.euLoop
    split
    · next hz => exact ⟨h, hz⟩
    · next hz =>
      obtain ⟨h', hlt⟩ := euStep_rows ok h hz
      exact ih _ h' (by push_cast at hf; omega)

theorem euclid_spec {k : ICfg} {a b : Int} (ok : EOk k b) (ha : 0 ≤ a ∧ a < b) (hb : 2 ≤ b) :
    (k.euclid a b).2 = (Int.gcd a b : Int) ∧ 0 ≤ (k.euclid a b).1 ∧ (k.euclid a b).1 < b
      ∧ b ∣ (k.euclid a b).1 * a - (k.euclid a b).2 := by
  have hfuel : a < ((2 * k.s + 2 + a.natAbs : Nat) : Int) := by
    have := ha.1
    omega
  obtain ⟨hR, hz⟩ := euLoop_rows ok (2 * k.s + 2 + a.natAbs) ⟨0, 1, b, a, true⟩ (SRows.init_lt ha.1 ha.2) hfuel
  unfold ICfg.euclid
  simp only
  generalize k.euLoop (2 * k.s + 2 + a.natAbs) ⟨0, 1, b, a, true⟩ = st at *
  unfold ERows at hR
  rw [hz] at hR
  refine ⟨hR.exit.1, ?_⟩
  have hU := hR.U0
  have hUb := hR.U_le
  cases hn : st.ng
  · rw [hn] at hR
    rw [if_neg (by simp)]
    exact ⟨hU, hR.U_lt (by omega), SRows.cof_noflag hR⟩
  · -- the flag is set: `u0·a ≡ −d`, the code returns `b − u0` (or `0` when `u0 = 0`)
    rw [hn] at hR
    obtain ⟨h1, h2, _⟩ := SRows.cof_flag hR
    by_cases hu : st.u0 > 0
    · rw [if_pos ⟨rfl, hu⟩, ok.arE_id _ (by omega) (by omega), ok.toE_id _ (by omega) (by omega)]
      exact ⟨by omega, by omega, h1⟩
    · rw [if_neg (fun h => hu h.2)]
      exact ⟨by omega, by omega, h2 (by omega)⟩

/-- `Modular_implem::isUnit` (`isOne(d) || isMOne(d)` after the shared Euclid); other element types use it through `asI` -/
theorem isUnit_iff {k : ICfg} {p a : Int} (eok : EOk k p) (hU : k.arU (p - 1) = p - 1) (hp : 2 ≤ p)
    (ha : 0 ≤ a ∧ a < p) : k.isUnit p a = true ↔ Int.gcd a p = 1 := by
  have hE : k.toE p = p := eok.toE_id p (by omega) (Int.le_refl p)
  have hmo : k.mOne p = p - 1 := by unfold ICfg.mOne; rw [hU]; exact eok.toE_id _ (by omega) (by omega)
  unfold ICfg.isUnit
  rw [hE]
  simp only [(euclid_spec eok ha hp).1, hmo, Bool.or_eq_true, beq_iff_eq]
  exact gcd_one_or_pred hp

end Givaro.Model.ModRing
