/-
C08 — `Poly1CRT` (Model/PolyCRT.lean) returns the interpolant `newton` (`Lemmas/PolyInterp.lean`) of the points with the
given residues: the polynomial of degree below the number of points that takes them.
-/
import GivaroModel.Lemmas.PolyInterp
import GivaroModel.Lemmas.PolyKara
import GivaroModel.Model.PolyCRT

open Polynomial
set_option linter.unusedSectionVars false

namespace Givaro.Lemmas.PolyCRT
open Givaro.Model.Poly Givaro.Model.PolyCRT Givaro.Lemmas.Poly Givaro.Lemmas.PolyInterp

variable {K : Type} [Field K] [DecidableEq K]

/-- the rounds of `ComputeCk` / `RnsToRing` add one point each to the interpolant -/
theorem loop_eq (thr : Nat) (rest : List (K × K)) : ∀ (prod I : List K) (prev : K) (done : List (K × K)),
    toPoly prod * (X - C prev) = prodX (done.map Prod.fst) → toPoly I = newton done →
    toPoly (loop thr prod I prev rest) = newton (rest.reverse ++ done) := by
  induction rest with
  | nil => intro _ _ _ _ _ hI; exact hI
  | cons pr rest ih =>
    intro prod I prev done hprod hI
    have hP1 : toPoly (mulin thr prod [-prev, 1]) = prodX (done.map Prod.fst) := by
      have e : toPoly ([-prev, 1] : List K) = X - C prev := by
        simp only [toPoly_cons, toPoly_nil, C_neg, C_1]; ring
      rw [toPoly_mulin, ← hprod, e]
    simp only [loop]
    rw [ih _ _ pr.1 (pr :: done) (by rw [hP1, List.map_cons, prodX, mul_comm])
      (by rw [toPoly_axpyinVal, toPoly_mulVal, eval_eq, eval_eq, hP1, hI, newton]),
      List.reverse_cons, List.append_assoc, List.singleton_append]

theorem rnsToRing_eq (thr : Nat) (p0 : K) (ps : List K) (r0 : K) (rs : List K) :
    toPoly (rnsToRing thr (p0 :: ps) (r0 :: rs)) = newton ((p0 :: ps).zip (r0 :: rs)).reverse := by
  rw [List.zip_cons_cons, List.reverse_cons]
  exact loop_eq thr (ps.zip rs) [1] (assignC r0) p0 [(p0, r0)] (by simp [prodX])
    (by rw [toPoly_assignC]; simp [newton, prodX])

theorem rnsToRing_spec (thr : Nat) (primes rns : List K) (hne : primes ≠ []) (hlen : rns.length = primes.length)
    (hnd : primes.Nodup) :
    (∀ q ∈ primes.zip rns, (toPoly (rnsToRing thr primes rns)).eval q.1 = q.2) ∧
    (toPoly (rnsToRing thr primes rns)).degree < (primes.length : WithBot ℕ) := by
  cases primes with
  | nil => exact absurd rfl hne
  | cons p0 ps =>
    cases rns with
    | nil => simp at hlen
    | cons r0 rs =>
      rw [rnsToRing_eq]
      refine ⟨fun q hq => newton_interp _ ?_ q (List.mem_reverse.mpr hq), ?_⟩
      · rw [List.map_reverse, List.map_fst_zip hlen.ge]
        exact List.nodup_reverse.mpr hnd
      · have := newton_degree ((p0 :: ps).zip (r0 :: rs)).reverse
        rwa [List.length_reverse, List.length_zip, Nat.min_eq_left hlen.ge] at this

end Givaro.Lemmas.PolyCRT
