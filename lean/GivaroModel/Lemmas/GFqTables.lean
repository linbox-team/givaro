/-
C05 — from the executable table checker to `ZechHyp`.
`Decoding K F dec`: `dec` maps the p-adic codes `< q` into a commutative ring `K` compatibly with the checker's code arithmetic
(`csucc`, `cmul`).  `Valid T` is `tablesValid T = true` as propositions (`tablesValid_iff`); with a decoding it gives `ZechHyp` for the
`Dom` of the dumped tables, `γ = dec (log2pol 1)`, `elt i = dec (log2pol i)` (`Valid.zechHyp`).  The decodings themselves are in
`GFqDecoding` (any ring with a root of the modulus; `Nat.cast : ℕ → ZMod p` for `k = 1`) and `GFqAdjoinRoot`.
-/
import GivaroModel.Lemmas.GFqZech
import GivaroModel.Spec.GFqSpec
import Mathlib.Data.ZMod.Basic
namespace Givaro.Lemmas.GFqZech
open Givaro.Model.Zech Givaro.Spec.GFq

structure Decoding (K : Type*) [CommRing K] (F : Field) (dec : Nat → K) : Prop where
  zero : dec 0 = 0
  one : dec 1 = 1
  succ : ∀ a, a < F.q → dec (F.csucc a) = dec a + 1
  mul : ∀ a b, a < F.q → b < F.q → dec (F.cmul a b) = dec a * dec b

theorem q_of_k1 (F : Field) (hk : F.k = 1) : F.q = F.p := by unfold Field.q; rw [hk, pow_one]

theorem p_dvd_q (F : Field) (hk : 1 ≤ F.k) : F.p ∣ F.q := dvd_pow_self _ (by omega)

theorem isPrime_iff {p : Nat} : isPrime p = true ↔ Nat.Prime p := by
  unfold isPrime
  simp only [Bool.and_eq_true, decide_eq_true_eq, List.all_eq_true, List.mem_range, Bool.or_eq_true,
    beq_iff_eq, bne_iff_ne, ne_eq]
  constructor
  · rintro ⟨h2, hall⟩
    rw [Nat.prime_def_le_sqrt]
    refine ⟨h2, fun m hm1 hm2 hdvd => ?_⟩
    rcases hall m (by omega) with (h | h) | h
    · omega
    · subst h
      have : m.sqrt < m := Nat.sqrt_lt_self (by omega)
      omega
    · exact h (Nat.mod_eq_zero_of_dvd hdvd)
  · intro hp
    refine ⟨hp.two_le, fun d _ => ?_⟩
    by_cases h2 : d < 2
    · exact Or.inl (Or.inl h2)
    by_cases hd : d = p
    · exact Or.inl (Or.inr hd)
    · refine Or.inr fun hmod => ?_
      rcases (Nat.dvd_prime hp).mp (Nat.dvd_of_mod_eq_zero hmod) with h | h
      · omega
      · exact hd h

theorem surj_of_inj_lt (q : Nat) (f : Nat → Nat) (hlt : ∀ i, i < q → f i < q)
    (hinj : ∀ i j, i < q → j < q → f i = f j → i = j) : ∀ b, b < q → ∃ j, j < q ∧ f j = b := by
  have hb : Function.Bijective (fun i : Fin q => (⟨f i.val, hlt i.val i.isLt⟩ : Fin q)) := by
    rw [← Finite.injective_iff_bijective]
    intro i j h
    exact Fin.ext (hinj i.val j.val i.isLt j.isLt (congrArg Fin.val h))
  intro b hb'
  obtain ⟨j, hj⟩ := hb.2 ⟨b, hb'⟩
  exact ⟨j.val, j.isLt, congrArg Fin.val hj⟩

/-- what `tablesValid` checks, as propositions (the list sweeps as bounded quantifiers over the index itself) -/
structure Valid (T : Tables) : Prop where
  prime : Nat.Prime T.F.p
  k_pos : 1 ≤ T.F.k
  q_ge : 2 ≤ T.q
  monic : T.F.k = 1 ∨ T.F.monic = true
  size_l2p : T.log2pol.size = T.q
  size_p2l : T.pol2log.size = T.q
  size_pl : T.plus1.size = T.q
  l2p_zero : T.l2p 0 = 0
  mo_lo : 1 ≤ T.mOne
  mo_hi : T.mOne ≤ (T.q : Int) - 1
  chain : ∀ i, 1 ≤ i → i + 1 < T.q → T.l2p (i + 1) = T.F.cmul (T.l2p i) (T.l2p 1)
  last : T.l2p (T.q - 1) = 1
  l2p_lt : ∀ i, i < T.q → T.l2p i < T.q
  p2l_l2p : ∀ i, i < T.q → T.p2l (T.l2p i) = i
  pl_zero : T.pl1 0 = 0
  succ_zero : ∀ i, 1 ≤ i → i < T.q → T.F.csucc (T.l2p i) = 0 → T.pl1 i = 0 ∧ T.mOne = (i : Int)
  succ_pos : ∀ i, 1 ≤ i → i < T.q → T.F.csucc (T.l2p i) ≠ 0 →
    -((T.q : Int) - 1) < T.pl1 i ∧ T.pl1 i < 0 ∧ T.l2p (T.pl1 i + ((T.q : Int) - 1)).toNat = T.F.csucc (T.l2p i)
  mOne : T.F.csucc (T.l2p T.mOne.toNat) = 0

theorem tablesValid_iff (T : Tables) : T.tablesValid = true ↔ Valid T := by
  unfold Tables.tablesValid Tables.chainOk Tables.bijOk Tables.plus1Ok Tables.mOneOk
  simp only [Bool.and_eq_true, Bool.or_eq_true, decide_eq_true_eq, beq_iff_eq, List.all_eq_true, List.mem_range,
    isPrime_iff]
  -- the `&&` chain of `tablesValid` associates to the left; its members in order: prime, `k ≥ 1`, `q ≥ 2`, monic, the three sizes,
  -- `l2p 0 = 0`, `1 ≤ mOne`, `mOne ≤ q - 1`, `chainOk` (chain, last entry), `bijOk`, `plus1Ok` (entry 0, the others), `mOneOk`
  constructor
  · rintro ⟨⟨⟨⟨⟨⟨⟨⟨⟨⟨⟨⟨⟨hp, hk⟩, hq⟩, hmon⟩, s1⟩, s2⟩, s3⟩, h0⟩, m1⟩, m2⟩, hch, hl⟩, hb⟩, p0, hpl⟩, hm⟩
    have hpl' : ∀ i, 1 ≤ i → i < T.q → _ := fun i h1 h2 => by
      have := hpl (i - 1) (by omega)
      rwa [Nat.sub_add_cancel h1] at this
    refine
      { prime := hp, k_pos := hk, q_ge := hq, monic := hmon, size_l2p := s1, size_p2l := s2, size_pl := s3, l2p_zero := h0,
        mo_lo := m1, mo_hi := m2, last := hl, l2p_lt := fun i hi => (hb i hi).1, p2l_l2p := fun i hi => (hb i hi).2,
        pl_zero := p0, mOne := hm, chain := fun i h1 h2 => ?_, succ_zero := fun i h1 h2 hc => ?_,
        succ_pos := fun i h1 h2 hc => ?_ }
    · have := hch (i - 1) (by omega)
      rwa [show i - 1 + 2 = i + 1 by omega, Nat.sub_add_cancel h1] at this
    · have := hpl' i h1 h2
      rwa [if_pos hc, Bool.and_eq_true, beq_iff_eq, beq_iff_eq] at this
    · have := hpl' i h1 h2
      rwa [if_neg hc, Bool.and_eq_true, Bool.and_eq_true, decide_eq_true_eq, decide_eq_true_eq, beq_iff_eq, and_assoc] at this
  · intro V
    refine ⟨⟨⟨⟨⟨⟨⟨⟨⟨⟨⟨⟨⟨V.prime, V.k_pos⟩, V.q_ge⟩, V.monic⟩, V.size_l2p⟩, V.size_p2l⟩, V.size_pl⟩, V.l2p_zero⟩, V.mo_lo⟩,
      V.mo_hi⟩, fun j hj => V.chain (j + 1) (by omega) (by omega), V.last⟩, fun i hi => ⟨V.l2p_lt i hi, V.p2l_l2p i hi⟩⟩,
      V.pl_zero, fun j hj => ?_⟩, V.mOne⟩
    by_cases hc : T.F.csucc (T.l2p (j + 1)) = 0
    · rw [if_pos hc, Bool.and_eq_true, beq_iff_eq, beq_iff_eq]
      exact V.succ_zero (j + 1) (by omega) (by omega) hc
    · rw [if_neg hc, Bool.and_eq_true, Bool.and_eq_true, decide_eq_true_eq, decide_eq_true_eq, beq_iff_eq, and_assoc]
      exact V.succ_pos (j + 1) (by omega) (by omega) hc

section
variable {K : Type*} [CommRing K] {dec : Nat → K} {T : Tables}

theorem Valid.of_check (hv : T.tablesValid = true) : Valid T := (tablesValid_iff T).1 hv

theorem Valid.l2p_inj (V : Valid T) (i j : Nat) (hi : i < T.q) (hj : j < T.q) (h : T.l2p i = T.l2p j) : i = j := by
  rw [← V.p2l_l2p i hi, ← V.p2l_l2p j hj, h]

theorem Valid.p2l_right (V : Valid T) (c : Nat) (hc : c < T.q) : T.p2l c < T.q ∧ T.l2p (T.p2l c) = c := by
  obtain ⟨j, hj, rfl⟩ := surj_of_inj_lt T.q T.l2p V.l2p_lt V.l2p_inj c hc
  rw [V.p2l_l2p j hj]
  exact ⟨hj, rfl⟩

theorem Valid.zechHyp (V : Valid T) (D : Decoding K T.F dec) :
    ZechHyp T.dom (T.q : Int) (dec (T.l2p 1)) (fun i => dec (T.l2p i.toNat)) := by
  have hq := V.q_ge
  have hpow : ∀ n, 1 ≤ n → n < T.q → dec (T.l2p n) = dec (T.l2p 1) ^ n := by
    intro n h1
    induction n, h1 using Nat.le_induction with
    | base => intro _; rw [pow_one]
    | succ n h1 ih =>
      intro hn
      rw [V.chain n h1 hn, D.mul _ _ (V.l2p_lt _ (by omega)) (V.l2p_lt _ (by omega)), ih (by omega), pow_succ]
  have eltpow : ∀ i : Int, 1 ≤ i → i ≤ (T.q : Int) - 1 → dec (T.l2p i.toNat) = dec (T.l2p 1) ^ i.toNat :=
    fun i h1 h2 => hpow i.toNat (by omega) (by omega)
  have hsucc : ∀ i : Int, 1 ≤ i → i ≤ (T.q : Int) - 1 →
      dec (T.F.csucc (T.l2p i.toNat)) = dec (T.l2p 1) ^ i.toNat + 1 := fun i h1 h2 => by
    rw [D.succ _ (V.l2p_lt _ (by omega)), eltpow i h1 h2]
  have hnz : ∀ i : Int, 1 ≤ i → i ≤ (T.q : Int) - 1 → T.pl1 i.toNat ≠ 0 →
      -((T.q : Int) - 1) < T.pl1 i.toNat ∧ T.pl1 i.toNat < 0 ∧
      dec (T.l2p 1) ^ (T.pl1 i.toNat + ((T.q : Int) - 1)).toNat = dec (T.l2p 1) ^ i.toNat + 1 := by
    intro i h1 h2 hne
    have hc : T.F.csucc (T.l2p i.toNat) ≠ 0 := fun hc => hne (V.succ_zero _ (by omega) (by omega) hc).1
    obtain ⟨a, b, c⟩ := V.succ_pos _ (by omega) (by omega) hc
    refine ⟨a, b, ?_⟩
    rw [← eltpow _ (by omega) (by omega), c, hsucc i h1 h2]
  exact
    { q_ge := by omega
      mun_eq := rfl
      elt_zero := by show dec (T.l2p 0) = 0; rw [V.l2p_zero, D.zero]
      elt_pow := eltpow
      pow_card := by
        rw [← eltpow _ (by omega) (le_refl _), show ((T.q : Int) - 1).toNat = T.q - 1 by omega, V.last, D.one]
      mo_lo := V.mo_lo
      mo_hi := V.mo_hi
      mo_neg := by
        have h := hsucc T.mOne V.mo_lo V.mo_hi
        rw [V.mOne, D.zero] at h
        exact eq_neg_of_add_eq_zero_left h.symm
      pl_zero := fun i h1 h2 hz => by
        have hc : T.F.csucc (T.l2p i.toNat) = 0 := by
          by_contra hc
          have := (V.succ_pos _ (by omega) (by omega) hc).2.1
          have hz' : T.pl1 i.toNat = 0 := hz
          omega
        have h := hsucc i h1 h2
        rw [hc, D.zero] at h
        exact h.symm
      pl_lo := fun i h1 h2 hne => (hnz i h1 h2 hne).1
      pl_hi := fun i h1 h2 hne => (hnz i h1 h2 hne).2.1
      pl_pow := fun i h1 h2 hne => (hnz i h1 h2 hne).2.2 }

end

end Givaro.Lemmas.GFqZech
