/-
C03 / C04, floating, balanced and extended rings: `fmod` / `%` followed by one NORMALISE is the balanced canonical map;
then per ring the `maxCardinality()` constants against the mantissa resp. word, hence `fit … = some …` / no wrap for every
intermediate (`FOk`, `BFOk`, `BICfg.wr_id`, `ECfg.f_id`), and what the floating Euclid needs of each ring (`FOk.fuel`, `*_fsok`).
-/
import GivaroModel.Lemmas.ModRingLemmas
import GivaroModel.Model.ModRingExt
namespace Givaro.Model.ModRing
open Givaro.Spec.ModRing

theorem fit_some {bits : Nat} {x : Int} (h0 : -((2 : Int) ^ bits) ≤ x) (h1 : x ≤ (2 : Int) ^ bits) :
    fit bits x = some x := by
  unfold fit; rw [if_pos ⟨h0, h1⟩]

theorem canonB_unique {p z r : Int} (hp : 0 < p) (hr : isCanonB p r) (j : Int) (h : z = r + p * j) :
    canonB p z = r := by
  unfold isCanonB at hr
  unfold canonB
  by_cases hr0 : 0 ≤ r
  · have e : z % p = r := emod_unique hr0 (by omega) j h
    rw [e]; rw [if_neg (by omega)]
  · have e : z % p = r + p := emod_unique (by omega) (by omega) (j - 1) (by rw [h]; ring)
    rw [e]; rw [if_pos (by omega)]; ring

theorem canonB_isCanon (p x : Int) (hp : 0 < p) : isCanonB p (canonB p x) := by
  have h0 := Int.emod_nonneg x (by omega : p ≠ 0)
  have h1 := Int.emod_lt_of_pos x hp
  unfold isCanonB canonB
  split <;> omega

theorem canonB_sub_dvd (p z : Int) : p ∣ canonB p z - z := by
  unfold canonB
  split
  · exact ⟨-(z / p) - 1, by rw [Int.emod_def]; ring⟩
  · exact ⟨-(z / p), by rw [Int.emod_def]; ring⟩

theorem isQuotB_of_dvd {p a b z : Int} (hp : 0 < p) (h : p ∣ z * b - a) : isQuot true p a b (canonB p z) = true := by
  unfold isQuot
  simp only [decide_eq_true_eq, isCanon, if_true]
  refine ⟨canonB_isCanon p z hp, Int.emod_eq_zero_of_dvd ?_⟩
  have e : canonB p z * b - a = (canonB p z - z) * b + (z * b - a) := by ring
  rw [e]; exact Int.dvd_add (Dvd.dvd.mul_right (canonB_sub_dvd p z) _) h

theorem normB_canon {p z : Int} (hp : 0 < p) (h0 : p / 2 - p + 1 - p ≤ z) (h1 : z ≤ p / 2 + p) :
    normB p z = canonB p z := by
  symm
  unfold normB
  simp only
  split
  · exact canonB_unique hp (by unfold isCanonB; omega) (-1) (by ring)
  · split
    · exact canonB_unique hp (by unfold isCanonB; omega) 1 (by ring)
    · exact canonB_unique hp (by unfold isCanonB; omega) 0 (by ring)

/-- `+ p` only at `a = p/2` for an even modulus -/
theorem negB_canon {p a : Int} (hp : 0 < p) (ha : isCanonB p a) :
    (if -a < p / 2 - p + 1 then -a + p else -a) = canonB p (-a) := by
  unfold isCanonB at ha
  symm; split
  · exact canonB_unique hp (by unfold isCanonB; omega) (-1) (by ring)
  · exact canonB_unique hp (by unfold isCanonB; omega) 0 (by ring)

theorem canonB_of_emod_eq {p x y : Int} (h : x % p = y % p) : canonB p x = canonB p y := by
  unfold canonB; rw [h]

theorem canonB_neg_canonB (p z : Int) : canonB p (-(canonB p z)) = canonB p (-z) := by
  apply canonB_of_emod_eq
  apply Int.emod_eq_emod_iff_emod_sub_eq_zero.2
  apply Int.emod_eq_zero_of_dvd
  rw [show -canonB p z - -z = -(canonB p z - z) by ring]
  exact Int.dvd_neg.2 (canonB_sub_dvd p z)

theorem normB_tmod (x p : Int) (hp : 0 < p) : normB p (Int.tmod x p) = canonB p x := by
  obtain ⟨t0, t1, tn, tp⟩ := tmod_range x p hp
  rw [normB_canon hp (by omega) (by omega)]
  apply canonB_of_emod_eq
  by_cases h : Int.tmod x p < 0
  · rw [← tn h]; exact emod_unique (by omega) (by omega) (-1) (by ring)
  · rw [← tp (by omega)]; exact Int.emod_eq_of_lt (by omega) t1

/-- the body shared by `FCfg.initSInt` and `ECfg.initSInt`: reduce the magnitude `|a|`, store it (`f`), negate when `a < 0` -/
theorem sint_reduce {p a : Int} (hp : 0 < p) {f neg : Int → Option Int} (hf : ∀ x, 0 ≤ x → x < p → f x = some x)
    (hneg : ∀ r, 0 ≤ r ∧ r < p → neg r = some ((-r) % p)) :
    (do let r ← f (Int.tmod (if a < 0 then -a else a) p)
        if a < 0 then neg r else pure r) = some (a % p) := by
  by_cases h : a < 0
  · obtain ⟨h0, h1⟩ := emod_canon hp (-a)
    simp only [if_pos h]
    rw [Int.tmod_eq_emod_of_nonneg (by omega), hf _ h0 h1]
    simp only [Option.bind_eq_bind, Option.bind_some]
    rw [hneg _ ⟨h0, h1⟩, neg_emod_emod, Int.neg_neg]
  · obtain ⟨h0, h1⟩ := emod_canon hp a
    simp only [if_neg h]
    rw [Int.tmod_eq_emod_of_nonneg (by omega), hf _ h0 h1]
    rfl

/-- `4096·4095+1 ≤ 2^24`, `94906266·94906265+1 ≤ 2^53`, `16777216·16777215+1 ≤ 2^53` -/
theorem FCfg.card_bounds {k : FCfg} (hv : k.valid) {p : Int} (hm : p ≤ k.maxCard) :
    p ≤ (2 : Int) ^ k.ms ∧ p < (2 : Int) ^ 32 ∧ (1 ≤ p → p * (p - 1) + 1 ≤ (2 : Int) ^ k.mc) := by
  -- for one maximum `B`: `p(p−1) ≤ B(B−1)`, the rest is arithmetic on the constants
  have one : ∀ B S C : Int, p ≤ B → B ≤ S → B < (2 : Int) ^ 32 → B * (B - 1) + 1 ≤ C →
      p ≤ S ∧ p < (2 : Int) ^ 32 ∧ (1 ≤ p → p * (p - 1) + 1 ≤ C) := fun B S C hB hS h32 hC =>
    ⟨by omega, by omega, fun h1 => by
      have := Int.mul_le_mul hB (show p - 1 ≤ B - 1 by omega) (by omega) (by omega)
      omega⟩
  obtain ⟨ms, mc⟩ := k
  rcases hv with ⟨h1, h2⟩ | ⟨h1, h2⟩ | ⟨h1, h2⟩
  · simp only at h1 h2
    subst h1 h2
    exact one 4096 _ _ (by simpa [FCfg.maxCard] using hm) (by norm_num) (by norm_num) (by norm_num)
  · simp only at h1 h2
    subst h1 h2
    exact one 94906266 _ _ (by simpa [FCfg.maxCard] using hm) (by norm_num) (by norm_num) (by norm_num)
  · simp only at h1 h2
    subst h1 h2
    exact one 16777216 _ _ (by simpa [FCfg.maxCard] using hm) (by norm_num) (by norm_num) (by norm_num)

theorem FCfg.wrapUw_p {k : FCfg} (hv : k.valid) {p : Int} (hm : p ≤ k.maxCard) (hp : 0 ≤ p) {w : Nat} (hw : 32 ≤ w) :
    wrapUw w p = p := by
  have := (FCfg.card_bounds hv hm).2.1
  have := two_pow_mono hw
  exact wrapUw_id hp (by omega)

theorem sq_lt_fuel {p : Int} {m : Nat} (h0 : 0 ≤ p) (h : p ≤ (2 : Int) ^ m) : p * p < (2 : Int) ^ (2 * m + 3) := by
  have h1 := sq_le_two_pow h0 h (Nat.le_refl (2 * m))
  have h2 : (2 : Int) ^ (2 * m) < (2 : Int) ^ (2 * m + 3) := pow_lt_pow_right₀ (by norm_num) (by omega)
  omega

/-- the mantissa of `Storage_t` holds `p`, that of `Compute_t` holds `p(p−1)+1` (the largest intermediate, `a·x + (p − y)`) -/
structure FOk (k : FCfg) (p : Int) : Prop where
  p2 : 2 ≤ p
  sS : p ≤ (2 : Int) ^ k.ms
  sC : p * (p - 1) + 1 ≤ (2 : Int) ^ k.mc

theorem fok_of_valid (k : FCfg) (hv : k.valid) (p : Int) (hp : 2 ≤ p) (hm : p ≤ k.maxCard) : FOk k p :=
  ⟨hp, (FCfg.card_bounds hv hm).1, (FCfg.card_bounds hv hm).2.2 (by omega)⟩

namespace FOk
variable {k : FCfg} {p : Int} (ok : FOk k p)
include ok

theorem fS_id (x : Int) (h0 : -p ≤ x) (h1 : x ≤ p) : k.fS x = some x := by
  have := ok.sS
  exact fit_some (by omega) (by omega)

theorem fC_id (x : Int) (h0 : 0 ≤ x) (h1 : x ≤ p * (p - 1) + 1) : k.fC x = some x := by
  have := ok.sC
  exact fit_some (by omega) (by omega)

theorem fS_emod (z : Int) : k.fS (z % p) = some (z % p) := by
  obtain ⟨h0, h1⟩ := emod_canon (by have := ok.p2; omega : 0 < p) z
  exact ok.fS_id _ (by omega) (by omega)

theorem neg_eq {a : Int} (ha : 0 ≤ a ∧ a < p) : k.neg p a = some ((-a) % p) := by
  have := ok.p2
  unfold FCfg.neg
  rw [neg_emod_eq a p (by omega), Int.emod_eq_of_lt ha.1 ha.2]
  split
  · rfl
  · exact ok.fS_id _ (by omega) (by omega)

theorem fuel : p * p < (2 : Int) ^ (2 * k.ms + 3) := sq_lt_fuel (by have := ok.p2; omega) ok.sS

end FOk

theorem BFCfg.card_bounds {k : BFCfg} (hv : k.valid) {p : Int} (hp : 0 ≤ p) (hm : p ≤ k.maxCard) :
    p ≤ (2 : Int) ^ k.mb ∧ (p / 2) * (p / 2 + 1) ≤ (2 : Int) ^ k.mb := by
  have hpp : ∀ B : Int, p / 2 ≤ B → (p / 2) * (p / 2 + 1) ≤ B * (B + 1) := fun B hB =>
    Int.mul_le_mul hB (by omega) (by omega) (by omega)
  obtain ⟨mb⟩ := k
  rcases hv with h1 | h1
  · simp only at h1
    subst h1
    have hm' : p ≤ 8191 := by simpa [BFCfg.maxCard] using hm
    have := hpp 4095 (by omega)
    norm_num at this ⊢
    omega
  · simp only at h1
    subst h1
    have hm' : p ≤ 189812531 := by simpa [BFCfg.maxCard] using hm
    have := hpp 94906265 (by omega)
    norm_num at this ⊢
    omega

theorem BFCfg.f_id {k : BFCfg} (hv : k.valid) {p : Int} (hp : 0 ≤ p) (hm : p ≤ k.maxCard) {x : Int}
    (h0 : -p ≤ x) (h1 : x ≤ p) : k.f x = some x := by
  have := (BFCfg.card_bounds hv hp hm).1
  exact fit_some (by omega) (by omega)

theorem BFCfg.f_canonB {k : BFCfg} (hv : k.valid) {p : Int} (hp : 0 < p) (hm : p ≤ k.maxCard) (z : Int) :
    k.f (canonB p z) = some (canonB p z) := by
  have hc := canonB_isCanon p z hp
  unfold isCanonB at hc
  exact BFCfg.f_id hv (by omega) hm (by omega) (by omega)

/-- `BFCfg.initS` (signed machine integer, `Integer`, floating source) is the same body -/
theorem BFCfg.reduce_eq {k : BFCfg} (hv : k.valid) {p : Int} (hp : 0 < p) (hm : p ≤ k.maxCard) (y : Int) :
    k.reduce p y = some (canonB p y) := by
  unfold BFCfg.reduce
  rw [normB_tmod y p hp]
  exact BFCfg.f_canonB hv hp hm y

theorem half_sq {p : Int} (hp : 3 ≤ p) :
    (p / 2) * (p / 2) + p / 2 = (p / 2) * (p / 2 + 1) ∧ p / 2 ≤ (p / 2) * (p / 2) :=
  ⟨by ring, by have := Int.mul_le_mul_of_nonneg_left (show 1 ≤ p / 2 by omega) (show 0 ≤ p / 2 by omega); omega⟩

theorem bal_bounds (p a b : Int) (ha : isCanonB p a) (hb : isCanonB p b) :
    -((p / 2) * (p / 2)) ≤ a * b ∧ a * b ≤ (p / 2) * (p / 2) := by
  unfold isCanonB at ha hb
  have h1 := Int.mul_nonneg (show 0 ≤ p / 2 - a by omega) (show 0 ≤ p / 2 - b by omega)
  have h2 := Int.mul_nonneg (show 0 ≤ p / 2 + a by omega) (show 0 ≤ p / 2 + b by omega)
  have h3 := Int.mul_nonneg (show 0 ≤ p / 2 - a by omega) (show 0 ≤ p / 2 + b by omega)
  have h4 := Int.mul_nonneg (show 0 ≤ p / 2 + a by omega) (show 0 ≤ p / 2 - b by omega)
  exact ⟨by linarith only [h1, h2], by linarith only [h3, h4]⟩

/-- `fit` is the identity up to `⌊p/2⌋(⌊p/2⌋+1)` in magnitude (the largest intermediate, `a·x ± y` on balanced operands) -/
structure BFOk (k : BFCfg) (p : Int) : Prop where
  f_id : ∀ x, -((p / 2) * (p / 2 + 1)) ≤ x → x ≤ (p / 2) * (p / 2 + 1) → k.f x = some x

theorem bfok_of_valid (k : BFCfg) (hv : k.valid) (p : Int) (hp : 3 ≤ p) (hm : p ≤ k.maxCard) : BFOk k p := by
  have := (BFCfg.card_bounds hv (by omega) hm).2
  exact ⟨fun x h0 h1 => fit_some (by omega) (by omega)⟩

/-! ### `ModularBalanced<int32_t|int64_t>`: the word holds every value between `−2p` and `2p` -/

theorem BICfg.card_lt {k : BICfg} (hv : k.valid) {p : Int} (hm : p ≤ k.maxCard) :
    1 ≤ k.w ∧ 2 * p < (2 : Int) ^ (k.w - 1) := by
  obtain ⟨w⟩ := k
  rcases hv with h | h
  · simp only at h
    subst h
    have hm' : p ≤ 131072 := by simpa [BICfg.maxCard] using hm
    norm_num
    omega
  · simp only at h
    subst h
    have hm' : p ≤ 6074000999 := by simpa [BICfg.maxCard] using hm
    norm_num
    omega

theorem BICfg.wr_id {k : BICfg} (hv : k.valid) {p : Int} (hm : p ≤ k.maxCard) {x : Int} (h0 : -(2 * p) ≤ x) (h1 : x ≤ 2 * p) :
    k.wr x = x := by
  obtain ⟨hw, hp⟩ := BICfg.card_lt hv hm
  exact wrapSw_id hw (by omega) (by omega)

/-! ### `ModularExtended<float|double>`: `2^(mant−3) − 1` leaves room for `4p + 2^(mant−4)` -/

theorem ECfg.card_le {k : ECfg} {p : Int} (hm : p ≤ k.maxCard) : p ≤ (2 : Int) ^ k.mant := by
  unfold ECfg.maxCard at hm
  have := two_pow_mono (show k.mant - 3 ≤ k.mant by omega)
  omega

theorem ECfg.neg_eq {k : ECfg} {p a : Int} (hf : ∀ x, 0 ≤ x → x ≤ p → k.f x = some x) (ha : 0 ≤ a ∧ a < p) :
    k.neg p a = some ((-a) % p) := by
  unfold ECfg.neg
  simp only
  rw [neg_emod_eq a p (by omega), Int.emod_eq_of_lt ha.1 ha.2]
  split
  · rw [if_neg (by omega), hf _ (by omega) (by omega)]; congr 1; omega
  · rw [if_pos (by omega), show a = 0 by omega]; rfl

theorem ECfg.f_id {k : ECfg} (hv : k.valid) {p : Int} (hm : p ≤ k.maxCard) {x : Int}
    (h0 : -(4 * p + (2 : Int) ^ (k.mant - 4)) ≤ x) (h1 : x ≤ 4 * p + (2 : Int) ^ (k.mant - 4)) : k.f x = some x := by
  have h4 : 4 ≤ k.mant := by rcases hv with h | h <;> omega
  unfold ECfg.maxCard at hm
  have e1 : (2 : Int) ^ k.mant = 16 * (2 : Int) ^ (k.mant - 4) := by
    rw [show k.mant = 4 + (k.mant - 4) by omega, pow_add]; norm_num
  have e2 : (2 : Int) ^ (k.mant - 3) = 2 * (2 : Int) ^ (k.mant - 4) := by
    rw [show k.mant - 3 = 1 + (k.mant - 4) by omega, pow_add]; norm_num
  have := two_pow_pos (k.mant - 4)
  exact fit_some (by omega) (by omega)

theorem balanced_float_fsok (k : BFCfg) (hv : k.valid) (p : Int) (hm : p ≤ k.maxCard) :
    (∀ x, -p ≤ x → x ≤ p → (FCfg.mk k.mb k.mb).fS x = some x)
      ∧ (2 ≤ p → p * p < (2 : Int) ^ (2 * (FCfg.mk k.mb k.mb).ms + 3)) :=
  ⟨fun x h0 h1 => BFCfg.f_id hv (by omega) hm h0 h1, fun hp => sq_lt_fuel (by omega) (BFCfg.card_bounds hv (by omega) hm).1⟩

theorem ext_fsok (k : ECfg) (hv : k.valid) (p : Int) (hp : 2 ≤ p) (hm : p ≤ k.maxCard) :
    (∀ x, -p ≤ x → x ≤ p → (FCfg.mk k.mant k.mant).fS x = some x)
      ∧ p * p < (2 : Int) ^ (2 * (FCfg.mk k.mant k.mant).ms + 3) := by
  have hpow := two_pow_pos (k.mant - 4)
  exact ⟨fun x h0 h1 => ECfg.f_id hv hm (by omega) (by omega), sq_lt_fuel (by omega) (ECfg.card_le hm)⟩

end Givaro.Model.ModRing
