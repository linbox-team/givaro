/-
C15 — results do not depend on whether the destination aliases an operand.

For the big-integer layer the content is carried by the generated theorems
`Givaro.Gen.<overload>__al_<pattern>_exact` (one per overload and alias pattern, re-proved on every run against the body
re-executed from /repo's source with the aliased parameters sharing one location of the store): the aliased call returns the
specification applied to the operand values.  Together with the `_exact` theorem of the same overload (C01/C02) this is
alias independence: the call with the destination aliasing an input returns what the call with a distinct destination returns.
This file states that corollary for the three-address families the property names.
-/
import GivaroModel.Generated.IntegerThms
import GivaroModel.Generated.IntegerAliasThms
namespace Givaro.Props.C15
open Givaro Givaro.Gen

/-- `add(r,a,b)`: r≡a, r≡b, a≡b, all equal — same result as with a distinct destination `r0` -/
theorem add_alias_independent (r0 x y : Int) :
    (Integer_add_Z_Zc_Zc__al_01 x y).outs = (Integer_add_Z_Zc_Zc r0 x y).outs
    ∧ (Integer_add_Z_Zc_Zc__al_02 y x).outs = (Integer_add_Z_Zc_Zc r0 x y).outs
    ∧ (Integer_add_Z_Zc_Zc__al_12 r0 x).outs = (Integer_add_Z_Zc_Zc r0 x x).outs
    ∧ (Integer_add_Z_Zc_Zc__al_012 x).outs = (Integer_add_Z_Zc_Zc r0 x x).outs := by
  rw [Integer_add_Z_Zc_Zc__al_01_exact, Integer_add_Z_Zc_Zc__al_02_exact, Integer_add_Z_Zc_Zc__al_12_exact,
    Integer_add_Z_Zc_Zc__al_012_exact, Integer_add_Z_Zc_Zc_exact, Integer_add_Z_Zc_Zc_exact]
  simp [Integer_add_Z_Zc_Zc__al_01_spec, Integer_add_Z_Zc_Zc__al_02_spec, Integer_add_Z_Zc_Zc__al_12_spec,
    Integer_add_Z_Zc_Zc__al_012_spec, Integer_add_Z_Zc_Zc_spec]

/-- `sub(r,a,b)` with r≡a, and with r≡b (the pattern an in-place implementation gets wrong first) -/
theorem sub_alias_independent (r0 x y : Int) :
    (Integer_sub_Z_Zc_Zc__al_01 x y).outs = (Integer_sub_Z_Zc_Zc r0 x y).outs
    ∧ (Integer_sub_Z_Zc_Zc__al_02 y x).outs = (Integer_sub_Z_Zc_Zc r0 x y).outs := by
  rw [Integer_sub_Z_Zc_Zc__al_01_exact, Integer_sub_Z_Zc_Zc__al_02_exact, Integer_sub_Z_Zc_Zc_exact]
  simp [Integer_sub_Z_Zc_Zc__al_01_spec, Integer_sub_Z_Zc_Zc__al_02_spec, Integer_sub_Z_Zc_Zc_spec]

/-- fused `axpy(r,a,x,y)` with r≡y and r≡a≡x -/
theorem axpy_alias_independent (r0 a x y : Int) :
    (Integer_axpy_Z_Zc_Zc_Zc__al_03 y a x).outs = (Integer_axpy_Z_Zc_Zc_Zc r0 a x y).outs
    ∧ (Integer_axpy_Z_Zc_Zc_Zc__al_012 a y).outs = (Integer_axpy_Z_Zc_Zc_Zc r0 a a y).outs := by
  rw [Integer_axpy_Z_Zc_Zc_Zc__al_03_exact, Integer_axpy_Z_Zc_Zc_Zc__al_012_exact, Integer_axpy_Z_Zc_Zc_Zc_exact,
    Integer_axpy_Z_Zc_Zc_Zc_exact]
  simp [Integer_axpy_Z_Zc_Zc_Zc__al_03_spec, Integer_axpy_Z_Zc_Zc_Zc__al_012_spec, Integer_axpy_Z_Zc_Zc_Zc_spec]

/-- Euclidean `divmod(q,r,a,b)` with the remainder aliasing the divisor and the quotient aliasing the dividend -/
theorem divmod_alias_independent (q0 r0 a b : Int) (hb : b ≠ 0) :
    (Integer_divmod_Z_Z_Zc_Zc__al_02_13 a b).outs = (Integer_divmod_Z_Z_Zc_Zc q0 r0 a b).outs := by
  rw [Integer_divmod_Z_Z_Zc_Zc__al_02_13_exact a b hb, Integer_divmod_Z_Z_Zc_Zc_exact q0 r0 a b hb]
  simp [Integer_divmod_Z_Z_Zc_Zc__al_02_13_spec, Integer_divmod_Z_Z_Zc_Zc_spec]

/-- in-place operator forms `x += x`, `x *= x`, `x -= x` -/
theorem inplace_self_alias (x : Int) :
    (Integer_op_addin_Zc__al_01 x).outs = [x + x] ∧ (Integer_op_mulin_Zc__al_01 x).outs = [x * x]
    ∧ (Integer_op_subin_Zc__al_01 x).outs = [0] := by
  rw [Integer_op_addin_Zc__al_01_exact, Integer_op_mulin_Zc__al_01_exact, Integer_op_subin_Zc__al_01_exact]
  simp [Integer_op_addin_Zc__al_01_spec, Integer_op_mulin_Zc__al_01_spec, Integer_op_subin_Zc__al_01_spec, Spec.add, Spec.mul, Spec.sub]

end Givaro.Props.C15
