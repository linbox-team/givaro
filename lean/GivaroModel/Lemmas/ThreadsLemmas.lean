/-
C18 — the execution model of Model/Threads.lean on a schedule of read-only operations.
-/
import GivaroModel.Model.Threads
namespace Givaro.Lemmas.Threads
open Givaro.Model.Threads

theorem exec_readonly (m : Mem) (sched : List (Nat × Op)) (h : ∀ s ∈ sched, s.2.readOnly) :
    exec m sched = (m, sched.map (fun s => (s.1, (s.2.run m).2))) := by
  induction sched with
  | nil => rfl
  | cons s rest ih =>
    obtain ⟨t, o⟩ := s
    have ho : (o.run m).1 = [] := h (t, o) (by simp) m
    simp only [exec, List.map_cons]
    rw [ho, show store m [] = m from rfl, ih (fun s hs => h s (by simp [hs]))]

end Givaro.Lemmas.Threads
