/- C12 — lemmas about the rho loops of Model/PrimesRho.lean: everything they return is a gcd with n. -/
import GivaroModel.Model.PrimesRho
import Mathlib.Algebra.Order.Ring.Int
namespace Givaro.Lemmas.Primes
open Givaro.Model.Primes

theorem rhoLoop0_some (n : Int) (fuel : Nat) (m p x y g : Int) (h : rhoLoop0 n fuel m p x y = some g) :
    g ≠ 1 ∧ ∃ d : Int, g = (Int.gcd d n : Int) := by
  fun_induction rhoLoop0 n fuel m p x y with
  | case1 => cases h
  | case2 f m p x y m1 x1 p1 y1 g' hg ih => exact ih h
  | case3 f m p x y m1 x1 y1 g' hg => exact Option.some.inj h ▸ ⟨hg, _, rfl⟩

theorem rhoLoopT_div (n : Int) (hn : 0 < n) (threshold fuel c : Nat) (g m p x y : Int) (h : 0 < g ∧ g ∣ n) :
    0 < (rhoLoopT n threshold fuel c g m p x y).1 ∧ (rhoLoopT n threshold fuel c g m p x y).1 ∣ n := by
  fun_induction rhoLoopT n threshold fuel c g m p x y with
  | case1 => exact h
  | case2 f c m p x y h2 m1 x1 p1 y1 ih =>
    exact ih ⟨by exact_mod_cast Int.gcd_pos_of_ne_zero_right _ (by omega), Int.gcd_dvd_right _ _⟩
  | case3 => exact h
  | case4 => exact h

end Givaro.Lemmas.Primes
