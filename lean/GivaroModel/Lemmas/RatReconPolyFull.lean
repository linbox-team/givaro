/-
C11 — the polynomial variant at full strength, still generic in the primitives.  `EuclidLaws` adds the degree laws; from
them alone (no row relation) `rowLoop` stops, for every fuel ≥ deg P + 2 with the same pair, inside the degree bounds
(`polyRatreconFuel_deg`).  With the row of RatReconPoly.lean: every other (A, B) within the bounds is w·(N, D)
(`polyFull_minimal`), and `ratreconcheck` answers exactly "a reduced solution with denominator prime to M exists"
(`polyCheck_full`).
-/
import GivaroModel.Lemmas.RatReconPoly
import Mathlib.RingTheory.Coprime.Basic
namespace Givaro.Lemmas.RatRecon
open Givaro.Model.RatRecon

/-- what termination and the degree bounds need beyond `LawfulOps` -/
structure EuclidLaws {P : Type} [CommRing P] (O : PolyOps P) : Prop where
  base : LawfulOps O
  deg_ge : ∀ a, -1 ≤ O.deg a
  deg_add_le : ∀ a b c, O.deg a ≤ c → O.deg b ≤ c → O.deg (a + b) ≤ c
  deg_neg : ∀ a, O.deg (-a) = O.deg a
  divmod_deg : ∀ a b, b ≠ 0 → O.deg (O.divmod a b).2 < O.deg b
  gcdDeg_iff : ∀ a b, b ≠ 0 → (O.gcdDeg a b ≤ 0 ↔ IsCoprime a b)
  lcIsOne_divLc : ∀ d, d ≠ 0 → O.lcIsOne (O.divLc d d) = true

variable {P : Type} [CommRing P] {O : PolyOps P}

section basic
variable (E : EuclidLaws O)
include E

theorem deg_zero : O.deg (0 : P) = -1 := by
  have h1 := (E.base.deg_neg_iff 0).mpr rfl
  have h2 := E.deg_ge 0
  omega

theorem ne_zero_of_deg {a : P} (h : 0 ≤ O.deg a) : a ≠ 0 := by
  intro h0; rw [h0, deg_zero E] at h; omega

theorem deg_nonneg {a : P} (h : a ≠ 0) : 0 ≤ O.deg a := deg_nonneg_of E.base a h

theorem mul_ne_zero' {a b : P} (ha : a ≠ 0) (hb : b ≠ 0) : a * b ≠ 0 := by
  apply ne_zero_of_deg E
  rw [E.base.deg_mul a b ha hb]
  have := deg_nonneg E ha; have := deg_nonneg E hb; omega

theorem deg_sub_le (a b : P) (c : Int) (ha : O.deg a ≤ c) (hb : O.deg b ≤ c) : O.deg (a - b) ≤ c := by
  rw [sub_eq_add_neg]; exact E.deg_add_le a (-b) c ha (by rw [E.deg_neg]; exact hb)

theorem deg_add_eq_left (a b : P) (h : O.deg b < O.deg a) : O.deg (a + b) = O.deg a := by
  have h1 := E.deg_add_le a b (O.deg a) (le_refl _) (by omega)
  by_contra hne
  have h2 : O.deg (a + b) ≤ O.deg a - 1 := by omega
  have h3 := E.deg_add_le (a + b) (-b) (O.deg a - 1) h2 (by rw [E.deg_neg]; omega)
  have : a + b + -b = a := by ring
  rw [this] at h3; omega

theorem deg_sub_eq_right (a b : P) (h : O.deg a < O.deg b) : O.deg (a - b) = O.deg b := by
  have : a - b = -b + a := by ring
  rw [this, deg_add_eq_left E (-b) a (by rw [E.deg_neg]; exact h), E.deg_neg]

theorem deg_mul_lt (a b : P) (c : Int) (hc : 0 ≤ c) (h : a = 0 ∨ b = 0 ∨ O.deg a + O.deg b < c) : O.deg (a * b) < c := by
  by_cases ha : a = 0
  · rw [ha, zero_mul, deg_zero E]; omega
  by_cases hb : b = 0
  · rw [hb, mul_zero, deg_zero E]; omega
  rw [E.base.deg_mul a b ha hb]
  rcases h with h | h | h
  · exact absurd h ha
  · exact absurd h hb
  · exact h

theorem quot_deg (a b q r : P) (hb : b ≠ 0) (h : a = q * b + r) (hr : O.deg r < O.deg b) (hab : O.deg b ≤ O.deg a) :
    q ≠ 0 ∧ O.deg q = O.deg a - O.deg b := by
  have hqb : q * b = a - r := by rw [h]; ring
  have hd : O.deg (a - r) = O.deg a := by
    have : a - r = a + -r := by ring
    rw [this, deg_add_eq_left E a (-r) (by rw [E.deg_neg]; omega)]
  have hb0 := deg_nonneg E hb
  have hq : q ≠ 0 := by
    intro h0
    rw [h0, zero_mul] at hqb
    rw [← hqb, deg_zero E] at hd
    omega
  refine ⟨hq, ?_⟩
  have := E.base.deg_mul q b hq hb
  rw [hqb, hd] at this
  omega

theorem quot_zero (a b q r : P) (hb : b ≠ 0) (h : a = q * b + r) (hr : O.deg r < O.deg b) (hab : O.deg a < O.deg b) :
    q = 0 ∧ r = a := by
  have hq : q = 0 := by
    by_contra hq
    have h1 := E.base.deg_mul q b hq hb
    have h2 := deg_nonneg E hq
    have hqb : q * b = a - r := by rw [h]; ring
    have h3 := deg_sub_le E a r (O.deg b - 1) (by omega) (by omega)
    rw [← hqb] at h3
    omega
  refine ⟨hq, ?_⟩
  rw [hq, zero_mul, zero_add] at h
  exact h.symm

end basic


/-- the degrees of two consecutive rows `(a, ta)`, `(b, tb)` -/
structure DRows (O : PolyOps P) (m a ta b tb : P) : Prop where
  bne : 0 ≤ O.deg b
  tne : 0 ≤ O.deg tb
  dle : O.deg b ≤ O.deg a
  dsum : O.deg tb + O.deg a = O.deg m
  /-- makes `q·tb` dominate `ta` in the next cofactor `ta − q·tb`, whose degree is then `deg q + deg tb` -/
  dinc : O.deg ta + O.deg b < O.deg tb + O.deg a

/-- the sizes of a returned pair `(N, D)` -/
structure DegBounds (O : PolyOps P) (p m : P) (dk : Int) (n d : P) : Prop where
  degN : O.deg n ≤ dk
  dne : d ≠ 0
  degD : O.deg d ≤ O.deg m - dk
  degSum : O.deg n + O.deg d < O.deg m
  /-- `deg D` reaches `deg M − dk` only at the boundary `deg P = dk`, which the minimality statement leaves out -/
  strict : O.deg d < O.deg m - dk ∨ O.deg p = dk

/-- a returned pair `(N, D)`: a row of the scheme (with its neighbour), inside the degree bounds -/
structure PolyFull (O : PolyOps P) (p m : P) (dk : Int) (n d : P) : Prop extends DegBounds O p m dk n d where
  row : ∃ sg sgi a ta, sg * sgi = 1 ∧ Cof m p sg a ta n d

theorem PolyFull.dvd {p m n d : P} {dk : Int} (h : PolyFull O p m dk n d) : m ∣ (n - d * p) := by
  obtain ⟨_, _, _, _, _, hcof⟩ := h.row
  obtain ⟨s, hs⟩ := hcof.row
  exact ⟨s, by rw [hs]; ring⟩

theorem PolyFull.coprime_iff {p m n d : P} {dk : Int} (h : PolyFull O p m dk n d) : IsCoprime n d ↔ IsCoprime d m := by
  obtain ⟨sg, sgi, a, ta, hsg, sa, sb, _, eb, hd⟩ := h.row
  have hsd : IsCoprime sb d := ⟨-(sgi * ta), sgi * sa, by linear_combination sgi * hd + hsg⟩
  rw [← eb, IsCoprime.add_mul_left_left_iff, IsCoprime.mul_left_iff, isCoprime_comm (x := d)]
  exact and_iff_right hsd

theorem drows_step (E : EuclidLaws O) (m a ta b tb : P) (h : DRows O m a ta b tb) :
    let q := (O.divmod a b).1
    let r := (O.divmod a b).2
    let t := O.maxpy ta q tb
    O.deg r < O.deg b ∧ O.deg t + O.deg b = O.deg m ∧ (0 ≤ O.deg r → DRows O m b tb r t) := by
  obtain ⟨bne, tne, dle, dsum, dinc⟩ := h
  have hb : b ≠ 0 := ne_zero_of_deg E bne
  have hdiv := E.base.divmod_eq a b hb
  have hrem := E.divmod_deg a b hb
  simp only []
  generalize O.divmod a b = qr at hdiv hrem ⊢
  obtain ⟨q, r⟩ := qr
  simp only [] at hdiv hrem ⊢
  rw [E.base.maxpy_eq]
  obtain ⟨hq, hdq⟩ := quot_deg E a b q r hb hdiv hrem dle
  have hq0 := deg_nonneg E hq
  have hqt : O.deg (q * tb) = O.deg q + O.deg tb := E.base.deg_mul q tb hq (ne_zero_of_deg E tne)
  have hdt : O.deg (ta - q * tb) = O.deg q + O.deg tb := by
    rw [deg_sub_eq_right E ta (q * tb) (by omega), hqt]
  exact ⟨hrem, by omega, fun hr => ⟨hr, by omega, by omega, by omega, by omega⟩⟩

/-! ### the Euclid loop from rows with `deg b ≤ deg a` -/

/-- `p` only enters through `deg p = dk`, the case in which the first remainder may already be the answer -/
theorem rowLoop_deg (E : EuclidLaws O) (p m : P) (dk : Int) (hdk : 0 ≤ dk) :
    ∀ (N : Nat) (a ta b tb : P), DRows O m a ta b tb → dk ≤ O.deg b → (dk < O.deg b ∨ O.deg p = dk) → O.deg b < N →
      ∃ r : POut P, r.ok = true ∧ DegBounds O p m dk r.n r.d ∧
        ∀ fuel : Nat, O.deg b < fuel → rowLoop O dk fuel a ta b tb = r := by
  intro N
  induction N with
  | zero => intro a ta b tb h _ _ hf; have := h.bne; simp at hf; omega
  | succ N ih =>
    intro a ta b tb hrows lo lo' hN
    have hst := drows_step E m a ta b tb hrows
    simp only [] at hst
    generalize hqr : O.divmod a b = qr at hst
    obtain ⟨q, r⟩ := qr
    simp only [] at hst
    generalize ht : O.maxpy ta q tb = t at hst
    obtain ⟨h1, h2, hnext⟩ := hst
    have hfuel : ∀ fuel : Nat, O.deg b < fuel → ∃ f, fuel = f + 1 := fun fuel hf =>
      ⟨fuel - 1, by have := hrows.bne; omega⟩
    by_cases hA : O.deg r ≤ dk
    · have := hrows.dle
      have := hrows.dsum
      have := hrows.tne
      have hb : DegBounds O p m dk r t := ⟨hA, ne_zero_of_deg E (by omega), by omega, by omega, by omega⟩
      refine ⟨⟨true, r, t⟩, rfl, hb, fun fuel hf => ?_⟩
      obtain ⟨f, rfl⟩ := hfuel fuel hf
      rw [rowLoop]
      simp only [hqr, ht, if_pos hA]
    · obtain ⟨res, hok, hfull, hr⟩ := ih b tb r t (hnext (by omega)) (by omega) (Or.inl (by omega))
        (by push_cast at hN ⊢; omega)
      refine ⟨res, hok, hfull, fun fuel hf => ?_⟩
      obtain ⟨f, rfl⟩ := hfuel fuel hf
      rw [rowLoop]
      simp only [hqr, ht, if_neg hA]
      exact hr f (by push_cast at hf; omega)

theorem drows_init (E : EuclidLaws O) (m u : P) (h0 : 0 ≤ O.deg u) (hle : O.deg u ≤ O.deg m) : DRows O m m 0 u 1 := by
  have hz := deg_zero E
  have h1 := E.base.deg_one
  exact ⟨h0, by omega, hle, by omega, by omega⟩

/-- `deg P > deg M`: the first two divisions only reduce `P` modulo `M` -/
theorem rowLoop_unreduced (E : EuclidLaws O) (p m : P) (dk : Int) (hdm : dk < O.deg m) (hpm : O.deg m < O.deg p)
    (f : Nat) :
    rowLoop O dk (f + 2) m 0 p 1 =
      if O.deg (O.divmod p m).2 ≤ dk then ⟨true, (O.divmod p m).2, 1⟩ else rowLoop O dk f m 0 (O.divmod p m).2 1 := by
  have hp0 : p ≠ 0 := ne_zero_of_deg E (by have := E.deg_ge m; omega)
  obtain ⟨hq0, hr0⟩ := quot_zero E m p _ _ hp0 (E.base.divmod_eq m p hp0) (E.divmod_deg m p hp0) hpm
  rw [rowLoop, rowLoop]
  simp only [hq0, hr0, E.base.maxpy_eq, zero_mul, sub_zero, mul_zero, if_neg (by omega : ¬ O.deg m ≤ dk)]

theorem polyRatreconFuel_deg (E : EuclidLaws O) (p m : P) (dk : Int) (hdk : 0 ≤ dk) (hdm : dk < O.deg m) :
    ∃ r : POut P, (∀ fuel : Nat, O.deg p + 2 ≤ fuel → polyRatreconFuel O fuel p m dk = r) ∧
      ((r.ok = true ∧ DegBounds O p m dk r.n r.d) ∨ (O.deg p = 0 ∧ dk = 0 ∧ r.ok = false)) := by
  have h1 := E.base.deg_one
  have one : ∀ u : P, O.deg u ≤ dk → DegBounds O p m dk u 1 := fun u hu =>
    ⟨hu, one_ne_zero_of E.base, by omega, by omega, Or.inl (by omega)⟩
  rcases polyRatreconFuel_cases E.base p m dk hdk with ⟨c1, he⟩ | ⟨_, c2, he⟩ | ⟨hpk, hp0, hentry⟩
  · exact ⟨_, fun fuel _ => he fuel, Or.inl ⟨rfl, one p (by omega)⟩⟩
  · exact ⟨_, fun fuel _ => he fuel, Or.inr ⟨by omega, by omega, rfl⟩⟩
  by_cases hreg : O.deg p ≤ O.deg m
  · obtain ⟨r, hok, hfull, hr⟩ := rowLoop_deg E p m dk hdk ((O.deg p).toNat + 1) m 0 p 1
      (drows_init E m p (by omega) hreg) hpk (by omega) (by omega)
    exact ⟨r, fun fuel hf => by rw [hentry]; exact hr _ (by push_cast; omega), Or.inl ⟨hok, hfull⟩⟩
  · have hm0 : m ≠ 0 := ne_zero_of_deg E (by omega)
    have hrem2 := E.divmod_deg p m hm0
    have hfirst := rowLoop_unreduced E p m dk hdm (by omega)
    generalize (O.divmod p m).2 = u1 at hrem2 hfirst
    have hfuel : ∀ fuel : Nat, O.deg p + 2 ≤ fuel → ∃ f, 2 * fuel = f + 2 := fun fuel hf => ⟨2 * fuel - 2, by omega⟩
    by_cases hB : O.deg u1 ≤ dk
    · refine ⟨⟨true, u1, 1⟩, fun fuel hf => ?_, Or.inl ⟨rfl, one u1 hB⟩⟩
      obtain ⟨f, hf2⟩ := hfuel fuel hf
      rw [hentry, hf2, hfirst, if_pos hB]
    · obtain ⟨r, hok, hfull, hr⟩ := rowLoop_deg E p m dk hdk ((O.deg u1).toNat + 1) m 0 u1 1
        (drows_init E m u1 (by omega) (by omega)) (by omega) (Or.inl (by omega)) (by omega)
      refine ⟨r, fun fuel hf => ?_, Or.inl ⟨hok, hfull⟩⟩
      obtain ⟨f, hf2⟩ := hfuel fuel hf
      rw [hentry, hf2, hfirst, if_neg hB]
      exact hr f (by omega)

/-- at the caller's fuel: the degree layer gives success and the bounds, the algebra (run with the same fuel) the row -/
theorem polyRatreconFuel_full (E : EuclidLaws O) (fuel : Nat) (p m : P) (dk : Int) (hdk : 0 ≤ dk) (hdm : dk < O.deg m)
    (hfuel : O.deg p + 2 ≤ fuel) (hcorner : ¬ (O.deg p = 0 ∧ dk = 0)) :
    (polyRatreconFuel O fuel p m dk).ok = true ∧
      PolyFull O p m dk (polyRatreconFuel O fuel p m dk).n (polyRatreconFuel O fuel p m dk).d := by
  obtain ⟨r, hr, hcase⟩ := polyRatreconFuel_deg E p m dk hdk hdm
  rcases hcase with ⟨hok, hb⟩ | ⟨h1, h2, _⟩
  · rw [← hr fuel hfuel] at hok hb
    obtain ⟨_, sg, a, ta, hsg, hcof⟩ := polyRatreconFuel_cof E.base fuel p m dk hdk hdm hok
    exact ⟨hok, hb, sg, sg, a, ta, hsg, hcof⟩
  · exact absurd ⟨h1, h2⟩ hcorner

theorem polyFull_minimal (E : EuclidLaws O) (p m : P) (dk : Int) (n d : P) (hdk : 0 ≤ dk) (hdm : dk < O.deg m)
    (h : PolyFull O p m dk n d) (a b : P) (hab : m ∣ (a - b * p)) (ha : O.deg a ≤ dk)
    (hb : O.deg b < O.deg m - dk) (hstrict : O.deg a < dk ∨ O.deg p ≠ dk) : ∃ w, a = w * n ∧ b = w * d := by
  obtain ⟨sg, sgi, a', ta', hsg, hcof⟩ := h.row
  obtain ⟨α, β, ea, eb, hX⟩ := hcof.span hsg a b hab
  -- the cross product a·d − b·n = α·sg·m has degree < deg m, so α = 0
  have hα : α = 0 := by
    by_contra hα
    have hm0 : m ≠ 0 := ne_zero_of_deg E (by omega)
    have hsg0 : sg ≠ 0 := fun h0 => one_ne_zero_of E.base (by rw [← hsg, h0, zero_mul])
    have h1 := E.base.deg_mul α _ hα (mul_ne_zero' E hsg0 hm0)
    have h1' := E.base.deg_mul sg m hsg0 hm0
    have h2 := deg_nonneg E hα
    have h2' := deg_nonneg E hsg0
    have hn1 := h.degN
    have hd1 := h.degD
    have h3 : O.deg (a * d) < O.deg m := deg_mul_lt E a d _ (by omega) (Or.inr (Or.inr (by
      rcases hstrict with h' | h'
      · omega
      · have := h.strict.resolve_right h'
        omega)))
    have h4 : O.deg (b * n) < O.deg m := deg_mul_lt E b n _ (by omega) (Or.inr (Or.inr (by omega)))
    have h5 := deg_sub_le E (a * d) (b * n) (O.deg m - 1) (by omega) (by omega)
    rw [hX] at h5
    omega
  exact ⟨β, by rw [ea, hα]; ring, by rw [eb, hα]; ring⟩

theorem polyFull_unit (E : EuclidLaws O) (p m : P) (dk : Int) (n d c ci : P) (hc : c * ci = 1)
    (h : PolyFull O p m dk n d) : PolyFull O p m dk (ci * n) (ci * d) := by
  obtain ⟨sg, sgi, a, ta, hsg, hcof⟩ := h.row
  have en := deg_unit_mul E.base c ci n hc
  have ed := deg_unit_mul E.base c ci d hc
  exact ⟨⟨by rw [en]; exact h.degN, unit_mul_ne_zero hc h.dne, by rw [ed]; exact h.degD, by rw [en, ed]; exact h.degSum,
    by rw [ed]; exact h.strict⟩, ci * sg, c * sgi, a, ta, by linear_combination (sg * sgi) * hc + hsg, hcof.smul_row ci⟩

theorem polyCheck_full (E : EuclidLaws O) (fuel : Nat) (p m : P) (dk : Int) (hdk : 0 ≤ dk) (hdm : dk < O.deg m)
    (hfuel : O.deg p + 2 ≤ fuel) (hcorner : ¬ (O.deg p = 0 ∧ dk = 0)) :
    ((polyRatreconCheckFuel O fuel p m dk).ok = true ↔
        IsCoprime (polyRatreconFuel O fuel p m dk).n (polyRatreconFuel O fuel p m dk).d) ∧
    ((polyRatreconCheckFuel O fuel p m dk).ok = true →
        PolyFull O p m dk (polyRatreconCheckFuel O fuel p m dk).n (polyRatreconCheckFuel O fuel p m dk).d ∧
        IsCoprime (polyRatreconCheckFuel O fuel p m dk).n (polyRatreconCheckFuel O fuel p m dk).d ∧
        IsCoprime (polyRatreconCheckFuel O fuel p m dk).d m ∧
        O.lcIsOne (polyRatreconCheckFuel O fuel p m dk).d = true) ∧
    (∀ a b : P, m ∣ (a - b * p) → O.deg a ≤ dk → O.deg b < O.deg m - dk → (O.deg a < dk ∨ O.deg p ≠ dk) →
        IsCoprime b m →
        (polyRatreconCheckFuel O fuel p m dk).ok = true ∧
          ∃ w, a = w * (polyRatreconCheckFuel O fuel p m dk).n ∧ b = w * (polyRatreconCheckFuel O fuel p m dk).d) := by
  obtain ⟨hok, hfull⟩ := polyRatreconFuel_full E fuel p m dk hdk hdm hfuel hcorner
  unfold polyRatreconCheckFuel
  simp only []
  generalize polyRatreconFuel O fuel p m dk = r at hok hfull ⊢
  have hd0 : r.d ≠ 0 := hfull.dne
  have hg := E.gcdDeg_iff r.n r.d hd0
  have hDm := hfull.coprime_iff
  by_cases hgp : O.gcdDeg r.n r.d > 0
  · rw [if_pos hgp]
    have hnc : ¬ IsCoprime r.n r.d := fun h => by have := hg.mpr h; omega
    refine ⟨⟨fun h => (by cases h), fun h => absurd h hnc⟩, fun h => (by cases h), ?_⟩
    intro a b hab ha hb hst hbm
    obtain ⟨w, _, hw2⟩ := polyFull_minimal E p m dk r.n r.d hdk hdm hfull a b hab ha hb hst
    rw [hw2] at hbm
    exact absurd (hDm.mpr (IsCoprime.of_mul_left_right hbm)) hnc
  · rw [if_neg hgp]
    have hcop : IsCoprime r.n r.d := hg.mp (by omega)
    by_cases hl : (!O.lcIsOne r.d) = true
    · rw [if_pos hl]
      obtain ⟨c, ci, hc, hdiv⟩ := E.base.divLc_eq r.d hd0
      have hlc := E.lcIsOne_divLc r.d hd0
      simp only [hdiv] at hlc ⊢
      have hu : IsUnit ci := IsUnit.of_mul_eq_one_right c hc
      have hfu := polyFull_unit E p m dk r.n r.d c ci hc hfull
      refine ⟨⟨fun _ => hcop, fun _ => hok⟩, fun _ => ⟨hfu, (isCoprime_mul_unit_left hu _ _).mpr hcop,
        (isCoprime_mul_unit_left_left hu _ _).mpr (hDm.mp hcop), hlc⟩, ?_⟩
      intro a b hab ha hb hst _
      exact ⟨hok, polyFull_minimal E p m dk _ _ hdk hdm hfu a b hab ha hb hst⟩
    · rw [if_neg hl]
      have hl' : O.lcIsOne r.d = true := by simpa using hl
      refine ⟨⟨fun _ => hcop, fun _ => hok⟩, fun _ => ⟨hfull, hcop, hDm.mp hcop, hl'⟩, ?_⟩
      intro a b hab ha hb hst _
      exact ⟨hok, polyFull_minimal E p m dk _ _ hdk hdm hfull a b hab ha hb hst⟩

end Givaro.Lemmas.RatRecon
