/-
C20 — the orbit of GivRandom: the multiplier 950706376 is a primitive root modulo 2^31 - 1, hence from every valid
state the generator reaches the state 1 (and every other state).  This is what makes the `nonzerorandom` loops terminate.

Proof: Lucas' criterion with the multiplier itself as witness (this also *proves* that 2^31 - 1 is prime):
a^(M-1) = 1 and a^((M-1)/q) ≠ 1 for every prime q | M - 1 = 2 · 3² · 7 · 11 · 31 · 151 · 331.
-/
import GivaroModel.Model.Random
import GivaroModel.Lemmas.RandomLemmas
import GivaroModel.Lemmas.RandomDestLemmas
import Mathlib.Tactic.ReduceModChar
import Mathlib.Tactic.NormNum.Prime
import Mathlib.Data.ZMod.Basic
import Mathlib.NumberTheory.LucasPrimality
import Mathlib.GroupTheory.OrderOfElement
import Mathlib.FieldTheory.Finite.Basic
namespace Givaro.Lemmas.Random
open Givaro Givaro.Model.Random

def givA : ZMod 2147483647 := 950706376

theorem prime_factors_Mm1 (q : ℕ) (hq : q.Prime) (hd : q ∣ 2147483646) : q ∈ [2, 3, 7, 11, 31, 151, 331] := by
  have hl : ∀ p ∈ [2, 3, 3, 7, 11, 31, 151, 331], Prime p := by
    intro p hp
    simp only [List.mem_cons, List.not_mem_nil, or_false] at hp
    rcases hp with rfl | rfl | rfl | rfl | rfl | rfl | rfl | rfl <;> exact Nat.prime_iff.1 (by norm_num)
  have := mem_list_primes_of_dvd_prod hq.prime hl (by simpa using hd)
  simpa using this

theorem givA_pow_full : givA ^ 2147483646 = 1 := by unfold givA; reduce_mod_char

theorem givA_pow_div (q : ℕ) (hq : q.Prime) (hd : q ∣ 2147483646) : givA ^ (2147483646 / q) ≠ 1 := by
  have hm := prime_factors_Mm1 q hq hd
  simp only [List.mem_cons, List.not_mem_nil, or_false] at hm
  unfold givA
  rcases hm with rfl | rfl | rfl | rfl | rfl | rfl | rfl
  all_goals
    simp only [Nat.reduceDiv]
    reduce_mod_char
    decide

theorem givMod_prime : Nat.Prime 2147483647 := by
  refine lucas_primality 2147483647 givA ?_ ?_
  · simpa using givA_pow_full
  · intro q hq hd
    simpa using givA_pow_div q hq (by simpa using hd)

instance : Fact (Nat.Prime 2147483647) := ⟨givMod_prime⟩

theorem givA_order : orderOf givA = 2147483646 :=
  orderOf_eq_of_pow_and_pow_div_prime (by norm_num) givA_pow_full givA_pow_div

theorem givA_ne_zero : givA ≠ 0 := by
  intro h
  have := givA_pow_full
  rw [h, zero_pow (by norm_num)] at this
  exact zero_ne_one this

theorem exists_pow_eq (x : ZMod 2147483647) (hx : x ≠ 0) : ∃ k : ℕ, givA ^ k = x := by
  let u : (ZMod 2147483647)ˣ := Units.mk0 givA givA_ne_zero
  let v : (ZMod 2147483647)ˣ := Units.mk0 x hx
  have hu : orderOf u = 2147483646 := by
    rw [← orderOf_units]; exact givA_order
  have hcard : Nat.card (Subgroup.zpowers u) = Nat.card (ZMod 2147483647)ˣ := by
    rw [Nat.card_zpowers, hu, Nat.card_eq_fintype_card, ZMod.card_units]
  have htop := Subgroup.eq_top_of_card_eq _ hcard
  have hv : v ∈ Subgroup.zpowers u := by rw [htop]; exact Subgroup.mem_top v
  rw [← mem_powers_iff_mem_zpowers] at hv
  obtain ⟨k, hk⟩ := (Submonoid.mem_powers_iff v u).1 hv
  refine ⟨k, ?_⟩
  have := congrArg Units.val hk
  simpa [u, v] using this

theorem givIter_eq (k : Nat) : ∀ s : Int, 1 ≤ s → s < givMod → givIter k s = givMul ^ k * s % givMod := by
  induction k with
  | zero => intro s h1 h2; simp only [givIter, pow_zero, one_mul]; exact (Int.emod_eq_of_lt (by omega) h2).symm
  | succ k ih =>
    intro s h1 h2
    have hr := giv_mul_range s h1 h2
    simp only [givIter]
    rw [givNext_eq s h1 h2, ih _ hr.1 hr.2, pow_succ, Int.mul_emod, Int.emod_emod_of_dvd _ (dvd_refl _), ← Int.mul_emod]
    congr 1; ring

theorem giv_reaches_one (s : Int) (h1 : 1 ≤ s) (h2 : s < givMod) : ∃ k : Nat, 1 ≤ k ∧ givIter k s = 1 := by
  have hs : ((s : ℤ) : ZMod 2147483647) ≠ 0 := by
    intro h
    rw [ZMod.intCast_zmod_eq_zero_iff_dvd] at h
    obtain ⟨c, hc⟩ := h
    push_cast at hc
    unfold givMod at h2
    omega
  obtain ⟨k, hk⟩ := exists_pow_eq ((s : ZMod 2147483647))⁻¹ (inv_ne_zero hs)
  refine ⟨k + 2147483646, by omega, ?_⟩
  rw [givIter_eq _ s h1 h2]
  unfold givMul givMod
  have hz : (((950706376 ^ (k + 2147483646) * s : ℤ)) : ZMod 2147483647) = ((1 : ℤ) : ZMod 2147483647) := by
    push_cast
    have : (950706376 : ZMod 2147483647) = givA := rfl
    rw [this, pow_add, givA_pow_full, mul_one, hk, inv_mul_cancel₀ hs]
  have := (ZMod.intCast_eq_intCast_iff _ _ _).1 hz
  unfold Int.ModEq at this
  push_cast at this
  rw [this]

/-- it suffices that the draw which sees the generator return 1 is not zero: the orbit reaches 1 -/
theorem untilNonzero_terminates (draw : Int → Int × Int) (hnext : ∀ g, (draw g).2 = givNext g)
    (h1 : ∀ g, givNext g = 1 → (draw g).1 ≠ 0) (g : Int) (hg1 : 1 ≤ g) (hg2 : g < givMod) :
    ∃ fuel : Nat, (untilNonzero draw fuel g).isSome = true := by
  obtain ⟨k, hk1, hk⟩ := giv_reaches_one g hg1 hg2
  obtain ⟨j, rfl⟩ : ∃ j, k = j + 1 := ⟨k - 1, by omega⟩
  exact ⟨j + 1, untilNonzero_isSome_of_iter draw hnext j g (h1 _ (by rw [← givIter_succ]; exact hk))⟩

end Givaro.Lemmas.Random
