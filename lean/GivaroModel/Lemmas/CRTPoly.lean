/-
C14 — Poly1CRT: the coefficient-list model of `Model/CRT.lean` seen in `(ZMod p)[X]`.

`toP` reads a coefficient list (low degree first, integers) as a polynomial over `ZMod p`, through `toPoly` of C08; the list
operations of the model are the polynomial operations they are meant to be, lengths and `CanonCoeffs` are followed on the lists; the
Newton loop of `RnsToRing` interpolates by the same round (`Interp.newton`) as C08's model of the class; uniqueness is
`PolyInterp.interp_unique`; "`RingToRns P` is `rs` mod `p`" is `Interp (toP p P) (castPairs p as rs)` (`toRns_eq_iff`).  Then the object (`PolyHist`, `PolyGood`), `DistinctMod` with its passage to `ZMod p`, and `polyNorm` of
lists that agree at every index.
-/
import GivaroModel.Lemmas.CRTSys
import GivaroModel.Lemmas.PolyInterp
import Mathlib.Data.ZMod.Basic
import Mathlib.Algebra.Field.ZMod

namespace Givaro.Lemmas.CRT
open Givaro.Model.CRT Givaro.Lemmas.Poly Givaro.Lemmas.PolyInterp
open Polynomial

variable {p : ℕ}

theorem cast_emod (x : Int) : (((x % (p : Int)) : Int) : ZMod p) = (x : ZMod p) := ZMod.intCast_mod x p

section
variable [Fact p.Prime]

/-- the polynomial over `ZMod p` denoted by a coefficient list -/
noncomputable def toP (p : ℕ) [Fact p.Prime] (P : List Int) : (ZMod p)[X] := toPoly (P.map (Int.cast : Int → ZMod p))

theorem toP_cons (c : Int) (P : List Int) : toP p (c :: P) = C (c : ZMod p) + X * toP p P := rfl

theorem prime_cast_pos : (0 : Int) < p := Int.natCast_pos.mpr (Fact.out : p.Prime).pos

theorem toP_singleton (c : Int) : toP p [c % (p : Int)] = C (c : ZMod p) := by
  rw [toP_cons, cast_emod, show toP p [] = 0 from rfl, mul_zero, add_zero]

theorem eval_toP (P : List Int) (x : Int) :
    ((polyEval (p : Int) P x : Int) : ZMod p) = (toP p P).eval (x : ZMod p) := by
  induction P with
  | nil => simp [polyEval, toP]
  | cons c P ih =>
    rw [show polyEval (p : Int) (c :: P) x = (polyEval (p : Int) P x * x + c) % (p : Int) from rfl, cast_emod, toP_cons,
      eval_add, eval_C, eval_mul, eval_X, Int.cast_add, Int.cast_mul, ih]
    ring

theorem coeff_toP (P : List Int) (i : ℕ) : (toP p P).coeff i = ((P.getD i 0 : Int) : ZMod p) := by
  rw [toP, coeff_toPoly, List.getD_eq_getElem?_getD, List.getD_eq_getElem?_getD, List.getElem?_map]
  cases P[i]? <;> simp

theorem degree_toP_lt (P : List Int) : (toP p P).degree < (P.length : WithBot ℕ) :=
  (degree_lt_iff_coeff_zero _ _).mpr fun m hm => coeff_toPoly_of_le _ m (by rwa [List.length_map])

/-! ### the list operations are the polynomial operations -/

theorem toP_mulXSub_zip (a : Int) : ∀ (P : List Int) (prev : Int),
    toP p (((prev :: P).zip (P ++ [0])).map (fun xy => (xy.1 - a * xy.2) % (p : Int))) =
      C (prev : ZMod p) + (X - C (a : ZMod p)) * toP p P
  | [], prev => by simp [toP]
  | c :: P, prev => by
    rw [List.cons_append, List.zip_cons_cons, List.map_cons, toP_cons, toP_mulXSub_zip a P c, toP_cons, cast_emod,
      Int.cast_sub, Int.cast_mul, C_sub, C_mul]
    ring

theorem toP_mulXSub (P : List Int) (a : Int) :
    toP p (polyMulXSub (p : Int) P a) = toP p P * (X - C (a : ZMod p)) := by
  show toP p (((0 :: P).zip (P ++ [0])).map _) = _
  rw [toP_mulXSub_zip a P 0, Int.cast_zero, C_0, zero_add, mul_comm]

theorem toP_map {f : Int → Int} {k : ZMod p} (hf : ∀ c, ((f c : Int) : ZMod p) = k * (c : ZMod p)) (P : List Int) :
    toP p (P.map f) = C k * toP p P := by
  show toPoly ((P.map f).map _) = C k * toPoly (P.map _)
  rw [← toPoly_map_mul_left, List.map_map, List.map_map]
  exact congrArg toPoly (List.map_congr_left fun c _ => hf c)

theorem toP_scale (P : List Int) (s : Int) : toP p (polyScale (p : Int) P s) = toP p P * C (s : ZMod p) :=
  (toP_map (fun c => by rw [cast_emod, Int.cast_mul, mul_comm]) P).trans (mul_comm _ _)

theorem toP_axpyin : ∀ (I : List Int) (s : Int) (ck : List Int),
    toP p (polyAxpyin (p : Int) I s ck) = toP p I + C (s : ZMod p) * toP p ck
  | [], s, ck => by
    rw [polyAxpyin, show toP p [] = 0 from rfl, zero_add]
    exact toP_map (fun c => by rw [cast_emod, Int.cast_mul]) ck
  | x :: xs, s, [] => by simp [polyAxpyin, toP]
  | x :: xs, s, y :: ys => by
    rw [polyAxpyin, toP_cons, toP_cons, toP_cons, toP_axpyin xs s ys, cast_emod, Int.cast_add, Int.cast_mul, C_add, C_mul]
    ring

/-! ### lengths and canonical coefficients -/

theorem length_mulXSub (q : Int) (P : List Int) (a : Int) : (polyMulXSub q P a).length = P.length + 1 := by
  simp [polyMulXSub]

theorem length_scale (q : Int) (P : List Int) (s : Int) : (polyScale q P s).length = P.length := by
  simp [polyScale]

theorem length_axpyin_le (q : Int) : ∀ (I : List Int) (s : Int) (ck : List Int) (n : ℕ),
    I.length ≤ n → ck.length ≤ n → (polyAxpyin q I s ck).length ≤ n
  | [], _, _, _, _, h => by rwa [polyAxpyin, List.length_map]
  | _ :: _, _, [], _, h, _ => h
  | _ :: _, _, _ :: _, 0, h, _ => nomatch h
  | _ :: xs, s, _ :: ys, n + 1, h1, h2 =>
    Nat.succ_le_succ (length_axpyin_le q xs s ys n (Nat.le_of_succ_le_succ h1) (Nat.le_of_succ_le_succ h2))

def CanonCoeffs (q : Int) (P : List Int) : Prop := ∀ c ∈ P, 0 ≤ c ∧ c < q

theorem canon_axpyin (q : Int) (hq : 0 < q) : ∀ (I : List Int) (s : Int) (ck : List Int),
    CanonCoeffs q I → CanonCoeffs q (polyAxpyin q I s ck)
  | [], _, _, _ => fun c hc => by
    obtain ⟨y, _, rfl⟩ := List.mem_map.mp hc
    exact emod_canon hq _
  | _ :: _, _, [], h => h
  | _ :: xs, s, _ :: ys, h => fun c hc => by
    rcases List.mem_cons.mp hc with rfl | hc
    · exact emod_canon hq _
    · exact canon_axpyin q hq xs s ys (fun c hc => h c (List.mem_cons_of_mem _ hc)) c hc

/-! ### the cofactor contract in the field -/

theorem cof_field_inverse {cof : Int → Int → Int} (hcof : CofOK cof) (x : Int) (hx : 0 ≤ x)
    (hne : (x : ZMod p) ≠ 0) : (((cof (p : Int) x) % (p : Int) : Int) : ZMod p) = (x : ZMod p)⁻¹ := by
  -- nonzero in `ZMod p` is coprime to `p`
  have hco : IsCoprime (p : Int) x :=
    Int.isCoprime_iff_gcd_eq_one.mpr (((Fact.out : p.Prime).coprime_iff_not_dvd (n := x.natAbs)).mpr
      fun h => hne ((ZMod.intCast_zmod_eq_zero_iff_dvd x p).mpr (Int.natCast_dvd.mpr h)))
  have h := (ZMod.intCast_eq_intCast_iff _ _ _).mpr (cof_inverts hcof prime_cast_pos hx (Int.ModEq.refl x) hco)
  rw [cast_emod]
  exact eq_inv_of_mul_eq_one_left (by rw [← Int.cast_mul, h, Int.cast_one])

/-! ### the Newton loop interpolates -/

theorem polyEval_canon (q : Int) (hq : 0 < q) (P : List Int) (x : Int) : 0 ≤ polyEval q P x ∧ polyEval q P x < q := by
  cases P with
  | nil => exact ⟨le_refl 0, hq⟩
  | cons c P => exact emod_canon hq _

def castPairs (p : ℕ) (as rs : List Int) : List (ZMod p × ZMod p) :=
  (as.map (Int.cast : Int → ZMod p)).zip (rs.map (Int.cast : Int → ZMod p))

theorem map_fst_castPairs {as rs : List Int} (hlen : rs.length = as.length) :
    (castPairs p as rs).map Prod.fst = as.map (Int.cast : Int → ZMod p) :=
  List.map_fst_zip (by rw [List.length_map, List.length_map, hlen])

theorem polyEval_eq_iff (P : List Int) (a r : Int) :
    polyEval (p : Int) P a = r % (p : Int) ↔ (toP p P).eval (a : ZMod p) = (r : ZMod p) := by
  have hc := polyEval_canon (p : Int) prime_cast_pos P a
  rw [← eval_toP, ZMod.intCast_eq_intCast_iff, Int.ModEq, Int.emod_eq_of_lt hc.1 hc.2]

/-- "`P` takes the residues `rs` at the points `as`", on the lists and in `(ZMod p)[X]` -/
theorem toRns_eq_iff (P : List Int) {as rs : List Int} (hlen : rs.length = as.length) :
    polyRingToRns (p : Int) as P = rs.map (fun r => r % (p : Int)) ↔ Interp (toP p P) (castPairs p as rs) := by
  rw [polyRingToRns, ← List.forall₂_eq_eq_eq, List.forall₂_map_left_iff, List.forall₂_map_right_iff, List.forall₂_iff_zip,
    and_iff_right hlen.symm, Interp, castPairs, List.zip_map, List.forall_mem_map]
  exact ⟨fun h ar har => (polyEval_eq_iff P _ _).mp (h har), fun h a r har => (polyEval_eq_iff P _ _).mpr (h (a, r) har)⟩

/-- the loop of `RnsToRing` run together with that of `ComputeCk`: `D` = the (point, residue) pairs already processed, `prev`
    the last point; `prodL * (X - prev)` is the nodal polynomial of the processed points and `IL` interpolates them. -/
theorem polyGarner_interp {cof : Int → Int → Int} (hcof : CofOK cof) :
    ∀ (as rs prodL : List Int) (prev : Int) (IL : List Int) (D : List (ZMod p × ZMod p)),
      toP p prodL * (X - C (prev : ZMod p)) = prodX (D.map Prod.fst) →
      Interp (toP p IL) D →
      rs.length = as.length →
      ((D ++ castPairs p as rs).map Prod.fst).Nodup →
      Interp (toP p (polyGarnerGo (p : Int) IL as (polyCkGo cof (p : Int) prodL prev as) rs)) (D ++ castPairs p as rs) := by
  have hq : (0 : Int) < p := prime_cast_pos
  intro as
  induction as with
  | nil =>
    intro rs prodL prev IL D _ hint _ _
    rwa [castPairs, List.map_nil, List.zip_nil_left, List.append_nil]
  | cons a as ih =>
    intro rs prodL prev IL D hnod hint hlen hnd
    cases rs with
    | nil => exact nomatch hlen
    | cons r rs =>
    rw [polyCkGo, polyGarnerGo]
    rw [show castPairs p (a :: as) (r :: rs) = [((a : ZMod p), (r : ZMod p))] ++ castPairs p as rs from rfl,
      ← List.append_assoc] at hnd ⊢
    generalize hprod' : polyMulXSub (p : Int) prodL prev = prod'
    have hV : toP p prod' = prodX (D.map Prod.fst) := by rw [← hprod', toP_mulXSub, hnod]
    have hpnot : (a : ZMod p) ∉ D.map Prod.fst := by
      rw [List.map_append, List.map_append, List.nodup_append] at hnd
      exact fun hm => (List.nodup_append.mp hnd.1).2.2 _ hm _ (List.mem_singleton_self _) rfl
    refine ih rs prod' a _ _ (by rw [List.map_append, List.map_cons, List.map_nil, prodX_append, hV]) ?_
      (Nat.succ_injective hlen) hnd
    rw [toP_axpyin, toP_scale, cast_emod, Int.cast_add, cast_emod, Int.cast_neg, eval_toP,
      cof_field_inverse hcof _ (polyEval_canon _ hq _ _).1 (by rw [eval_toP, hV]; exact prodX_eval_ne_zero _ _ hpnot),
      eval_toP, hV]
    exact hint.newton hpnot _

theorem length_polyGarnerGo_le (cof : Int → Int → Int) (q : Int) : ∀ (as rs prodL : List Int) (prev : Int) (IL : List Int) (n : ℕ),
    IL.length ≤ n → prodL.length ≤ n →
    (polyGarnerGo q IL as (polyCkGo cof q prodL prev as) rs).length ≤ n + as.length := by
  intro as
  induction as with
  | nil => intro rs prodL prev IL n h _; exact h
  | cons a as ih =>
    intro rs prodL prev IL n hI hP
    cases rs with
    | nil => exact Nat.le_add_right_of_le hI
    | cons r rs =>
      rw [polyCkGo, polyGarnerGo, List.length_cons, ← Nat.add_assoc, Nat.add_right_comm]
      have hP' : (polyMulXSub q prodL prev).length ≤ n + 1 := by rw [length_mulXSub]; exact Nat.succ_le_succ hP
      exact ih rs _ a _ (n + 1) (length_axpyin_le q _ _ _ _ (Nat.le_succ_of_le hI) (by rwa [length_scale])) hP'

theorem canon_polyGarnerGo (q : Int) (hq : 0 < q) : ∀ (as : List Int) (cs : List (List Int)) (rs IL : List Int),
    CanonCoeffs q IL → CanonCoeffs q (polyGarnerGo q IL as cs rs)
  | [], _, _, _, h => h
  | _ :: _, [], _, _, h => h
  | _ :: _, _ :: _, [], _, h => h
  | _ :: as, _ :: cs, _ :: rs, _, h => canon_polyGarnerGo q hq as cs rs _ (canon_axpyin q hq _ _ _ h)

theorem polyRnsToRing_spec {cof : Int → Int → Int} (hcof : CofOK cof) (as rs : List Int)
    (hlen : rs.length = as.length) (hpw : as.Pairwise (fun (a b : Int) => (a : ZMod p) ≠ (b : ZMod p))) :
    let P := polyRnsToRing (p : Int) as (polyComputeCk cof (p : Int) as) rs
    Interp (toP p P) (castPairs p as rs) ∧ P.length ≤ as.length ∧ CanonCoeffs (p : Int) P := by
  have hq : (0 : Int) < p := prime_cast_pos
  dsimp only
  cases as with
  | nil => exact ⟨fun _ h => (nomatch h), Nat.zero_le _, fun _ h => (nomatch h)⟩
  | cons a0 as =>
    cases rs with
    | nil => exact nomatch hlen
    | cons r0 rs =>
    rw [polyComputeCk, polyRnsToRing]
    refine ⟨?_, ?_, canon_polyGarnerGo _ hq _ _ _ _ (fun c hc => ?_)⟩
    · exact polyGarner_interp hcof as rs [1 % (p : Int)] a0 [r0 % (p : Int)] [((a0 : ZMod p), (r0 : ZMod p))]
        (by rw [toP_singleton, Int.cast_one, C_1, one_mul]; exact (mul_one _).symm)
        (fun dr hdr => by rw [List.mem_singleton.mp hdr, toP_singleton, eval_C]) (Nat.succ_injective hlen)
        (by
          show (List.map Prod.fst (castPairs p (a0 :: as) (r0 :: rs))).Nodup
          rw [map_fst_castPairs hlen]
          exact List.pairwise_map.mpr hpw)
    · have := length_polyGarnerGo_le cof (p : Int) as rs [1 % (p : Int)] a0 [r0 % (p : Int)] 1 (Nat.le_refl 1) (Nat.le_refl 1)
      rwa [Nat.add_comm] at this
    · rw [List.mem_singleton.mp hc]; exact emod_canon hq _

/-! ### uniqueness -/

theorem coeff_unique {as rs : List Int} (hlen : rs.length = as.length)
    (hpw : as.Pairwise (fun (a b : Int) => (a : ZMod p) ≠ (b : ZMod p))) {P Q : List Int}
    (hP : P.length ≤ as.length) (hQ : Q.length ≤ as.length)
    (iP : Interp (toP p P) (castPairs p as rs)) (iQ : Interp (toP p Q) (castPairs p as rs)) (i : ℕ) :
    (P.getD i 0) % (p : Int) = (Q.getD i 0) % (p : Int) := by
  have hD : (castPairs p as rs).length = as.length := by
    rw [← List.length_map (f := Prod.fst), map_fst_castPairs hlen, List.length_map]
  have := congrArg (fun f => f.coeff i) (interp_unique _ (by rw [map_fst_castPairs hlen]; exact List.pairwise_map.mpr hpw) _ _ iP iQ
    (lt_of_lt_of_le (degree_toP_lt P) (by rw [hD]; exact_mod_cast hP))
    (lt_of_lt_of_le (degree_toP_lt Q) (by rw [hD]; exact_mod_cast hQ)))
  simp only [coeff_toP] at this
  exact (ZMod.intCast_eq_intCast_iff _ _ _).mp this

theorem getD_emod_of_canon {q : Int} (hq : 0 < q) {P : List Int} (h : CanonCoeffs q P) (i : ℕ) :
    P.getD i 0 % q = P.getD i 0 := by
  rw [List.getD_eq_getElem?_getD]
  by_cases hi : i < P.length
  · rw [List.getElem?_eq_getElem hi]
    exact Int.emod_eq_of_lt (h _ (List.getElem_mem hi)).1 (h _ (List.getElem_mem hi)).2
  · rw [List.getElem?_eq_none (Nat.le_of_not_lt hi)]
    exact Int.emod_eq_of_lt (le_refl 0) hq

theorem polyRingToRns_emod {q : Int} (hq : 0 < q) (as P : List Int) :
    (polyRingToRns q as P).map (fun r => r % q) = polyRingToRns q as P := by
  rw [polyRingToRns, List.map_map]
  exact List.map_congr_left (fun a _ => Int.emod_eq_of_lt (polyEval_canon q hq P a).1 (polyEval_canon q hq P a).2)

end

/-! ### the `Poly1CRT` object: histories, cache invariant -/

/-- every way of obtaining a `Poly1CRT` object (the class has no default constructor that compiles and no assignment) -/
inductive PolyHist
  | mk (q : Int) (as : List Int)      -- `Poly1CRT(F, points, X)`
  | copy (h : PolyHist)               -- copy constructor
  | useCk (h : PolyHist)              -- any call that triggers `ComputeCk` (RnsToRing, Reciprocals, reciprocal)

def PolyHist.eval (cof : Int → Int → Int) : PolyHist → PolySys
  | .mk q as => PolySys.ofPoints q as
  | .copy h => (h.eval cof).copy
  | .useCk h => (h.eval cof).computeCk cof

/-- the cache invariant of `Poly1CRT` -/
def PolyGood (cof : Int → Int → Int) (s : PolySys) : Prop :=
  s.ck = [] ∨ s.ck = polyComputeCk cof s.p s.points

theorem PolySys.computeCk_eq {cof : Int → Int → Int} {s : PolySys} (h : PolyGood cof s) :
    s.computeCk cof = { s with ck := polyComputeCk cof s.p s.points } :=
  guarded_fill PolySys.ck (fun s c => { s with ck := c }) (fun _ => rfl) h

theorem polyHist_good (cof : Int → Int → Int) : ∀ h : PolyHist, PolyGood cof (h.eval cof)
  | .mk _ _ => Or.inl rfl
  | .copy h => polyHist_good cof h
  | .useCk h => by
    rw [PolyHist.eval, PolySys.computeCk_eq (polyHist_good cof h)]; exact Or.inr rfl

theorem PolyGood.answer {cof : Int → Int → Int} {s : PolySys} (h : PolyGood cof s) (rs : List Int) :
    (s.rnsToRing cof rs).2 = polyRnsToRing s.p s.points (polyComputeCk cof s.p s.points) rs := by
  simp only [PolySys.rnsToRing, PolySys.computeCk_eq h]

/-- distinct evaluation points, stated on the integers -/
def DistinctMod (q : Int) (as : List Int) : Prop := as.Pairwise (fun a b => a % q ≠ b % q)

theorem DistinctMod.cast {as : List Int} (h : DistinctMod (p : Int) as) :
    as.Pairwise (fun (a b : Int) => (a : ZMod p) ≠ (b : ZMod p)) := by
  refine List.Pairwise.imp ?_ h
  intro a b hab hc
  exact hab ((ZMod.intCast_eq_intCast_iff _ _ _).mp hc)

/-! ### observable value of a polynomial: coefficient-wise equal lists have the same normal form -/

theorem polyNorm_append_zero (L : List Int) : polyNorm (L ++ [0]) = polyNorm L := by
  simp [polyNorm]

theorem polyNorm_append_replicate (L : List Int) : ∀ k : ℕ, polyNorm (L ++ List.replicate k 0) = polyNorm L
  | 0 => by simp
  | k + 1 => by
    rw [List.replicate_succ', ← List.append_assoc, polyNorm_append_zero, polyNorm_append_replicate L k]

theorem eq_append_replicate_of_getD_eq : ∀ (P Q : List Int), P.length ≤ Q.length → (∀ i, P.getD i 0 = Q.getD i 0) →
    Q = P ++ List.replicate (Q.length - P.length) 0
  | [], Q, _, h => by
    rw [List.nil_append, List.length_nil, Nat.sub_zero]
    refine List.eq_replicate_iff.mpr ⟨rfl, fun b hb => ?_⟩
    obtain ⟨i, hi, rfl⟩ := List.getElem_of_mem hb
    have := h i
    rw [List.getD_eq_getElem?_getD, List.getD_eq_getElem?_getD, List.getElem?_eq_getElem hi] at this
    exact this.symm
  | _ :: _, [], hl, _ => absurd hl (Nat.not_succ_le_zero _)
  | x :: P, y :: Q, hl, h => by
    have h0 : x = y := h 0
    have := eq_append_replicate_of_getD_eq P Q (Nat.le_of_succ_le_succ hl) (fun i => h (i + 1))
    rw [h0, List.cons_append, List.length_cons, List.length_cons, Nat.succ_sub_succ, ← this]

theorem polyNorm_eq_of_getD_eq (P Q : List Int) (h : ∀ i, P.getD i 0 = Q.getD i 0) : polyNorm P = polyNorm Q := by
  rcases Nat.le_total P.length Q.length with hl | hl
  · rw [eq_append_replicate_of_getD_eq P Q hl h, polyNorm_append_replicate]
  · rw [eq_append_replicate_of_getD_eq Q P hl (fun i => (h i).symm), polyNorm_append_replicate]

end Givaro.Lemmas.CRT
