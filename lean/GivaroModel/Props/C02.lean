/-
C02 — division and remainder obey their documented rounding conventions.

The per-overload theorems (`Givaro.Gen.*_exact`, regenerated on every run) state that each
overload computes one of the specification functions of `Spec/IntegerSpec.lean`.  This file
proves that those specification functions *are* the conventions of the header's documentation
block (gmp++_int.h "Division/euclidean division/modulo"), for every dividend and every non-zero
divisor of either sign, and that the Euclidean-ring view is mutually consistent.
-/
import GivaroModel.Spec.IntegerSpec
import GivaroModel.Lemmas.IntegerTactics
namespace Givaro.Props.C02
open Givaro Givaro.Spec

/-- case analysis on the three facts every rounding convention depends on -/
local macro "cases3" n:ident d:ident hb:ident : tactic => `(tactic|
  (by_cases c1 : 0 ≤ $n <;> by_cases c2 : $n % $d = 0 <;> by_cases c3 : $d < 0 <;>
    simp only [c1, c2, c3, ↓reduceIte, or_true, true_or, or_false, false_or, not_true_eq_false, not_false_eq_true] at $hb:ident ⊢ <;>
    (repeat' split) <;> omega))

/-- `/`, `div`, `divin`, `trunc` with `%`, `%=`, `trem`: `n = d q + r`, `|r| < |d|`, `r` has the sign of `n`. -/
theorem trunc_convention (n d : Int) (hd : d ≠ 0) :
    n = d * tdivQ n d + tmodR n d ∧ iabs (tmodR n d) < iabs d ∧ (tmodR n d = 0 ∨ sgn (tmodR n d) = sgn n) := by
  obtain ⟨h0, h1, hz⟩ := ediv_facts n d hd
  unfold tdivQ tmodR iabs sgn
  refine ⟨(Int.mul_tdiv_add_tmod n d).symm, ?_⟩
  -- the remainder is `n % d`, moved by one divisor when `n < 0` and the division is inexact
  rcases tdiv_facts n d hd with ⟨c, -, hr⟩ | ⟨hn, hm, hb, -, hr⟩ | ⟨hn, hm, hb, -, hr⟩
  · rw [hr, if_neg (by omega)]
    refine ⟨by split <;> omega, ?_⟩
    by_cases hm : n % d = 0
    · exact Or.inl hm
    · exact Or.inr (by rw [if_neg hm, if_neg (by omega), if_neg (by omega), if_neg (by omega)])
  · rw [hr, if_pos (by omega), if_neg (by omega), if_pos (by omega), if_pos hn]
    exact ⟨by omega, Or.inr rfl⟩
  · rw [hr, if_pos (by omega), if_pos hb, if_pos (by omega), if_pos hn]
    exact ⟨by omega, Or.inr rfl⟩

/-- `mod`, `modin`, `divmod`, `quo`, `rem`, `quoRem`: `n = d q + r` with `0 ≤ r < |d|`. -/
theorem euclid_convention (n d : Int) (hd : d ≠ 0) :
    n = d * edivQ n d + emodR n d ∧ 0 ≤ emodR n d ∧ emodR n d < iabs d := by
  have h := Int.mul_ediv_add_emod n d
  have hb := emod_bounds n d hd
  unfold edivQ emodR iabs
  exact ⟨h.symm, hb.1, hb.2⟩

/-- `floor`, `frem`: `n = d q + r`, the remainder has the sign of the divisor (q = ⌊n/d⌋). -/
theorem floor_convention (n d : Int) (hd : d ≠ 0) :
    n = d * fdivQ n d + fmodR n d ∧ (0 < d → 0 ≤ fmodR n d ∧ fmodR n d < d) ∧ (d < 0 → d < fmodR n d ∧ fmodR n d ≤ 0) := by
  have h := Int.mul_fdiv_add_fmod n d
  have hb := emod_bounds n d hd
  unfold fdivQ fmodR
  refine ⟨h.symm, ?_, ?_⟩ <;> intro hpos <;> rw [fmod_emod] <;> repeat' split <;> omega

/-- `ceil`, `crem`: `n = d q + r`, the remainder has the sign opposite to the divisor (q = ⌈n/d⌉). -/
theorem ceil_convention (n d : Int) (hd : d ≠ 0) :
    n = d * cdivQ n d + cmodR n d ∧ (0 < d → -d < cmodR n d ∧ cmodR n d ≤ 0) ∧ (d < 0 → 0 ≤ cmodR n d ∧ cmodR n d < -d) := by
  have h := Int.mul_fdiv_add_fmod (-n) d
  have hb := emod_bounds (-n) d hd
  unfold cdivQ cmodR
  refine ⟨?_, ?_, ?_⟩
  · have : d * -(-n).fdiv d = -(d * (-n).fdiv d) := by rw [Int.mul_neg]
    omega
  · intro hpos; rw [fmod_emod]; repeat' split <;> omega
  · intro hneg; rw [fmod_emod]; repeat' split <;> omega

/-- the quotient is unique for the Euclidean convention: any `(q, r)` with `n = d q + r`, `0 ≤ r < |d|`
    is `(edivQ, emodR)` — so "the" Euclidean quotient the overloads must agree on is well defined. -/
theorem euclid_unique (n d q r : Int) (hd : d ≠ 0) (h : n = d * q + r) (h0 : 0 ≤ r) (h1 : r < iabs d) :
    q = edivQ n d ∧ r = emodR n d := by
  unfold edivQ emodR iabs at *
  have hr : r = n % d := by
    rw [h, Int.mul_comm, Int.add_comm, Int.add_mul_emod_self_right]
    rcases Int.lt_or_gt_of_ne hd with hneg | hpos
    · rw [← Int.emod_neg]; exact (Int.emod_eq_of_lt h0 (by split at h1 <;> omega)).symm
    · exact (Int.emod_eq_of_lt h0 (by split at h1 <;> omega)).symm
  refine ⟨?_, hr⟩
  have h2 := Int.mul_ediv_add_emod n d
  have : d * q = d * (n / d) := by omega
  exact Int.eq_of_mul_eq_mul_left hd this

/-- Euclidean-ring view of `ZRing<Integer>`: `quo a b * b + rem a b = a`. -/
theorem ring_view_consistent (a b : Int) : edivQ a b * b + emodR a b = a := by
  unfold edivQ emodR
  rw [Int.mul_comm]; exact Int.mul_ediv_add_emod a b

-- non-vacuity: the hypotheses are satisfiable and the conventions differ where they should
example : tdivQ (-7) 2 = -3 ∧ tmodR (-7) 2 = -1 ∧ fdivQ (-7) 2 = -4 ∧ fmodR (-7) 2 = 1 ∧ cdivQ (-7) 2 = -3 ∧ cmodR (-7) 2 = -1
    ∧ edivQ (-7) (-2) = 4 ∧ emodR (-7) (-2) = 1 ∧ edivQ 7 (-2) = -3 ∧ emodR 7 (-2) = 1 := by decide

end Givaro.Props.C02
