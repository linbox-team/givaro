import GivaroModel.Model.AliasProg

/-!
C15 (ring interfaces): `findClass` scans the classes of an alias pattern for every leaf a program stores to, and that scan is what the
kernel spends its time on when it evaluates `safeEntry` over the table (RecInt patterns have one class per limb, up to 64 of them).
Here the classes are put into a search tree over the same list: a node is labelled with the union of the classes of its left half, so
a lookup tests one bit per level.  `safeEntryFast` is `safeEntry` with the lookups going through the tree and the representatives
compared through a bit set; `safeEntryFast_sound` is what the table theorems use.
-/
namespace Givaro.Model.AliasProg

/-- `m.testBit l`, written with the primitives the kernel evaluates directly (`Nat.testBit` goes through `!=` and its instances) -/
def hasBit (m l : Nat) : Bool := Nat.beq ((m >>> l) &&& 1) 1

theorem hasBit_eq (m l : Nat) : hasBit m l = m.testBit l := by
  rw [hasBit, Nat.testBit, Nat.and_comm 1, Nat.and_one_is_mod]
  rcases Nat.mod_two_eq_zero_or_one (m >>> l) with h | h <;> rw [h] <;> rfl

def scan : Classes → Nat → Option (Nat × Nat)
  | [], _ => none
  | c :: cs, l => bif hasBit c.2 l then some c else scan cs l

theorem scan_eq (cls : Classes) (l : Nat) : scan cls l = findClass cls l := by
  induction cls with
  | nil => rfl
  | cons c cs ih => simp only [scan, findClass, List.find?, hasBit_eq, ih, cond_eq_ite]; cases c.2.testBit l <;> rfl

def members : Classes → Nat
  | [] => 0
  | c :: cs => c.2 ||| members cs

theorem testBit_members (cls : Classes) (l : Nat) : (members cls).testBit l = cls.any (fun c => c.2.testBit l) := by
  induction cls with
  | nil => simp [members]
  | cons c cs ih => simp [members, Nat.testBit_or, ih]

theorem find?_halves {α : Type} (p : α → Bool) (xs ys : List α) :
    (if xs.any p then xs.find? p else ys.find? p) = (xs ++ ys).find? p := by
  rw [List.find?_append]
  cases h : xs.find? p with
  | none =>
    have : xs.any p = false := List.any_eq_false.mpr fun x hx => by simpa using List.find?_eq_none.mp h x hx
    simp [this]
  | some c => simp [List.any_eq_true.mpr ⟨c, List.mem_of_find?_eq_some h, List.find?_some h⟩]

inductive CTree where
  | leaf (cls : Classes)
  | node (m : Nat) (a b : CTree)

namespace CTree

def build : Nat → Classes → CTree
  | 0, cls => leaf cls
  | d + 1, cls =>
    node (members (cls.take (cls.length / 2))) (build d (cls.take (cls.length / 2))) (build d (cls.drop (cls.length / 2)))

def find : CTree → Nat → Option (Nat × Nat)
  | leaf cls, l => scan cls l
  | node m a b, l => bif hasBit m l then a.find l else b.find l

theorem find_build (d : Nat) (cls : Classes) (l : Nat) : (build d cls).find l = findClass cls l := by
  induction d generalizing cls with
  | zero => exact scan_eq cls l
  | succ d ih =>
    rw [build, find, ih, ih, hasBit_eq, testBit_members, findClass, findClass, cond_eq_ite, find?_halves, List.take_append_drop]
    rfl

def conf (t : CTree) (l : Nat) : Nat :=
  match t.find l with
  | some c => c.2
  | none => 0

def phi (t : CTree) (l : Nat) : Nat :=
  match t.find l with
  | some c => c.1
  | none => l

def al (t : CTree) (l l' : Nat) : Bool := t.phi l == t.phi l'

theorem conf_build (d : Nat) (cls : Classes) : (build d cls).conf = confOf cls := by
  funext l; simp only [conf, confOf, find_build]; rfl

theorem phi_build (d : Nat) (cls : Classes) : (build d cls).phi = phiOf cls := by
  funext l; simp only [phi, phiOf, find_build]; rfl

theorem al_build (d : Nat) (cls : Classes) : (build d cls).al = alOf cls := by
  funext l l'; simp only [al, alOf, phi_build]

end CTree

/-- no number occurs twice in the list, nor in the bit set `seen` -/
def fresh : Nat → List Nat → Bool
  | _, [] => true
  | seen, r :: rs => !hasBit seen r && fresh (seen ||| bit r) rs

theorem fresh_nodup {seen : Nat} {rs : List Nat} (h : fresh seen rs = true) :
    rs.Nodup ∧ ∀ r ∈ rs, seen.testBit r = false := by
  induction rs generalizing seen with
  | nil => simp
  | cons r rs ih =>
    simp only [fresh, hasBit_eq, Bool.and_eq_true, Bool.not_eq_true'] at h
    obtain ⟨hn, hs⟩ := ih h.2
    simp only [Nat.testBit_or, Bool.or_eq_false_iff] at hs
    refine ⟨List.nodup_cons.mpr ⟨fun hr => ?_, hn⟩, fun x hx => ?_⟩
    · simpa [bit, Nat.one_shiftLeft] using (hs r hr).2
    · rcases List.mem_cons.mp hx with rfl | hx
      · exact h.1
      · exact (hs x hx).1

def clsOKFast (cls : Classes) : Bool := cls.all (fun c => hasBit c.2 c.1) && fresh 0 (cls.map (·.1))

theorem clsOKFast_sound {cls : Classes} (h : clsOKFast cls = true) : clsOK cls = true := by
  simp only [clsOKFast, hasBit_eq, Bool.and_eq_true] at h
  simp only [clsOK, Bool.and_eq_true, decide_eq_true_eq]
  exact ⟨h.1, (fresh_nodup h.2).1⟩

/-- `safeEntry` with `clsOK` in one pass and the class lookups through a search tree just deep enough for one class per leaf -/
def safeEntryFast (e : Entry) : Bool :=
  clsOKFast e.cls &&
  match safe (CTree.build e.cls.length.log2 e.cls).conf (CTree.build e.cls.length.log2 e.cls).al e.prog e.env e.d0 with
  | some x => ((if x.nr then x.n else 0) ||| x.r) &&& e.outs == 0
  | none => false

theorem safeEntryFast_sound {e : Entry} (h : safeEntryFast e = true) : safeEntry e = true := by
  rw [safeEntryFast, CTree.conf_build, CTree.al_build, Bool.and_eq_true] at h
  rw [safeEntry, clsOKFast_sound h.1, Bool.true_and]
  exact h.2

end Givaro.Model.AliasProg
