/-
C07 — Montgomery-form residue arithmetic is indistinguishable from plain residues.

All theorems are about `Model/Montgomery.lean`, the branch-by-branch transcription of montgomery-int32.{h,inl},
montgomery-ruint.{h,inl} and the `rmint` headers of recint/ (both variants; the head of the model lists them), tied to the code by
the correspondence of checks/c07.py.  `IsRep M p x a` (Spec/MontgomerySpec.lean): `x ∈ [0,p)` is the Montgomery form, radix `M`, of the residue `a`.

32-bit ring: for every odd modulus 3 ≤ p ≤ 40503 = maxCardinality(), every residue.
RecInt: for every radix R and every 0 < p < R with p1·p ≡ -1 (mod R) — in particular R = 2^(2^K) for every K and every odd p.
-/
import GivaroModel.Lemmas.MontgomeryLemmas
import GivaroModel.Lemmas.MontgomeryDepth
namespace Givaro.Props.C07
open Givaro Givaro.Model.Montgomery Givaro.Spec.Montgomery Givaro.Lemmas.Montgomery

/-! ## Montgomery<int32_t> -/

/-- No `uint32_t` wrap-around inside the reductions: this inequality is where `maxCardinality() = 40503` comes from. -/
theorem redc_no_wrap (p m c : Int) (h3 : 3 ≤ p) (hmax : p ≤ maxCard32) (hm0 : 0 ≤ m) (hm : m ≤ 65535)
    (hc0 : 0 ≤ c) (hc : c ≤ (p - 1) * (p - 1)) : 0 ≤ c + m * p ∧ c + m * p < 4294967296 := by
  unfold maxCard32 at hmax
  exact no_wrap32 h3 hmax hm0 hm hc0 hc
example : 0 ≤ (1640412004 : Int) + 65535 * 40503 ∧ (1640412004 : Int) + 65535 * 40503 < 4294967296 :=
  redc_no_wrap 40503 65535 1640412004 (by decide +kernel) (by decide +kernel) (by decide +kernel) (by decide +kernel) (by decide +kernel) (by decide +kernel)
/-- the bound is sharp: at the next odd modulus the same expression leaves `uint32_t` -/
example : ¬ ((40505 - 1) * (40505 - 1) + 65535 * 40505 < (4294967296 : Int)) := by decide +kernel

/-- The derived constants of the constructor are exact for every admissible modulus:
    `_nim·p ≡ -1 (mod 2^16)`, `_Bp = 2^16 mod p`, `_B2p = 2^32 mod p`, `_B3p = 2^48 mod p`, `one`, `mOne` represent ±1. -/
theorem constants_exact (p : Int) (h3 : 3 ≤ p) (hmax : p ≤ maxCard32) (hodd : p % 2 = 1) :
    let F := mk32 p
    0 ≤ F.nim ∧ F.nim < 65536 ∧ (F.nim * p) % 65536 = 65535 ∧
    F.Bp = 65536 % p ∧ F.B2p = (65536 * 65536) % p ∧ F.B3p = (65536 * 65536 * 65536) % p ∧
    IsRep 65536 p F.one 1 ∧ IsRep 65536 p F.mOne (-1) := by
  intro F
  have g : Good32 F := mk32_good h3 hmax hodd
  unfold maxCard32 at hmax
  have hone : IsRep 65536 p F.one 1 := by
    rw [show F.one = 65536 % p from g.bp]
    exact rep_of_modEq g.mont.p0 (by rw [Int.one_mul])
  refine ⟨g.nim0, g.nimB, g.nimp, g.bp, g.b2, g.b3, hone, ?_⟩
  -- `mOne` is `neg(one)`: an odd `p ≥ 3` does not divide `2^16`
  have hne : F.one ≠ 0 := fun e => by
    have hu := (coprime_of_nim g.nimp).isUnit_of_dvd' (dvd_refl p) (Int.dvd_of_emod_eq_zero (g.bp.symm.trans e))
    rcases Int.isUnit_iff.mp hu with h | h <;> omega
  have : F.mOne = neg32 F F.one := (if_neg hne).symm
  rw [this]
  exact g.toAdm32.isMont.neg_rep hone
example : (3 : Int) ≤ 40503 ∧ (40503 : Int) ≤ maxCard32 ∧ (40503 : Int) % 2 = 1 := by decide +kernel
example : (mk32 40503).nim = 34937 ∧ (34937 * 40503 : Int) % 65536 = 65535 := by decide +kernel

/-- `redc` is exact: for every admissible modulus and every `c ≤ (p-1)²` the result is in `[0,p)` and equals `c·2^-16 (mod p)`. -/
theorem redc_exact (p c : Int) (h3 : 3 ≤ p) (hmax : p ≤ maxCard32) (hodd : p % 2 = 1) (hc0 : 0 ≤ c) (hc : c ≤ (p - 1) * (p - 1)) :
    0 ≤ redc (mk32 p) c ∧ redc (mk32 p) c < p ∧ (redc (mk32 p) c * 65536) % p = c % p := by
  have g : Good32 (mk32 p) := mk32_good h3 hmax hodd
  unfold maxCard32 at hmax
  rw [redc_eq_pure g.toAdm32 hc0 hc]
  have hlt : c < p * 65536 := by
    have := Int.mul_le_mul_of_nonneg_left (show p - 1 ≤ 65536 by omega) (show 0 ≤ p - 1 by omega)
    omega
  obtain ⟨r0, r1, r2⟩ := redcPure_spec g.mont hc0 hlt
  exact ⟨r0, r1, Int.modEq_iff_dvd.mpr r2⟩
example : redc (mk32 40503) (40502 * 40502) = 21592 := by decide +kernel

/-- the six reduction variants of the source (`redc, redcal, redcsal, redcs, redcin, redcsin`) are the same function, for every ring object and every word; the hypotheses are not used -/
theorem redc_variants_agree (p c : Int) (h3 : 3 ≤ p) (hmax : p ≤ maxCard32) (hodd : p % 2 = 1) (hc0 : 0 ≤ c)
    (hc : c ≤ (p - 1) * (p - 1)) :
    let F := mk32 p
    redcal F c = redc F c ∧ redcsal F c = redc F c ∧ redcs F c = redc F c ∧ redcin F c = redc F c ∧ redcsin F c = redc F c := by
  intro F
  have e := (redcsal_eq_redcal F c).trans (redcal_eq_redc F c)
  exact ⟨redcal_eq_redc F c, e, (redcs_eq_redcsal F c).trans e, (redcin_eq_redcal F c).trans (redcal_eq_redc F c),
    (redcsin_eq_redcsal F c).trans e⟩
example : (3 : Int) ≤ 40503 ∧ (40503 : Int) ≤ maxCard32 ∧ (40503 : Int) % 2 = 1 := by decide +kernel
example : redcsin (mk32 40503) (40502 * 40502) = 21592 := by decide +kernel

/-- Initialising and converting back is the canonical map `Z → Z/p` (identity on `[0, p)`), for the unsigned and the signed `init`. -/
theorem mg32_init_convert_id (p v : Int) (h3 : 3 ≤ p) (hmax : p ≤ maxCard32) (hodd : p % 2 = 1) :
    let F := mk32 p
    (0 ≤ v → convert32 F (initU64 F v) = v % p) ∧ convert32 F (initI64 F v) = v % p ∧
    (0 ≤ v → v < p → convert32 F (initU64 F v) = v ∧ convert32 F (initI64 F v) = v) := by
  intro F
  have g : Good32 F := mk32_good h3 hmax hodd
  have e1 : 0 ≤ v → convert32 F (initU64 F v) = v % p := fun _ => g.toAdm32.isMont.conv_rep (initU64_rep g)
  have e2 : convert32 F (initI64 F v) = v % p := g.toAdm32.isMont.conv_rep (initI64_rep g v)
  refine ⟨e1, e2, fun h0 h1 => ?_⟩
  rw [e1 h0, e2, Int.emod_eq_of_lt h0 h1]; exact ⟨rfl, rfl⟩
example : (3 : Int) ≤ 40503 ∧ (40503 : Int) ≤ maxCard32 ∧ (40503 : Int) % 2 = 1 := by decide +kernel
example : convert32 (mk32 40503) (initI64 (mk32 40503) (-1)) = 40502 := by decide +kernel

/-- The operations preserve the representation invariant (so `mg32_ops_exact` below extends to arbitrary histories of operations). -/
theorem mg32_rep_closed (p : Int) (h3 : 3 ≤ p) (hmax : p ≤ maxCard32) (hodd : p % 2 = 1)
    {x y z a b c : Int} (hx : IsRep 65536 p x a) (hy : IsRep 65536 p y b) (hz : IsRep 65536 p z c) :
    let F := mk32 p
    IsRep 65536 p (add32 F x y) (a + b) ∧ IsRep 65536 p (sub32 F x y) (a - b) ∧ IsRep 65536 p (subin32 F x y) (a - b) ∧
    IsRep 65536 p (mul32 F x y) (a * b) ∧ IsRep 65536 p (mulin32 F x y) (a * b) ∧ IsRep 65536 p (neg32 F x) (-a) ∧
    IsRep 65536 p (axpy32 F x y z) (a * b + c) ∧ IsRep 65536 p (axpyin32 F z x y) (c + a * b) ∧
    IsRep 65536 p (axmy32 F x y z) (a * b - c) ∧ IsRep 65536 p (axmyin32 F z x y) (a * b - c) ∧
    IsRep 65536 p (maxpy32 F x y z) (c - a * b) ∧ IsRep 65536 p (maxpyin32 F z x y) (c - a * b) ∧
    convert32 F x = a % p := by
  intro F
  have h := (mk32_good h3 hmax hodd).toAdm32.isMont
  have hm : IsRep 65536 p (mul32 F x y) (a * b) := h.mul_rep hx hy
  have hs : IsRep 65536 p (sub32 F z (mul32 F x y)) (c - a * b) := h.sub_rep hz hm
  have hn := h.neg_rep hs
  rw [neg_sub] at hn
  simp only [axpy32_eq, axpyin32_eq, axmy32, axmyin32, maxpy32, maxpyin32, subin32_eq_sub32, mulin32_eq_mul32]
  exact ⟨h.add_rep hx hy, h.sub_rep hx hy, h.sub_rep hx hy, hm, hm, h.neg_rep hx, h.add_rep hm hz, h.add_rep hz hm,
    h.sub_rep hm hz, hn, hs, hs, h.conv_rep hx⟩
example : IsRep 65536 40503 (initU64 (mk32 40503) 40502) 40502 := by unfold IsRep; decide +kernel

/-- Every ring operation and every fused operation, applied to Montgomery forms and converted out, returns exactly the plain residue. -/
theorem mg32_ops_exact (p a b c : Int) (h3 : 3 ≤ p) (hmax : p ≤ maxCard32) (hodd : p % 2 = 1)
    (ha : 0 ≤ a) (hb : 0 ≤ b) (hc : 0 ≤ c) :
    let F := mk32 p
    let A := initU64 F a
    let B := initU64 F b
    let C := initU64 F c
    convert32 F (add32 F A B) = rAdd p a b ∧ convert32 F (sub32 F A B) = rSub p a b ∧
    convert32 F (subin32 F A B) = rSub p a b ∧ convert32 F (mul32 F A B) = rMul p a b ∧
    convert32 F (mulin32 F A B) = rMul p a b ∧ convert32 F (neg32 F A) = rNeg p a ∧
    convert32 F (axpy32 F A B C) = rAxpy p a b c ∧ convert32 F (axpyin32 F C A B) = rAxpy p a b c ∧
    convert32 F (axmy32 F A B C) = rAxmy p a b c ∧ convert32 F (axmyin32 F C A B) = rAxmy p a b c ∧
    convert32 F (maxpy32 F A B C) = rMaxpy p a b c ∧ convert32 F (maxpyin32 F C A B) = rMaxpy p a b c := by
  intro F A B C
  have g : Good32 F := mk32_good h3 hmax hodd
  obtain ⟨o1, o2, o3, o4, o5, o6, o7, o8, o9, o10, o11, o12, _⟩ :=
    mg32_rep_closed p h3 hmax hodd (initU64_rep g) (initU64_rep g) (initU64_rep g)
  have cv : ∀ {x v : Int}, IsRep 65536 p x v → convert32 F x = v % p := fun hx => g.toAdm32.isMont.conv_rep hx
  unfold rAdd rSub rMul rNeg rAxpy rAxmy rMaxpy
  exact ⟨cv o1, cv o2, cv o3, cv o4, cv o5, cv o6, cv o7, by rw [Int.add_comm]; exact cv o8, cv o9, cv o10, cv o11, cv o12⟩
example : (3 : Int) ≤ 40503 ∧ (40503 : Int) ≤ maxCard32 ∧ (40503 : Int) % 2 = 1 := by decide +kernel
example : convert32 (mk32 101) (mul32 (mk32 101) (initU64 (mk32 101) 100) (initU64 (mk32 101) 99)) = 2 := by decide +kernel

/-- `inv`, `div`, `divin`: for every unit `b` the converted results are the inverse / the quotient in `Z/p`. -/
theorem mg32_inv_div_exact (p a b : Int) (h3 : 3 ≤ p) (hmax : p ≤ maxCard32) (hodd : p % 2 = 1)
    (ha : 0 ≤ a) (hb : 0 ≤ b) (hu : IsCoprime b p) :
    let F := mk32 p
    let A := initU64 F a
    let B := initU64 F b
    (convert32 F (inv32 F B) * b) % p = 1 ∧ (convert32 F (div32 F A B) * b) % p = a % p ∧
    (convert32 F (divin32 F A B) * b) % p = a % p := by
  intro F A B
  have g : Good32 F := mk32_good h3 hmax hodd
  have hp3 := g.p3; have hpm := g.pmax
  have rA : Rep32 F A a := initU64_rep g
  have rB : Rep32 F B b := initU64_rep g
  obtain ⟨t0, t1, ht⟩ := invextS32_spec B F.p rB.1 rB.2.1 (by omega) (by omega) ((rep_coprime g.nimp rB).mpr hu)
  have := g.toAdm32.isMont.inv_div (by omega) rB rA t0.le t1 ht
  rw [← g.b3] at this
  unfold div32 divin32
  rw [mulin32_eq_mul32, mulin32_eq_mul32, inv32_eq_mul g.toAdm32 rB.1 rB.2.1 t0.le t1]
  exact this
example : IsCoprime (2 : Int) 40503 := ⟨-20251, 1, by decide +kernel⟩

/-! ## RecInt: `Montgomery<ruint<K>>` and `rmint<K, MG_ACTIVE>` -/

/-- `mg_reduc` / `reduction` (with the carry test `r || a >= p`) is exact for every `0 ≤ b < p·R`:
    this covers every `Element` (`b < R ≤ p·R`) and, for the `LargeElement` overload, every product of two residues. -/
theorem mgR_reduc_exact (C : MgCtx) (hp0 : 0 < C.p) (hpR : C.p < C.R) (hp1 : (C.p1 * C.p) % C.R = C.R - 1)
    (b : Int) (hb0 : 0 ≤ b) (hb : b < C.p * C.R) :
    0 ≤ mgReduc C b ∧ mgReduc C b < C.p ∧ (mgReduc C b * C.R) % C.p = b % C.p := by
  have h : AdmR C := ⟨hp0, hpR, hp1⟩
  rw [mgReduc_eq_pure h hb0 hb]
  obtain ⟨r0, r1, r2⟩ := redcPure_spec h.mont hb0 hb
  exact ⟨r0, r1, Int.modEq_iff_dvd.mpr r2⟩
example : mgReduc ⟨16, 7, 9, 2, 4, 1⟩ 20 = 3 ∧ (9 * 7) % 16 = 15 ∧ (3 * 16) % 7 = 20 % 7 := by decide +kernel

/-- Every operation of `Montgomery<ruint<K>>` (and the `add/sub/neg/mul` bodies shared with `rmint<K,MGA>`) preserves the
    representation invariant, and `convert` / `get_ruint` returns the represented residue. -/
theorem mgR_ops_exact (C : MgCtx) (hp0 : 0 < C.p) (hpR : C.p < C.R) (hp1 : (C.p1 * C.p) % C.R = C.R - 1)
    {x y z a b c : Int} (hx : IsRep C.R C.p x a) (hy : IsRep C.R C.p y b) (hz : IsRep C.R C.p z c) :
    IsRep C.R C.p (addR C x y) (a + b) ∧ IsRep C.R C.p (subR C x y) (a - b) ∧ IsRep C.R C.p (subinR C x y) (a - b) ∧
    IsRep C.R C.p (mulR C x y) (a * b) ∧ IsRep C.R C.p (negR C x) (-a) ∧
    IsRep C.R C.p (axpyR C x y z) (a * b + c) ∧ IsRep C.R C.p (axpyinR C z x y) (c + a * b) ∧
    IsRep C.R C.p (axmyR C x y z) (a * b - c) ∧ IsRep C.R C.p (axmyinR C z x y) (a * b - c) ∧
    IsRep C.R C.p (maxpyR C x y z) (c - a * b) ∧ IsRep C.R C.p (maxpyinR C z x y) (c - a * b) ∧
    IsRep C.R C.p (addmulA C z x y) (c + a * b) ∧ IsRep C.R C.p (squareA C x) (a * a) ∧
    convertR C x = a % C.p ∧ getRuintA C x = a % C.p := by
  have h := (AdmR.mk hp0 hpR hp1).isMont
  have hm : IsRep C.R C.p (mulR C x y) (a * b) := h.mul_rep hx hy
  simp only [axmyR, maxpyinR, subinR_eq_subR]
  exact ⟨h.add_rep hx hy, h.sub_rep hx hy, h.sub_rep hx hy, hm, h.neg_rep hx,
    h.add_rep hm hz, h.add_rep hz hm, h.sub_rep hm hz, h.sub_rep hm hz, h.sub_rep hz hm, h.sub_rep hz hm,
    h.add_rep hz hm, h.mul_rep hx hx, h.conv_rep hx, h.conv_rep hx⟩
example : IsRep 16 7 4 2 ∧ (9 * 7 : Int) % 16 = 16 - 1 := by unfold IsRep; decide +kernel

/-- entering Montgomery form: `to_mg` of `rmint<K,MGA>` (`b·R mod p`), and `to_mg`/`init` of `Montgomery<ruint<K>>`
    (`REDC(b·r2)`, given that `r2 = R² mod p`) both produce the representation of `b`; converting back is the identity on `[0,p)`. -/
theorem mgR_init_convert_id (C : MgCtx) (hp0 : 0 < C.p) (hpR : C.p < C.R) (hp1 : (C.p1 * C.p) % C.R = C.R - 1)
    (hr2 : C.r2 = (C.R * C.R) % C.p) (v : Int) (hv0 : 0 ≤ v) (hv1 : v < C.p) :
    IsRep C.R C.p (toMgA C v) v ∧ IsRep C.R C.p (toMgR C v) v ∧
    getRuintA C (toMgA C v) = v ∧ convertR C (toMgR C v) = v ∧ convertR C (initR C v) = v := by
  have g : Lemmas.MontInit.GoodR C := ⟨⟨hp0, hpR, hp1⟩, hr2⟩
  have h := g.toAdmR
  have e : v % C.p = v := Int.emod_eq_of_lt hv0 hv1
  have hA := toMgA_rep h v
  have hR : IsRep C.R C.p (toMgR C v) v := by
    have := g.isMont.toMg_rep v
    rwa [e, ← hr2] at this
  exact ⟨hA, hR, (h.isMont.conv_rep hA).trans e, (h.isMont.conv_rep hR).trans e,
    (h.isMont.conv_rep (initR_rep_of_lt g hv0 hv1)).trans e⟩
example : (4 : Int) = (16 * 16) % 7 ∧ (9 * 7 : Int) % 16 = 16 - 1 ∧ convertR ⟨16, 7, 9, 2, 4, 1⟩ (toMgR ⟨16, 7, 9, 2, 4, 1⟩ 5) = 5 := by decide +kernel

/-- The Montgomery and the non-Montgomery `rmint` agree: the Montgomery variant, converted out, returns what the same
    operation of the non-Montgomery variant (the same `add/sub/neg` text run on plain values, `mul` = `(b·c) mod p`) returns,
    and both are the plain residue. -/
theorem mg_agrees_with_plain (C : MgCtx) (hp0 : 0 < C.p) (hpR : C.p < C.R) (hp1 : (C.p1 * C.p) % C.R = C.R - 1)
    (a b : Int) (ha0 : 0 ≤ a) (ha1 : a < C.p) (hb0 : 0 ≤ b) (hb1 : b < C.p) :
    let P : MgCtx := ⟨C.R, C.p, 0, 0, 0, 0⟩          -- the non-Montgomery variant has no constants
    let A := toMgA C a
    let B := toMgA C b
    getRuintA C (addR C A B) = addR P a b ∧ addR P a b = rAdd C.p a b ∧
    getRuintA C (subR C A B) = subR P a b ∧ subR P a b = rSub C.p a b ∧
    getRuintA C (subinR C A B) = subinR P a b ∧
    getRuintA C (negR C A) = negR P a ∧ negR P a = rNeg C.p a ∧
    getRuintA C (mulA C A B) = mulI C.p a b ∧ mulI C.p a b = rMul C.p a b ∧
    getRuintA C (squareA C A) = mulI C.p a a := by
  intro P A B
  have h : AdmR C := ⟨hp0, hpR, hp1⟩
  have hA : IsRep C.R C.p A a := toMgA_rep h a
  have hB : IsRep C.R C.p B b := toMgA_rep h b
  have eadd : addR P a b = rAdd C.p a b := addR_val (C := P) hpR ha0 ha1 hb0 hb1
  have esub : subR P a b = rSub C.p a b := subR_val (C := P) hpR ha0 ha1 hb0 hb1
  have esubin : subinR P a b = rSub C.p a b := (subinR_eq_subR P a b).trans esub
  have eneg : negR P a = rNeg C.p a := negR_val (C := P) hpR ha0 ha1
  have cv : ∀ {x v : Int}, IsRep C.R C.p x v → getRuintA C x = v % C.p := fun hx => h.isMont.conv_rep hx
  exact ⟨(cv (h.isMont.add_rep hA hB)).trans eadd.symm, eadd, (cv (h.isMont.sub_rep hA hB)).trans esub.symm, esub,
    (cv ((subinR_eq_subR C A B) ▸ h.isMont.sub_rep hA hB)).trans esubin.symm, (cv (h.isMont.neg_rep hA)).trans eneg.symm, eneg,
    cv (h.isMont.mul_rep hA hB), rfl, cv (h.isMont.mul_rep hA hA)⟩
example : (9 * 7 : Int) % 16 = 16 - 1 := by decide +kernel

/-- The derived constants `r, r2, r3` of `Montgomery<ruint<K>>(p)` and `r` of `rmint<K,MGA>::init_module(p)` are exact
    for every level `n` (`K = 6 + n`) and every `0 < p < R`. -/
theorem mgR_constants_exact (n : Nat) (p : Int) (hp0 : 0 < p) (hpR : p < radix n) :
    let C := mkR n p
    C.R = radix n ∧ C.p = p ∧ C.r = radix n % p ∧ C.r2 = (radix n * radix n) % p ∧
    C.r3 = (radix n * radix n * radix n) % p ∧ (mkA n p).r = radix n % p ∧ (mkA n p).p1 = C.p1 := by
  intro C
  have er : C.r = radix n % p := uNeg_emod hp0 hpR
  have er2 : C.r2 = (radix n * radix n) % p := mkR_r2 n p hp0 hpR
  refine ⟨rfl, rfl, er, er2, ?_, uNeg_emod hp0 hpR, rfl⟩
  show (C.r2 * C.r) % p = _
  rw [er2, er]; exact (Int.mul_emod _ _ _).symm
example : (0 : Int) < 7 ∧ (7 : Int) < radix 0 := by decide +kernel

/-- `arazi_qi` (the recursive template and its limb specialisation) returns the inverse modulo `2^(2^K)` of every odd input,
    for every level. -/
theorem arazi_qi_exact (n : Nat) (a : Int) (h0 : 0 ≤ a) (h1 : a < radix n) (hodd : a % 2 = 1) :
    0 ≤ arazi n a ∧ arazi n a < radix n ∧ (arazi n a * a) % radix n = 1 := arazi_exact n a h0 h1 hodd
example : arazi 0 3 = 12297829382473034411 ∧ (12297829382473034411 * 3 : Int) % radix 0 = 1 := by decide +kernel

/-- `p1 = arazi_qi(-p)` is exact: `p1·p ≡ -1 (mod 2^(2^K))` for every level and every odd modulus below the radix
    (constructor of `Montgomery<ruint<K>>` and `rmint<K,MGA>::init_module`). -/
theorem mgR_p1_exact (n : Nat) (p : Int) (hp0 : 0 < p) (hpR : p < radix n) (hodd : p % 2 = 1) :
    0 ≤ (mkR n p).p1 ∧ (mkR n p).p1 < radix n ∧ ((mkR n p).p1 * p) % radix n = radix n - 1 ∧ (mkA n p).p1 = (mkR n p).p1 := by
  obtain ⟨a0, a1, a2⟩ := arazi_neg_spec n p hp0 hpR hodd
  exact ⟨a0, a1, a2, rfl⟩
example : (0 : Int) < 1009 ∧ (1009 : Int) < radix 0 ∧ (1009 : Int) % 2 = 1 ∧ ((mkR 0 1009).p1 * 1009) % radix 0 = radix 0 - 1 := by decide +kernel

/-- End-to-end statement for `Montgomery<ruint<K>>` and `rmint<K,MGA>` with the constants *the constructors compute*:
    for every level `n` (`K = 6+n`), every odd `3 ≤ p < 2^(2^K)` and all residues, initialise → operate → convert out
    returns the plain residue. -/
theorem mgR_ring_exact (n : Nat) (p a b c : Int) (hp3 : 3 ≤ p) (hpR : p < radix n) (hodd : p % 2 = 1)
    (ha0 : 0 ≤ a) (ha1 : a < p) (hb0 : 0 ≤ b) (hb1 : b < p) (hc0 : 0 ≤ c) (hc1 : c < p) :
    let C := mkR n p
    let A := initR C a
    let B := initR C b
    let Cc := initR C c
    convertR C A = a ∧
    convertR C (addR C A B) = rAdd p a b ∧ convertR C (subR C A B) = rSub p a b ∧ convertR C (subinR C A B) = rSub p a b ∧
    convertR C (mulR C A B) = rMul p a b ∧ convertR C (negR C A) = rNeg p a ∧
    convertR C (axpyR C A B Cc) = rAxpy p a b c ∧ convertR C (axpyinR C Cc A B) = rAxpy p a b c ∧
    convertR C (axmyR C A B Cc) = rAxmy p a b c ∧ convertR C (axmyinR C Cc A B) = rAxmy p a b c ∧
    convertR C (maxpyR C A B Cc) = rMaxpy p a b c ∧ convertR C (maxpyinR C Cc A B) = rMaxpy p a b c ∧
    (let D := mkA n p
     getRuintA D (toMgA D a) = a ∧ getRuintA D (mulA D (toMgA D a) (toMgA D b)) = rMul p a b ∧
     getRuintA D (addmulA D (toMgA D c) (toMgA D a) (toMgA D b)) = rAxpy p a b c) := by
  intro C A B Cc
  have hp0 : 0 < p := by omega
  have g : Lemmas.MontInit.GoodR C := mkR_good_of_pos n p hp0 hpR hodd
  have rA : IsRep C.R C.p A a := initR_rep_of_lt g ha0 ha1
  obtain ⟨o1, o2, o3, o4, o5, o6, o7, o8, o9, o10, o11, _, _, _, _⟩ :=
    mgR_ops_exact C hp0 hpR g.p1p rA (initR_rep_of_lt g hb0 hb1) (initR_rep_of_lt g hc0 hc1)
  have cv : ∀ {x v : Int}, IsRep C.R C.p x v → convertR C x = v % p := fun hx => g.isMont.conv_rep hx
  unfold rAdd rSub rMul rNeg rAxpy rAxmy rMaxpy
  refine ⟨(cv rA).trans (Int.emod_eq_of_lt ha0 ha1), cv o1, cv o2, cv o3, cv o4, cv o5, cv o6,
    by rw [Int.add_comm]; exact cv o7, cv o8, cv o9, cv o10, cv o11, ?_⟩
  intro D
  have hD : AdmR D := mkA_adm n p hp0 hpR hodd
  have dM := hD.isMont.mul_rep (toMgA_rep hD a) (toMgA_rep hD b)
  refine ⟨(hD.isMont.conv_rep (toMgA_rep hD a)).trans (Int.emod_eq_of_lt ha0 ha1), hD.isMont.conv_rep dM, ?_⟩
  rw [Int.add_comm]; exact hD.isMont.conv_rep (hD.isMont.add_rep (toMgA_rep hD c) dM)
example : (3 : Int) ≤ 1009 ∧ (1009 : Int) < radix 1 ∧ (1009 : Int) % 2 = 1 := by decide +kernel

/-- History level, 32-bit ring: any sequence of ring / fused / in-place operations (an `RExpr` of any size and shape) on
    Montgomery-form elements, converted out at the end, equals the same sequence on plain residues (reduction mod `p` after
    every step), for every admissible modulus.  Second part: the same with the elements produced by `init` from arbitrary integers. -/
theorem mg32_history_exact (p : Int) (h3 : 3 ≤ p) (hmax : p ≤ maxCard32) (hodd : p % 2 = 1) (e : RExpr) (val : Nat → Int) :
    (∀ env : Nat → Int, (∀ i, IsRep 65536 p (env i) (val i)) →
      IsRep 65536 p (e.eval32 (mk32 p) env) (e.evalZ val) ∧ convert32 (mk32 p) (e.eval32 (mk32 p) env) = e.evalPlain p val) ∧
    convert32 (mk32 p) (e.eval32 (mk32 p) (fun i => initI64 (mk32 p) (val i))) = e.evalPlain p val := by
  have g : Good32 (mk32 p) := mk32_good h3 hmax hodd
  exact ⟨fun env henv => ⟨eval32_rep g.toAdm32 env val henv e, eval32_convert g.toAdm32 env val henv e⟩,
    (eval32_init_convert g e val).trans (evalPlain_eq p val e).symm⟩
example : convert32 (mk32 101) ((RExpr.tern .axmyin (.var 0) (.bin .mulin (.var 1) (.var 0)) (.neg (.var 2))).eval32 (mk32 101)
    (fun i => initI64 (mk32 101) (100 - i))) = (100 * (99 * 100) + 98) % 101 := by decide +kernel

/-- History level, RecInt (`Montgomery<ruint<K>>`; the `add/sub/neg/mul` bodies are those of `rmint<K,MGA>`): any sequence of
    operations on Montgomery-form elements, converted out, equals the same sequence on plain residues — every radix, every modulus. -/
theorem mgR_history_exact (C : MgCtx) (hp0 : 0 < C.p) (hpR : C.p < C.R) (hp1 : (C.p1 * C.p) % C.R = C.R - 1)
    (e : RExpr) (env val : Nat → Int) (henv : ∀ i, IsRep C.R C.p (env i) (val i)) :
    IsRep C.R C.p (e.evalR C env) (e.evalZ val) ∧ convertR C (e.evalR C env) = e.evalPlain C.p val ∧
    getRuintA C (e.evalR C env) = e.evalPlain C.p val := by
  have h : AdmR C := ⟨hp0, hpR, hp1⟩
  have hr := evalR_rep h env val henv e
  have := h.isMont.conv_rep hr
  rw [← evalPlain_eq] at this
  exact ⟨hr, this, this⟩

/-- the same with the constants the constructor computes and the elements `init` produces: every level, every odd `3 ≤ p < 2^(2^K)` -/
theorem mgR_history_ring_exact (n : Nat) (p : Int) (hp3 : 3 ≤ p) (hpR : p < radix n) (hodd : p % 2 = 1)
    (e : RExpr) (val : Nat → Int) (hval : ∀ i, 0 ≤ val i ∧ val i < p) :
    convertR (mkR n p) (e.evalR (mkR n p) (fun i => initR (mkR n p) (val i))) = e.evalPlain p val := by
  have g : Lemmas.MontInit.GoodR (mkR n p) := mkR_good_of_pos n p (by omega) hpR hodd
  exact (evalR_init_convert g e val fun i => ⟨lt_of_lt_of_le (neg_neg_of_pos (radix_pos n)) (hval i).1, lt_trans (hval i).2 hpR⟩).trans
    (evalPlain_eq p val e).symm
example : (3 : Int) ≤ 7 ∧ (7 : Int) < radix 0 ∧ (7 : Int) % 2 = 1 := by decide +kernel

/-- `isUnit` of the 32-bit ring decides invertibility of the represented residue (both directions; `extended_euclid` returns the gcd) -/
theorem mg32_isUnit_exact (p x a : Int) (h3 : 3 ≤ p) (hmax : p ≤ maxCard32) (hodd : p % 2 = 1) (hx : IsRep 65536 p x a) :
    isUnit32 (mk32 p) x = true ↔ IsCoprime a p := by
  have g : Good32 (mk32 p) := mk32_good h3 hmax hodd
  exact isUnit32_iff g.toAdm32 (F := mk32 p) hx
example : IsRep 65536 9 (initU64 (mk32 9) 3) 3 ∧ isUnit32 (mk32 9) (initU64 (mk32 9) 3) = false ∧
    isUnit32 (mk32 9) (initU64 (mk32 9) 2) = true := by unfold IsRep; decide +kernel

/-- `isUnit` of `Montgomery<ruint<K>>` (`gcd(d, a, p); d == 1 || d == -1`, the `ruint` gcd taken through its contract `Int.gcd`) decides
    invertibility of the represented residue. -/
theorem mgR_isUnit_exact (C : MgCtx) (hp1 : (C.p1 * C.p) % C.R = C.R - 1) {x a : Int} (hx : IsRep C.R C.p x a) :
    isUnitR C x = true ↔ IsCoprime a C.p := by
  rw [← rep_coprime hp1 hx, Int.isCoprime_iff_gcd_eq_one]
  unfold isUnitR; simp

/-- `inv_mod(a, b, c)` (ruinvmod.h; the loop with its negation / carry / conditional subtraction): for every `1 < c < R` and every
    `b ≥ 0` invertible modulo `c` the result is the inverse of `b` in `[0, c)`. -/
theorem inv_mod_exact (R c b : Int) (hc1 : 1 < c) (hcR : c < R) (hb0 : 0 ≤ b) (hcop : IsCoprime b c) :
    0 ≤ invMod R b c ∧ invMod R b c < c ∧ (invMod R b c * b) % c = 1 := by
  obtain ⟨t0, t1, t2⟩ := invMod_spec hc1 hcR hb0 hcop
  exact ⟨t0, t1, emod_unique_of_dvd (by decide) hc1 t2⟩
example : invMod 16 3 7 = 5 ∧ IsCoprime (3 : Int) 7 := ⟨by decide +kernel, ⟨-2, 1, by decide +kernel⟩⟩

/-- `inv`, `div`, `divin` of `Montgomery<ruint<K>>` (`inv_mod` then `mulin` by `r3`): exact for every unit, every radix, every modulus `> 1`. -/
theorem mgR_inv_div_exact (C : MgCtx) (hp1' : 1 < C.p) (hpR : C.p < C.R) (hp1 : (C.p1 * C.p) % C.R = C.R - 1)
    (hr3 : C.r3 = (C.R * C.R * C.R) % C.p) {x y a b : Int} (hx : IsRep C.R C.p x a) (hy : IsRep C.R C.p y b)
    (hu : IsCoprime a C.p) :
    (convertR C (invR C x) * a) % C.p = 1 ∧ (convertR C (divR C y x) * a) % C.p = b % C.p ∧
    (convertR C (divinR C y x) * a) % C.p = b % C.p ∧ isUnitR C x = true := by
  have h : AdmR C := ⟨Int.zero_lt_one.trans hp1', hpR, hp1⟩
  obtain ⟨t0, t1, ht⟩ := invMod_spec hp1' hpR hx.1 ((rep_coprime hp1 hx).mpr hu)
  obtain ⟨e1, e2, e3⟩ := h.isMont.inv_div hp1' hx hy t0 t1 ht
  rw [← hr3] at e1 e2 e3
  exact ⟨e1, e2, e3, (mgR_isUnit_exact C hp1 hx).mpr hu⟩
example : (1 : Int) = (16 * 16 * 16) % 7 ∧ IsRep 16 7 6 3 ∧ IsCoprime (3 : Int) 7 :=
  ⟨by decide +kernel, by unfold IsRep; decide +kernel, ⟨-2, 1, by decide +kernel⟩⟩

/-- `inv` and `div` of `rmint`: the Montgomery variant (`reduction; inv_mod; to_mg`, and `div` with its `ci == 0` test), converted out,
    returns exactly what the non-Montgomery variant returns on the plain residues, and that value is the inverse / the quotient. -/
theorem rmint_inv_div_exact (C : MgCtx) (hp1' : 1 < C.p) (hpR : C.p < C.R) (hp1 : (C.p1 * C.p) % C.R = C.R - 1)
    {x y a b : Int} (hx : IsRep C.R C.p x a) (hy : IsRep C.R C.p y b) (hu : IsCoprime a C.p) :
    getRuintA C (invA C x) = invMod C.R (a % C.p) C.p ∧ (invMod C.R (a % C.p) C.p * a) % C.p = 1 ∧
    getRuintA C (divA C y x) = divI C.R C.p (b % C.p) (a % C.p) ∧ (divI C.R C.p (b % C.p) (a % C.p) * a) % C.p = b % C.p := by
  have h : AdmR C := ⟨Int.zero_lt_one.trans hp1', hpR, hp1⟩
  obtain ⟨⟨j, hj⟩, rI, t0, t1⟩ := invA_rep h hp1' hx hu
  have e1 : getRuintA C (invA C x) = invMod C.R (a % C.p) C.p := (h.isMont.conv_rep rI).trans (Int.emod_eq_of_lt t0 t1)
  have hone : (invMod C.R (a % C.p) C.p * a) % C.p = 1 := emod_unique_of_dvd (by decide) hp1' ⟨j, hj⟩
  have tne : invMod C.R (a % C.p) C.p ≠ 0 := by
    intro e; rw [e] at hone; simp at hone
  -- the `ci == 0` test of `div` never fires
  have cine : invA C x ≠ 0 := by
    intro e
    have hz : getRuintA C 0 = 0 % C.p := h.isMont.conv_rep ⟨le_refl 0, h.p0, by simp⟩
    rw [e, hz] at e1
    exact tne e1.symm
  have e3 : getRuintA C (divA C y x) = (b * invMod C.R (a % C.p) C.p) % C.p := by
    unfold divA; simp only [cine, ↓reduceIte]; exact h.isMont.conv_rep (h.isMont.mul_rep hy rI)
  have e4 : divI C.R C.p (b % C.p) (a % C.p) = (b * invMod C.R (a % C.p) C.p) % C.p := by
    unfold divI mulI; simp only [tne, ↓reduceIte]; exact emod_mul_emod' _ _ _
  refine ⟨e1, hone, by rw [e3, e4], ?_⟩
  rw [e4]
  exact emod_mul_eq_of_dvd ⟨b * j, by linear_combination b * hj⟩
example : IsRep 16 7 6 3 ∧ (9 * 7 : Int) % 16 = 16 - 1 := by unfold IsRep; decide +kernel

/-- Exponentiation of `rmint<K,MGA>` (rmgexp.h): the windowed loop `exp(a, b, const ruint<K>&)` at every level for every exponent below
    the radix, and the binary loop `exp(a, b, const UDItype&)` for every 64-bit exponent, converted out, return `a^e mod p`, which is also
    what the non-Montgomery `exp_mod` returns. -/
theorem rmint_exp_exact (C : MgCtx) (hp1' : 1 < C.p) (hpR : C.p < C.R) (hp1 : (C.p1 * C.p) % C.R = C.R - 1)
    (hr : C.r = C.R % C.p) (n : Nat) {x a : Int} (hx : IsRep C.R C.p x a) (k : Nat) :
    (k < 2 ^ bitsOf n → getRuintA C (expWinA n C x (k : Int)) = rPow C.p a k ∧
      expModI (bitsOf n) C.p (a % C.p) (k : Int) = rPow C.p a k) ∧
    (k < 2 ^ 64 → getRuintA C (expU64A C x (k : Int)) = rPow C.p a k ∧ expModI 64 C.p (a % C.p) (k : Int) = rPow C.p a k) := by
  have h : AdmR C := ⟨Int.zero_lt_one.trans hp1', hpR, hp1⟩
  have hplain : ∀ bits : Nat, k < 2 ^ bits → expModI bits C.p (a % C.p) (k : Int) = rPow C.p a k := by
    intro bits hk
    unfold expModI rPow
    rw [expModLoop_eq bits k 1 _ hk (by decide) hp1', Int.one_mul]
    exact (Int.mod_modEq a C.p).pow k
  exact ⟨fun hk => ⟨h.isMont.conv_rep (expWinA_rep h hr n hx k hk), hplain _ hk⟩,
    fun hk => ⟨h.isMont.conv_rep (expU64A_rep h hr hx k hk), hplain _ hk⟩⟩
example : getRuintA ⟨16, 7, 9, 2, 4, 1⟩ (expU64A ⟨16, 7, 9, 2, 4, 1⟩ 6 5) = 3 ^ 5 % 7 := by decide +kernel

/-- Constructors and overloads taking built-in scalars: for every scalar of either sign the
    Montgomery variant converted out, the non-Montgomery variant and the plain residue coincide. -/
theorem rmint_scalar_exact (C : MgCtx) (hp1' : 1 < C.p) (hpR : C.p < C.R) (hp1 : (C.p1 * C.p) % C.R = C.R - 1)
    {x a : Int} (hx : IsRep C.R C.p x a) (v : Int) :
    IsRep C.R C.p (ctorSignedA C v) v ∧ getRuintA C (ctorSignedA C v) = v % C.p ∧ ctorSignedI C.R C.p v = v % C.p ∧
    ctorIfromA C x = a % C.p ∧
    getRuintA C (mulScalarA C x v) = (a * v) % C.p ∧ mulScalarI C.R C.p (a % C.p) v = (a * v) % C.p ∧
    (IsCoprime v C.p → getRuintA C (invScalarA C v) = invScalarI C.R C.p v ∧ (invScalarI C.R C.p v * v) % C.p = 1) := by
  have h : AdmR C := ⟨Int.zero_lt_one.trans hp1', hpR, hp1⟩
  have rv := ctorSignedA_rep h v
  have ei := ctorSignedI_eq (R := C.R) (p := C.p) h.p0 hpR v
  refine ⟨rv, h.isMont.conv_rep rv, ei, ?_, h.isMont.conv_rep (h.isMont.mul_rep hx rv), ?_, ?_⟩
  · unfold ctorIfromA; rw [show getRuintA C x = a % C.p from h.isMont.conv_rep hx]; exact Int.emod_emod_of_dvd _ (dvd_refl _)
  · rw [mulScalarI_eq h.p0 hpR]; exact emod_mul_emod' _ _ _
  · intro hu
    obtain ⟨e1, e2, _, _⟩ := rmint_inv_div_exact C hp1' hpR hp1 rv rv hu
    have : invScalarI C.R C.p v = invMod C.R (v % C.p) C.p := by unfold invScalarI; rw [ei]
    rw [this]; exact ⟨e1, e2⟩
example : ctorSignedI 16 7 (-7) = 0 ∧ ctorSignedI 16 7 (-3) = 4 ∧ getRuintA ⟨16, 7, 9, 2, 4, 1⟩ (ctorSignedA ⟨16, 7, 9, 2, 4, 1⟩ (-3)) = 4 := by decide +kernel

/-- Windowed exponentiation, `inv` and `div` for the contexts the code builds (`rmint<K,MGA>::init_module(p)`, `Montgomery<ruint<K>>(p)`): every level
    `K = 6 + n`, every odd `3 ≤ p < 2^(2^K)`, every residue, every unit, every exponent below `2^(2^K)`. -/
theorem rmint_ring_exact (n : Nat) (p a b : Int) (hp3 : 3 ≤ p) (hpR : p < radix n) (hodd : p % 2 = 1)
    (ha0 : 0 ≤ a) (ha1 : a < p) (hb0 : 0 ≤ b) (hb1 : b < p) (k : Nat) (hk : k < 2 ^ bitsOf n) :
    let D := mkA n p
    let C := mkR n p
    getRuintA D (expWinA n D (toMgA D a) (k : Int)) = rPow p a k ∧ expModI (bitsOf n) p a (k : Int) = rPow p a k ∧
    (IsCoprime a p →
      getRuintA D (invA D (toMgA D a)) = invMod (radix n) a p ∧ (invMod (radix n) a p * a) % p = 1 ∧
      getRuintA D (divA D (toMgA D b) (toMgA D a)) = divI (radix n) p b a ∧ (divI (radix n) p b a * a) % p = b ∧
      (convertR C (invR C (initR C a)) * a) % p = 1 ∧ (convertR C (divR C (initR C b) (initR C a)) * a) % p = b) := by
  intro D C
  have hp1 : 1 < p := by omega
  have hp0 : 0 < p := Int.zero_lt_one.trans hp1
  have hD : AdmR D := mkA_adm n p hp0 hpR hodd
  have g : Lemmas.MontInit.GoodR C := mkR_good_of_pos n p hp0 hpR hodd
  obtain ⟨_, _, _, _, kr3, krA, _⟩ := mgR_constants_exact n p hp0 hpR
  have dA := toMgA_rep hD a
  have dB := toMgA_rep hD b
  have eap : a % D.p = a := Int.emod_eq_of_lt ha0 ha1
  have ebp : b % D.p = b := Int.emod_eq_of_lt hb0 hb1
  obtain ⟨x1, x2⟩ := (rmint_exp_exact D hp1 hpR hD.p1p krA n dA k).1 hk
  rw [eap] at x2
  refine ⟨x1, x2, fun hu => ?_⟩
  obtain ⟨i1, i2, i3, i4⟩ := rmint_inv_div_exact D hp1 hpR hD.p1p dA dB hu
  rw [eap] at i1 i2 i3 i4
  rw [ebp] at i3 i4
  obtain ⟨j1, j2, _, _⟩ := mgR_inv_div_exact C hp1 hpR g.p1p kr3 (initR_rep_of_lt g ha0 ha1) (initR_rep_of_lt g hb0 hb1) hu
  rw [show b % C.p = b from ebp] at j2
  exact ⟨i1, i2, i3, i4, j1, j2⟩
example : (3 : Int) ≤ 1009 ∧ (1009 : Int) < radix 0 ∧ (1009 : Int) % 2 = 1 ∧ IsCoprime (5 : Int) 1009 :=
  ⟨by decide +kernel, by decide +kernel, by decide +kernel, ⟨202, -1, by decide +kernel⟩⟩

/-- `init` of `Montgomery<ruint<K>>` from a signed source (`reduce(|a|); if (a < 0) negin; to_mg`): the canonical map for every
    `|v| < R` of either sign. -/
theorem mgR_init_signed_exact (C : MgCtx) (hp0 : 0 < C.p) (hpR : C.p < C.R) (hp1 : (C.p1 * C.p) % C.R = C.R - 1)
    (hr2 : C.r2 = (C.R * C.R) % C.p) (v : Int) (hv0 : -C.R < v) (hv1 : v < C.R) :
    IsRep C.R C.p (initR C v) v ∧ convertR C (initR C v) = v % C.p := by
  have g : Lemmas.MontInit.GoodR C := ⟨⟨hp0, hpR, hp1⟩, hr2⟩
  have r := initR_rep g v ⟨hv0, hv1⟩
  exact ⟨r, g.isMont.conv_rep r⟩
example : convertR ⟨16, 7, 9, 2, 4, 1⟩ (initR ⟨16, 7, 9, 2, 4, 1⟩ (-3)) = 4 ∧ (-16 : Int) < -3 := by decide +kernel

/-! ## Sources of every magnitude -/

/-- Construction (and assignment, which goes through the same converting constructor) of `rmint<K,MG_ACTIVE>` and
    `rmint<K,MG_INACTIVE>` from every value `c` of `ruint<K>` (`0 ≤ c < R`, not only reduced ones), from every value of `rint<K>`
    (the word `c` read in two's complement: both signs, the minimum `-R/2` included), from every machine integer `v` (any `v ∈ Z`
    covers every signed and unsigned type of any width, their minima included) and from every big integer through `mpz_to_rmint`:
    the Montgomery variant converted out, the non-Montgomery variant and the canonical residue coincide. -/
theorem rmint_init_from_recint_exact (C : MgCtx) (hp0 : 0 < C.p) (hpR : C.p < C.R) (hp1 : (C.p1 * C.p) % C.R = C.R - 1)
    (c v : Int) (hc0 : 0 ≤ c) (hc1 : c < C.R) :
    -- from ruint<K>
    getRuintA C (ctorRuintA C c) = c % C.p ∧ ctorRuintI C.p c = c % C.p ∧
    -- from rint<K>
    getRuintA C (ctorRintA C c) = sval C.R c % C.p ∧ ctorRintI C.R C.p c = sval C.R c % C.p ∧
    -- from signed / unsigned machine integers
    getRuintA C (ctorSignedA C v) = v % C.p ∧ ctorSignedI C.R C.p v = v % C.p ∧ getRuintA C (toMgA C v) = v % C.p ∧
    -- from a big integer
    getRuintA C (mpzToA C v) = v % C.p ∧ mpzToI C.p v = v % C.p ∧
    -- every result of the non-Montgomery variant is canonical, every raw value of the Montgomery one is a Montgomery form
    0 ≤ ctorRuintI C.p c ∧ ctorRuintI C.p c < C.p ∧ IsRep C.R C.p (ctorRuintA C c) c ∧ IsRep C.R C.p (ctorRintA C c) (sval C.R c) := by
  have h : AdmR C := ⟨hp0, hpR, hp1⟩
  have r1 : IsRep C.R C.p (ctorRuintA C c) c := toMgA_rep h c
  have r2 := ctorRintA_rep h hc0 hc1
  have r3 := ctorSignedA_rep h v
  have r4 : IsRep C.R C.p (mpzToA C v) (v % C.p) := toMgA_rep h _
  refine ⟨h.isMont.conv_rep r1, rfl, h.isMont.conv_rep r2, ctorRintI_eq hp0 hpR hc0 hc1, h.isMont.conv_rep r3,
    ctorSignedI_eq hp0 hpR v, h.isMont.conv_rep (toMgA_rep h v), ?_, ?_, Int.emod_nonneg _ hp0.ne', Int.emod_lt_of_pos _ hp0, r1, r2⟩
  · rw [show getRuintA C (mpzToA C v) = v % C.p % C.p from h.isMont.conv_rep r4]; exact Int.emod_emod_of_dvd _ (dvd_refl _)
  · unfold mpzToI; exact Int.emod_emod_of_dvd _ (dvd_refl _)
example : ctorRuintI 101 203 = 1 ∧ getRuintA (mkA 0 101) (ctorRuintA (mkA 0 101) 203) = 1 ∧
    ctorRintI (radix 0) 101 (radix 0 - 1003) = 7 ∧ getRuintA (mkA 0 101) (ctorRintA (mkA 0 101) (radix 0 - 1003)) = 7 ∧
    ctorSignedI (radix 0) 101 (-2147483648) = 67 ∧ sval (radix 0) (radix 0 - 1003) = -1003 := by decide +kernel

/-- `==` of an `rmint` with a built-in scalar (the scalar is first made an `rmint`): both variants answer "the residues are equal". -/
theorem rmint_eq_scalar_exact (C : MgCtx) (hp0 : 0 < C.p) (hpR : C.p < C.R) (hp1 : (C.p1 * C.p) % C.R = C.R - 1)
    (a b : Int) (ha0 : 0 ≤ a) (ha1 : a < C.p) :
    (eqScalarA C (toMgA C a) b = true ↔ a = b % C.p) ∧ (eqScalarI C.R C.p a b = true ↔ a = b % C.p) := by
  have h : AdmR C := ⟨hp0, hpR, hp1⟩
  have rA := toMgA_rep h a
  have rB := ctorSignedA_rep h b
  have hd := Int.emod_add_mul_ediv b C.p
  constructor
  · unfold eqScalarA
    simp only [decide_eq_true_eq]
    constructor
    · intro e
      have e1 := h.isMont.conv_rep rA
      have e2 := h.isMont.conv_rep rB
      rw [← e, e1, Int.emod_eq_of_lt ha0 ha1] at e2; exact e2
    · intro e
      exact rep_unique rA rB ⟨-(b / C.p), by rw [e]; linear_combination hd⟩
  · unfold eqScalarI
    simp only [decide_eq_true_eq]
    rw [ctorSignedI_eq hp0 hpR]
example : eqScalarI 16 7 1 (-6) = true ∧ eqScalarA ⟨16, 7, 9, 2, 4, 1⟩ (toMgA ⟨16, 7, 9, 2, 4, 1⟩ 1) (-6) = true := by decide +kernel

/-- `Montgomery<ruint<K>>::init(Element&, const Integer&)` (remainder over Z first) is the canonical map
    for every integer, of any magnitude and sign; floating sources take the same path. -/
theorem mgR_init_Z_exact (C : MgCtx) (hp0 : 0 < C.p) (hpR : C.p < C.R) (hp1 : (C.p1 * C.p) % C.R = C.R - 1)
    (hr2 : C.r2 = (C.R * C.R) % C.p) (v : Int) :
    IsRep C.R C.p (initZ C v) v ∧ convertR C (initZ C v) = v % C.p := by
  have g : Lemmas.MontInit.GoodR C := ⟨⟨hp0, hpR, hp1⟩, hr2⟩
  exact ⟨initZ_rep g v, g.isMont.conv_rep (initZ_rep g v)⟩
example : convertR ⟨16, 7, 9, 2, 4, 1⟩ (initZ ⟨16, 7, 9, 2, 4, 1⟩ (-1000003)) = (-1000003) % 7 := by decide +kernel

end Givaro.Props.C07
