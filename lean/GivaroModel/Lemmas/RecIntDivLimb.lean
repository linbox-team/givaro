/- C06 helper lemmas: rudiv.h — div_2_1 at the limb level and its recursive step; the __RECINT_LIMB_SIZE specialisation of div_3_2
   computes what the generic template computes at level 0, so div_3_2 follows at every level from div_2_1 at the same level. -/
import GivaroModel.Lemmas.RecIntDiv
namespace Givaro.Model.RecInt

theorem udiv_qrnnd_ok (nh nl d : Nat) (hnl : nl < B64) (h : nh < d) :
    (udiv_qrnnd nh nl d).1 < B64 ∧ nh * B64 + nl = (udiv_qrnnd nh nl d).1 * d + (udiv_qrnnd nh nl d).2 ∧
    (udiv_qrnnd nh nl d).2 < d := by
  have hn : nh * B64 + nl < d * B64 := by
    have := digit_lt hnl h
    rw [Nat.mul_comm nh, Nat.mul_comm d]; omega
  have hq : (nh * B64 + nl) / d < B64 := Nat.div_lt_of_lt_mul hn
  simp only [udiv_qrnnd, Nat.mod_eq_of_lt hq]
  refine ⟨hq, ?_, Nat.mod_lt _ (by omega)⟩
  rw [Nat.mul_comm _ d]; exact (Nat.div_add_mod _ _).symm

theorem div_2_1_zero (t : Nat) (ah al b : RU 0) (hah : WF ah) (hal : WF al) (hb : WF b)
    (hlt : val ah < val b) : Div21Ok (div_2_1 t ah al b) ah al b := by
  cases ah with | limb ah => cases al with | limb al => cases b with | limb b =>
  simp only [WF, val] at hah hal hb hlt
  obtain ⟨hq, he, hr⟩ := udiv_qrnnd_ok ah al b hal hlt
  simp only [div_2_1, Div21Ok, WF, val, Bn_zero]
  exact ⟨hq, by omega, he, hr⟩

theorem div_2_1_step (t m : Nat)
    (IH32 : ∀ a2 a1 a0 b1 b0 : RU m, WF a2 → WF a1 → WF a0 → WF b1 → WF b0 → Bn m ≤ 2 * val b1 →
      val a2 * Bn m + val a1 < val b1 * Bn m + val b0 → Div32Ok (div_3_2 t a2 a1 a0 b1 b0) a2 a1 a0 b1 b0)
    (ah al b : RU (m+1)) (hah : WF ah) (hal : WF al) (hb : WF b) (hn : Bn (m+1) ≤ 2 * val b) (hlt : val ah < val b) :
    Div21Ok (div_2_1 t ah al b) ah al b := by
  cases ah with | node ahl ahh => cases al with | node all alh => cases b with | node bl bh =>
  have hnb : Bn m ≤ 2 * val bh := by
    rw [← highest_bit_iff bh hb.2]
    have := (highest_bit_iff (RU.node bl bh) hb).mpr hn
    simpa [highest_bit] using this
  simp only [val_node] at hlt
  have h1 := IH32 ahh ahl alh bh bl hah.2 hah.1 hal.2 hb.2 hb.1 hnb (by rw [Nat.mul_comm (val ahh), Nat.mul_comm (val bh)]; omega)
  simp only [div_2_1]
  generalize div_3_2 t ahh ahl alh bh bl = x at h1 ⊢
  obtain ⟨hx1, hx2, hx3, hxe, hxlt⟩ := h1
  have h2 := IH32 x.2.1 x.2.2 all bh bl hx2 hx3 hal.1 hb.2 hb.1 hnb hxlt
  generalize div_3_2 t x.2.1 x.2.2 all bh bl = y at h2 ⊢
  obtain ⟨hy1, hy2, hy3, hye, hylt⟩ := h2
  unfold Div21Ok
  simp only [WF_node, val_node, Bn_succ]
  refine ⟨⟨hy1, hx1⟩, ⟨hy3, hy2⟩, ?_, ?_⟩
  · linear_combination Bn m * hxe + hye
  · rw [Nat.mul_comm (val y.2.1), Nat.mul_comm (val bh), Nat.add_comm (_ * val y.2.1), Nat.add_comm (_ * val bh)] at hylt
    exact hylt

/-- the quotient estimate `(q, c, ret)`: `recint_udiv_qrnnd` when `a2 < b1`, otherwise `2^64 - 1` with `c = a1 + b1` and its carry -/
def qhatL (a2 a1 b1 : Nat) : Nat × Nat × Bool :=
  if a2 < b1 then ((udiv_qrnnd a2 a1 b1).1, (udiv_qrnnd a2 a1 b1).2, false)
  else (B64 - 1, (a1 + b1) % B64, decide ((a1 + b1) % B64 < a1))

/-- the rest, as in the source: `d = q·b0`, `r = (c|a0) - d`, up to two corrections, the second decided by `r ≥ b` -/
def div32tailL (q c : Nat) (ret : Bool) (a0 b1 b0 : Nat) : RU 0 × RU 0 × RU 0 :=
  let d := umul_pp q b0
  let r := sub_dd c a0 d.1 d.2
  if !ret && (decide (d.1 > c) || (decide (d.1 = c) && decide (d.2 > a0))) then
    let q := (q + B64 - 1) % B64
    let r0 := (r.2 + b0) % B64
    let r1 := (r.1 + b1) % B64
    let r1 := if r0 < b0 then (r1 + 1) % B64 else r1
    if decide (r1 > b1) || (decide (r1 = b1) && decide (r0 ≥ b0)) then
      let q := (q + B64 - 1) % B64
      let r0' := (r0 + b0) % B64
      let r1' := (r1 + b1) % B64
      let r1' := if r0' < b0 then (r1' + 1) % B64 else r1'
      (.limb q, .limb r1', .limb r0')
    else (.limb q, .limb r1, .limb r0)
  else (.limb q, .limb r.1, .limb r.2)

theorem div_3_2_limb_eq (t a2 a1 a0 b1 b0 : Nat) :
    div_3_2 t (.limb a2) (.limb a1) (.limb a0) (.limb b1) (.limb b0) =
      div32tailL (qhatL a2 a1 b1).1 (qhatL a2 a1 b1).2.1 (qhatL a2 a1 b1).2.2 a0 b1 b0 := by
  simp only [div_3_2, div32tailL, qhatL]
  rfl

/-- `recint_sub_ddmmss` is the digit-wise subtraction with borrow: both are the well-formed two-digit number of value `(X - Y) mod B²` -/
theorem sub2_limb (c a0 d1 d0 : Nat) (hc : c < B64) (ha0 : a0 < B64) (hd1 : d1 < B64) (hd0 : d0 < B64) :
    (a0 + B64 - d0) % B64 = (sub_dd c a0 d1 d0).2 ∧
    (c + B64 + B64 - d1 - (if decide (a0 < d0) = true then 1 else 0)) % B64 = (sub_dd c a0 d1 d0).1 := by
  have hB : 0 < B64 := by decide
  have hp := sub_ok (.limb a0) (.limb d0) ha0 hd0
  have hq := sub_wc_ok (.limb c) (.limb d1) (sub (.limb a0) (.limb d0)).2 hc hd1
  have hn := (hp.node hq (val_node _ _) (by rw [val_node]; ring)).exact (Nat.le_of_lt (val_lt (RU.node (.limb d0) (.limb d1)) ⟨hd0, hd1⟩))
  obtain ⟨hw, he⟩ := sub_dd_node a0 c d0 d1
  have e := hn.1.trans he.symm
  rw [val_mk1, val_node, Bn_zero] at e
  have h2 := ((WF_mk1 _).mp hw).1
  simp only [sub, sub_wc, val_limb] at e
  have el : (a0 + B64 - d0) % B64 = (sub_dd c a0 d1 d0).2 := by
    have := congrArg (· % B64) e
    simpa only [Nat.add_mul_mod_self_left, Nat.mod_mod, Nat.mod_eq_of_lt h2] using this
  refine ⟨el, ?_⟩
  rw [el] at e
  exact Nat.eq_of_mul_eq_mul_left hB (Nat.add_left_cancel e)

/-- `r0 += b0; r1 += b1; if (r0 < b0) r1++` is `add` then `add_wc`; `(r1|r0) ≥ (b1|b0)` afterwards says that no carry left the pair -/
theorem add2_limb (r0 r1 b0 b1 : Nat) (hr0 : r0 < B64) (hr1 : r1 < B64) (hb0 : b0 < B64) (hb1 : b1 < B64) :
    decide ((r0 + b0) % B64 < r0) = decide ((r0 + b0) % B64 < b0) ∧
    (add_wc (.limb r1) (.limb b1) (decide ((r0 + b0) % B64 < b0))).1
      = .limb (if (r0 + b0) % B64 < b0 then ((r1 + b1) % B64 + 1) % B64 else (r1 + b1) % B64) ∧
    (!(add_wc (.limb r1) (.limb b1) (decide ((r0 + b0) % B64 < b0))).2)
      = (decide ((if (r0 + b0) % B64 < b0 then ((r1 + b1) % B64 + 1) % B64 else (r1 + b1) % B64) > b1) ||
          (decide ((if (r0 + b0) % B64 < b0 then ((r1 + b1) % B64 + 1) % B64 else (r1 + b1) % B64) = b1) &&
            decide ((r0 + b0) % B64 ≥ b0))) := by
  refine ⟨decide_eq_decide.mpr (add_wrap hr0 hb0).2.symm, ?_, ?_⟩
  · by_cases h : (r0 + b0) % B64 < b0 <;> simp only [add_wc, h, decide_true, decide_false, ↓reduceIte, Bool.false_eq_true]
  · simp only [add_wc]
    by_cases h : (r0 + b0) % B64 < b0
    · rw [if_pos (decide_eq_true h), if_pos h, Bool.eq_iff_iff]
      simp only [Bool.not_eq_true', decide_eq_false_iff_not, Bool.or_eq_true, Bool.and_eq_true, decide_eq_true_eq]
      simp only [B64] at *
      omega
    · rw [if_neg (by simpa using h), if_neg h, Bool.eq_iff_iff]
      simp only [Bool.not_eq_true', decide_eq_false_iff_not, Bool.or_eq_true, Bool.and_eq_true, decide_eq_true_eq]
      simp only [B64] at *
      omega

theorem cmp_limb (a b : Nat) : decide (cmp (.limb a) (.limb b) > 0) = decide (a > b) ∧ decide (cmp (.limb a) (.limb b) = 0) = decide (a = b) := by
  constructor
  · refine decide_eq_decide.mpr ?_
    simp only [cmp]
    split
    · omega
    · split <;> omega
  · refine decide_eq_decide.mpr ?_
    simp only [cmp]
    split
    · omega
    · split <;> omega

theorem div32tailL_eq (t q c a0 b1 b0 : Nat) (ret : Bool) (hq : q < B64) (hc : c < B64) (ha0 : a0 < B64) (hb1 : b1 < B64) (hb0 : b0 < B64) :
    div32tailR t (.limb q) (.limb c) ret (.limb a0) (.limb b1) (.limb b0) = div32tailL q c ret a0 b1 b0 := by
  obtain ⟨hd2, hd1, -⟩ := umul_pp_ok q b0 hq hb0
  simp only [div32tailR, div32tailL, lmul, lmul_naive, lo, hi, sub, sub_wcNC, sub_1, add, add_wcNC_eq, (cmp_limb _ _).1, (cmp_limb _ _).2]
  generalize umul_pp q b0 = d at hd2 hd1 ⊢
  obtain ⟨hr2, hr1⟩ := (WF_mk1 _).mp (sub_dd_val c a0 d.1 d.2).2
  rw [(sub2_limb c a0 d.1 d.2 hc ha0 hd1 hd2).1, (sub2_limb c a0 d.1 d.2 hc ha0 hd1 hd2).2]
  generalize sub_dd c a0 d.1 d.2 = r at hr1 hr2 ⊢
  have hB : 0 < B64 := by decide
  have hX1 : (if (r.2 + b0) % B64 < b0 then ((r.1 + b1) % B64 + 1) % B64 else (r.1 + b1) % B64) < B64 := by
    split <;> exact Nat.mod_lt _ hB
  obtain ⟨e1, e2, e3⟩ := add2_limb r.2 r.1 b0 b1 hr2 hr1 hb0 hb1
  obtain ⟨f1, f2, -⟩ := add2_limb ((r.2 + b0) % B64) _ b0 b1 (Nat.mod_lt _ hB) hX1 hb0 hb1
  rw [e1, e2, e3, f1, f2]

/-- the `__RECINT_LIMB_SIZE` specialisation computes what the generic template computes at that size -/
theorem div_3_2_eq (t : Nat) : ∀ {k : Nat} (a2 a1 a0 b1 b0 : RU k), WF a1 → WF a0 → WF b1 → WF b0 →
    div_3_2 t a2 a1 a0 b1 b0 = div32tailR t (qhatG t a2 a1 b1).1 (qhatG t a2 a1 b1).2.1 (qhatG t a2 a1 b1).2.2 a0 b1 b0
  | 0, .limb a2, .limb a1, .limb a0, .limb b1, .limb b0, ha1, ha0, hb1, hb0 => by
      have hB : 0 < B64 := by decide
      have e : qhatG t (.limb a2) (.limb a1) (.limb b1) =
          (.limb (qhatL a2 a1 b1).1, .limb (qhatL a2 a1 b1).2.1, (qhatL a2 a1 b1).2.2) := by
        have hc : cmp (.limb a2) (.limb b1) < 0 ↔ a2 < b1 := by simp only [cmp]; split <;> (try split) <;> omega
        unfold qhatG qhatL
        by_cases h : a2 < b1
        · rw [if_pos (hc.mpr h), if_pos h]; simp only [div_2_1]
        · rw [if_neg (fun h' => h (hc.mp h')), if_neg h]; simp only [ones, add]
      have hq : (qhatL a2 a1 b1).1 < B64 ∧ (qhatL a2 a1 b1).2.1 < B64 := by
        unfold qhatL
        split
        · next h => exact ⟨Nat.mod_lt _ hB, Nat.lt_trans (Nat.mod_lt _ (by omega)) hb1⟩
        · exact ⟨Nat.sub_lt hB (by decide), Nat.mod_lt _ hB⟩
      rw [div_3_2_limb_eq, e, div32tailL_eq t _ _ a0 b1 b0 _ hq.1 hq.2 ha0 hb1 hb0]
  | _+1, a2, a1, a0, b1, b0, _, _, _, _ => div_3_2_succ_eq t a2 a1 a0 b1 b0

theorem div_3_2_of_div_2_1 (t k : Nat)
    (IH21 : ∀ ah al b : RU k, WF ah → WF al → WF b → Bn k ≤ 2 * val b → val ah < val b → Div21Ok (div_2_1 t ah al b) ah al b)
    (a2 a1 a0 b1 b0 : RU k) (ha2 : WF a2) (ha1 : WF a1) (ha0 : WF a0) (hb1 : WF b1) (hb0 : WF b0)
    (hn : Bn k ≤ 2 * val b1) (hlt : val a2 * Bn k + val a1 < val b1 * Bn k + val b0) :
    Div32Ok (div_3_2 t a2 a1 a0 b1 b0) a2 a1 a0 b1 b0 := by
  obtain ⟨h1, h2, h3, h4⟩ := qhatG_ok t k IH21 a2 a1 b1 b0 ha2 ha1 hb1 hb0 hn hlt
  rw [div_3_2_eq t a2 a1 a0 b1 b0 ha1 ha0 hb1 hb0]
  exact div32tailR_ok t _ _ a0 b1 b0 a2 a1 _ h1 h2 ha0 hb1 hb0 hn h3 h4

theorem div_2_1_ok (t : Nat) : ∀ {n : Nat} (ah al b : RU n), WF ah → WF al → WF b → Bn n ≤ 2 * val b → val ah < val b →
    Div21Ok (div_2_1 t ah al b) ah al b
  | 0, ah, al, b, h1, h2, h3, _, h5 => div_2_1_zero t ah al b h1 h2 h3 h5
  | n+1, ah, al, b, h1, h2, h3, h4, h5 =>
      div_2_1_step t n (div_3_2_of_div_2_1 t n (fun ah al b => div_2_1_ok t ah al b)) ah al b h1 h2 h3 h4 h5

end Givaro.Model.RecInt
