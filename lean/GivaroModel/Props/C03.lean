/-
C03 — modular rings are exact for every modulus up to the advertised maximum.

Every theorem is about the executable model of the code (`Model/ModRing.lean`, `Model/ModRing{RecInt,Generic,Ext,Log16,Precomp,Hist}.lean`,
tied to /repo by the correspondence of `checks/c03.py`), quantifies over every modulus `minCardinality ≤ p ≤ maxCardinality`
of every instantiated configuration and over all canonical operands, and states that the model's
result is the canonical representative of the exact integer result (`Spec/ModRingSpec.lean`).
For `Modular<intN>`, `ModularBalanced<…>`, `ModularExtended` the in-place forms are the same model functions with the
destination as an operand (`axpyin(r,a,x) = axpy a x r`, … — see `Driver/ModRing.lean`); separate in-place bodies
(`Modular<float..>` `maxpyin`/`axmyin`, the RecInt and generic rings) have theorems or fields of the ring's operation table of their own.
`Modular<Integer>` is covered by `integer_ops_exact` only: its separate `axmyin` body (`ZMod'.axmyin`) and its table `zOps` have no theorem.
The RecInt rings' `init`/`reduce` (property C04) are here too.
-/
import GivaroModel.Lemmas.ModRingFloat
import GivaroModel.Lemmas.ModRingHist
import GivaroModel.Lemmas.ModRingFEuclid
import GivaroModel.Lemmas.ModRingRecInt
import GivaroModel.Lemmas.ModRingLog16
import Mathlib.Tactic.IntervalCases
import GivaroModel.Lemmas.ModRingPrecomp
import GivaroModel.Lemmas.ModRingGeneric
namespace Givaro.Props.C03
open Givaro.Model.ModRing Givaro.Spec.ModRing

/-! ## the specification's canonical maps land in the canonical ranges -/

example : isCanonU 7 (canonU 7 (-3)) := canonU_isCanon 7 (-3) (by decide)

example : isCanonB 6 (canonB 6 3) := canonB_isCanon 6 3 (by decide)

theorem canonU_congr (m x : Int) : (canonU m x - x) % m = 0 :=
  canonU_sub_emod m x

theorem canonB_congr (m x : Int) : (canonB m x - x) % m = 0 :=
  Int.emod_eq_zero_of_dvd (canonB_sub_dvd m x)

/-! ## `Modular<Storage_t,Compute_t>` over machine integers — all 16 instantiated configurations -/

section integral
variable (k : ICfg) (hv : k.valid) (p a b c : Int) (hp : 2 ≤ p) (hm : p ≤ k.maxCard)
include hv hp hm

/-- add, sub, neg, mul, axpy, axmy, maxpy and their in-place forms: `GenericAdd` including the unsigned wrap-around test at
    `p` close to `2^N`; the products never leave `Compute_t` (nor `int` for the promoted 8/16-bit types) -/
theorem integral_exactOps : ExactOps (k.ops p) (canonU p) (isCanonU p) := by
  obtain ⟨hs, hE, hC⟩ := hv.bounds (by omega) hm
  exact ICfg.exactOps (by omega) hp hE hC

/-- the shared `extended_euclid` (unsigned cofactors + `neg` flag) on `(a, p)`: no cofactor ever exceeds
    `p` (so nothing wraps in `Storage_t`), `d = gcd(a,p)`, `0 ≤ x < p` and `x·a ≡ d (mod p)` -/
theorem integral_euclid_exact (ha : isCanonU p a) :
    (k.euclid a (k.toE p)).2 = (Int.gcd a p : Int) ∧ isCanonU p (k.euclid a (k.toE p)).1
      ∧ p ∣ (k.euclid a (k.toE p)).1 * a - (Int.gcd a p : Int) := by
  have ok := iok_of_valid k hv p hp hm
  rw [ok.toE_id p (by omega) (Int.le_refl _)]
  obtain ⟨h1, h2, h3, h4⟩ := euclid_spec ok.toEOk ha hp
  rw [h1] at h4
  exact ⟨h1, ⟨h2, h3⟩, h4⟩

/-- inv / invin: exact whenever the operand is a unit -/
theorem integral_inv_exact (ha : isCanonU p a) (hu : Int.gcd a p = 1) :
    isCanonU p (k.inv p a) ∧ (k.inv p a * a) % p = 1 % p := by
  obtain ⟨_, h2, h3⟩ := integral_euclid_exact k hv p a hp hm ha
  have e : k.inv p a = (k.euclid a (k.toE p)).1 := by
    unfold ICfg.inv
    simp only
    rw [if_neg (by have := h2.1; omega)]
  rw [e]
  rw [hu] at h3
  exact ⟨h2, emod_eq_one_of_dvd h3⟩

/-- div / divin: `r` canonical with `r·b ≡ a`, whenever the divisor is a unit -/
theorem integral_div_exact (ha : isCanonU p a) (hb : isCanonU p b) (hu : Int.gcd b p = 1) :
    isQuot false p a b (k.div p a b) = true ∧ k.divin p a b = k.div p a b := by
  obtain ⟨hi, hc⟩ := integral_inv_exact k hv p b hp hm hb hu
  exact ⟨(integral_exactOps k hv p hp hm).quot (by omega) ha hi hc rfl, rfl⟩

/-- isUnit(a) holds exactly when gcd(a,p) = 1 (`isOne(d) || isMOne(d)` with `mOne = p-1`) -/
theorem integral_isUnit_iff_coprime (ha : isCanonU p a) : k.isUnit p a = true ↔ Int.gcd a p = 1 := by
  have ok := iok_of_valid k hv p hp hm
  exact isUnit_iff ok.toEOk (ok.arU_id _ (by omega) (by omega)) hp ha

end integral

/-! non-vacuity of the hypotheses, and tightness of the bounds: one past `maxCardinality()` the same
    model does wrap (these are evaluations, not theorems) -/
example : (ICfg.mk 32 false 32).valid ∧ (2 : Int) ≤ 65536 ∧ (65536 : Int) ≤ (ICfg.mk 32 false 32).maxCard
    ∧ isCanonU 65536 65535 := by decide
example : (ICfg.mk 32 false 32).mul 65536 65535 65535 = canonU 65536 (65535 * 65535) := by decide
example : (ICfg.mk 32 false 32).mul 65537 65536 65536 ≠ canonU 65537 (65536 * 65536) := by decide
example : (ICfg.mk 32 false 64).add 4294967295 4294967294 4294967294 = canonU 4294967295 (4294967294 + 4294967294) := by decide
example : (ICfg.mk 8 true 8).inv 13 5 = 8 ∧ Int.gcd 5 13 = 1 := by decide
example : (ICfg.mk 8 false 16).isUnit 255 85 = false ∧ (ICfg.mk 8 false 16).isUnit 255 2 = true := by decide

/-! ## `Modular<float>`, `Modular<double>`, `Modular<float,double>` — exact-integer model

`some v` means: no mathematical intermediate left the range in which every integer is representable
(so no rounding happened), and the result is `v`.  The bounds are tight: `94906266·94906265 + 1 ≤ 2^53`
but `94906267·94906266 > 2^53` (examples below), so raising a `maxCardinality()` breaks these proofs. -/

section floating
variable (k : FCfg) (hv : k.valid) (p a b c : Int) (hp : 2 ≤ p) (hm : p ≤ k.maxCard)
include hv hp hm

theorem float_mul_exact (ha : isCanonU p a) (hb : isCanonU p b) : k.mul p a b = some (canonU p (a * b)) := by
  have ok := fok_of_valid k hv p hp hm
  have hab := mul_lt_sq hp ha hb
  have h1 := sq_pred hp
  unfold FCfg.mul canonU
  simp only [ok.fC_id (a * b) hab.1 (by omega), Option.bind_eq_bind, Option.bind_some]
  rw [Int.tmod_eq_emod_of_nonneg hab.1]
  exact ok.fS_emod _

theorem float_add_exact (ha : isCanonU p a) (hb : isCanonU p b) : k.add p a b = some (canonU p (a + b)) := by
  have ok := fok_of_valid k hv p hp hm
  unfold isCanonU at ha hb
  have h1 := sq_pred hp
  unfold FCfg.add canonU
  rw [ok.fC_id (a + b) (by omega) (by omega), add_emod_canon ha hb]
  simp only [Option.bind_eq_bind, Option.bind_some]
  split
  · simp only [Option.pure_def, Option.bind_some]; exact ok.fS_id _ (by omega) (by omega)
  · rw [ok.fC_id (a + b - p) (by omega) (by omega)]
    simp only [Option.bind_some]; exact ok.fS_id _ (by omega) (by omega)

theorem float_sub_exact (ha : isCanonU p a) (hb : isCanonU p b) : k.sub p a b = some (canonU p (a - b)) := by
  have ok := fok_of_valid k hv p hp hm
  unfold isCanonU at ha hb
  unfold FCfg.sub canonU
  rw [sub_emod_canon ha hb]
  split
  · rw [if_neg (by omega)]; exact ok.fS_id _ (by omega) (by omega)
  · rw [if_pos (by omega), ok.fS_id (p - b) (by omega) (by omega)]
    simp only [Option.bind_eq_bind, Option.bind_some]
    rw [ok.fS_id (p - b + a) (by omega) (by omega)]; congr 1; omega

theorem float_neg_exact (ha : isCanonU p a) : k.neg p a = some (canonU p (-a)) :=
  (fok_of_valid k hv p hp hm).neg_eq ha

theorem float_axpy_exact (ha : isCanonU p a) (hb : isCanonU p b) (hc : isCanonU p c) :
    k.axpy p a b c = some (canonU p (a * b + c)) := by
  have ok := fok_of_valid k hv p hp hm
  have hab := mul_lt_sq hp ha hb
  unfold isCanonU at hc
  have h1 := sq_pred hp
  unfold FCfg.axpy canonU
  simp only [ok.fC_id (a * b) hab.1 (by omega), ok.fC_id (a * b + c) (by omega) (by omega), Option.bind_eq_bind,
    Option.bind_some]
  rw [Int.tmod_eq_emod_of_nonneg (by omega)]
  exact ok.fS_emod _

/-- axmy: the largest intermediate of the family, `a·x + (p - y) ≤ (p-1)² + p = p(p-1) + 1` -/
theorem float_axmy_exact (ha : isCanonU p a) (hb : isCanonU p b) (hc : isCanonU p c) :
    k.axmy p a b c = some (canonU p (a * b - c)) := by
  have ok := fok_of_valid k hv p hp hm
  have hab := mul_lt_sq hp ha hb
  unfold isCanonU at hc
  have h1 := sq_pred hp
  unfold FCfg.axmy canonU
  simp only [ok.fC_id (a * b) hab.1 (by omega), ok.fC_id (p - c) (by omega) (by omega),
    ok.fC_id (a * b + (p - c)) (by omega) (by omega), Option.bind_eq_bind, Option.bind_some]
  rw [Int.tmod_eq_emod_of_nonneg (by omega)]
  have : a * b + (p - c) = (a * b - c) + p * 1 := by ring
  rw [this, Int.add_mul_emod_self_left]
  exact ok.fS_emod _

theorem float_maxpy_exact (ha : isCanonU p a) (hb : isCanonU p b) (hc : isCanonU p c) :
    k.maxpy p a b c = some (canonU p (c - a * b)) := by
  unfold FCfg.maxpy
  rw [float_axmy_exact k hv p a b c hp hm ha hb hc]
  simp only [Option.bind_eq_bind, Option.bind_some]
  rw [float_neg_exact k hv p _ hp hm (canonU_isCanon p _ (by omega))]
  unfold canonU
  rw [neg_emod_emod, Int.neg_sub]

end floating

section floating2
variable (k : FCfg) (hv : k.valid) (p r a x : Int) (hp : 2 ≤ p) (hm : p ≤ k.maxCard)
include hv hp hm

/-- maxpyin(r,a,x): `tmp = a*x + (p - r)`, `tmp < p ? tmp : fmod(tmp,p)`, negin -/
theorem float_maxpyin_exact (hr : isCanonU p r) (ha : isCanonU p a) (hx : isCanonU p x) :
    k.maxpyin p r a x = some (canonU p (r - a * x)) := by
  have ok := fok_of_valid k hv p hp hm
  have hab := mul_lt_sq hp ha hx
  unfold isCanonU at hr
  have h1 := sq_pred hp
  unfold FCfg.maxpyin
  simp only [ok.fC_id (a * x) hab.1 (by omega), ok.fC_id (p - r) (by omega) (by omega),
    ok.fC_id (a * x + (p - r)) (by omega) (by omega), Option.bind_eq_bind, Option.bind_some]
  have hv' : (if a * x + (p - r) < p then a * x + (p - r) else Int.tmod (a * x + (p - r)) p) = (a * x - r) % p := by
    have e : a * x + (p - r) = (a * x - r) + p * 1 := by ring
    split
    · rw [← Int.emod_eq_of_lt (by omega : 0 ≤ a * x + (p - r)) (by assumption), e, Int.add_mul_emod_self_left]
    · rw [Int.tmod_eq_emod_of_nonneg (by omega), e, Int.add_mul_emod_self_left]
  rw [hv']
  obtain ⟨h0, h3⟩ := emod_canon (by omega : 0 < p) (a * x - r)
  rw [ok.fS_emod]
  simp only [Option.bind_some]
  rw [float_neg_exact k hv p _ hp hm ⟨h0, h3⟩]
  unfold canonU
  rw [neg_emod_emod, Int.neg_sub]

/-- axmyin(r,a,x): maxpyin then negin -/
theorem float_axmyin_exact (hr : isCanonU p r) (ha : isCanonU p a) (hx : isCanonU p x) :
    k.axmyin p r a x = some (canonU p (a * x - r)) := by
  unfold FCfg.axmyin
  rw [float_maxpyin_exact k hv p r a x hp hm hr ha hx]
  simp only [Option.bind_eq_bind, Option.bind_some]
  rw [float_neg_exact k hv p _ hp hm (canonU_isCanon p _ (by omega))]
  unfold canonU
  rw [neg_emod_emod, Int.neg_sub]

end floating2

example : (FCfg.mk 53 53).valid ∧ (94906266 : Int) ≤ (FCfg.mk 53 53).maxCard ∧ isCanonU 94906266 94906265 := by decide
/-- tightness: at the maximum the largest intermediate is exact, one above it is not -/
example : (FCfg.mk 53 53).axmy 94906266 94906265 94906265 0 = some (canonU 94906266 (94906265 * 94906265)) := by decide
example : (FCfg.mk 53 53).axmy 94906267 94906266 94906266 0 = none := by decide
example : (FCfg.mk 24 24).axmy 4096 4095 4095 0 = some (canonU 4096 (4095 * 4095)) := by decide
example : (FCfg.mk 24 24).mul 4098 4097 4097 = none := by decide

theorem float_exactOps (k : FCfg) (hv : k.valid) (p : Int) (hp : 2 ≤ p) (hm : p ≤ k.maxCard) :
    ExactOps (k.ops p) (canonU p) (isCanonU p) where
  cn_ok x := canonU_isCanon p x (by omega)
  add a b ha hb := float_add_exact k hv p a b hp hm ha hb
  sub a b ha hb := float_sub_exact k hv p a b hp hm ha hb
  mul a b ha hb := float_mul_exact k hv p a b hp hm ha hb
  neg a ha := float_neg_exact k hv p a hp hm ha
  axpy a x y ha hx hy := float_axpy_exact k hv p a x y hp hm ha hx hy
  axmy a x y ha hx hy := float_axmy_exact k hv p a x y hp hm ha hx hy
  maxpy a x y ha hx hy := float_maxpy_exact k hv p a x y hp hm ha hx hy
  axpyin r a x hr ha hx := float_axpy_exact k hv p a x r hp hm ha hx hr
  axmyin r a x hr ha hx := float_axmyin_exact k hv p r a x hp hm hr ha hx
  maxpyin r a x hr ha hx := float_maxpyin_exact k hv p r a x hp hm hr ha hx
  addin r a hr ha := float_add_exact k hv p r a hp hm hr ha
  subin r a hr ha := float_sub_exact k hv p r a hp hm hr ha
  mulin r a hr ha := float_mul_exact k hv p r a hp hm hr ha
  negin r hr := float_neg_exact k hv p r hp hm hr

/-! ## `ModularBalanced<float|double>` — exact-integer model, and NORMALISE for the integer rings -/

section balancedFloat
variable (k : BFCfg) (hv : k.valid) (p a b c : Int) (hp : 3 ≤ p) (hm : p ≤ k.maxCard)
include hv hp hm

theorem balanced_float_mul_exact (ha : isCanonB p a) (hb : isCanonB p b) : k.mul p a b = some (canonB p (a * b)) := by
  have ok := bfok_of_valid k hv p hp hm
  have hab := bal_bounds p a b ha hb
  have h0 : 0 ≤ p / 2 := by omega
  have h1 := half_sq hp
  unfold BFCfg.mul
  simp only [ok.f_id (a * b) (by omega) (by omega), Option.bind_eq_bind, Option.bind_some]
  exact BFCfg.reduce_eq hv (by omega) hm _

theorem balanced_float_axpy_exact (ha : isCanonB p a) (hb : isCanonB p b) (hc : isCanonB p c) :
    k.axpy p a b c = some (canonB p (a * b + c)) ∧ k.axmy p a b c = some (canonB p (a * b - c))
      ∧ k.maxpy p a b c = some (canonB p (c - a * b)) := by
  have ok := bfok_of_valid k hv p hp hm
  have hab := bal_bounds p a b ha hb
  unfold isCanonB at hc
  have h0 : 0 ≤ p / 2 := by omega
  have h1 := half_sq hp
  unfold BFCfg.axpy BFCfg.axmy BFCfg.maxpy
  simp only [ok.f_id (a * b) (by omega) (by omega), ok.f_id (a * b + c) (by omega) (by omega),
    ok.f_id (a * b - c) (by omega) (by omega), ok.f_id (c - a * b) (by omega) (by omega), Option.bind_eq_bind,
    Option.bind_some]
  exact ⟨BFCfg.reduce_eq hv (by omega) hm _,
    BFCfg.reduce_eq hv (by omega) hm _,
    BFCfg.reduce_eq hv (by omega) hm _⟩

theorem balanced_float_add_sub_exact (ha : isCanonB p a) (hb : isCanonB p b) :
    k.add p a b = some (canonB p (a + b)) ∧ k.sub p a b = some (canonB p (a - b)) := by
  have ok := bfok_of_valid k hv p hp hm
  unfold isCanonB at ha hb
  have h0 : 1 ≤ p / 2 := by omega
  have h1 := half_sq hp
  unfold BFCfg.add BFCfg.sub
  simp only [ok.f_id (a + b) (by omega) (by omega), ok.f_id (a - b) (by omega) (by omega), Option.bind_eq_bind,
    Option.bind_some]
  rw [normB_canon (by omega) (by omega) (by omega), normB_canon (by omega) (by omega) (by omega)]
  exact ⟨BFCfg.f_canonB hv (by omega) hm _, BFCfg.f_canonB hv (by omega) hm _⟩

end balancedFloat

example : (BFCfg.mk 53).valid ∧ (3 : Int) ≤ 189812531 ∧ (189812531 : Int) ≤ (BFCfg.mk 53).maxCard
    ∧ isCanonB 189812531 94906265 ∧ isCanonB 189812531 (-94906265) := by decide
example : (BFCfg.mk 53).axpy 189812531 94906265 94906265 94906265 = some (canonB 189812531 (94906265 * 94906265 + 94906265)) := by decide
example : (BFCfg.mk 53).axpy 189812533 94906266 94906266 94906266 = none := by decide

/-- neg / negin of the floating balanced rings: `-a`, plus `p` when that falls below the range
    (`a = p/2` for an even modulus — the case the unrepaired code got wrong, fixes/C03_1.patch) -/
theorem balanced_float_neg_exact (k : BFCfg) (hv : k.valid) (p a : Int) (hp : 3 ≤ p) (hm : p ≤ k.maxCard)
    (ha : isCanonB p a) : k.neg p a = some (canonB p (-a)) := by
  unfold BFCfg.neg
  simp only
  rw [← negB_canon (by omega) ha]
  unfold isCanonB at ha
  split
  · exact BFCfg.f_id hv (by omega) hm (by omega) (by omega)
  · rfl
example : (BFCfg.mk 24).neg 4 2 = some 2 ∧ canonB 4 (-2) = 2 := by decide

theorem balanced_float_exactOps (k : BFCfg) (hv : k.valid) (p : Int) (hp : 3 ≤ p) (hm : p ≤ k.maxCard) :
    ExactOps (k.ops p) (canonB p) (isCanonB p) :=
  .of_shared (fun x => canonB_isCanon p x (by omega))
    (fun a b ha hb => (balanced_float_add_sub_exact k hv p a b hp hm ha hb).1)
    (fun a b ha hb => (balanced_float_add_sub_exact k hv p a b hp hm ha hb).2)
    (fun a b ha hb => balanced_float_mul_exact k hv p a b hp hm ha hb)
    (fun a ha => balanced_float_neg_exact k hv p a hp hm ha)
    (fun a x y ha hx hy => (balanced_float_axpy_exact k hv p a x y hp hm ha hx hy).1)
    (fun a x y ha hx hy => (balanced_float_axpy_exact k hv p a x y hp hm ha hx hy).2.1)
    (fun a x y ha hx hy => (balanced_float_axpy_exact k hv p a x y hp hm ha hx hy).2.2)
    ⟨rfl, rfl, rfl, rfl⟩ (fun _ _ _ => ⟨rfl, rfl, rfl⟩)

/-- neg / negin of `ModularBalanced<int32_t|int64_t>` -/
theorem balanced_int_neg_exact (k : BICfg) (hv : k.valid) (p a : Int) (hp : 3 ≤ p) (hm : p ≤ k.maxCard)
    (ha : isCanonB p a) : k.neg p a = canonB p (-a) := by
  unfold BICfg.neg
  simp only
  rw [← negB_canon (by omega) ha]
  unfold isCanonB at ha
  rw [BICfg.wr_id hv hm (by omega : -(2 * p) ≤ -a) (by omega)]
  split
  · exact BICfg.wr_id hv hm (by omega) (by omega)
  · rfl
example : (BICfg.mk 64).neg 6 3 = 3 ∧ canonB 6 (-3) = 3 := by decide

/-- `ModularBalanced<int32_t|int64_t>`: `r = a*b + c - q*p` computed with two's-complement wrap-around and
    one NORMALISE is the canonical residue for any quotient estimate `q` whose true remainder
    `z = a*b + c - q*p` lies within `p` of the canonical range and fits the word — in particular when
    `a*b` itself overflows `int32_t` (moduli above 92681: undefined behaviour whose compiled meaning is the
    right value).  That the floating estimate `(Element)(double(a)*double(b)*_dinvp)` is that close is
    checked by correspondence only (soft-float in the model), hence `_partial`. -/
theorem balanced_int_fma_exact_partial (k : BICfg) (hv : k.valid) (p q a b c : Int) (hp : 3 ≤ p)
    (hz0 : p / 2 - p + 1 - p ≤ a * b + c - q * p) (hz1 : a * b + c - q * p ≤ p / 2 + p)
    (hw : p ≤ k.maxCard) :
    k.fmaQ p q a b c = canonB p (a * b + c) := by
  -- the intermediate wrap-arounds cancel: only the final value has to fit the word
  have e : k.wr (k.wr (k.wr (a * b) + c) - k.wr (q * p)) = k.wr (a * b + c - q * p) := by
    unfold BICfg.wr
    rw [wrapSw_sub_right, wrapSw_add_left, Int.sub_eq_add_neg, wrapSw_add_left, ← Int.sub_eq_add_neg]
  unfold BICfg.fmaQ
  rw [e, BICfg.wr_id hv hw (by omega) (by omega), normB_canon (by omega) hz0 hz1]
  apply canonB_of_emod_eq
  have : a * b + c - q * p = (a * b + c) + p * (-q) := by ring
  rw [this, Int.add_mul_emod_self_left]
example : (BICfg.mk 32).valid ∧ (3 : Int) ≤ 131071 ∧ (131071 : Int) ≤ (BICfg.mk 32).maxCard
    ∧ (131071 : Int) / 2 - 131071 + 1 - 131071 ≤ 65535 * 65535 + 0 - 32767 * 131071 := by decide
example : (BICfg.mk 32).mul 131071 65535 65535 = canonB 131071 (65535 * 65535) := by decide

/-- the quotient estimates of `ModularBalanced<intN_t>` are within 3/2 of the true quotient on canonical operands
    (what `balanced_int_fma_exact_partial` needs; validated by correspondence with the soft-float model) -/
def QClose (p : Int) : Prop :=
  ∀ a b c, isCanonB p a → isCanonB p b → isCanonB p c →
    (p / 2 - p + 1 - p ≤ a * b + 0 - BICfg.qMul p a b * p ∧ a * b + 0 - BICfg.qMul p a b * p ≤ p / 2 + p)
    ∧ (p / 2 - p + 1 - p ≤ a * b + c - BICfg.qAxpy p a b c * p ∧ a * b + c - BICfg.qAxpy p a b c * p ≤ p / 2 + p)
    ∧ (p / 2 - p + 1 - p ≤ a * b + -c - BICfg.qAxpy p a b (-c) * p ∧ a * b + -c - BICfg.qAxpy p a b (-c) * p ≤ p / 2 + p)

theorem balanced_int_add_sub_exact (k : BICfg) (hv : k.valid) (p a b : Int) (hp : 3 ≤ p) (hm : p ≤ k.maxCard)
    (ha : isCanonB p a) (hb : isCanonB p b) :
    k.add p a b = canonB p (a + b) ∧ k.sub p a b = canonB p (a - b) := by
  unfold isCanonB at ha hb
  have e : ∀ x, -p ≤ x → x ≤ p → k.wr x = x := fun x h0 h1 => BICfg.wr_id hv hm (by omega) (by omega)
  unfold BICfg.add BICfg.sub
  rw [e _ (by omega) (by omega), e _ (by omega) (by omega)]
  exact ⟨normB_canon (by omega) (by omega) (by omega), normB_canon (by omega) (by omega) (by omega)⟩

theorem balanced_int_exactOps_partial (k : BICfg) (hv : k.valid) (p : Int) (hp : 3 ≤ p) (hm : p ≤ k.maxCard)
    (hq : QClose p) : ExactOps (k.ops p) (canonB p) (isCanonB p) := by
  have hz : isCanonB p 0 := by unfold isCanonB; omega
  have hmul : ∀ a b, isCanonB p a → isCanonB p b → k.mul p a b = canonB p (a * b) := by
    intro a b ha hb
    have := (hq a b 0 ha hb hz).1
    unfold BICfg.mul
    rw [balanced_int_fma_exact_partial k hv p _ a b 0 hp this.1 this.2 hm]; simp
  have haxpy : ∀ a x y, isCanonB p a → isCanonB p x → isCanonB p y → k.axpy p a x y = canonB p (a * x + y) := by
    intro a x y ha hx hy
    have := (hq a x y ha hx hy).2.1
    unfold BICfg.axpy
    exact balanced_int_fma_exact_partial k hv p _ a x y hp this.1 this.2 hm
  have haxmy : ∀ a x y, isCanonB p a → isCanonB p x → isCanonB p y → k.axmy p a x y = canonB p (a * x - y) := by
    intro a x y ha hx hy
    have := (hq a x y ha hx hy).2.2
    unfold BICfg.axmy
    rw [balanced_int_fma_exact_partial k hv p _ a x (-y) hp this.1 this.2 hm]; rfl
  have hmaxpy : ∀ a x y, isCanonB p a → isCanonB p x → isCanonB p y → k.maxpy p a x y = canonB p (y - a * x) := by
    intro a x y ha hx hy
    unfold BICfg.maxpy
    rw [haxmy a x y ha hx hy, balanced_int_neg_exact k hv p _ hp hm (canonB_isCanon p _ (by omega)),
      canonB_neg_canonB, Int.neg_sub]
  exact .of_shared (fun x => canonB_isCanon p x (by omega))
    (fun a b ha hb => congrArg some (balanced_int_add_sub_exact k hv p a b hp hm ha hb).1)
    (fun a b ha hb => congrArg some (balanced_int_add_sub_exact k hv p a b hp hm ha hb).2)
    (fun a b ha hb => congrArg some (hmul a b ha hb))
    (fun a ha => congrArg some (balanced_int_neg_exact k hv p a hp hm ha))
    (fun a x y ha hx hy => congrArg some (haxpy a x y ha hx hy))
    (fun a x y ha hx hy => congrArg some (haxmy a x y ha hx hy))
    (fun a x y ha hx hy => congrArg some (hmaxpy a x y ha hx hy))
    ⟨rfl, rfl, rfl, rfl⟩ (fun _ _ _ => ⟨rfl, rfl, rfl⟩)

/-! ## `Modular<Integer>` -/

theorem integer_ops_exact (p a b c : Int) (hp : 2 ≤ p) (ha : isCanonU p a) (hb : isCanonU p b) :
    ZMod'.mul p a b = canonU p (a * b) ∧ ZMod'.axpy p a b c = canonU p (a * b + c)
    ∧ ZMod'.axmy p a b c = canonU p (a * b - c) ∧ ZMod'.maxpy p a b c = canonU p (c - a * b)
    ∧ ZMod'.add p a b = canonU p (a + b) ∧ ZMod'.sub p a b = canonU p (a - b) ∧ ZMod'.neg p a = canonU p (-a) := by
  unfold isCanonU at ha hb
  refine ⟨rfl, rfl, rfl, rfl, ?_, ?_, ?_⟩
  · unfold ZMod'.add canonU
    rw [add_emod_canon ha hb]
    simp only
    split <;> split <;> omega
  · unfold ZMod'.sub canonU
    rw [sub_emod_canon ha hb]
    simp only
    split <;> split <;> omega
  · unfold ZMod'.neg canonU
    rw [neg_emod_eq a p (by omega), Int.emod_eq_of_lt ha.1 ha.2]
    split <;> simp_all
example : (2 : Int) ≤ 10 ∧ isCanonU 10 7 ∧ isCanonU 10 9 := by decide

/-! ## inv / div / isUnit of the floating rings: the floating `extended_euclid` (signed cofactors)

No cofactor and no product `q·v` ever exceeds the modulus in magnitude, so every intermediate is an
exactly representable integer (the model's `fit`s never fail: the results are `some …`); the quotient
`floor(u3/v3)` is the exact floor (a hypothesis of the model: `FCfg.feuLoop` uses `Int.fdiv`, see the comment there). -/

section floatingInv
variable (k : FCfg) (hv : k.valid) (p a b : Int) (hp : 2 ≤ p) (hm : p ≤ k.maxCard)
include hv hp hm

theorem float_euclid_exact (ha : isCanonU p a) :
    ∃ x d, k.euclid a p = some (x, d) ∧ d = (Int.gcd a p : Int) ∧ -p ≤ x ∧ x ≤ p ∧ p ∣ x * a - d
      ∧ (d = 1 → -p < x ∧ x < p) := by
  have ok := fok_of_valid k hv p hp hm
  unfold isCanonU at ha
  exact feuclid_spec ok.fS_id ⟨by omega, ha.2⟩ hp ok.fuel

theorem float_inv_exact (ha : isCanonU p a) (hu : Int.gcd a p = 1) :
    ∃ r, k.inv p a = some r ∧ isCanonU p r ∧ (r * a) % p = 1 % p := by
  obtain ⟨x, d, he, hd, _, _, hdv, hd1⟩ := float_euclid_exact k hv p a hp hm ha
  exact finv_of_euclid (fok_of_valid k hv p hp hm).fS_id he hd hdv hd1 hu

theorem float_div_exact (ha : isCanonU p a) (hb : isCanonU p b) (hu : Int.gcd b p = 1) :
    ∃ r, k.div p a b = some r ∧ k.divin p a b = some r ∧ isQuot false p a b r = true := by
  obtain ⟨i, hi, hic, hi1⟩ := float_inv_exact k hv p b hp hm hb hu
  have e : k.div p a b = some (canonU p (i * a)) := by
    unfold FCfg.div; rw [hi]; simp only [Option.bind_eq_bind, Option.bind_some]
    rw [float_mul_exact k hv p a i hp hm ha hic, Int.mul_comm]
  exact ⟨_, e, e, isQuot_of_inverse (by omega) hi1⟩

theorem float_isUnit_iff_coprime (ha : isCanonU p a) :
    ∃ u, k.isUnit p a = some u ∧ (u = true ↔ Int.gcd a p = 1) := by
  obtain ⟨x, d, he, hd, _⟩ := float_euclid_exact k hv p a hp hm ha
  exact fisUnit_of_euclid hp he hd

end floatingInv
example : (FCfg.mk 53 53).inv 94906266 94906265 = some 94906265 ∧ Int.gcd 94906265 94906266 = 1 := by decide
example : (FCfg.mk 24 53).isUnit 16777216 8388608 = some false ∧ (FCfg.mk 24 53).isUnit 16777216 8388609 = some true := by decide

section balancedFloatInv
variable (k : BFCfg) (hv : k.valid) (p a b : Int) (hp : 3 ≤ p) (hm : p ≤ k.maxCard)
include hv hp hm

theorem balanced_float_euclid_exact (ha : isCanonB p a) :
    ∃ x d, (FCfg.mk k.mb k.mb).euclid a p = some (x, d) ∧ d = (Int.gcd a p : Int) ∧ -p ≤ x ∧ x ≤ p ∧ p ∣ x * a - d
      ∧ (d = 1 → -p < x ∧ x < p) := by
  obtain ⟨h1, h2⟩ := balanced_float_fsok k hv p hm
  unfold isCanonB at ha
  exact feuclid_spec h1 ⟨by omega, by omega⟩ (by omega) (h2 (by omega))

/-- inv / invin of `ModularBalanced<float|double>` (the operand may be negative): canonical, `inv·a ≡ 1` -/
theorem balanced_float_inv_exact (ha : isCanonB p a) (hu : Int.gcd a p = 1) :
    ∃ r, k.inv p a = some r ∧ isQuot true p 1 a r = true := by
  obtain ⟨x, d, he, hd, hx0, hx1, hdv, _⟩ := balanced_float_euclid_exact k hv p a hp hm ha
  rw [hd, hu] at hdv
  refine ⟨canonB p x, ?_, isQuotB_of_dvd (by omega) hdv⟩
  unfold BFCfg.inv
  rw [he]
  simp only [Option.bind_eq_bind, Option.bind_some]
  rw [normB_canon (by omega) (by omega) (by omega)]
  exact BFCfg.f_canonB hv (by omega) hm x

theorem balanced_float_div_exact (ha : isCanonB p a) (hb : isCanonB p b) (hu : Int.gcd b p = 1) :
    ∃ r, k.div p a b = some r ∧ isQuot true p a b r = true := by
  obtain ⟨i, hi, hq⟩ := balanced_float_inv_exact k hv p b hp hm hb hu
  unfold isQuot at hq
  simp only [decide_eq_true_eq, isCanon, if_true] at hq
  refine ⟨canonB p (a * i), ?_, ?_⟩
  · unfold BFCfg.div; rw [hi]; simp only [Option.bind_eq_bind, Option.bind_some]
    exact balanced_float_mul_exact k hv p a i hp hm ha hq.1
  · have h1 : p ∣ i * b - 1 := Int.dvd_of_emod_eq_zero hq.2
    have e : a * i * b - a = a * (i * b - 1) := by ring
    exact isQuotB_of_dvd (by omega) (e ▸ Dvd.dvd.mul_left h1 a)

/-- isUnit of `ModularBalanced<float|double>` (`d == 1 || d == -1`, `d = gcd ≥ 0`) -/
theorem balanced_float_isUnit_iff_coprime (ha : isCanonB p a) :
    ∃ u, k.isUnit p a = some u ∧ (u = true ↔ Int.gcd a p = 1) := by
  obtain ⟨x, d, he, hd, _, _, _, _⟩ := balanced_float_euclid_exact k hv p a hp hm ha
  refine ⟨(d == 1 || d == -1), ?_, ?_⟩
  · unfold BFCfg.isUnit; rw [he]; rfl
  · simp only [Bool.or_eq_true, beq_iff_eq, hd]
    constructor
    · rintro (h | h)
      · exact_mod_cast h
      · have : (0 : Int) ≤ ((Int.gcd a p : Nat) : Int) := Int.natCast_nonneg _
        omega
    · intro h; left; rw [h]; rfl

end balancedFloatInv
example : (BFCfg.mk 53).inv 189812531 (-94906265) = some 2 := by decide

/-! ## `Modular<ruint<K>>`, `Modular<rint<K>>`, `Modular<ruint<K>,ruint<K+1>>` — every level K

`k.n = 2^K` is any even number of bits ≥ 64 (`RCfg.valid`); the RecInt primitives are taken by their contracts
over Z (C06).  Every body of modular-ruint.inl, the `inv_mod` loop of ruinvmod.h and the generic
`extended_euclid<Element>` behind isUnit are exact for every modulus up to the `maxCardinality()` of the
instantiation and all canonical operands. -/

section recint
variable (k : RCfg) (hv : k.valid) (p a b c : Int) (hp : 2 ≤ p) (hm : p ≤ k.maxCard)
include hv hp hm

/-- every body of modular-ruint.inl, the separate in-place bodies included (`_mul` is `lmul` + `mod_n`, or `mul` in the element
    type, which does not wrap up to `2^(n/2)`, + `mod_n`) -/
theorem recint_exactOps : ExactOps (k.ops p) (canonU p) (isCanonU p) :=
  (rok_of_valid k hv p hp hm).exactOps

/-- inv / invin through RecInt's `inv_mod` loop: canonical and `inv·a ≡ 1` for every unit -/
theorem recint_inv_exact (ha : isCanonU p a) (hu : Int.gcd a p = 1) :
    isCanonU p (k.inv p a) ∧ (k.inv p a * a) % p = 1 % p := by
  obtain ⟨h0, h1, h2⟩ := rinv_spec (rok_of_valid k hv p hp hm) ha
  rw [hu] at h2
  exact ⟨⟨h0, h1⟩, emod_eq_one_of_dvd h2⟩

theorem recint_div_exact (ha : isCanonU p a) (hb : isCanonU p b) (hu : Int.gcd b p = 1) :
    isQuot false p a b (k.div p a b) = true ∧ k.divin p a b = k.div p a b := by
  obtain ⟨hi, hc⟩ := recint_inv_exact k hv p b hp hm hb hu
  exact ⟨(recint_exactOps k hv p hp hm).quot (by omega) ha hi hc rfl, rfl⟩

/-- `Modular_implem::isUnit` over the RecInt element type -/
theorem recint_isUnit_iff_coprime (ha : isCanonU p a) : k.isUnit p a = true ↔ Int.gcd a p = 1 := by
  have ok := rok_of_valid k hv p hp hm
  have hpn : p < (2 : Int) ^ k.asI.s := ok.pn
  exact isUnit_iff (reok ok hv) (ICfg.arU_id (by omega) (by omega)) hp ha

/-- init from an `Integer` of any size and sign (C04 for the RecInt rings) -/
theorem recint_initZ_exact (x : Int) : k.initZ p x = canonU p x := by
  have ok := rok_of_valid k hv p hp hm
  unfold RCfg.initZ canonU
  exact ok.w_emod x

/-- reduce(x, y) of the RecInt rings for any value `y` the element type holds (non-negative for `ruint`) -/
theorem recint_reduce_exact (y : Int) (hy : k.sg = false → 0 ≤ y) : k.reduce p y = canonU p y := by
  have ok := rok_of_valid k hv p hp hm
  have hw : ∀ x, 0 ≤ x → x < p → k.w x = x := fun x h0 h1 => ok.wp h0 (by omega)
  have ht := tmod_range y p (by omega)
  unfold RCfg.reduce canonU
  split
  · next hsg => exact reduce_store (by omega) hw hw fun hneg => ok.w_neg _ (by omega) hneg hsg
  · next hsg =>
    rw [Int.tmod_eq_emod_of_nonneg (hy (by simpa using hsg))]
    exact ok.w_emod y

/-- init from a machine integer (`int64_t` / `uint64_t` range) whose magnitude the element type holds
    (the overload condition of modular-ruint.h), the minimum of the signed type included -/
theorem recint_init_exact (x : Int) (hx : -((2 : Int) ^ 63) ≤ x ∧ x < (2 : Int) ^ 64)
    (hfit : k.sg = true → -((2 : Int) ^ (k.n - 1)) < x ∧ x < (2 : Int) ^ (k.n - 1)) :
    k.initInt p x = canonU p x := by
  have ok := rok_of_valid k hv p hp hm
  have hua := uabs_cast_eq (w := 64) (by norm_num) hx.1 hx.2
  have hn := hv.1
  have hp64 : (2 : Int) ^ 64 ≤ (2 : Int) ^ k.n := pow_le_pow_right₀ (by norm_num) hn
  have hw : k.w (if x < 0 then -x else x) = if x < 0 then -x else x := by
    unfold RCfg.w
    split
    · next hsg =>
      have := hfit hsg
      exact wrapSw_id (by omega) (by split <;> omega) (by split <;> omega)
    · exact wrapUw_id (by split <;> omega) (by norm_num at hx; split <;> omega)
  unfold RCfg.initInt
  simp only
  rw [hua, hw, recint_reduce_exact k hv p hp hm _ (fun _ => by split <;> omega)]
  unfold canonU
  by_cases hneg : x < 0
  · rw [if_pos hneg, if_pos hneg, rneg_model ok (emod_canon (by omega) _)]
    rw [neg_emod_emod, Int.neg_neg]
  · rw [if_neg hneg, if_neg hneg]

theorem recint_history_exact (prog : List Instr) (r : Regs) (hr : ∀ i, isCanonU p (r i)) :
    (k.ops p).run prog r = some (runZ (canonU p) prog r) ∧ ∀ i, isCanonU p (runZ (canonU p) prog r i) :=
  run_exact (recint_exactOps k hv p hp hm) prog r hr

end recint
example : (RCfg.mk 128 false false).valid ∧ (18446744073709551616 : Int) ≤ (RCfg.mk 128 false false).maxCard := by decide
example : (RCfg.mk 128 false false).inv 18446744073709551616 18446744073709551615 = 18446744073709551615 := by decide
example : (RCfg.mk 64 false false).mul 4294967297 4294967296 4294967296 ≠ canonU 4294967297 (4294967296 * 4294967296) := by decide
example : (RCfg.mk 128 true false).valid ∧ (13043817821140680704 : Int) ≤ (RCfg.mk 128 true false).maxCard := by decide

/-! ## `ModularExtended<float|double>` (FMA path)

add / sub / neg / inv / isUnit at full strength.  mul (hence axpy…, div, histories) under the FMA contract:
`abh` is within `2^(mant-4)` of the product (any rounding to the mantissa of a product below `2^(2·mant-6)` is)
and the floating quotient estimate `q = floor(abh·(1/p))` is within one of the true quotient
(`-p ≤ a·b − q·p < 2p`).  Given the contract, `abl = a·b − abh`, `pql = abh − q·p` and `r = abl + pql` are exact
and one correction yields the canonical residue — for every `p ≤ 2^(mant-3) − 1 = maxCardinality()`.
That the IEEE operations meet the contract is tied by correspondence (soft-float model, both build configurations). -/

structure ExtContract (k : ECfg) (p q a b : Int) : Prop where
  split0 : -((2 : Int) ^ (k.mant - 4)) ≤ a * b - k.rneI (a * b)
  split1 : a * b - k.rneI (a * b) ≤ (2 : Int) ^ (k.mant - 4)
  close0 : -p ≤ a * b - q * p
  close1 : a * b - q * p < 2 * p

/-- `ECfg.f_id` with explicit arguments: the `hf` of the `extended` proofs below and of Props/C04Ext -/
theorem ext_fit (k : ECfg) (hv : k.valid) (p : Int) (hm : p ≤ k.maxCard) (x : Int)
    (h0 : -(4 * p + (2 : Int) ^ (k.mant - 4)) ≤ x) (h1 : x ≤ 4 * p + (2 : Int) ^ (k.mant - 4)) : k.f x = some x :=
  ECfg.f_id hv hm h0 h1

section extended
variable (k : ECfg) (hv : k.valid) (p a b : Int) (hp : 2 ≤ p) (hm : p ≤ k.maxCard)
include hv hp hm

/-- the one correction after a quotient estimate within one of the truth: `r = z − q·p ∈ [−p, 2p)` is brought into `[0, p)` -/
theorem extended_correct (r z : Int) (hr0 : -p ≤ r) (hr1 : r < 2 * p) (j : Int) (hz : z = r + p * j) :
    (if r ≥ p then k.f (r - p) else if r < 0 then k.f (r + p) else some r) = some (z % p) := by
  have hpow : (0 : Int) ≤ (2 : Int) ^ (k.mant - 4) := by positivity
  have hf := fun x h0 h1 => ext_fit k hv p hm x h0 h1
  split
  · rw [hf _ (by omega) (by omega)]; congr 1
    exact (emod_unique (by omega) (by omega) (j + 1) (by rw [hz]; ring)).symm
  · split
    · rw [hf _ (by omega) (by omega)]; congr 1
      exact (emod_unique (by omega) (by omega) (j - 1) (by rw [hz]; ring)).symm
    · congr 1
      exact (emod_unique (by omega) (by omega) j hz).symm

/-- mul with any quotient estimate meeting the contract -/
theorem extended_mulQ_exact_partial (q : Int) (hc : ExtContract k p q a b) :
    k.mulQ p q a b = some (canonU p (a * b)) := by
  have hpow : (0 : Int) ≤ (2 : Int) ^ (k.mant - 4) := by positivity
  have hf := fun x h0 h1 => ext_fit k hv p hm x h0 h1
  obtain ⟨s0, s1, c0, c1⟩ := hc
  unfold ECfg.mulQ canonU
  simp only
  generalize k.rneI (a * b) = abh at *
  rw [hf (abh - q * p) (by omega) (by omega)]
  simp only [Option.bind_eq_bind, Option.bind_some]
  have e : a * b - abh + (abh - q * p) = a * b - q * p := by ring
  rw [e, hf _ (by omega) (by omega)]
  simp only [Option.bind_some]
  exact extended_correct k hv p hp hm _ _ c0 c1 q (by ring)

theorem extended_add_sub_neg_exact (ha : isCanonU p a) (hb : isCanonU p b) :
    k.add p a b = some (canonU p (a + b)) ∧ k.sub p a b = some (canonU p (a - b)) ∧ k.neg p a = some (canonU p (-a)) := by
  have hpow : (0 : Int) ≤ (2 : Int) ^ (k.mant - 4) := by positivity
  have hf := fun x h0 h1 => ext_fit k hv p hm x h0 h1
  unfold isCanonU at ha hb
  unfold ECfg.add ECfg.sub canonU
  rw [hf (a + b) (by omega) (by omega), hf (a - b) (by omega) (by omega)]
  simp only [Option.bind_eq_bind, Option.bind_some]
  refine ⟨?_, ?_, ECfg.neg_eq (fun x h0 h1 => hf x (by omega) (by omega)) ha⟩
  · split
    · rw [hf _ (by omega) (by omega)]; congr 1
      exact (emod_unique (by omega) (by omega) 1 (by ring)).symm
    · congr 1; exact (Int.emod_eq_of_lt (by omega) (by omega)).symm
  · split
    · rw [hf _ (by omega) (by omega)]; congr 1
      exact (emod_unique (by omega) (by omega) (-1) (by ring)).symm
    · congr 1; exact (Int.emod_eq_of_lt (by omega) (by omega)).symm

/-- inv / invin of `ModularExtended`: the floating Euclid -/
theorem extended_inv_exact (ha : isCanonU p a) (hu : Int.gcd a p = 1) :
    ∃ r, k.inv p a = some r ∧ isCanonU p r ∧ (r * a) % p = 1 % p := by
  obtain ⟨h1, h2⟩ := ext_fsok k hv p hp hm
  obtain ⟨x, d, he, hd, _, _, hdv, hd1⟩ := feuclid_spec h1 ⟨by have := ha.1; omega, ha.2⟩ hp h2
  exact finv_of_euclid h1 he hd hdv hd1 hu

theorem extended_isUnit_iff_coprime (ha : isCanonU p a) :
    ∃ u, k.isUnit p a = some u ∧ (u = true ↔ Int.gcd a p = 1) := by
  obtain ⟨h1, h2⟩ := ext_fsok k hv p hp hm
  obtain ⟨x, d, he, hd, _⟩ := feuclid_spec h1 ⟨by have := ha.1; omega, ha.2⟩ hp h2
  exact fisUnit_of_euclid hp he hd

/-- the contract for the quotient estimate the code computes, on all canonical operands -/
def ExtQClose : Prop :=
  ∀ a b, isCanonU p a → isCanonU p b → ExtContract k p (k.qEst p (k.rneI (a * b))) a b

theorem extended_exactOps_partial (hq : ExtQClose k p) : ExactOps (k.ops p) (canonU p) (isCanonU p) := by
  have hmul : ∀ a b, isCanonU p a → isCanonU p b → k.mul p a b = some (canonU p (a * b)) := fun a b ha hb => by
    unfold ECfg.mul; exact extended_mulQ_exact_partial k hv p a b hp hm _ (hq a b ha hb)
  have hc : ∀ x, isCanonU p (canonU p x) := fun x => canonU_isCanon p x (by omega)
  have hasn := fun a b ha hb => extended_add_sub_neg_exact k hv p a b hp hm ha hb
  have haxpy : ∀ a x y, isCanonU p a → isCanonU p x → isCanonU p y → k.axpy p a x y = some (canonU p (a * x + y)) := by
    intro a x y ha hx hy
    unfold ECfg.axpy; rw [hmul a x ha hx]; simp only [Option.bind_eq_bind, Option.bind_some]
    rw [(hasn _ y (hc _) hy).1]; unfold canonU; rw [Int.emod_add_emod]
  have haxmy : ∀ a x y, isCanonU p a → isCanonU p x → isCanonU p y → k.axmy p a x y = some (canonU p (a * x - y)) := by
    intro a x y ha hx hy
    unfold ECfg.axmy; rw [hmul a x ha hx]; simp only [Option.bind_eq_bind, Option.bind_some]
    rw [(hasn _ y (hc _) hy).2.1]; unfold canonU; rw [Int.emod_sub_emod]
  have hmaxpy : ∀ a x y, isCanonU p a → isCanonU p x → isCanonU p y → k.maxpy p a x y = some (canonU p (y - a * x)) := by
    intro a x y ha hx hy
    unfold ECfg.maxpy; rw [hmul a x ha hx]; simp only [Option.bind_eq_bind, Option.bind_some]
    rw [(hasn y _ hy (hc _)).2.1]; unfold canonU; rw [Int.sub_emod_emod]
  exact .of_shared hc (fun a b ha hb => (hasn a b ha hb).1) (fun a b ha hb => (hasn a b ha hb).2.1) hmul
    (fun a ha => (hasn a a ha ha).2.2) haxpy haxmy hmaxpy ⟨rfl, rfl, rfl, rfl⟩ (fun _ _ _ => ⟨rfl, rfl, rfl⟩)

/-- under the FMA contract (full statement: without `hq`) -/
theorem extended_history_exact_partial (hq : ExtQClose k p) (prog : List Instr) (r : Regs) (hr : ∀ i, isCanonU p (r i)) :
    (k.ops p).run prog r = some (runZ (canonU p) prog r) ∧ ∀ i, isCanonU p (runZ (canonU p) prog r i) :=
  run_exact (extended_exactOps_partial k hv p hp hm hq) prog r hr

end extended
example : (ECfg.mk 53).mul 1125899906842623 1125899906842622 1125899906842622 = some 1 := by decide
example : ExtContract (ECfg.mk 53) 1125899906842623 ((ECfg.mk 53).qEst 1125899906842623 ((ECfg.mk 53).rneI (1125899906842622 * 1125899906842622)))
    1125899906842622 1125899906842622 := by
  refine ⟨by decide, by decide, by decide, by decide⟩

/-! ## `Modular<Log16>`: the generator chain is a parameter

For any tables `exp`, `log` satisfying `L16.Valid` (what the constructor's generator search establishes for a
prime `p`: `exp` walks through (Z/p)^* along the powers of `g`, `log` inverts it, `log 0 = zero`), the index
arithmetic of every `__GIVARO_ZPZ16_LOG_*` macro on canonical representations (`okR`: a logarithm in `[0,p-1)` or
`zero = 2(p-1)`) returns the canonical representation of the exact result.  `g^((p-1)/2) = -1` is derived from the
chain, not assumed. -/

section log16
variable (T : L16) (h : T.Valid) (a b c : Int)
include h

theorem log16_mul_exact (ha : T.okR a) (hb : T.okR b) :
    T.okR (T.mul a b) ∧ T.val (T.mul a b) = canonU T.p (T.val a * T.val b) := L16.mul_exact h ha hb
theorem log16_add_exact (ha : T.okR a) (hb : T.okR b) :
    T.okR (T.add a b) ∧ T.val (T.add a b) = canonU T.p (T.val a + T.val b) := L16.add_exact h ha hb
theorem log16_sub_exact (ha : T.okR a) (hb : T.okR b) :
    T.okR (T.sub a b) ∧ T.val (T.sub a b) = canonU T.p (T.val a - T.val b) := L16.sub_exact h ha hb
theorem log16_neg_exact (ha : T.okR a) :
    T.okR (T.neg a) ∧ T.val (T.neg a) = canonU T.p (-(T.val a)) := L16.neg_exact h ha
/-- inv / div for a non-zero divisor -/
theorem log16_inv_div_exact (ha : T.okR a) (hb : 0 ≤ b ∧ b < T.M) :
    (T.okR (T.inv b) ∧ (T.val (T.inv b) * T.val b) % T.p = 1 % T.p)
    ∧ (T.okR (T.div a b) ∧ (T.val (T.div a b) * T.val b) % T.p = T.val a % T.p) :=
  ⟨⟨Or.inl (L16.inv_exact h hb).1, (L16.inv_exact h hb).2⟩, L16.div_exact h ha hb⟩

theorem log16_val_range (ha : T.okR a) : isCanonU T.p (T.val a) := L16.val_range h ha

/-- axpy, axpyin, axmy, axmyin, maxpy, maxpyin (compositions of the macros, as the code writes them) -/
theorem log16_fused_exact (ha : T.okR a) (hb : T.okR b) (hc : T.okR c) :
    (T.okR (T.axpy a b c) ∧ T.val (T.axpy a b c) = canonU T.p (T.val a * T.val b + T.val c))
    ∧ (T.okR (T.axpyin c a b) ∧ T.val (T.axpyin c a b) = canonU T.p (T.val a * T.val b + T.val c))
    ∧ (T.okR (T.axmy a b c) ∧ T.val (T.axmy a b c) = canonU T.p (T.val a * T.val b - T.val c))
    ∧ (T.okR (T.axmyin c a b) ∧ T.val (T.axmyin c a b) = canonU T.p (T.val a * T.val b - T.val c))
    ∧ (T.okR (T.maxpy a b c) ∧ T.val (T.maxpy a b c) = canonU T.p (T.val c - T.val a * T.val b))
    ∧ (T.okR (T.maxpyin c a b) ∧ T.val (T.maxpyin c a b) = canonU T.p (T.val c - T.val a * T.val b)) := by
  obtain ⟨hm, hmv⟩ := L16.mul_exact h ha hb
  obtain ⟨h1, h1v⟩ := L16.add_exact h hm hc
  obtain ⟨h2, h2v⟩ := L16.add_exact h hc hm
  obtain ⟨h3, h3v⟩ := L16.sub_exact h hm hc
  obtain ⟨h4, h4v⟩ := L16.sub_exact h hc hm
  unfold canonU
  -- `axmyin`, `maxpyin` are `axmy`, `maxpy` with the destination as operand; `axpyin` adds in the other order
  have e3 : T.val (T.sub (T.mul a b) c) = (T.val a * T.val b - T.val c) % T.p := by
    rw [h3v, hmv, Int.emod_sub_emod]
  have e4 : T.val (T.sub c (T.mul a b)) = (T.val c - T.val a * T.val b) % T.p := by
    rw [h4v, hmv, Int.sub_emod_emod]
  refine ⟨⟨h1, ?_⟩, ⟨h2, ?_⟩, ⟨h3, e3⟩, ⟨h3, e3⟩, ⟨h4, e4⟩, ⟨h4, e4⟩⟩
  · show T.val (T.add (T.mul a b) c) = _
    rw [h1v, hmv, Int.emod_add_emod]
  · show T.val (T.add c (T.mul a b)) = _
    rw [h2v, hmv, Int.add_emod_emod, Int.add_comm]

/-- isUnit (`!isZero`) holds exactly for the elements that have an inverse -/
theorem log16_isUnit_iff (ha : T.okR a) :
    T.isUnit a = true ↔ ∃ r, T.okR r ∧ (T.val r * T.val a) % T.p = 1 % T.p := by
  have hp := h.p2
  have hMd : T.M = T.p - 1 := rfl
  have hZ : T.Z = 2 * T.M := rfl
  unfold L16.isUnit L16.isZero
  rcases ha with ha | ha
  · simp only [Bool.not_eq_true', decide_eq_false_iff_not]
    constructor
    · intro _; exact ⟨T.inv a, Or.inl (L16.inv_exact h ha).1, (L16.inv_exact h ha).2⟩
    · intro _; omega
  · simp only [Bool.not_eq_true', decide_eq_false_iff_not]
    constructor
    · intro hc; exfalso; omega
    · rintro ⟨r, _, hr⟩
      rw [ha, L16.val_Z h, Int.mul_zero, Int.zero_emod, Int.emod_eq_of_lt (by omega) (by omega)] at hr
      omega

end log16

/-- non-vacuity: the chain of `p = 5`, `g = 2` is valid -/
def t5 : L16 := ⟨5, 2, fun e => if e = 0 then 1 else if e = 1 then 2 else if e = 2 then 4 else 3,
  fun v => if v = 0 then 8 else if v = 1 then 0 else if v = 2 then 1 else if v = 4 then 2 else 3⟩
example : t5.Valid := by
  refine ⟨by decide, by decide, ?_, ?_, ?_, ?_, by decide⟩
  · intro e h0 h1
    have : e < 4 := h1
    interval_cases e <;> decide
  · intro e h0 h1
    have : e < 4 := h1
    interval_cases e <;> decide
  · intro e h0 h1
    have : e < 4 := h1
    interval_cases e <;> decide
  · intro v h0 h1
    have : v < 5 := h1
    interval_cases v <;> decide
example : t5.add 1 3 = 8 ∧ t5.val (t5.sub 0 3) = 3 ∧ t5.neg 8 = 8 := by decide

/-! ## multiplication with a precomputed reciprocal (modular-mulprecomp.inl), all 16 integral configurations

The domain is the one the file's asserts state (`bitsizep ≤ hbits − 2`, resp. `hbits − 1`, `hbits = 4·sizeof(Compute_t)` half the bits of `Compute_t`; compiled out by `-DNDEBUG`), which is
smaller than `maxCardinality()`: beyond it the real code is wrong (examples below and the correspondence lines marked PRE) —
a documented restriction of these entry points, not of the ring. -/

/-- `mul_precomp_p` (Barrett with the reciprocal of `precomp_p`): exact on the domain the file asserts,
    `bitsizep ≤ 4·sizeof(Compute_t) − 2` — the estimate is never above and at most one below the quotient,
    which is the one conditional subtraction the code applies -/
theorem mul_precomp_p_exact (k : ICfg) (hv : k.valid) (p a b : Int) (hp : 2 ≤ p)
    (hdom : k.bitsize p + 2 ≤ k.hbits) (ha : isCanonU p a) (hb : isCanonU p b) :
    k.mulPrecompP p (k.bitsize p) (k.precompP p (k.bitsize p)) a b = canonU p (a * b) := by
  obtain ⟨h1, h2, h3⟩ := bitsize_spec k p (by omega)
  have hn2 : 2 ≤ k.bitsize p := by
    by_contra hc
    have : k.bitsize p = 1 := by omega
    rw [this] at h3; norm_num at h3; omega
  exact mulPrecompP_model hv hn2 hdom h2 h3 ha hb

/-- `mul_precomp_b` / `mul_precomp_b_without_reduction` (Shoup, reciprocal of `precomp_b(invb,b)`): on the asserted
    domain `bitsizep ≤ 4·sizeof(Compute_t) − 1` the unreduced value is congruent and below `2p`, the reduced one canonical -/
theorem mul_precomp_b_exact (k : ICfg) (hv : k.valid) (p a b : Int) (hp : 2 ≤ p)
    (hdom : k.bitsize p + 1 ≤ k.hbits) (ha : isCanonU p a) (hb : isCanonU p b) :
    k.mulPrecompB p (k.precompB p b) a b = canonU p (a * b)
      ∧ (0 ≤ k.mulPrecompBNoRed p (k.precompB p b) a b ∧ k.mulPrecompBNoRed p (k.precompB p b) a b < 2 * p
          ∧ p ∣ k.mulPrecompBNoRed p (k.precompB p b) a b - a * b) := by
  obtain ⟨h1, h2, h3⟩ := bitsize_spec k p (by omega)
  have hpH : 2 * p ≤ (2 : Int) ^ k.hbits := by
    have : (2 : Int) ^ (k.bitsize p + 1) ≤ (2 : Int) ^ k.hbits := pow_le_pow_right₀ (by norm_num) hdom
    rw [pow_succ] at this; omega
  exact mulPrecompB_model hv hp hpH ha hb
example : (ICfg.mk 64 false 64).bitsize 1073741823 + 2 ≤ (ICfg.mk 64 false 64).hbits := by decide
example : (ICfg.mk 64 false 64).mulPrecompP 1073741823 30 ((ICfg.mk 64 false 64).precompP 1073741823 30) 1073741822 1073741822 = 1 := by decide
/-- beyond the asserted domain the same code is wrong (a documented restriction, not the advertised maxCardinality) -/
example : (ICfg.mk 64 false 64).mulPrecompP 4294967291 32 ((ICfg.mk 64 false 64).precompP 4294967291 32) 4294967290 4294967290 ≠ 1 := by decide

/-! ## the generic `Modular<IntType,Compute_t>` (modular-inttype.inl): every type pair without a specialisation

All arithmetic is carried out in `IntType`; `maxCardinality() = 2^⌊N/2⌋` (`N` value bits; fixes/C03_3.patch — before it the
class advertised no maximum or the parent's, e.g. none for `Modular<int64_t,Integer>`, and `Modular<int16_t,int64_t>(4095)`
gave `4094·4094 = 0`). -/

section generic
variable (k : GCfg) (hv : k.valid) (p a b c : Int) (hp : 2 ≤ p) (hm : p ≤ k.maxCard)
include hv hp hm

/-- every body of modular-inttype.inl, the separate in-place bodies (subin, axpyin, axmyin, maxpyin) included -/
theorem generic_exactOps : ExactOps (k.ops p) (canonU p) (isCanonU p) :=
  (gok_of_valid k hv p hp hm).exactOps

theorem generic_reduce_exact (y : Int) (hy : k.sg = false → 0 ≤ y) : k.reduce p y = canonU p y :=
  greduce_model (gok_of_valid k hv p hp hm) y hy

/-- inv / invin: the two-variable Euclid with the deferred cofactor update never exceeds `p` and returns the inverse -/
theorem generic_inv_exact (ha : isCanonU p a) (hu : Int.gcd a p = 1) :
    isCanonU p (k.inv p a) ∧ (k.inv p a * a) % p = 1 % p :=
  ginv_spec (gok_of_valid k hv p hp hm) ha hu

theorem generic_div_exact (ha : isCanonU p a) (hb : isCanonU p b) (hu : Int.gcd b p = 1) :
    isQuot false p a b (k.div p a b) = true := by
  obtain ⟨hi, hc⟩ := generic_inv_exact k hv p b hp hm hb hu
  exact (generic_exactOps k hv p hp hm).quot (by omega) ha hi hc rfl

/-- isUnit (the parent's shared `extended_euclid<Element>`) ↔ gcd(a,p) = 1 -/
theorem generic_isUnit_iff_coprime (ha : isCanonU p a) : k.isUnit p a = true ↔ Int.gcd a p = 1 := by
  have hpp := GCfg.sq_le_eTop hp hm
  have := lt_sq hp
  have := k.asI.eTop_le
  exact isUnit_iff (geok (gok_of_valid k hv p hp hm)) (ICfg.arU_id (by omega) (by omega)) hp ha

theorem generic_history_exact (prog : List Instr) (r : Regs) (hr : ∀ i, isCanonU p (r i)) :
    (k.ops p).run prog r = some (runZ (canonU p) prog r) ∧ ∀ i, isCanonU p (runZ (canonU p) prog r i) :=
  run_exact (generic_exactOps k hv p hp hm) prog r hr

end generic
example : (GCfg.mk 16 true).valid ∧ (128 : Int) ≤ (GCfg.mk 16 true).maxCard := by decide
example : (GCfg.mk 16 true).axmy 128 127 127 0 = canonU 128 (127 * 127) ∧ (GCfg.mk 16 true).inv 127 5 = 51 := by decide
/-- tightness: the element type no longer holds `p(p−1)+1` at 182 (what the unpatched class silently allowed) -/
example : (GCfg.mk 16 true).axmy 182 181 181 0 ≠ canonU 182 (181 * 181) := by decide

/-! ## histories: programs of any length over add/sub/neg/mul/axpy/axmy/maxpy and all in-place forms

A program is a list of API calls on a register file.  Running it on the ring's representation with the model of the ring's code
gives, for every program, exactly what running it on plain residues gives (`runZ`: exact integer operation then the canonical
map) — by induction over the program from the ring's operation table (`ExactOps`: one field per API call). -/

/-- `Modular<intN_t|uintN_t[,uint2N_t]>`, all 16 configurations -/
theorem integral_history_exact (k : ICfg) (hv : k.valid) (p : Int) (hp : 2 ≤ p) (hm : p ≤ k.maxCard)
    (prog : List Instr) (r : Regs) (hr : ∀ i, isCanonU p (r i)) :
    (k.ops p).run prog r = some (runZ (canonU p) prog r) ∧ ∀ i, isCanonU p (runZ (canonU p) prog r i) :=
  run_exact (integral_exactOps k hv p hp hm) prog r hr
example : ((ICfg.mk 32 false 64).ops 4294967295).run [.mul 2 0 1, .axpyin 2 0 0, .maxpyin 0 2 2, .negin 0]
      ⟨4294967294, 4294967293, 0, 5⟩
    = some (runZ (canonU 4294967295) [.mul 2 0 1, .axpyin 2 0 0, .maxpyin 0 2 2, .negin 0] ⟨4294967294, 4294967293, 0, 5⟩) := by
  decide

/-- `Modular<float>`, `Modular<double>`, `Modular<float,double>`: no rounding ever
    becomes observable, whatever the length of the computation (`some`) -/
theorem float_history_exact (k : FCfg) (hv : k.valid) (p : Int) (hp : 2 ≤ p) (hm : p ≤ k.maxCard)
    (prog : List Instr) (r : Regs) (hr : ∀ i, isCanonU p (r i)) :
    (k.ops p).run prog r = some (runZ (canonU p) prog r) ∧ ∀ i, isCanonU p (runZ (canonU p) prog r i) :=
  run_exact (float_exactOps k hv p hp hm) prog r hr

theorem balanced_float_history_exact (k : BFCfg) (hv : k.valid) (p : Int) (hp : 3 ≤ p) (hm : p ≤ k.maxCard)
    (prog : List Instr) (r : Regs) (hr : ∀ i, isCanonB p (r i)) :
    (k.ops p).run prog r = some (runZ (canonB p) prog r) ∧ ∀ i, isCanonB p (runZ (canonB p) prog r i) :=
  run_exact (balanced_float_exactOps k hv p hp hm) prog r hr

/-- `ModularBalanced<int32_t|int64_t>`, under the closeness of the floating quotient estimate
    (full statement: the same without `hq`; `QClose p` for the IEEE estimate is tied by correspondence only) -/
theorem balanced_int_history_exact_partial (k : BICfg) (hv : k.valid) (p : Int) (hp : 3 ≤ p) (hm : p ≤ k.maxCard)
    (hq : QClose p) (prog : List Instr) (r : Regs) (hr : ∀ i, isCanonB p (r i)) :
    (k.ops p).run prog r = some (runZ (canonB p) prog r) ∧ ∀ i, isCanonB p (runZ (canonB p) prog r i) :=
  run_exact (balanced_int_exactOps_partial k hv p hp hm hq) prog r hr

end Givaro.Props.C03
