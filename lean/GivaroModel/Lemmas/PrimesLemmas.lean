/-
C12 — helper lemmas for Props/C12.lean: trial division (`isPrimeDec` decides primality), the two prime walks as a search for the
first accepted point of a progression (`stride`), the product `prodPow` of a list of prime powers (which primes divide it), the
division loop and the outer loop of `IntFactorDom::set` with its invariant.
-/
import GivaroModel.Model.Primes
import GivaroModel.Spec.PrimesSpec
import GivaroModel.Lemmas.PrimesStrip
import Mathlib.Data.Nat.Prime.Basic
import Mathlib.Data.Nat.GCD.Basic
import Mathlib.Data.List.Nodup
import Mathlib.Data.List.Prime
import Mathlib.Algebra.BigOperators.Group.List.Basic
import Mathlib.Algebra.BigOperators.Ring.List
import Mathlib.Tactic.Linarith
import Mathlib.Tactic.Ring
namespace Givaro.Lemmas.Primes
open Givaro Givaro.Model.Primes Givaro.Spec.Primes

theorem noDivFrom_iff (n fuel d : Nat) (hd : 2 ≤ d) (hf : n < fuel + d) :
    noDivFrom n fuel d = true ↔ ∀ k, d ≤ k → k * k ≤ n → ¬ k ∣ n := by
  fun_induction noDivFrom n fuel d with
  | case1 d =>
    refine iff_of_true rfl fun k hk hkk => ?_
    have : k ≤ k * k := Nat.le_mul_self k
    omega
  | case2 f d h1 =>
    refine iff_of_true rfl fun k hk hkk => ?_
    have : d * d ≤ k * k := Nat.mul_le_mul hk hk
    omega
  | case3 f d h1 h2 =>
    exact iff_of_false Bool.false_ne_true fun h => h d (Nat.le_refl d) (by omega) (Nat.dvd_of_mod_eq_zero h2)
  | case4 f d h1 h2 ih =>
    rw [ih (by omega) (by omega)]
    refine ⟨fun h k hk hkk => ?_, fun h k hk hkk => h k (by omega) hkk⟩
    by_cases hkd : k = d
    · subst hkd; exact fun hdvd => h2 (Nat.mod_eq_zero_of_dvd hdvd)
    · exact h k (by omega) hkk

theorem isPrimeDec_iff_prime (n : Nat) : isPrimeDec n = true ↔ Nat.Prime n := by
  unfold isPrimeDec
  rw [Bool.and_eq_true, decide_eq_true_eq, Nat.prime_def_le_sqrt, noDivFrom_iff n n 2 (Nat.le_refl 2) (by omega)]
  exact and_congr_right fun _ =>
    ⟨fun h m hm hms => h m hm (Nat.le_sqrt.1 hms), fun h k hk hkk => h k hk (Nat.le_sqrt.2 hkk)⟩

theorem isPrimeDec_eq_false {n : Nat} (h : ¬ Nat.Prime n) : isPrimeDec n = false :=
  Bool.eq_false_iff.2 fun hb => h ((isPrimeDec_iff_prime n).1 hb)

theorem prime_of_all_isPrimeDec {L : List Nat} (h : L.all isPrimeDec = true) : ∀ p ∈ L, Nat.Prime p :=
  fun p hp => (isPrimeDec_iff_prime p).1 (List.all_eq_true.1 h p hp)

theorem not_prime_even (m : Int) (h4 : 4 ≤ m) (he : m % 2 = 0) : ¬ Nat.Prime m.toNat := by
  intro hp
  have h2 : (2 : Nat) ∣ m.toNat := by
    apply Nat.dvd_of_mod_eq_zero
    omega
  have := (Nat.prime_dvd_prime_iff_eq Nat.prime_two hp).1 h2
  omega

theorem not_prime_le_one (m : Int) (h : m ≤ 1) : ¬ Nat.Prime m.toNat := by
  intro hp
  have := hp.two_le
  omega

theorem isp_eq_false {isp : Int → Bool} (hisp : ∀ n, isp n = true ↔ Nat.Prime n.toNat) {m : Int}
    (h : ¬ Nat.Prime m.toNat) : isp m = false :=
  Bool.eq_false_iff.2 fun hb => h ((hisp m).1 hb)

/-- the first of `s, s + d, s + 2d, …` (at most `fuel` of them) that `isp` accepts -/
def stride (isp : Int → Bool) (d : Int) (fuel : Nat) (s : Int) : Option Int :=
  ((List.range fuel).find? fun k : Nat => isp (s + d * (k : Int))).map fun k : Nat => s + d * (k : Int)

theorem stride_succ (isp : Int → Bool) (d : Int) (fuel : Nat) (s : Int) :
    stride isp d (fuel + 1) s = if isp s then some s else stride isp d fuel (s + d) := by
  have e : ∀ k : Nat, s + d * ((k.succ : Nat) : Int) = s + d + d * k := fun k => by rw [Nat.cast_succ]; ring
  unfold stride
  rw [List.range_succ_eq_map, List.find?_cons, Nat.cast_zero, Int.mul_zero, Int.add_zero, List.find?_map]
  by_cases h : isp s = true
  · rw [h, if_pos rfl]; simp
  · rw [Bool.not_eq_true] at h
    simp only [h, Bool.false_eq_true, ↓reduceIte, Option.map_map, Function.comp_def, e]

theorem upLoop_eq_stride (isp : Int → Bool) : ∀ fuel s, upLoop isp fuel s = stride isp 2 fuel s
  | 0, _ => rfl
  | f + 1, s => by rw [upLoop, stride_succ, upLoop_eq_stride isp f]

theorem downLoop_eq_stride (isp : Int → Bool) : ∀ fuel s, downLoop isp fuel s = stride isp (-2) fuel s
  | 0, _ => rfl
  | f + 1, s => by rw [downLoop, stride_succ, downLoop_eq_stride isp f]; rfl

section
variable {isp : Int → Bool} {d : Int} {fuel : Nat} {s r : Int}

theorem stride_eq_some :
    stride isp d fuel s = some r ↔ ∃ k < fuel, r = s + d * k ∧ isp r = true ∧ ∀ j < k, isp (s + d * j) = false := by
  simp only [stride, Option.map_eq_some_iff, List.find?_range_eq_some, List.mem_range, Bool.not_eq_true']
  exact ⟨fun ⟨k, ⟨a, b, c⟩, e⟩ => ⟨k, b, e.symm, e ▸ a, c⟩, fun ⟨k, b, e, a, c⟩ => ⟨k, ⟨e ▸ a, b, c⟩, e.symm⟩⟩

theorem stride_eq_none : stride isp d fuel s = none ↔ ∀ k < fuel, isp (s + d * k) = false := by
  simp only [stride, Option.map_eq_none_iff, List.find?_range_eq_none, Bool.not_eq_true']

theorem stride_isSome {k : Nat} (hk : k < fuel) (h : isp (s + d * k) = true) : ∃ r, stride isp d fuel s = some r := by
  cases hw : stride isp d fuel s with
  | some r => exact ⟨r, rfl⟩
  | none => exact absurd h (by rw [stride_eq_none.1 hw k hk]; exact Bool.false_ne_true)

/-- a walk over the odd numbers skips no prime: what it steps over is even.  `0 ≤ (m - s) * d` and `0 < (r - m) * d` say, for
    either sign of `d`, that `m` lies between `s` (included) and `r` (excluded) in the direction of the walk -/
theorem stride_closest (hisp : ∀ n, isp n = true ↔ Nat.Prime n.toNat) (hd : d = 2 ∨ d = -2) (hs : s % 2 = 1)
    (h : stride isp d fuel s = some r) :
    Nat.Prime r.toNat ∧ 0 ≤ (r - s) * d ∧
      ∀ m, 0 ≤ (m - s) * d → 0 < (r - m) * d → m ≠ 2 → ¬ Nat.Prime m.toNat := by
  obtain ⟨k, _, rfl, a, c⟩ := stride_eq_some.1 h
  refine ⟨(hisp _).1 a, by rcases hd with rfl | rfl <;> omega, fun m h1 h2 m2 hpm => ?_⟩
  by_cases hm : m % 2 = 0
  · have := (Nat.prime_dvd_prime_iff_eq Nat.prime_two hpm).1 (Nat.dvd_of_mod_eq_zero (by omega))
    omega
  · -- an odd `m` on the way is a point of the progression before `r`
    have hj : m = s + d * (((m - s) / d).toNat : Nat) ∧ ((m - s) / d).toNat < k := by
      rcases hd with rfl | rfl <;> omega
    exact Bool.noConfusion ((c _ hj.2).symm.trans (hj.1 ▸ (hisp m).2 hpm))

end

theorem nextprime_eq_stride (isp : Int → Bool) {p : Int} (hp : ¬ p ≤ 1) :
    ∃ s, s % 2 = 1 ∧ p < s ∧ s ≤ p + 2 ∧ ∀ fuel, nextprime isp fuel p = stride isp 2 fuel s :=
  ⟨p + (if p % 2 = 1 then 2 else 1), by split <;> omega, by split <;> omega, by split <;> omega,
    fun fuel => by rw [nextprime, if_neg hp, upLoop_eq_stride]⟩

theorem prevprime_eq_stride (isp : Int → Bool) {p : Int} (hp : ¬ p ≤ 3) :
    ∃ s, s % 2 = 1 ∧ s < p ∧ p - 2 ≤ s ∧ ∀ fuel, prevprime isp fuel p = stride isp (-2) fuel s :=
  ⟨p - (if p % 2 = 1 then 2 else 1), by split <;> omega, by split <;> omega, by split <;> omega,
    fun fuel => by rw [prevprime, if_neg hp, downLoop_eq_stride]⟩

theorem prodPow_eq (fs : List (Nat × Nat)) : prodPow fs = (fs.map (fun pe => pe.1 ^ pe.2)).prod := by
  induction fs with
  | nil => rfl
  | cons a l ih => obtain ⟨p, e⟩ := a; simp [prodPow, ih]

theorem prodPow_reverse (fs : List (Nat × Nat)) : prodPow fs.reverse = prodPow fs := by
  rw [prodPow_eq, prodPow_eq, List.map_reverse, List.prod_reverse]

theorem prodPow_snoc (fs : List (Nat × Nat)) (p e : Nat) : prodPow (fs ++ [(p, e)]) = prodPow fs * p ^ e := by
  rw [prodPow_eq, prodPow_eq, List.map_append, List.prod_append, List.map_singleton, List.prod_singleton]

theorem prodPow_ne_zero (fs : List (Nat × Nat)) (hp : ∀ pe ∈ fs, Nat.Prime pe.1) : prodPow fs ≠ 0 := by
  rw [prodPow_eq]
  refine List.prod_ne_zero fun h0 => ?_
  obtain ⟨pe, hpe, h⟩ := List.mem_map.1 h0
  exact pow_ne_zero _ (hp pe hpe).ne_zero h

theorem mem_of_prime_dvd_prodPow {fs : List (Nat × Nat)} (hfs : ∀ pe ∈ fs, Nat.Prime pe.1) {p : Nat} (hp : Nat.Prime p)
    (h : p ∣ prodPow fs) : p ∈ fs.map Prod.fst := by
  rw [prodPow_eq] at h
  obtain ⟨a, ha, hpa⟩ := (Prime.dvd_prod_iff (Nat.prime_iff.1 hp)).1 h
  obtain ⟨pe, hpe, rfl⟩ := List.mem_map.1 ha
  exact List.mem_map.2 ⟨pe, hpe, (Nat.prime_eq_prime_of_dvd_pow hp (hfs pe hpe) hpa).symm⟩

theorem dvd_prodPow_of_mem {fs : List (Nat × Nat)} {pe : Nat × Nat} (h : pe ∈ fs) (he : 1 ≤ pe.2) : pe.1 ∣ prodPow fs := by
  rw [prodPow_eq]
  exact (dvd_pow_self pe.1 (by omega)).trans (List.dvd_prod (List.mem_map.2 ⟨pe, h, rfl⟩))

theorem divLoop_pow {g r : Nat} (hg : 2 ≤ g) (hr : ¬ g ∣ r) : ∀ (k fuel c : Nat), r * g ^ k < fuel →
    divLoop g fuel (r * g ^ k) c = some (r, c + 1 + k)
  | 0, f + 1, c, _ => by
    rw [pow_zero, Nat.mul_one, divLoop]
    exact if_neg (mt Nat.dvd_of_mod_eq_zero hr)
  | k + 1, f + 1, c, h => by
    obtain ⟨h0, hq, hlt⟩ := strip_step hg hr k
    rw [divLoop]
    simp only [h0, ↓reduceIte, hq]
    rw [divLoop_pow hg hr k f (c + 1) (by omega), Nat.add_assoc (c + 1), Nat.add_comm 1 k]

/-- as `set` calls it: `g` is divided out once before the loop -/
theorem divLoop_of_dvd {g nn : Nat} (hg : 2 ≤ g) (hnn : 1 ≤ nn) (hd : g ∣ nn) :
    ∃ u' e, divLoop g (nn + 1) (nn / g) 0 = some (u', e) ∧ 1 ≤ e ∧ u' * g ^ e = nn ∧ ¬ g ∣ u' ∧ 1 ≤ u' ∧ u' < nn := by
  obtain ⟨r, k, hr, rfl⟩ := exists_split hg hnn
  obtain ⟨k, rfl⟩ := Nat.exists_eq_add_one_of_ne_zero fun h : k = 0 => hr (by simpa [h] using hd)
  obtain ⟨_, hq, hlt⟩ := strip_step hg hr k
  have hr0 : 0 < r := Nat.pos_of_ne_zero fun h => hr (h ▸ dvd_zero g)
  have : r ≤ r * g ^ k := Nat.le_mul_of_pos_right r (Nat.pow_pos (by omega))
  exact ⟨r, 0 + 1 + k, by rw [hq, divLoop_pow hg hr k _ 0 (by omega)], by omega, by rw [Nat.add_comm], hr, hr0, by omega⟩

/-- what the outer loop of `set` has established when `nn` is left to factor -/
structure SetInv (N nn : Nat) (acc : List (Nat × Nat)) (flag : Bool) : Prop where
  bases : ∀ pe ∈ acc, 2 ≤ pe.1 ∧ 1 ≤ pe.2 ∧ ¬ pe.1 ∣ nn
  nodup : (acc.map Prod.fst).Nodup
  prod : prodPow acc * nn = N
  good : flag = true → ∀ pe ∈ acc, Nat.Prime pe.1

variable {N nn : Nat} {acc : List (Nat × Nat)} {flag : Bool}

theorem SetInv.reverse (h : SetInv N nn acc flag) : SetInv N nn acc.reverse flag :=
  ⟨fun pe hpe => h.bases pe (List.mem_reverse.1 hpe), by rw [List.map_reverse]; exact List.nodup_reverse.2 h.nodup,
    by rw [prodPow_reverse]; exact h.prod, fun hc pe hpe => h.good hc pe (List.mem_reverse.1 hpe)⟩

theorem SetInv.push (h : SetInv N nn acc flag) {g e u : Nat} {flag' : Bool} (hg : 2 ≤ g) (he : 1 ≤ e)
    (e2 : u * g ^ e = nn) (e3 : ¬ g ∣ u) (hflag : flag' = true → flag = true ∧ Nat.Prime g) :
    SetInv N u ((g, e) :: acc) flag' := by
  have hu : u ∣ nn := ⟨g ^ e, e2.symm⟩
  have hgd : g ∣ nn := e2 ▸ Dvd.dvd.mul_left (dvd_pow_self g (by omega)) u
  refine ⟨fun pe hpe => ?_, ?_, ?_, fun hc pe hpe => ?_⟩
  · rcases List.mem_cons.1 hpe with rfl | hp
    · exact ⟨hg, he, e3⟩
    · obtain ⟨a, b, c⟩ := h.bases pe hp
      exact ⟨a, b, fun hd => c (Nat.dvd_trans hd hu)⟩
  · rw [List.map_cons, List.nodup_cons]
    refine ⟨fun hmem => ?_, h.nodup⟩
    obtain ⟨pe, hpe, hfst⟩ := List.mem_map.1 hmem
    exact (h.bases pe hpe).2.2 (hfst ▸ hgd)
  · rw [prodPow, Nat.mul_comm (g ^ e), Nat.mul_assoc, Nat.mul_comm (g ^ e), e2, h.prod]
  · rcases List.mem_cons.1 hpe with rfl | hp
    · exact (hflag hc).2
    · exact h.good (hflag hc).1 pe hp

/-- an answer 1 of the oracle is a failure: `nn` itself, possibly composite, becomes a base and the flag is cleared -/
theorem setLoop_partial (pf : Nat → Nat) (hpf : ∀ m, 1 < m → 1 ≤ pf m ∧ pf m ∣ m)
    (hprime : ∀ m, 1 < m → pf m ≠ 1 → Nat.Prime (pf m)) :
    ∀ (fuel nn : Nat) (acc : List (Nat × Nat)) (flag : Bool), 1 ≤ nn → nn < fuel → SetInv N nn acc flag →
      ∃ fs c, setLoop pf fuel nn acc flag = some (fs, c) ∧ SetInv N 1 fs c ∧
        ((∀ m, 1 < m → pf m ≠ 1) → c = flag) := by
  intro fuel
  induction fuel with
  | zero => intro nn acc _ h1 h2; omega
  | succ f ih =>
    intro nn acc flag h1 h2 inv
    unfold setLoop
    by_cases hle : nn ≤ 1
    · obtain rfl : nn = 1 := by omega
      exact ⟨acc.reverse, flag, if_pos hle, inv.reverse, fun _ => rfl⟩
    · simp only [hle, ↓reduceIte]
      obtain ⟨hg1, hgd'⟩ := hpf nn (by omega)
      obtain ⟨g, c', hgeq, hceq, hg2, hgd, hgg, hc'⟩ : ∃ g c', (if pf nn = 1 then nn else pf nn) = g ∧
          (if pf nn = 1 then false else flag) = c' ∧ 2 ≤ g ∧ g ∣ nn ∧ (c' = true → flag = true ∧ Nat.Prime g) ∧
          (pf nn ≠ 1 → c' = flag) := by
        by_cases h : pf nn = 1
        · exact ⟨nn, false, by simp [h], by simp [h], by omega, Nat.dvd_refl nn, by simp, fun h' => absurd h h'⟩
        · exact ⟨pf nn, flag, by simp [h], by simp [h], by omega, hgd', fun hc => ⟨hc, hprime nn (by omega) h⟩, fun _ => rfl⟩
      simp only [hgeq, hceq]
      obtain ⟨u', e, e1, he, e2, e3, e4, hlt⟩ := divLoop_of_dvd hg2 h1 hgd
      rw [e1]
      obtain ⟨fs, c, r1, r2, r3⟩ := ih u' ((g, e) :: acc) c' e4 (by omega) (inv.push hg2 he e2 e3 hgg)
      exact ⟨fs, c, r1, r2, fun hnf => (r3 hnf).trans (hc' (hnf nn (by omega)))⟩

theorem set_partial_gen (pf : Nat → Nat) (hpf : ∀ m, 1 < m → 1 ≤ pf m ∧ pf m ∣ m)
    (hprime : ∀ m, 1 < m → pf m ≠ 1 → Nat.Prime (pf m)) (n : Int) (hn : n ≠ 0) :
    ∃ fs c, Givaro.Model.Primes.set pf n = some (fs, c) ∧ (∀ pe ∈ fs, 2 ≤ pe.1 ∧ 1 ≤ pe.2) ∧
      (fs.map Prod.fst).Nodup ∧ prodPow fs = n.natAbs ∧ (c = true → ∀ pe ∈ fs, Nat.Prime pe.1) ∧
      ((∀ m, 1 < m → pf m ≠ 1) → c = true) := by
  obtain ⟨fs, c, h, inv, hc⟩ := setLoop_partial (N := n.natAbs) pf hpf hprime (n.natAbs + 1) n.natAbs [] true (Int.natAbs_pos.2 hn)
    (Nat.lt_succ_self _) ⟨fun _ h => absurd h List.not_mem_nil, List.nodup_nil, Nat.one_mul _, fun _ _ h => absurd h List.not_mem_nil⟩
  exact ⟨fs, c, h, fun pe hpe => ⟨(inv.bases pe hpe).1, (inv.bases pe hpe).2.1⟩, inv.nodup,
    by rw [← inv.prod, Nat.mul_one], inv.good, hc⟩

end Givaro.Lemmas.Primes
