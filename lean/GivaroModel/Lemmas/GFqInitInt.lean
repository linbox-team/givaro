/-
C04 — every `GFqDom::init` overload looks up the code `a mod q` (or returns `zero` for a negative multiple of `q`).
-/
import GivaroModel.Model.GFqInitInt
import GivaroModel.Lemmas.WordLemmas
namespace Givaro.Lemmas.GFqInitInt
open Givaro Givaro.Spec.GFq Givaro.Model.GFqInitInt
open Givaro.Model.MontInit (Src)

/-- what every overload computes: `none` (= `return r = zero`) for a negative multiple of `q`, else the code `a mod q` -/
def want (q a : Int) : Option Int := if a < 0 ∧ a % q = 0 then none else some (a % q)

theorem want_neg {q a : Int} (hq : 0 < q) (ha : a < 0) :
    (if (-a) % q ≠ 0 then some (q - (-a) % q) else none) = want q a := by
  obtain ⟨h1, h0⟩ := emod_of_neg_emod (a := a) hq
  unfold want
  by_cases h : (-a) % q = 0
  · simp only [h, ne_eq, not_true_eq_false, ↓reduceIte, ha, h0 h, and_self]
  · have := h1 h
    have u1 := Int.emod_lt_of_pos (-a) hq
    have u0 := Int.emod_nonneg (-a) (show q ≠ 0 by omega)
    have hne : ¬ (a < 0 ∧ a % q = 0) := by rw [← this]; omega
    rw [if_pos h, if_neg hne, this]

theorem want_nonneg {q a : Int} (ha : ¬ a < 0) : want q a = some (a % q) := by
  unfold want; simp only [ha, false_and, ↓reduceIte]

theorem maxQ_le {W : Nat} (hW : W = 32 ∨ W = 64) {q : Int} (hqm : q ≤ maxQ W) : q ≤ 4294967296 := by
  unfold maxQ at hqm
  rcases hW with h | h
  · rw [h, if_pos rfl] at hqm
    omega
  · rw [h, if_neg (by decide)] at hqm
    exact hqm

theorem wrapU_id {W : Nat} (hW : W = 32 ∨ W = 64) {q x : Int} (hqm : q ≤ maxQ W) (h0 : 0 ≤ x) (h1 : x ≤ q) : wrapU W x = x := by
  unfold maxQ at hqm
  unfold wrapU
  rcases hW with h | h <;> simp only [h, ↓reduceIte, Nat.reduceEqDiff] at hqm ⊢
  · exact wrapU32_id ⟨h0, by omega⟩
  · exact wrapU64_id ⟨h0, by omega⟩

section
variable {q a : Int}

/-- `_pol2log[(UT)_q - (UT)u]`, the index read for a negative source of reduced magnitude `u` -/
theorem wrapU64_sub (hqm : q ≤ 4294967296) {u : Int} (u0 : 0 ≤ u) (u1 : u < q) :
    wrapU64 (wrapU64 q - wrapU64 u) = q - u := by
  rw [wrapU64_id (x := q) ⟨by omega, by omega⟩, wrapU64_id ⟨u0, by omega⟩, wrapU64_id (x := q - u) ⟨by omega, by omega⟩]

theorem codeU64_spec (hq : 2 ≤ q) (hqm : q ≤ 4294967296) (ha0 : 0 ≤ a) (ha1 : a ≤ 18446744073709551615) :
    codeU64 q a = want q a := by
  have u0 := Int.emod_nonneg a (show q ≠ 0 by omega)
  have u1 := Int.emod_lt_of_pos a (show 0 < q by omega)
  unfold codeU64
  simp only
  rw [emod_if_ge ha0, want_nonneg (by omega), wrapU64_id ⟨u0, by omega⟩]

theorem codeS64_spec (hq : 2 ≤ q) (hqm : q ≤ 4294967296) (ha0 : -9223372036854775808 ≤ a) (ha1 : a ≤ 9223372036854775807) :
    codeS64 q a = want q a := by
  have hq0 : 0 < q := by omega
  unfold codeS64
  by_cases hn : a < 0
  · simp only [hn, ↓reduceIte]
    have u0 := Int.emod_nonneg (-a) (show q ≠ 0 by omega)
    have u1 := Int.emod_lt_of_pos (-a) hq0
    have e1 : wrapU64 (0 - wrapU64 a) = -a := neg_wrap (by omega) (Int.le_of_lt hn)
    rw [e1, emod_if_ge (by omega), wrapU64_sub hqm u0 u1]
    exact want_neg hq0 hn
  · simp only [hn, ↓reduceIte]
    have u0 := Int.emod_nonneg a (show q ≠ 0 by omega)
    have u1 := Int.emod_lt_of_pos a hq0
    have e2 : (if a ≥ q then Int.tmod a q else a) = a % q := by
      rw [Int.tmod_eq_emod_of_nonneg (by omega)]; exact emod_if_ge (by omega)
    rw [wrapS64_id (x := q) ⟨by omega, by omega⟩, e2, want_nonneg hn, wrapU64_id ⟨u0, by omega⟩]

theorem codeS32_spec (hq : 2 ≤ q) (hqm : q ≤ 4294967296) (ha0 : -2147483648 ≤ a) (ha1 : a ≤ 2147483647) :
    codeS32 q a = want q a := by
  have hq0 : 0 < q := by omega
  unfold codeS32
  by_cases hn : a < 0
  · simp only [hn, ↓reduceIte]
    have u0 := Int.emod_nonneg (-a) (show q ≠ 0 by omega)
    have u1 := Int.emod_lt_of_pos (-a) hq0
    have e1 : wrapU32 (0 - wrapU32 a) = -a := neg_wrap (by omega) (Int.le_of_lt hn)
    rw [e1, wrapU32_id ⟨u0, by omega⟩, emod_if_ge (by omega), wrapU64_sub hqm u0 u1]
    exact want_neg hq0 hn
  · simp only [hn, ↓reduceIte]
    have u0 := Int.emod_nonneg a (show q ≠ 0 by omega)
    have u1 := Int.emod_lt_of_pos a hq0
    rw [wrapU32_id (x := a) ⟨by omega, by omega⟩, want_nonneg hn]
    by_cases hlt : q < 2147483648
    · rw [wrapS32_id (x := q) ⟨by omega, hlt⟩, wrapS32_id (x := a % q) ⟨by omega, by omega⟩, emod_if_ge (by omega), wrapU64_id ⟨u0, by omega⟩]
    · -- (int32_t)_q wraps for q ≥ 2^31 (never a table that exists): every source is below q, both branches return it
      rw [Int.emod_eq_of_lt (a := a) (b := q) (by omega) (by omega), wrapS32_id (x := a) ⟨by omega, by omega⟩, ite_self,
        wrapU64_id (x := a) ⟨by omega, by omega⟩]

theorem codeZ_spec (W : Nat) (hW : W = 32 ∨ W = 64) (hq : 2 ≤ q) (hqm : q ≤ maxQ W) : codeZ W q a = want q a := by
  have hq0 : 0 < q := by omega
  have hqm' := maxQ_le hW hqm
  unfold codeZ
  by_cases hn : a < 0
  · simp only [hn, ↓reduceIte]
    have u0 := Int.emod_nonneg (-a) (show q ≠ 0 by omega)
    have u1 := Int.emod_lt_of_pos (-a) hq0
    -- `(Integer)(-_q)` is the non-negative `2^W - q`: the comparison holds for every negative source
    have hc : a ≤ wrapU W (-q) := by
      have : 0 ≤ wrapU W (-q) := by unfold wrapU wrapU32 wrapU64; split <;> omega
      omega
    rw [if_pos hc, wrapU_id hW hqm u0 (by omega)]
    have e2 : wrapU64 (wrapU W (q - -a % q)) = q - -a % q := by
      rw [wrapU_id (x := q - -a % q) hW hqm (by omega) (by omega), wrapU64_id (x := q - -a % q) ⟨by omega, by omega⟩]
    rw [e2]; exact want_neg hq0 hn
  · simp only [hn, ↓reduceIte]
    have u0 := Int.emod_nonneg a (show q ≠ 0 by omega)
    have u1 := Int.emod_lt_of_pos a hq0
    rw [want_nonneg hn]
    by_cases hge : a ≥ q
    · rw [if_pos hge, wrapU_id hW hqm u0 (by omega), wrapU64_id ⟨u0, by omega⟩]
    · rw [if_neg hge, wrapU_id (x := a) hW hqm (by omega) (by omega), Int.emod_eq_of_lt (a := a) (b := q) (by omega) (by omega),
        wrapU64_id (x := a) ⟨by omega, by omega⟩]

theorem redF64_spec (W : Nat) (hW : W = 32 ∨ W = 64) (hq : 2 ≤ q) (hqm : q ≤ maxQ W) {t : Int} (ht : 0 ≤ t) :
    redF64 W q t = t % q := by
  have hq0 : 0 < q := by omega
  unfold redF64 smaxD wrapS wrapU maxQ at *
  rcases hW with h | h
  · simp only [h, ↓reduceIte] at hqm ⊢
    by_cases h1 : t ≥ 4294967295
    · rw [if_pos h1]
    · rw [if_neg h1, wrapS32_id (x := q) ⟨by omega, by omega⟩, wrapU32_id ⟨ht, by omega⟩]; exact emod_if_ge ht
  · have h32 : ¬ (64 = 32) := by decide
    simp only [h, h32, ↓reduceIte] at hqm ⊢
    by_cases h1 : t ≥ 18446744073709551616
    · rw [if_pos h1]
    · rw [if_neg h1, wrapS64_id (x := q) ⟨by omega, by omega⟩, wrapU64_id ⟨ht, by omega⟩]; exact emod_if_ge ht

theorem codeF64_spec (W : Nat) (hW : W = 32 ∨ W = 64) (hq : 2 ≤ q) (hqm : q ≤ maxQ W) : codeF64 W q a = want q a := by
  have hq0 : 0 < q := by omega
  have hqm' := maxQ_le hW hqm
  unfold codeF64
  by_cases hn : a < 0
  · simp only [hn, ↓reduceIte]
    rw [redF64_spec W hW hq hqm (show 0 ≤ -a by omega)]
    have u0 := Int.emod_nonneg (-a) (show q ≠ 0 by omega)
    have u1 := Int.emod_lt_of_pos (-a) hq0
    have e2 : wrapU64 (wrapU W (q - wrapU W (-a % q))) = q - -a % q := by
      rw [wrapU_id hW hqm u0 (by omega), wrapU_id (x := q - -a % q) hW hqm (by omega) (by omega), wrapU64_id (x := q - -a % q) ⟨by omega, by omega⟩]
    rw [e2]; exact want_neg hq0 hn
  · simp only [hn, ↓reduceIte]
    have u0 := Int.emod_nonneg a (show q ≠ 0 by omega)
    have u1 := Int.emod_lt_of_pos a hq0
    rw [redF64_spec W hW hq hqm (show 0 ≤ a by omega), want_nonneg hn, wrapU64_id ⟨u0, by omega⟩]

end

theorem code_spec (W : Nat) (hW : W = 32 ∨ W = 64) (q : Int) (hq : 2 ≤ q) (hqm : q ≤ maxQ W) (s : Src) (a : Int) (ha : s.holds a) :
    code W q s a = want q a := by
  have hqm' := maxQ_le hW hqm
  cases s <;> unfold code <;> unfold Src.holds at ha
  · exact codeS32_spec hq hqm' (by omega) (by omega)
  · exact codeS32_spec hq hqm' (by omega) (by omega)
  · exact codeS32_spec hq hqm' (by omega) (by omega)
  · exact codeS32_spec hq hqm' (by omega) (by omega)
  · exact codeS32_spec hq hqm' (by omega) (by omega)
  · exact codeU64_spec hq hqm' (by omega) (by omega)
  · exact codeS64_spec hq hqm' (by omega) (by omega)
  · exact codeU64_spec hq hqm' (by omega) (by omega)
  · exact codeF64_spec W hW hq hqm
  · exact codeF64_spec W hW hq hqm
  · exact codeZ_spec W hW hq hqm

end Givaro.Lemmas.GFqInitInt
