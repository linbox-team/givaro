/-
What several areas need about the words of Prim/Word.lean and about residues: powers of two; `x % p` is the one representative in
`[0, p)` (also of a sum, a difference or the negation of canonical residues, and of a value below `2p` after one conditional subtraction); a conversion is the
identity on the range of its type, and `wrapU64 ∘ abs` is the absolute value; what the code of a modular ring computes when it negates a
canonical residue, or adds two, in an unsigned word of radix `R > p`.  Core Lean only.
-/
import GivaroModel.Prim.Word
namespace Givaro

theorem two_pow_pos (n : Nat) : (0 : Int) < 2 ^ n := Int.pow_pos (by decide)

theorem two_pow_pred {w : Nat} (hw : 1 ≤ w) : (2 : Int) ^ w = 2 * 2 ^ (w - 1) := by
  obtain ⟨j, rfl⟩ : ∃ j, w = j + 1 := ⟨w - 1, by omega⟩
  rw [Nat.add_sub_cancel, Int.pow_succ, Int.mul_comm]

/-! ### residues -/

theorem emod_canon {p : Int} (hp : 0 < p) (x : Int) : 0 ≤ x % p ∧ x % p < p :=
  ⟨Int.emod_nonneg _ (Int.ne_of_gt hp), Int.emod_lt_of_pos _ hp⟩

theorem emod_unique {z y p : Int} (h0 : 0 ≤ y) (h1 : y < p) (q : Int) (h : z = y + p * q) : z % p = y := by
  subst h; rw [Int.add_mul_emod_self_left]; exact Int.emod_eq_of_lt h0 h1

theorem emod_unique_of_dvd {z y p : Int} (h0 : 0 ≤ y) (h1 : y < p) (h : p ∣ z - y) : z % p = y :=
  h.elim fun q hq => emod_unique h0 h1 q (by omega)

theorem emod_if_ge {p x : Int} (hx : 0 ≤ x) : (if x ≥ p then x % p else x) = x % p := by
  split
  · rfl
  · exact (Int.emod_eq_of_lt hx (by omega)).symm

theorem add_emod_canon {p a b : Int} (ha : 0 ≤ a ∧ a < p) (hb : 0 ≤ b ∧ b < p) :
    (a + b) % p = if a + b < p then a + b else a + b - p := by
  split
  · exact Int.emod_eq_of_lt (by omega) (by omega)
  · rw [← Int.sub_emod_right]; exact Int.emod_eq_of_lt (by omega) (by omega)

theorem sub_emod_canon {p a b : Int} (ha : 0 ≤ a ∧ a < p) (hb : 0 ≤ b ∧ b < p) :
    (a - b) % p = if a < b then a - b + p else a - b := by
  split
  · rw [← Int.add_emod_right]; exact Int.emod_eq_of_lt (by omega) (by omega)
  · exact Int.emod_eq_of_lt (by omega) (by omega)

theorem neg_emod_emod (x p : Int) : (-(x % p)) % p = (-x) % p := by
  rw [Int.emod_def x p, show -(x - p * (x / p)) = -x + p * (x / p) by omega, Int.add_mul_emod_self_left]

theorem csub_emod {p T : Int} (T0 : 0 ≤ T) (T2 : T < 2 * p) : (if T ≥ p then T - p else T) = T % p := by
  split
  · exact (emod_unique (by omega) (by omega) 1 (by omega)).symm
  · exact (Int.emod_eq_of_lt T0 (by omega)).symm

theorem neg_emod_eq (x p : Int) (hp : 0 < p) : (-x) % p = if x % p = 0 then 0 else p - x % p := by
  rw [Int.neg_emod]; simp only [Int.dvd_iff_emod_eq_zero]
  split
  · rfl
  · omega

/-- `a mod p` from `(-a) mod p` (an `init` that reduces the magnitude of a negative source, then negates) -/
theorem emod_of_neg_emod {a p : Int} (hp : 0 < p) :
    ((-a) % p ≠ 0 → p - (-a) % p = a % p) ∧ ((-a) % p = 0 → a % p = 0) := by
  have e := neg_emod_eq (-a) p hp
  rw [Int.neg_neg] at e
  exact ⟨fun h => by rw [e, if_neg h], fun h => by rw [e, if_pos h]⟩

/-! ### conversions that change nothing -/

theorem wrapU32_id {x : Int} (h : InU32 x) : wrapU32 x = x := Int.emod_eq_of_lt h.1 h.2
theorem wrapU64_id {x : Int} (h : InU64 x) : wrapU64 x = x := Int.emod_eq_of_lt h.1 h.2

theorem wrapS32_id {x : Int} (h : InS32 x) : wrapS32 x = x := by
  unfold InS32 at h; unfold wrapS32; omega

theorem wrapS64_id {x : Int} (h : InS64 x) : wrapS64 x = x := by
  unfold InS64 at h; unfold wrapS64; omega

/-- `std::abs` followed by the conversion to `unsigned long` is the mathematical absolute value,
    also at the minimum of the signed type (two's complement) -/
theorem wrapU64_absS64 (d : Int) (h : InS64 d) : wrapU64 (absS64 d) = (if d < 0 then -d else d) := by
  unfold wrapU64 absS64 wrapS64 InS64 at *; split <;> omega
/-- not at the minimum of `int`: `abs(INT_MIN)` stays negative there and converts to `2^64 - 2^31` -/
theorem wrapU64_absS32 (d : Int) (h : InS32 d) (h2 : d ≠ -2147483648) : wrapU64 (absS32 d) = (if d < 0 then -d else d) := by
  unfold wrapU64 absS32 wrapS32 InS32 at *; split <;> omega

/-- `uintN(0) - (uintN)a` is the magnitude of a non-positive `a` above `-M` (`M = 2^N`) -/
theorem neg_wrap {M a : Int} (h1 : -M < a) (h2 : a ≤ 0) : (0 - a % M) % M = -a := by
  by_cases h : a = 0
  · subst h; rfl
  · have e : a % M = a + M := by rw [← Int.add_emod_right]; exact Int.emod_eq_of_lt (by omega) (by omega)
    rw [e]
    exact emod_unique (by omega) (by omega) (-1) (by omega)

/-! ### canonical residues in a word of radix `R` -/

/-- `if (x != 0) x = p - x`: no wrap, the negation modulo `p` -/
theorem ne_zero_sub {R p x : Int} (pR : p < R) (x0 : 0 ≤ x) (x1 : x < p) :
    (if x ≠ 0 then (p - x) % R else x) = if x = 0 then 0 else p - x := by
  by_cases h : x = 0
  · rw [if_neg (fun hn => hn h), if_pos h, h]
  · rw [if_pos h, if_neg h]; exact Int.emod_eq_of_lt (by omega) (by omega)

theorem neg_canon {p x : Int} (x0 : 0 ≤ x) (x1 : x < p) : (if x = 0 then 0 else p - x) = (-x) % p := by
  rw [neg_emod_eq x p (Int.lt_of_le_of_lt x0 x1), Int.emod_eq_of_lt x0 x1]

/-- `add(r, a, b)` with carry-out, then `if (carry || r >= p) r -= p`: the carry makes up for the lost `R`, so the word holds the
    conditional subtraction of the exact sum `T`, for every `p < R` -/
theorem carry_csub {R p T : Int} {carry : Bool} (hc : carry = true ↔ R ≤ T) (pR : p < R) (T0 : 0 ≤ T) (T2 : T < 2 * p) :
    (if carry = true ∨ T % R ≥ p then (T % R - p) % R else T % R) = if T ≥ p then T - p else T := by
  by_cases hTR : R ≤ T
  · have e1 : T % R = T - R := emod_unique (by omega) (by omega) 1 (by omega)
    rw [if_pos (Or.inl (hc.mpr hTR)), if_pos (by omega), e1]
    exact emod_unique (by omega) (by omega) (-1) (by omega)
  · have e1 : T % R = T := Int.emod_eq_of_lt T0 (by omega)
    have hcf : ¬ carry = true := fun h => hTR (hc.mp h)
    rw [e1]
    by_cases hTp : T ≥ p
    · rw [if_pos (Or.inr hTp), if_pos hTp]; exact Int.emod_eq_of_lt (by omega) (by omega)
    · rw [if_neg (fun h => h.elim hcf hTp), if_neg hTp]

/-- `if (t != 0) t = p - t; add(t, t, a); if (carry || t >= p) t -= p` (the update of `inv_mod`, ruinvmod.h) on canonical `t`, `a`:
    the word holds `(a - t) mod p`, for every `p < R` -/
theorem neg_add_carry {R p t a : Int} (pR : p < R) (t0 : 0 ≤ t) (t1 : t < p) (a0 : 0 ≤ a) (a1 : a < p) :
    (if decide ((if t ≠ 0 then (p - t) % R else t) + a ≥ R) = true ∨ ((if t ≠ 0 then (p - t) % R else t) + a) % R ≥ p
      then (((if t ≠ 0 then (p - t) % R else t) + a) % R - p) % R else ((if t ≠ 0 then (p - t) % R else t) + a) % R) = (a - t) % p := by
  have p0 : 0 < p := by omega
  rw [(ne_zero_sub pR t0 t1).trans (neg_canon t0 t1)]
  obtain ⟨n0, n1⟩ := emod_canon p0 (-t)
  rw [(carry_csub decide_eq_true_iff pR (by omega) (by omega)).trans (csub_emod (by omega) (by omega)), Int.emod_add_emod,
    show -t + a = a - t by omega]

end Givaro
