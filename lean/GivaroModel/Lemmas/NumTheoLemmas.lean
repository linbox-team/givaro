/- C13 — the model's primitives (`powmod`, `Int.tmod`, casts to `ZMod p`, the draw loop), congruence lemmas shared by the
   square-root modules, and the list loops of `phi`, `logp`, `mobius`, `lambda`. -/
import GivaroModel.Model.NumTheo
import GivaroModel.Spec.NumTheoSpec
import Mathlib.Tactic.Ring
import Mathlib.Tactic.LinearCombination
import Mathlib.Data.Int.ModEq
import Mathlib.Data.ZMod.Basic
import Mathlib.Algebra.Order.BigOperators.GroupWithZero.List
namespace Givaro.Lemmas.NumTheo
open Givaro.Model.NumTheo Givaro.Spec.NumTheo

/-! ## `powmod` and `Int.tmod` -/

theorem powmod_eq (a : Int) (e : Nat) (m : Int) : powmod a e m = a ^ e % m := by
  induction e using Nat.strong_induction_on generalizing a with
  | _ e ih =>
    rw [powmod]
    split
    · next h => subst h; simp
    · next h =>
      simp only [ih (e / 2) (by omega) (a * a % m)]
      have hsq : (a * a % m) ^ (e / 2) % m = a ^ (2 * (e / 2)) % m := by
        rw [pow_mul, pow_two]; exact Int.ModEq.pow (e / 2) (Int.mod_modEq (a * a) m)
      rw [hsq]
      split
      · rw [Int.mul_emod, Int.emod_emod_of_dvd _ (dvd_refl m), ← Int.mul_emod, ← pow_succ', show 2 * (e / 2) + 1 = e by omega]
      · rw [show 2 * (e / 2) = e by omega]

theorem tmod_exists (u p : Int) : ∃ d, Int.tmod u p = u - p * d := ⟨Int.tdiv u p, Int.tmod_def u p⟩

theorem tmod_modEq (u p : Int) : Int.tmod u p ≡ u [ZMOD p] :=
  Int.modEq_iff_dvd.mpr ⟨Int.tdiv u p, by rw [Int.tmod_def]; ring⟩

theorem powmod_modEq (a : Int) (e : Nat) (m : Int) : powmod a e m ≡ a ^ e [ZMOD m] := by
  rw [powmod_eq]; exact Int.mod_modEq _ _

theorem tmod_range (u p : Int) (hu : 0 ≤ u) (hp : 0 < p) : 0 ≤ Int.tmod u p ∧ Int.tmod u p < p :=
  ⟨Int.tmod_nonneg p hu, Int.tmod_lt_of_pos u hp⟩

theorem powmod_range (a : Int) (e : Nat) (p : Int) (hp : 0 < p) : 0 ≤ powmod a e p ∧ powmod a e p < p := by
  rw [powmod_eq]; exact ⟨Int.emod_nonneg _ (by omega), Int.emod_lt_of_pos _ hp⟩

theorem tdiv_natCast (m f : Nat) : Int.tdiv (m : Int) (f : Int) = ((m / f : Nat) : Int) := by
  rw [Int.tdiv_eq_ediv_of_nonneg (Int.natCast_nonneg m), Int.natCast_div]

/-! ## congruences shared by the square-root functions

The lemma modules write a root as `x * x ≡ a [ZMOD M]`, `Props/C13.lean` as `(x * x - a) % M = 0`; `root_iff` passes between the two. -/

theorem root_iff {x a M : Int} : (x - a) % M = 0 ↔ x ≡ a [ZMOD M] := Int.emod_eq_emod_iff_emod_sub_eq_zero.symm

theorem sub_emod_emod (x a pk : Int) (h : (x - a % pk) % pk = 0) : (x - a) % pk = 0 :=
  root_iff.mpr ((root_iff.mp h).trans (Int.mod_modEq a pk))

theorem tmod_emod_eq_zero_iff (a : Int) {p pk : Int} (hpk : p ∣ pk) : Int.tmod (a % pk) p = 0 ↔ p ∣ a := by
  rw [← Int.dvd_iff_tmod_eq_zero, Int.dvd_iff_emod_eq_zero, Int.emod_emod_of_dvd a hpk, ← Int.dvd_iff_emod_eq_zero]

theorem root_of_emod_zero_one {a m : Int} (h : a % m = 0 ∨ a % m = 1) : a % m * (a % m) ≡ a [ZMOD m] := by
  have := Int.mod_modEq a m
  rcases h with h | h <;> rw [h] at this ⊢ <;> simpa using this

/-- why a returned -1 always means "not a residue": -1 is a root only of `a ≡ 1`, where the functions answer 1 -/
theorem emod_eq_one_of_root_neg_one {x a m : Int} (hx : x = -1) (hm : 3 ≤ m) (h : x * x ≡ a [ZMOD m]) : a % m = 1 := by
  subst hx
  have h' : a % m = (-1 * -1) % m := h.symm
  rw [h', show (-1 : Int) * -1 = 1 by norm_num]
  exact Int.emod_eq_of_lt (by norm_num) (by omega)

/-! ## casts to `ZMod p` -/

theorem cast_powmod (a : Int) (e : Nat) (p : Nat) : ((powmod a e (p : Int) : Int) : ZMod p) = (a : ZMod p) ^ e := by
  rw [powmod_eq, ZMod.intCast_mod]; push_cast; rfl

theorem cast_tmod (u : Int) (p : Nat) : ((Int.tmod u (p : Int) : Int) : ZMod p) = (u : ZMod p) := by
  obtain ⟨d, hd⟩ := tmod_exists u p
  rw [hd]; push_cast; simp

theorem cast_eq_one_iff (t : Int) (p : Nat) (hp : 2 ≤ p) (h0 : 0 ≤ t) (h1 : t < p) : ((t : Int) : ZMod p) = 1 ↔ t = 1 := by
  rw [← Int.cast_one, ZMod.intCast_eq_intCast_iff', Int.emod_eq_of_lt h0 h1, Int.emod_eq_of_lt (by norm_num) (by omega)]

theorem powmod_eq_one_iff (A : Int) (n : Nat) (hn : 2 ≤ n) (e : Nat) : powmod A e n = 1 ↔ (A : ZMod n) ^ e = 1 := by
  obtain ⟨h0, h1⟩ := powmod_range A e n (by omega)
  rw [← cast_powmod, cast_eq_one_iff _ n hn h0 h1]

/-! ## the loops of `phi` and `logp` -/

theorem phiLoop_spec : ∀ (Lf : List Nat) (r : Nat), (∀ f ∈ Lf, 0 < f) → Lf.prod ∣ r →
    (Lf.map (Nat.cast : Nat → Int)).foldl (fun res f => Int.tdiv res f * (f - 1)) (r : Int)
      = ((r / Lf.prod * (Lf.map (fun f => f - 1)).prod : Nat) : Int) := by
  intro Lf
  induction Lf with
  | nil => intro r _ _; simp
  | cons f t ih =>
    intro r hpos hdvd
    have hf : 0 < f := hpos f (by simp)
    have htpos : ∀ g ∈ t, 0 < g := fun g hg => hpos g (by simp [hg])
    have htp : 0 < t.prod := List.prod_pos (by simpa using htpos)
    obtain ⟨k, hk⟩ := hdvd
    rw [List.prod_cons] at hk
    simp only [List.map_cons, List.foldl_cons, List.prod_cons]
    have hstep : Int.tdiv (r : Int) (f : Int) * ((f : Int) - 1) = ((r / f * (f - 1) : Nat) : Int) := by
      rw [tdiv_natCast]; push_cast [Nat.cast_sub hf]; rfl
    have h1 : r / f = t.prod * k := by
      rw [hk, Nat.mul_assoc, Nat.mul_div_cancel_left _ hf]
    rw [hstep, ih _ htpos ⟨k * (f - 1), by rw [h1]; ring⟩, h1]
    have h2 : t.prod * k * (f - 1) / t.prod = k * (f - 1) := by
      rw [Nat.mul_assoc, Nat.mul_div_cancel_left _ htp]
    have h3 : r / (f * t.prod) = k := by
      rw [hk, Nat.mul_div_cancel_left _ (Nat.mul_pos hf htp)]
    rw [h2, h3]; congr 1; ring

/-- the stack of repeated squarings `p^(2^(j-1)), …, p^2, p` (head = back of the C++ list) -/
def powList (p : Int) : Nat → List Int
  | 0 => []
  | j + 1 => p ^ (2 ^ j) :: powList p j

theorem powList_length (p : Int) : ∀ j, (powList p j).length = j := by
  intro j; induction j with
  | zero => rfl
  | succ j ih => simp [powList, ih]

theorem logpBuild_spec (a p : Int) : ∀ (fuel i : Nat), p ^ (2 ^ i) ≤ a → a < p ^ (2 ^ (i + fuel)) →
    ∃ m, logpBuild fuel a (p ^ (2 ^ i)) (powList p i) = powList p (m + 1) ∧ p ^ (2 ^ m) ≤ a ∧ a < p ^ (2 ^ (m + 1)) := by
  intro fuel
  induction fuel with
  | zero => intro i h1 h2; simp at h2; omega
  | succ n ih =>
    intro i h1 h2
    rw [logpBuild]
    have hsq : p ^ (2 ^ i) * p ^ (2 ^ i) = p ^ (2 ^ (i + 1)) := by
      rw [← pow_add, ← two_mul, ← pow_succ']
    rw [hsq]
    have hl : p ^ (2 ^ i) :: powList p i = powList p (i + 1) := rfl
    rw [hl]
    by_cases hc : p ^ (2 ^ (i + 1)) ≤ a
    · rw [if_pos hc]
      exact ih (i + 1) hc (by rw [show i + 1 + n = i + (n + 1) by omega]; exact h2)
    · rw [if_neg hc]
      exact ⟨i, rfl, h1, by omega⟩

theorem logpDown_spec (a p : Int) : ∀ (j res : Nat), p ^ res ≤ a → a < p ^ (res + 2 ^ j) →
    ∃ r : Nat, logpDown a (powList p j) (p ^ res) (res : Int) = (r : Int) ∧ p ^ r ≤ a ∧ a < p ^ (r + 1) := by
  intro j
  induction j with
  | zero => intro res h1 h2; exact ⟨res, rfl, h1, by simpa using h2⟩
  | succ j ih =>
    intro res h1 h2
    simp only [powList, logpDown, powList_length]
    have hsq : p ^ res * p ^ (2 ^ j) = p ^ (res + 2 ^ j) := by rw [← pow_add]
    rw [hsq]
    by_cases hc : p ^ (res + 2 ^ j) ≤ a
    · rw [if_pos hc]
      have hcast : (res : Int) + 2 ^ j = ((res + 2 ^ j : Nat) : Int) := by push_cast; rfl
      rw [hcast]
      exact ih (res + 2 ^ j) hc (by rw [show res + 2 ^ j + 2 ^ j = res + 2 ^ (j + 1) by rw [pow_succ]; omega]; exact h2)
    · rw [if_neg hc]
      exact ih res h1 (by omega)

/-! ## the draw loop -/

theorem firstDraw_spec (rnd : Nat → Int) (stop : Int → Bool) (fuel i : Nat) (d : Int)
    (h : firstDraw rnd stop fuel i = some d) : stop d = true ∧ ∃ j, d = rnd j := by
  fun_induction firstDraw rnd stop fuel i with
  | case1 => cases h
  | case2 _ i hs => cases h; exact ⟨hs, i, rfl⟩
  | case3 _ _ _ ih => exact ih h

theorem firstDraw_complete (rnd : Nat → Int) (stop : Int → Bool) (fuel i j : Nat) (h1 : i ≤ j) (h2 : j < i + fuel)
    (hs : stop (rnd j) = true) : ∃ d, firstDraw rnd stop fuel i = some d := by
  fun_induction firstDraw rnd stop fuel i with
  | case1 => omega
  | case2 => exact ⟨_, rfl⟩
  | case3 _ i hc ih =>
    have : i ≠ j := by intro h; subst h; exact hc hs
    exact ih (by omega) (by omega)

/-! ## Moebius and Carmichael on factor lists -/

theorem mobiusGo_spec : ∀ (es : List Nat) (mob : Int),
    mobiusGo es mob = if es.all (· ≤ 1) then (-1) ^ es.length * mob else 0 := by
  intro es
  induction es with
  | nil => intro mob; simp [mobiusGo]
  | cons e t ih =>
    intro mob
    rw [mobiusGo]
    by_cases he : e > 1
    · have : ¬ e ≤ 1 := by omega
      simp [he, this]
    · have h1 : e ≤ 1 := by omega
      simp only [he, ↓reduceIte, ih, List.all_cons, h1, decide_true, Bool.true_and, List.length_cons]
      split <;> ring

theorem mobiusL_spec (es : List Nat) :
    mobiusL es = if es.all (· ≤ 1) then (-1) ^ es.length else 0 := by
  unfold mobiusL
  by_cases h : es.length ≠ 0
  · rw [if_pos h, mobiusGo_spec, mul_one]
  · have : es = [] := by
      cases es with
      | nil => rfl
      | cons a t => simp at h
    subst this; simp

theorem lambdaInvPrimpow_formula (p e : Nat) (hp : 1 ≤ p) (he : 1 ≤ e) : lambdaInvPrimpow p e = (carmichaelPP p e : Int) := by
  unfold lambdaInvPrimpow carmichaelPP
  by_cases h2 : p = 2
  · subst h2
    simp only [Nat.cast_ofNat, ↓reduceIte]
    by_cases h : e ≤ 2
    · simp only [h, ↓reduceIte]
      have : e = 1 ∨ e = 2 := by omega
      rcases this with h | h <;> subst h <;> simp
    · simp only [h, ↓reduceIte]
      by_cases h3 : e = 3
      · subst h3; simp
      · simp [h3]
  · have : (p : Int) ≠ 2 := by exact_mod_cast h2
    simp only [this, h2, ↓reduceIte]
    push_cast [Nat.cast_sub hp]; ring

theorem lambdaFold_cast : ∀ (rest : List (Nat × Nat)) (l : Nat), (∀ pe ∈ rest, 1 ≤ pe.1 ∧ 1 ≤ pe.2) →
    rest.foldl (fun (z : Int) (qf : Nat × Nat) => ((Int.lcm z (lambdaInvPrimpow qf.1 qf.2) : Nat) : Int)) (l : Int)
      = ((rest.foldl (fun l pe => Nat.lcm l (carmichaelPP pe.1 pe.2)) l : Nat) : Int) := by
  intro rest
  induction rest with
  | nil => intro l _; simp
  | cons pe t ih =>
    intro l hv
    simp only [List.foldl_cons]
    have h := hv pe (by simp)
    rw [lambdaInvPrimpow_formula pe.1 pe.2 h.1 h.2]
    have : ((Int.lcm (l : Int) ((carmichaelPP pe.1 pe.2 : Nat) : Int) : Nat) : Int) = ((Nat.lcm l (carmichaelPP pe.1 pe.2) : Nat) : Int) := by
      simp [Int.lcm]
    rw [this]
    exact ih _ (fun q hq => hv q (by simp [hq]))

theorem lambdaBaseL_formula (fs : List (Nat × Nat)) (hne : fs ≠ []) (hv : ∀ pe ∈ fs, 1 ≤ pe.1 ∧ 1 ≤ pe.2) :
    lambdaBaseL fs = (carmichaelFormula fs : Int) := by
  cases fs with
  | nil => exact absurd rfl hne
  | cons pe t =>
    obtain ⟨p, e⟩ := pe
    have h := hv (p, e) (by simp)
    unfold lambdaBaseL carmichaelFormula
    simp only [List.foldl_cons]
    rw [lambdaInvPrimpow_formula p e h.1 h.2, lambdaFold_cast t _ (fun q hq => hv q (by simp [hq]))]
    simp

end Givaro.Lemmas.NumTheo
