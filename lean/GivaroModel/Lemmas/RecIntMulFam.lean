/- C06 helper lemmas: multiplication by a word, and the mutually recursive family of rumul.h / ruaddmul.h (lmul_naive, lmul_kara, lmul,
   laddmul in its three forms), exact at every level for any Karatsuba threshold. -/
import GivaroModel.Lemmas.RecIntShift
namespace Givaro.Model.RecInt

theorem umul_pp_ok (a b : Nat) (ha : a < B64) (hb : b < B64) :
    (umul_pp a b).2 < B64 ∧ (umul_pp a b).1 < B64 ∧ (umul_pp a b).2 + B64 * (umul_pp a b).1 = a * b := by
  have hp : a * b < B64 * B64 := Nat.mul_lt_mul'' ha hb
  refine ⟨Nat.mod_lt _ (by decide), Nat.div_lt_of_lt_mul hp, ?_⟩
  simp only [umul_pp]; exact Nat.mod_add_div _ _

theorem lmul_l_ok : ∀ {n : Nat} (b : RU n) (c : Nat), WF b → c < B64 →
    WF (lmul_l b c).1 ∧ (lmul_l b c).2 < B64 ∧ val (lmul_l b c).1 + Bn n * (lmul_l b c).2 = val b * c
  | _, .limb b, c, hb, hc => by
      simp only [WF] at hb
      have h := umul_pp_ok b c hb hc
      simp only [lmul_l, WF, val, Bn_zero]
      exact ⟨h.1, h.2.1, h.2.2⟩
  | _, .node (n := n) bl bh, c, hb, hc => by
      have hl := lmul_l_ok bl c hb.1 hc
      have hh := lmul_l_ok bh c hb.2 hc
      have hs := add_l_ok (lmul_l bh c).1 (lmul_l bl c).2 hh.1 hl.2.1
      have hB := Bn_pos n
      have hvb := val_lt bh hb.2
      have hc1 := c2n_le (add_l (lmul_l bh c).1 (lmul_l bl c).2).2
      -- the high word of b.High * c is at most 2^64 - 2, so adding the carry cannot wrap
      have hle : val bh * c ≤ (Bn n - 1) * (B64 - 1) := Nat.mul_le_mul (by omega) (by omega)
      have hlt : (lmul_l bh c).2 < B64 - 1 := by
        have h1 : Bn n * (lmul_l bh c).2 ≤ (Bn n - 1) * (B64 - 1) := by omega
        have h2 : (Bn n - 1) * (B64 - 1) < Bn n * (B64 - 1) := Nat.mul_lt_mul_of_pos_right (by omega) (by decide)
        exact Nat.lt_of_mul_lt_mul_left (Nat.lt_of_le_of_lt h1 h2)
      have hnw : ((lmul_l bh c).2 + c2n (add_l (lmul_l bh c).1 (lmul_l bl c).2).2) % B64
                 = (lmul_l bh c).2 + c2n (add_l (lmul_l bh c).1 (lmul_l bl c).2).2 := Nat.mod_eq_of_lt (by omega)
      unfold AddOk at hs
      simp only [lmul_l, WF_node, val_node]
      have e : (if (add_l (lmul_l bh c).1 (lmul_l bl c).2).2 = true then 1 else 0) = c2n (add_l (lmul_l bh c).1 (lmul_l bl c).2).2 := rfl
      rw [e, hnw]
      refine ⟨⟨hl.1, hs.1⟩, by omega, ?_⟩
      rw [Bn_succ]
      linear_combination hl.2.2 + Bn n * hs.2 + Bn n * hh.2.2

theorem mul_l_ok {n : Nat} (b : RU n) (c : Nat) (hb : WF b) (hc : c < B64) :
    WF (mul_l b c) ∧ val (mul_l b c) = (val b * c) % Bn n := by
  have h := lmul_l_ok b c hb hc
  refine ⟨h.1, ?_⟩
  unfold mul_l
  rw [← h.2.2, Nat.add_mul_mod_self_left, Nat.mod_eq_of_lt (val_lt _ h.1)]

/-! ### the mutually recursive family: pending carries are propagated by conditional `add_1` / `add` calls -/
theorem ite_add_1_ok (c : Bool) {n : Nat} (x : RU n) (hx : WF x) :
    AddOk (if c = true then add_1 x else (x, false)) (val x + c2n c) := by
  cases c
  · simp only [Bool.false_eq_true, ↓reduceIte, c2n_false, Nat.add_zero]; exact ⟨hx, by simp⟩
  · simp only [↓reduceIte, c2n_true]; exact add_1_ok x hx

theorem ite_add_ok (c : Bool) {n : Nat} (x y : RU n) (hx : WF x) (hy : WF y) :
    AddOk (if c = true then add x y else (x, false)) (val x + c2n c * val y) := by
  cases c
  · simp only [Bool.false_eq_true, ↓reduceIte, c2n_false, Nat.zero_mul, Nat.add_zero]; exact ⟨hx, by simp⟩
  · simp only [↓reduceIte, c2n_true, Nat.one_mul]; exact add_ok x y hx hy

theorem ite_add_1NC_ok (c : Bool) {n : Nat} (x : RU n) (hx : WF x) :
    ∃ k : Nat, WF (if c = true then (add_1 x).1 else x) ∧
      val (if c = true then (add_1 x).1 else x) + k * Bn n = val x + c2n c := by
  cases c
  · exact ⟨0, by simpa using hx, by simp⟩
  · exact ⟨c2n (add_1 x).2, by simpa using (add_1_ok x hx).1, by simpa using (add_1_ok x hx).2⟩

/-- `if (c1 || c2) add(x, x, limb(c1) + limb(c2))`: two pending carries added at once -/
theorem ite_add_l_ok (c1 c2 : Bool) {n : Nat} (x : RU n) (hx : WF x) :
    ∃ k : Nat, WF (if (c1 || c2) = true then (add_l x ((if c1 = true then 1 else 0) + (if c2 = true then 1 else 0))).1 else x) ∧
      val (if (c1 || c2) = true then (add_l x ((if c1 = true then 1 else 0) + (if c2 = true then 1 else 0))).1 else x) + k * Bn n
        = val x + c2n c1 + c2n c2 := by
  have hw : c2n c1 + c2n c2 < B64 := Nat.lt_of_le_of_lt (Nat.add_le_add (c2n_le c1) (c2n_le c2)) (by decide)
  obtain ⟨h1, h2⟩ := add_l_ok x (c2n c1 + c2n c2) hx hw
  cases c1 <;> cases c2
  · exact ⟨0, by simpa using hx, by simp⟩
  all_goals exact ⟨_, h1, by rw [← Nat.add_assoc] at h2; exact h2⟩

/-- a carry-free result of value `p` -/
def MulOk {n : Nat} (r : RU n) (p : Nat) : Prop := WF r ∧ val r = p

theorem MulOk.digits {n : Nat} {r : RU (n+1)} {p : Nat} (h : MulOk r p) :
    WF (lo r) ∧ WF (hi r) ∧ val (lo r) + Bn n * val (hi r) = p := by
  obtain ⟨hl, hh, hv⟩ := h.1.digits
  exact ⟨hl, hh, by rw [← hv]; exact h.2⟩

theorem lmul_naive_zero (t : Nat) (b c : RU 0) (hb : WF b) (hc : WF c) : MulOk (lmul_naive t b c) (val b * val c) := by
  cases b with | limb b => cases c with | limb c =>
  simp only [WF] at hb hc
  have h := umul_pp_ok b c hb hc
  simp only [lmul_naive, MulOk, WF_node, WF_limb, val_node, val_limb, Bn_zero]
  exact ⟨⟨h.1, h.2.1⟩, h.2.2⟩

theorem add_ss_carry (p1 p2 dh dl : Nat) (hp1 : p1 < B64) (hp2 : p2 < B64) (hdh : dh < B64) (hdl : dl < B64) :
    AddOk (mk1 (add_ss p1 p2 dh dl),
        decide ((add_ss p1 p2 dh dl).1 < dh) || (decide ((add_ss p1 p2 dh dl).1 = dh) && decide ((add_ss p1 p2 dh dl).2 < dl)))
      ((p2 + B64 * p1) + (dl + B64 * dh)) := by
  obtain ⟨hse, hsw⟩ := add_ss_val p1 p2 dh dl
  have hw := add_wrap (M := B64 * B64) (digit_lt hp2 hp1) (digit_lt hdl hdh)
  have hlex := lex_lt_iff (x1 := (add_ss p1 p2 dh dl).1) (y1 := dh) ((WF_mk1 _).mp hsw).1 hdl
  rw [← val_mk1, hse, Nat.add_assoc _ dl] at hlex
  have hf : (decide ((add_ss p1 p2 dh dl).1 < dh) || (decide ((add_ss p1 p2 dh dl).1 = dh) && decide ((add_ss p1 p2 dh dl).2 < dl)))
      = decide ((p2 + B64 * p1 + (dl + B64 * dh)) % (B64 * B64) < p2 + B64 * p1) := by
    rw [Bool.eq_iff_iff, Bool.or_eq_true, Bool.and_eq_true, decide_eq_true_eq, decide_eq_true_eq, decide_eq_true_eq,
      decide_eq_true_eq, ← hlex, hw.2]
  refine ⟨hsw, ?_⟩
  rw [Bn_one, hse, Nat.add_assoc _ dl, hf]
  exact hw.1

theorem laddmul3_zero (t : Nat) (b c : RU 0) (d : RU 1) (hb : WF b) (hc : WF c) (hd : WF d) :
    AddOk (laddmul3 t b c d) (val b * val c + val d) := by
  cases b with | limb b =>
  cases c with | limb c =>
  cases d with | node dl dh =>
  cases dl with | limb dl =>
  cases dh with | limb dh =>
  obtain ⟨hp2, hp1, hpe⟩ := umul_pp_ok b c hb hc
  have h := add_ss_carry (umul_pp b c).1 (umul_pp b c).2 dh dl hp1 hp2 hd.2 hd.1
  rw [hpe] at h
  simpa only [laddmul3, val_node, val_limb, Bn_zero] using h

theorem laddmul1_zero (t : Nat) (b c d : RU 0) (hb : WF b) (hc : WF c) (hd : WF d) :
    AddOk (laddmul1 t b c d) (val b * val c + val d) ∧ MulOk (laddmul1NC t b c d) (val b * val c + val d) := by
  cases b with | limb b => cases c with | limb c => cases d with | limb d =>
  obtain ⟨hp2, hp1, hpe⟩ := umul_pp_ok b c hb hc
  have h := add_ss_carry (umul_pp b c).1 (umul_pp b c).2 0 d hp1 hp2 (by decide) hd
  rw [hpe, Nat.mul_zero, Nat.add_zero] at h
  have hlt : b * c + d < Bn 1 := by rw [Bn_one]; exact mul_add_lt_sq hb hc hd
  constructor
  · simpa only [laddmul1, val_limb, Nat.not_lt_zero, decide_false, Bool.false_or] using h
  · simp only [laddmul1NC, MulOk, val_limb]
    exact ⟨h.1, (no_carry h.2 hlt).1⟩

/-- what `laddmul` (either width of `d`) and `lmul_naive` do once the partial products are there: `x` is the low product (with the low
    addend) and its carry, `m` the middle term, whose high half has already gone into the high part `ah0`; `c3` is a carry still pending
    on the top digit, `ctop` the carry out of the high product -/
def school {n : Nat} (x m : RU (n+1) × Bool) (ah0 : RU (n+1)) (c3 ctop : Bool) : RU (n+1+1) × Bool :=
  let s := add (hi x.1) (lo m.1)
  let a1 := if x.2 then add_1 ah0 else (ah0, false)
  let a2 := if s.2 then add_1 a1.1 else (a1.1, false)
  let a3 := if m.2 then add_1 (hi a2.1) else (hi a2.1, false)
  let a4 := if c3 then add_1 a3.1 else (a3.1, false)
  (.node (.node (lo x.1) s.1) (.node (lo a2.1) a4.1), a1.2 || a2.2 || a3.2 || a4.2 || ctop)

theorem school_ok {n : Nat} (x m : RU (n+1) × Bool) (ah0 : RU (n+1)) (c3 ctop : Bool) {X Mv P : Nat}
    (hx : AddOk x X) (hm : AddOk m Mv) (hah : WF ah0)
    (hP : X + Bn n * Mv + Bn n * Bn n * (val ah0 + c2n c3 * Bn n + c2n ctop * (Bn n * Bn n)) = P + Bn n * Bn n * val (hi m.1))
    (hT : P < 2 * (Bn n * Bn n * (Bn n * Bn n))) : AddOk (school x m ah0 c3 ctop) P := by
  obtain ⟨hxl, hxh, hxe⟩ := hx.digits
  obtain ⟨hml, hmh, hme⟩ := hm.digits
  simp only [school]
  obtain ⟨hsw, hse⟩ := add_ok (hi x.1) (lo m.1) hxh hml
  generalize add (hi x.1) (lo m.1) = s at hsw hse ⊢
  obtain ⟨ha1w, ha1e⟩ := ite_add_1_ok x.2 ah0 hah
  generalize (if x.2 = true then add_1 ah0 else (ah0, false)) = a1 at ha1w ha1e ⊢
  obtain ⟨ha2l, ha2h, ha2e⟩ := (ite_add_1_ok s.2 a1.1 ha1w).digits
  generalize (if s.2 = true then add_1 a1.1 else (a1.1, false)) = a2 at ha2l ha2h ha2e ⊢
  obtain ⟨ha3w, ha3e⟩ := ite_add_1_ok m.2 (hi a2.1) ha2h
  generalize (if m.2 = true then add_1 (hi a2.1) else (hi a2.1, false)) = a3 at ha3w ha3e ⊢
  obtain ⟨ha4w, ha4e⟩ := ite_add_1_ok c3 a3.1 ha3w
  generalize (if c3 = true then add_1 a3.1 else (a3.1, false)) = a4 at ha4w ha4e ⊢
  rw [Bn_succ] at ha1e
  have E : val (lo x.1) + Bn n * val s.1 + Bn n * Bn n * (val (lo a2.1) + Bn n * val a4.1)
        + (c2n a1.2 + c2n a2.2 + c2n a3.2 + c2n a4.2 + c2n ctop) * (Bn n * Bn n * (Bn n * Bn n)) = P := by
    linear_combination hxe + Bn n * hme + Bn n * hse + Bn n * Bn n * ha1e + Bn n * Bn n * ha2e + Bn n * Bn n * Bn n * ha3e
      + Bn n * Bn n * Bn n * ha4e + hP
  refine ⟨⟨⟨hxl, hsw⟩, ha2l, ha4w⟩, ?_⟩
  simp only [val_node, Bn_succ]
  rw [c2n_or5 _ _ _ _ _ (carry_le_one E hT)]
  exact E

theorem laddmul3_step (t n : Nat)
    (IH3 : ∀ (b c : RU n) (d : RU (n+1)), WF b → WF c → WF d → AddOk (laddmul3 t b c d) (val b * val c + val d))
    (IHL : ∀ b c : RU n, WF b → WF c → MulOk (lmul t b c) (val b * val c))
    (b c : RU (n+1)) (d : RU (n+1+1)) (hb : WF b) (hc : WF c) (hd : WF d) :
    AddOk (laddmul3 t b c d) (val b * val c + val d) := by
  cases b with | node bl bh => cases c with | node cl ch => cases d with | node dl dh =>
  have hvb := digit_lt (val_lt bl hb.1) (val_lt bh hb.2)
  have hvc := digit_lt (val_lt cl hc.1) (val_lt ch hc.2)
  have hvd := digit_lt (val_lt dl hd.1) (val_lt dh hd.2)
  rw [Bn_succ] at hvd
  have hT := Nat.add_lt_add (Nat.mul_lt_mul'' hvb hvc) hvd
  rw [← Nat.two_mul] at hT
  simp only [laddmul3]
  obtain ⟨hb0w, hb0e⟩ := IHL bh cl hb.2 hc.1
  have hm := IH3 bl ch _ hb.1 hc.2 hb0w
  obtain ⟨hhl, hhh, hhe⟩ := (IH3 bh ch dh hb.2 hc.2 hd.2).digits
  obtain ⟨hs2w, hs2e⟩ := add_ok _ _ hhl hm.digits.2.1
  -- the unfolded template is `school x m (rmid2's sum | h.High) rmid2 rhigh`
  refine school_ok _ _ (.node _ (hi _)) _ _ (IH3 bl cl dl hb.1 hc.1 hd.1) hm ⟨hs2w, hhh⟩ ?_ (by simpa only [val_node, Bn_succ] using hT)
  simp only [val_node, Bn_succ]
  linear_combination Bn n * Bn n * hs2e + Bn n * Bn n * hhe + Bn n * hb0e

theorem laddmul1_step (t n : Nat)
    (IH3 : ∀ (b c : RU n) (d : RU (n+1)), WF b → WF c → WF d → AddOk (laddmul3 t b c d) (val b * val c + val d))
    (IHL : ∀ b c : RU n, WF b → WF c → MulOk (lmul t b c) (val b * val c))
    (IH1 : ∀ b c d : RU n, WF b → WF c → WF d → AddOk (laddmul1 t b c d) (val b * val c + val d))
    (b c d : RU (n+1)) (hb : WF b) (hc : WF c) (hd : WF d) :
    AddOk (laddmul1 t b c d) (val b * val c + val d) := by
  cases b with | node bl bh => cases c with | node cl ch =>
  have hvb := digit_lt (val_lt bl hb.1) (val_lt bh hb.2)
  have hvc := digit_lt (val_lt cl hc.1) (val_lt ch hc.2)
  have hvd := val_lt d hd
  rw [Bn_succ] at hvd
  have hT : (val bl + Bn n * val bh) * (val cl + Bn n * val ch) + val d < 2 * (Bn n * Bn n * (Bn n * Bn n)) := by
    have h1 := Nat.mul_lt_mul'' hvb hvc
    have h2 : Bn n * Bn n ≤ Bn n * Bn n * (Bn n * Bn n) := Nat.le_mul_of_pos_right _ (Nat.lt_of_le_of_lt (Nat.zero_le _) hvd)
    omega
  simp only [laddmul1]
  obtain ⟨hb0w, hb0e⟩ := IHL bh cl hb.2 hc.1
  have hm := IH3 bl ch _ hb.1 hc.2 hb0w
  obtain ⟨hhw, hhe⟩ := IH1 bh ch _ hb.2 hc.2 hm.digits.2.1
  have key := school_ok _ _ _ false _ (P := (val bl + Bn n * val bh) * (val cl + Bn n * val ch) + val d) (IH3 bl cl d hb.1 hc.1 hd) hm hhw
    (by rw [Bn_succ] at hhe; simp only [c2n_false]; linear_combination Bn n * Bn n * hhe + Bn n * hb0e) hT
  -- `school` with no carry pending on the top digit
  simpa only [school, Bool.false_eq_true, ↓reduceIte, Bool.or_false, val_node] using key

theorem laddmul1NC_eq (t : Nat) : ∀ {n : Nat} (b c d : RU n), laddmul1NC t b c d = (laddmul1 t b c d).1
  | 0, .limb b, .limb c, .limb d => by simp only [laddmul1NC, laddmul1]
  | n+1, .node bl bh, .node cl ch, d => by
      simp only [laddmul1NC, laddmul1, laddmul1NC_eq t bh ch, apply_ite Prod.fst]

theorem lmul_naive_succ_eq {n : Nat} (t : Nat) (bl bh cl ch : RU n) :
    lmul_naive t (.node bl bh) (.node cl ch) =
      (school (lmul_naive t bl cl, false) (laddmul3 t bl ch (lmul_naive t bh cl))
        (laddmul1NC t bh ch (hi (laddmul3 t bl ch (lmul_naive t bh cl)).1)) false false).1 := by
  simp only [lmul_naive, school, Bool.false_eq_true, ↓reduceIte, apply_ite Prod.fst]
  cases (laddmul3 t bl ch (lmul_naive t bh cl)).2 <;> simp only [↓reduceIte, Bool.false_eq_true, node_lo_hi]

theorem lmul_naive_step (t n : Nat)
    (IH3 : ∀ (b c : RU n) (d : RU (n+1)), WF b → WF c → WF d → AddOk (laddmul3 t b c d) (val b * val c + val d))
    (IHN : ∀ b c : RU n, WF b → WF c → MulOk (lmul_naive t b c) (val b * val c))
    (IH1 : ∀ b c d : RU n, WF b → WF c → WF d → MulOk (laddmul1NC t b c d) (val b * val c + val d))
    (b c : RU (n+1)) (hb : WF b) (hc : WF c) :
    MulOk (lmul_naive t b c) (val b * val c) := by
  cases b with | node bl bh => cases c with | node cl ch =>
  have hP := Nat.mul_lt_mul'' (digit_lt (val_lt bl hb.1) (val_lt bh hb.2)) (digit_lt (val_lt cl hc.1) (val_lt ch hc.2))
  obtain ⟨hxw, hxe⟩ := IHN bl cl hb.1 hc.1
  obtain ⟨hb0w, hb0e⟩ := IHN bh cl hb.2 hc.1
  have hm := IH3 bl ch _ hb.1 hc.2 hb0w
  obtain ⟨hhw, hhe⟩ := IH1 bh ch _ hb.2 hc.2 hm.digits.2.1
  have key := school_ok (lmul_naive t bl cl, false) _ _ false false (P := (val bl + Bn n * val bh) * (val cl + Bn n * val ch))
    ⟨hxw, by rw [c2n_false, Nat.zero_mul, Nat.add_zero]⟩ hm hhw
    (by simp only [c2n_false]; linear_combination Bn n * Bn n * hhe + Bn n * hb0e + hxe) (by omega)
  rw [lmul_naive_succ_eq, val_node, val_node]
  exact ⟨key.1, (no_carry key.2 (by simp only [Bn_succ]; exact hP)).1⟩

/-- in Karatsuba's middle term (`D4 < B2` the reduced word, `mid < 2·B2` the true term) the carries `S` exceed the borrows `T` by 0 or 1 -/
theorem kara_flags {B2 D4 mid S T : Nat} (hD : D4 < B2) (hm : mid < 2 * B2) (E : D4 + S * B2 = mid + T * B2) :
    T ≤ S ∧ S ≤ T + 1 := by
  constructor
  · have : T * B2 < (S + 1) * B2 := by rw [Nat.add_mul, Nat.one_mul]; omega
    exact Nat.lt_succ_iff.mp (Nat.lt_of_mul_lt_mul_right this)
  · have : S * B2 < (T + 2) * B2 := by rw [Nat.add_mul]; omega
    exact Nat.lt_succ_iff.mp (Nat.lt_of_mul_lt_mul_right this)

/-- the Karatsuba middle-term correction `r = (rb&rc)+rt1+rt2-rt3-rt4` is 0 or 1, and stored in a `bool` it is exact -/
theorem kara_r (B2 D4 mid : Nat) (rbc rt1 rt2 rt3 rt4 : Bool) (hD : D4 < B2) (hm : mid < 2 * B2)
    (E : D4 + (c2n rbc + c2n rt1 + c2n rt2) * B2 = mid + (c2n rt3 + c2n rt4) * B2) :
    D4 + c2n (decide (((if rbc = true then 1 else 0) + (if rt1 = true then 1 else 0) + (if rt2 = true then 1 else 0)
          - (if rt3 = true then 1 else 0) - (if rt4 = true then 1 else 0) : Int) ≠ 0)) * B2 = mid := by
  obtain ⟨h1, h2⟩ := kara_flags hD hm E
  simp only [c2n_cast]
  by_cases hST : c2n rbc + c2n rt1 + c2n rt2 = c2n rt3 + c2n rt4
  · rw [decide_eq_false (by omega), c2n_false]
    rw [hST] at E; omega
  · rw [decide_eq_true (by omega), c2n_true]
    rw [show c2n rbc + c2n rt1 + c2n rt2 = c2n rt3 + c2n rt4 + 1 by omega, Nat.add_mul] at E; omega

/-- the middle term `(bh+bl)(ch+cl) - bh·ch - bl·cl` from `bc0 = lmul(bb, cc)` on the wrapped sums: a double word and the flag `r` -/
def karaMid {n : Nat} (bb cc : RU n × Bool) (ah al bc0 : RU (n+1)) : RU (n+1) × Bool :=
  let s1 := if bb.2 then add (hi bc0) cc.1 else (hi bc0, false)
  let s2 := if cc.2 then add s1.1 bb.1 else (s1.1, false)
  let d3 := sub (.node (lo bc0) s2.1) ah
  let d4 := sub d3.1 al
  let ri : Int := (if bb.2 && cc.2 then 1 else 0) + (if s1.2 then 1 else 0) + (if s2.2 then 1 else 0)
                  - (if d3.2 then 1 else 0) - (if d4.2 then 1 else 0)
  (d4.1, decide (ri ≠ 0))

/-- `(ah|al) + (d4 + r·2^(2·bits))·2^bits` with the carries propagated into `ah` -/
def karaAsm {n : Nat} (ah al d4 : RU (n+1)) (r : Bool) : RU (n+1+1) :=
  let s5 := add (hi al) (lo d4)
  let ah1 := if s5.2 then (add_1 ah).1 else ah
  let s6 := add (lo ah1) (hi d4)
  let ahH := if s6.2 || r then (add_l (hi ah1) ((if s6.2 then 1 else 0) + (if r then 1 else 0))).1 else hi ah1
  .node (.node (lo al) s5.1) (.node s6.1 ahH)

theorem lmul_kara_succ_eq {n : Nat} (t : Nat) (bl bh cl ch : RU n) :
    lmul_kara t (.node bl bh) (.node cl ch) =
      karaAsm (lmul t bh ch) (lmul t bl cl)
        (karaMid (add bh bl) (add ch cl) (lmul t bh ch) (lmul t bl cl) (lmul t (add bh bl).1 (add ch cl).1)).1
        (karaMid (add bh bl) (add ch cl) (lmul t bh ch) (lmul t bl cl) (lmul t (add bh bl).1 (add ch cl).1)).2 := by
  simp only [lmul_kara, karaAsm, karaMid]
  rfl

theorem karaMid_ok {n : Nat} (bb cc : RU n × Bool) (ah al bc0 : RU (n+1)) (vbl vbh vcl vch : Nat)
    (hvbl : vbl < Bn n) (hvbh : vbh < Bn n) (hvcl : vcl < Bn n) (hvch : vch < Bn n)
    (hbb : AddOk bb (vbh + vbl)) (hcc : AddOk cc (vch + vcl))
    (hah : MulOk ah (vbh * vch)) (hal : MulOk al (vbl * vcl)) (hbc0 : MulOk bc0 (val bb.1 * val cc.1)) :
    WF (karaMid bb cc ah al bc0).1 ∧
    val (karaMid bb cc ah al bc0).1 + c2n (karaMid bb cc ah al bc0).2 * Bn (n+1) = vbh * vcl + vbl * vch := by
  obtain ⟨hbbw, hbbe⟩ := hbb
  obtain ⟨hccw, hcce⟩ := hcc
  obtain ⟨hahw, hahe⟩ := hah
  obtain ⟨halw, hale⟩ := hal
  obtain ⟨hbc0l, hbc0h, hbc0e⟩ := hbc0.digits
  simp only [karaMid]
  obtain ⟨hs1w, hs1e⟩ := ite_add_ok bb.2 (hi bc0) cc.1 hbc0h hccw
  generalize (if bb.2 = true then add (hi bc0) cc.1 else (hi bc0, false)) = s1 at hs1w hs1e ⊢
  obtain ⟨hs2w, hs2e⟩ := ite_add_ok cc.2 s1.1 bb.1 hs1w hbbw
  generalize (if cc.2 = true then add s1.1 bb.1 else (s1.1, false)) = s2 at hs2w hs2e ⊢
  obtain ⟨hd3w, hd3e⟩ := sub_ok (RU.node (lo bc0) s2.1) ah ⟨hbc0l, hs2w⟩ hahw
  generalize sub (RU.node (lo bc0) s2.1) ah = d3 at hd3w hd3e ⊢
  obtain ⟨hd4w, hd4e⟩ := sub_ok d3.1 al hd3w halw
  generalize sub d3.1 al = d4 at hd4w hd4e ⊢
  refine ⟨hd4w, kara_r _ _ _ _ _ _ _ _ (val_lt _ hd4w) ?_ ?_⟩
  · rw [Bn_succ]
    have h1 := Nat.mul_lt_mul'' hvbh hvcl
    have h2 := Nat.mul_lt_mul'' hvbl hvch
    omega
  · rw [c2n_and]
    simp only [val_node, Bn_succ] at hd3e hd4e ⊢
    linear_combination hd4e + hd3e + Bn n * hs2e + Bn n * hs1e + hbc0e + hahe.symm + hale.symm
      + (val cc.1 + c2n cc.2 * Bn n) * hbbe + (vbh + vbl) * hcce

theorem karaAsm_ok {n : Nat} (ah al d4 : RU (n+1)) (r : Bool) (vbl vbh vcl vch : Nat)
    (hvb : vbl + Bn n * vbh < Bn n * Bn n) (hvc : vcl + Bn n * vch < Bn n * Bn n)
    (hah : MulOk ah (vbh * vch)) (hal : MulOk al (vbl * vcl)) (hd4w : WF d4)
    (KR : val d4 + c2n r * Bn (n+1) = vbh * vcl + vbl * vch) :
    MulOk (karaAsm ah al d4 r) ((vbl + Bn n * vbh) * (vcl + Bn n * vch)) := by
  obtain ⟨hahw, hahe⟩ := hah
  obtain ⟨hall, halh, hale⟩ := hal.digits
  obtain ⟨hd4l, hd4h, hd4v⟩ := hd4w.digits
  simp only [karaAsm]
  obtain ⟨hs5w, hs5e⟩ := add_ok (hi al) (lo d4) halh hd4l
  generalize add (hi al) (lo d4) = s5 at hs5w hs5e ⊢
  obtain ⟨k1, ha1w, ha1e⟩ := ite_add_1NC_ok s5.2 ah hahw
  generalize (if s5.2 = true then (add_1 ah).1 else ah) = ah1 at ha1w ha1e ⊢
  obtain ⟨ha1l, ha1h, ha1v⟩ := ha1w.digits
  obtain ⟨hs6w, hs6e⟩ := add_ok (lo ah1) (hi d4) ha1l hd4h
  generalize add (lo ah1) (hi d4) = s6 at hs6w hs6e ⊢
  obtain ⟨k2, haHw, haHe⟩ := ite_add_l_ok s6.2 r (hi ah1) ha1h
  generalize (if (s6.2 || r) = true then (add_l (hi ah1) ((if s6.2 = true then 1 else 0) + (if r = true then 1 else 0))).1 else hi ah1) = ahH at haHw haHe ⊢
  rw [ha1v, Bn_succ] at ha1e
  rw [hd4v, Bn_succ] at KR
  refine ⟨⟨⟨hall, hs5w⟩, hs6w, haHw⟩, ?_⟩
  simp only [val_node, Bn_succ]
  have E : val (lo al) + Bn n * val s5.1 + Bn n * Bn n * (val s6.1 + Bn n * val ahH) + (k1 + k2) * (Bn n * Bn n * (Bn n * Bn n))
        = (vbl + Bn n * vbh) * (vcl + Bn n * vch) := by
    linear_combination Bn n * hs5e + Bn n * Bn n * hs6e + Bn n * Bn n * Bn n * haHe + Bn n * Bn n * ha1e + Bn n * KR + hale + Bn n * Bn n * hahe
  exact (no_carry E (Nat.mul_lt_mul'' hvb hvc)).1

theorem lmul_kara_step (t n : Nat)
    (IHL : ∀ b c : RU n, WF b → WF c → MulOk (lmul t b c) (val b * val c))
    (b c : RU (n+1)) (hb : WF b) (hc : WF c) :
    MulOk (lmul_kara t b c) (val b * val c) := by
  cases b with | node bl bh => cases c with | node cl ch =>
  have hvb := val_lt _ hb
  have hvc := val_lt _ hc
  rw [val_node, Bn_succ] at hvb hvc
  have hbb := add_ok bh bl hb.2 hb.1
  have hcc := add_ok ch cl hc.2 hc.1
  have hah := IHL bh ch hb.2 hc.2
  have hal := IHL bl cl hb.1 hc.1
  have hmid := karaMid_ok _ _ _ _ _ (val bl) (val bh) (val cl) (val ch) (val_lt _ hb.1) (val_lt _ hb.2) (val_lt _ hc.1) (val_lt _ hc.2)
    hbb hcc hah hal (IHL _ _ hbb.1 hcc.1)
  rw [lmul_kara_succ_eq]
  exact karaAsm_ok _ _ _ _ (val bl) (val bh) (val cl) (val ch) hvb hvc hah hal hmid.1 hmid.2

/-- the six routines call one another: all six statements at level `n+1` from all six at level `n` -/
theorem mul_family (t : Nat) : ∀ n : Nat,
    (∀ b c : RU n, WF b → WF c → MulOk (lmul_naive t b c) (val b * val c)) ∧
    (∀ b c : RU n, WF b → WF c → MulOk (lmul_kara t b c) (val b * val c)) ∧
    (∀ b c : RU n, WF b → WF c → MulOk (lmul t b c) (val b * val c)) ∧
    (∀ b c d : RU n, WF b → WF c → WF d → AddOk (laddmul1 t b c d) (val b * val c + val d)) ∧
    (∀ b c d : RU n, WF b → WF c → WF d → MulOk (laddmul1NC t b c d) (val b * val c + val d)) ∧
    (∀ (b c : RU n) (d : RU (n+1)), WF b → WF c → WF d → AddOk (laddmul3 t b c d) (val b * val c + val d))
  | 0 => by
      refine ⟨lmul_naive_zero t, ?_, ?_, fun b c d hb hc hd => (laddmul1_zero t b c d hb hc hd).1,
        fun b c d hb hc hd => (laddmul1_zero t b c d hb hc hd).2, laddmul3_zero t⟩
      · intro b c hb hc; simp only [lmul_kara]; exact lmul_naive_zero t b c hb hc
      · intro b c hb hc; simp only [lmul]; exact lmul_naive_zero t b c hb hc
  | n+1 => by
      obtain ⟨hN, hK, hL, h1, h1nc, h3⟩ := mul_family t n
      have hN' := lmul_naive_step t n h3 hN h1nc
      have hK' := lmul_kara_step t n hL
      have h1' := laddmul1_step t n h3 hL h1
      refine ⟨hN', hK', ?_, h1', ?_, laddmul3_step t n h3 hL⟩
      · intro b c hb hc
        simp only [lmul]
        split
        · exact hN' b c hb hc
        · exact hK' b c hb hc
      · -- `b·c + d` fits the double word, so the carry of `laddmul` is never set
        intro b c d hb hc hd
        have h := h1' b c d hb hc hd
        rw [laddmul1NC_eq]
        refine ⟨h.1, (no_carry h.2 ?_).1⟩
        rw [Bn_succ]; exact mul_add_lt_sq (val_lt b hb) (val_lt c hc) (val_lt d hd)

theorem lmul_ok (t : Nat) {n : Nat} (b c : RU n) (hb : WF b) (hc : WF c) : MulOk (lmul t b c) (val b * val c) :=
  (mul_family t n).2.2.1 b c hb hc


end Givaro.Model.RecInt
