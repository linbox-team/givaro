/-
C04 — every `init` overload of the two Montgomery rings produces the Montgomery representation of its source.
`GoodR` (what the constructor of `Montgomery<ruint<K>>` establishes) is declared in Lemmas/MontgomeryLemmas.lean, under this namespace, since C07 needs it as well.
-/
import GivaroModel.Model.ModInitMont
import GivaroModel.Lemmas.MontgomeryArazi
namespace Givaro.Lemmas.MontInit
open Givaro Givaro.Model.Montgomery Givaro.Model.MontInit Givaro.Spec.Montgomery Givaro.Lemmas.Montgomery

section m32
variable {F : Ring32}

theorem initInteger_eq (F : Ring32) (a : Int) : initInteger F a = initI64 F a := rfl

theorem initF64_eq (F : Ring32) (a : Int) : initF64 F a = initI64 F a := rfl

theorem initUns64_eq (F : Ring32) (a : Int) : initUns64 F a = initU64 F a := rfl

theorem initS64_eq (a : Int) (ha : Src.s64.holds a) : initS64 F a = initI64 F a := by
  unfold Src.holds at ha
  unfold initS64 initI64 toMg32
  have e : (if a < 0 then wrapU64 (0 - wrapU64 a) else wrapU64 a) = (if a < 0 then -a else a) := by
    unfold wrapU64; split <;> omega
  simp only [e]

theorem initTplF32_eq (h : Good32 F) (a : Int) (ha : -4294967296 < a ∧ a < 4294967296) : initTplF32 F a = initI64 F a := by
  unfold initTplF32 initI64 toMg32
  have e : wrapU32 (if a < 0 then -a else a) = (if a < 0 then -a else a) := by
    unfold wrapU32; split <;> omega
  simp only [e, wrapU32_emod h]

/-- `(uint32_t)(a < 0 ? -a : a)` is `|a|` also at `a = INT32_MIN`: the wrapped `-a` is cast back to `2^31` -/
theorem initTpl_eq (h : Good32 F) (prom : Bool) (a : Int) (ha : -2147483648 ≤ a ∧ a < 4294967296) :
    initTpl F prom a = initI64 F a := by
  unfold initTpl initI64 toMg32
  have e : wrapU32 (if a < 0 then (if prom = true then -a else wrapS32 (-a)) else a) = (if a < 0 then -a else a) := by
    cases prom
    · simp only [Bool.false_eq_true, ↓reduceIte]
      unfold wrapU32 wrapS32; split <;> omega
    · simp only [↓reduceIte]
      unfold wrapU32; split <;> omega
  simp only [e, wrapU32_emod h]

/-- every overload is the `int64_t` body on the values of its source type -/
theorem init32_eq (h : Good32 F) (s : Src) (a : Int) (ha : s.holds a)
    (hf : s = .f32 → -4294967296 < a ∧ a < 4294967296) : init32 F s a = initI64 F a := by
  unfold Src.holds at ha
  cases s
  case s8 => exact initTpl_eq h true a (by omega)
  case u8 => exact initTpl_eq h true a (by omega)
  case s16 => exact initTpl_eq h true a (by omega)
  case u16 => exact initTpl_eq h true a (by omega)
  case s32 => exact initTpl_eq h false a (by omega)
  case u32 => exact initTpl_eq h false a (by omega)
  case s64 => exact initS64_eq a ha
  case u64 =>
    show initUns64 F a = initI64 F a
    rw [initUns64_eq]
    unfold initU64 initI64
    simp only [show ¬ a < 0 by omega, ↓reduceIte]
  case f32 => exact initTplF32_eq h a (hf rfl)
  case f64 => exact initF64_eq F a
  case Z => exact initInteger_eq F a

theorem init32_rep (h : Good32 F) (s : Src) (a : Int) (ha : s.holds a)
    (hf : s = .f32 → -4294967296 < a ∧ a < 4294967296) : Rep32 F (init32 F s a) a := by
  rw [init32_eq h s a ha hf]; exact initI64_rep h a

end m32

/-- machine-integer sources are below every radix `2^(2^K)`, `K ≥ 6` -/
theorem initRSrc_rep {C : MgCtx} (h : GoodR C) (hR : W64 ≤ C.R) (s : Src) (a : Int) (ha : s.holds a) :
    IsRep C.R C.p (initRSrc C s a) a := by
  unfold W64 at hR
  cases s
  case f32 => exact initZ_rep h a
  case f64 => exact initZ_rep h a
  case Z => exact initZ_rep h a
  all_goals exact initR_rep h a (by unfold Src.holds at ha; omega)

end Givaro.Lemmas.MontInit
