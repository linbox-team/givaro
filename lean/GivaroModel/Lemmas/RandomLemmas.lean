/-
Lemmas about Model/Random.lean and Spec/RandomSpec.lean for C20: the checkers, the Integer draws (sign tail, `setbit`, `bitsize`), the casts and
`init`, the lower coefficients of a random polynomial, the GFq draws as numbers, and GivRandom's constructor and step as plain modular arithmetic.
-/
import GivaroModel.Model.Random
import GivaroModel.Spec.RandomSpec
import GivaroModel.Lemmas.WordLemmas
import Mathlib.Tactic.Ring
import Mathlib.Tactic.LinearCombination
namespace Givaro.Lemmas.Random
open Givaro Givaro.Model.Random Givaro.Spec.Random

/-! ### arithmetic -/

theorem two_pow_split (m M : Nat) (h : m ≤ M) : (2 : Int) ^ M = 2 ^ (M - m) * 2 ^ m := by
  rw [← Int.pow_add, Nat.sub_add_cancel h]

theorem two_digits {a hi lo A B : Int} (h0 : a ≤ hi) (h1 : hi < A) (l0 : 0 ≤ lo) (l1 : lo < B) :
    a * B ≤ hi * B + lo ∧ hi * B + lo < A * B := by
  have hB : 0 ≤ B := by omega
  have c := Int.mul_le_mul_of_nonneg_right h0 hB
  have d := Int.mul_le_mul_of_nonneg_right (show hi + 1 ≤ A by omega) hB
  rw [Int.add_mul, Int.one_mul] at d
  omega

theorem wrapU64_pos (c : Int) (hc : InS64 c) (h0 : c ≠ 0) : 1 ≤ wrapU64 c ∧ wrapU64 c < 18446744073709551616 := by
  unfold InS64 at hc; unfold wrapU64; omega

/-! ### the checkers -/

theorem allB_of_forall {α : Type} (f : α → Bool) : ∀ l : List α, (∀ x ∈ l, f x = true) → allB f l = true
  | [], _ => rfl
  | x :: xs, h => by
    simp only [allB, Bool.and_eq_true]
    exact ⟨h x (by simp), allB_of_forall f xs (fun y hy => h y (by simp [hy]))⟩

theorem nonzeroOk_iff (ap : Bool) (m r : Int) : nonzeroOk ap m r = true ↔ r ≠ 0 ∧ ltOk ap m r = true := by simp [nonzeroOk]

theorem canonical_emod (x : Int) {p : Int} (hp : 1 ≤ p) : canonical p (x % p) = true := by
  have := emod_canon (show 0 < p by omega) x
  simpa [canonical] using this

/-! ### Integer::random* -/

theorem pred64_eq (n : Nat) (h1 : 1 ≤ n) (h2 : n < 18446744073709551616) : pred64 n = n - 1 := by
  unfold pred64; omega

theorem setbit_of_lt (v : Int) (k : Nat) (h0 : 0 ≤ v) (h1 : v < 2 ^ k) : setbit v k = v + 2 ^ k := by
  obtain ⟨w, rfl⟩ := Int.eq_ofNat_of_zero_le h0
  have hw : w < 2 ^ k := by exact_mod_cast h1
  have e : ((2 : Int) ^ k) = ((2 ^ k : Nat) : Int) := by push_cast; rfl
  unfold setbit
  rw [e]
  show ((w ||| 2 ^ k : Nat) : Int) = _
  have := Nat.two_pow_add_eq_or_of_lt hw 1
  rw [Nat.mul_one] at this
  rw [Nat.or_comm, ← this]
  push_cast; ring

section SignTail
variable {σ : Type} (G : RawGen σ)

theorem signTail_cases (ap : Bool) (r : Int) (st : σ) :
    (signTail G ap r st).1 = r ∨ (ap = false ∧ (signTail G ap r st).1 = -r) := by
  unfold signTail
  split
  · exact Or.inl rfl
  · rename_i h
    split
    · exact Or.inr ⟨eq_false_of_ne_true h, rfl⟩
    · exact Or.inl rfl

theorem signTail_ltOk (ap : Bool) (r b : Int) (st : σ) (h0 : 0 ≤ r) (h1 : r < b) : ltOk ap b (signTail G ap r st).1 = true := by
  unfold signTail ltOk
  cases ap <;> simp only [Bool.false_eq_true, ↓reduceIte, decide_eq_true_eq]
  · split <;> omega
  · omega

end SignTail

theorem bitsize_pos (x : Int) : 1 ≤ bitsize x := by unfold bitsize; split <;> omega

theorem bitsize_eq_iff (x : Int) (n : Nat) (hx : x ≠ 0) (hn : 1 ≤ n) :
    bitsize x = n ↔ (2 : Int) ^ (n - 1) ≤ iabs x ∧ iabs x < 2 ^ n := by
  have hnat : x.natAbs ≠ 0 := by omega
  have habs : iabs x = (x.natAbs : Int) := by unfold iabs; split <;> omega
  obtain ⟨j, rfl⟩ : ∃ j, n = j + 1 := ⟨n - 1, by omega⟩
  unfold bitsize
  rw [if_neg hx, habs, Nat.add_sub_cancel, Nat.add_right_cancel_iff, Nat.log2_eq_iff hnat]
  norm_cast

theorem exactOk_of_abs (ap : Bool) (n : Nat) (hn : 1 ≤ n) (x y : Int) (h0 : 2 ^ (n - 1) ≤ x) (h1 : x < 2 ^ n)
    (hy : y = x ∨ (ap = false ∧ y = -x)) : exactOk ap n y = true ∧ bitsize y = n := by
  have hpp := two_pow_pos (n - 1)
  have hy0 : y ≠ 0 := by omega
  have hbits : (2 : Int) ^ (n - 1) ≤ iabs y ∧ iabs y < 2 ^ n := by
    rw [show iabs y = x by unfold iabs; split <;> omega]; exact ⟨h0, h1⟩
  refine ⟨?_, (bitsize_eq_iff y n hy0 hn).2 hbits⟩
  unfold exactOk hasBits
  simp only [Bool.and_eq_true, decide_eq_true_eq, Bool.or_eq_true, Bool.not_eq_true']
  refine ⟨⟨hn, hbits⟩, ?_⟩
  rcases hy with h | ⟨h, _⟩
  · right; omega
  · left; exact h

/-! ### conversions to the storage type, `init` -/

theorem castSt_id (bits : Nat) (sgn : Bool) (x : Int) (hb : 1 ≤ bits) (h0 : 0 ≤ x) (h1 : x < 2 ^ (bits - 1)) :
    castSt bits sgn x = x := by
  have e := two_pow_pred hb
  have hp := two_pow_pos (bits - 1)
  unfold castSt
  cases sgn
  · simp only [Bool.false_eq_true, ↓reduceIte]
    exact Int.emod_eq_of_lt h0 (by omega)
  · simp only [↓reduceIte]
    rw [Int.emod_eq_of_lt (by omega) (by omega)]
    omega

theorem sampleSize_bounds (card size : Int) (hc : 1 ≤ card) (hs : 0 ≤ size) :
    0 < sampleSize card size ∧ sampleSize card size ≤ card ∧ (size = 0 → sampleSize card size = card) := by
  unfold sampleSize
  split <;> split <;> omega

theorem initU64_of_lt (bits : Nat) (sgn : Bool) (p y : Int) (h0 : 0 ≤ y) (h1 : y < p) (hy : y < 9223372036854775808)
    (hfit : bits < 64 → 1 ≤ bits ∧ y < 2 ^ (bits - 1)) : initU64 bits sgn p y = y := by
  have hm : y % p = y := Int.emod_eq_of_lt h0 h1
  unfold initU64
  split
  · rename_i hb
    rw [hm]; exact castSt_id bits sgn y (hfit hb).1 h0 (hfit hb).2
  · rw [wrapS64_id (x := y) (by unfold InS64; omega), Int.tmod_eq_emod_of_nonneg h0, hm, if_neg (show ¬ y < 0 by omega)]
    split <;> rfl

theorem init_one (bits : Nat) (sgn : Bool) (p : Int) (hb : 1 ≤ bits) (hp : 2 ≤ p) (hfit : p ≤ 2 ^ (bits - 1)) :
    initU64 bits sgn p 1 = 1 :=
  initU64_of_lt bits sgn p 1 (by decide) (by omega) (by decide) (fun _ => ⟨hb, by omega⟩)

/-- every branch of `init` ends in a reduction modulo `p` -/
theorem initU64_canonical (bits : Nat) (sgn : Bool) (p y : Int) (hb : 1 ≤ bits) (hp : 1 ≤ p) (hfit : p ≤ 2 ^ (bits - 1)) :
    canonical p (initU64 bits sgn p y) = true := by
  have hp0 : 0 < p := hp
  have hm := emod_canon hp0 y
  -- C++ `%` on a signed word: magnitude below the divisor, sign of the dividend
  have ht := And.intro (Int.lt_tmod_of_pos (wrapS64 y) hp0) (Int.tmod_lt_of_pos (wrapS64 y) hp0)
  simp only [canonical, decide_eq_true_eq]
  unfold initU64
  split
  · rw [castSt_id bits sgn _ hb hm.1 (by omega)]; exact hm
  · split
    · split
      · rw [castSt_id bits sgn _ hb (by omega) (by omega)]; omega
      · omega
    · exact hm

/-! ### random polynomials: the lower coefficients -/

theorem polyLow_spec (bits : Nat) (sgn : Bool) (p : Int) (hb : 1 ≤ bits) (hp : 1 ≤ p) (hfit : p ≤ 2 ^ (bits - 1)) (d : Nat) :
    ∀ g : Int, (polyLow bits sgn p d g).1.length = d ∧ ∀ c ∈ (polyLow bits sgn p d g).1, canonical p c = true := by
  induction d with
  | zero => intro g; simp [polyLow]
  | succ d ih =>
    intro g
    have h := ih (modRandom bits sgn p g).2
    simp only [polyLow, List.length_append, List.length_cons, List.length_nil, List.mem_append, List.mem_cons, List.not_mem_nil, or_false]
    refine ⟨by omega, ?_⟩
    intro c hc
    rcases hc with hc | rfl
    · exact h.2 c hc
    · exact initU64_canonical bits sgn p _ hb hp hfit

/-! ### GFqDom: the draws as numbers (the sampling size fits the positive half of `Rep`, so no conversion changes a value) -/

theorem gfqRandom_val (bits : Nat) (q s g : Int) (hb : 1 ≤ bits) (hs : 1 ≤ s) (hfit : s ≤ 2 ^ (bits - 1)) :
    (gfqRandom bits q s g).1 = givNext g % 2 ^ bits % s := by
  have hm := emod_canon (show 0 < s by omega) (givNext g % 2 ^ bits)
  unfold gfqRandom
  simp only
  rw [castSt_id bits true _ hb hm.1 (by omega), if_neg (by omega)]

theorem gfqNonzero_val (bits : Nat) (q s g : Int) (hb : 1 ≤ bits) (hs : 2 ≤ s) (hfit : s ≤ 2 ^ (bits - 1)) :
    (gfqNonzero bits q s g).1 = givNext g % 2 ^ bits % (s - 1) + 1 := by
  have hpow := two_pow_pred hb
  have hm := emod_canon (show 0 < s - 1 by omega) (givNext g % 2 ^ bits)
  unfold gfqNonzero
  simp only
  rw [Int.emod_eq_of_lt (a := s - 1) (by omega) (by omega), Int.emod_eq_of_lt (a := _ + 1) (by omega) (by omega),
      castSt_id bits true _ hb (by omega) (by omega), if_neg (by omega)]

/-! ### GivRandom as modular arithmetic -/

theorem givInit_eq (s : Int) (h1 : 1 ≤ s) (h2 : s < 18446744073709551616) : givInit s = 1 + (s - 1) % (givMod - 1) := by
  have := emod_canon (show 0 < givMod - 1 by decide) (s - 1)
  unfold givInit wrapU64
  rw [Int.emod_eq_of_lt (a := s - 1) (by omega) (by omega)]
  unfold givMod at this ⊢
  exact Int.emod_eq_of_lt (by omega) (by omega)

/-- the bound is `⌊2^63 / 950706376⌋` -/
theorem giv_product_exact (s : Int) (h0 : 0 ≤ s) (h1 : s ≤ 9701599010) : wrapS64 (givMul * wrapS64 s) = givMul * s := by
  rw [wrapS64_id (x := s) (by unfold InS64; omega), wrapS64_id (by unfold InS64 givMul; omega)]

theorem givIter_succ (j : Nat) : ∀ g : Int, givIter (j + 1) g = givNext (givIter j g) := by
  induction j with
  | zero => intro g; rfl
  | succ j ih => intro g; exact ih (givNext g)

/-- the multiplier of GivRandom is invertible modulo 2^31 - 1 (inverse 340363889: 950706376 · 340363889 = 1 + 150681529 · (2^31 - 1)),
    so multiplication by it is injective on the residues -/
theorem giv_mul_inj (s t : Int) (hs1 : 0 ≤ s) (hs2 : s < givMod) (ht1 : 0 ≤ t) (ht2 : t < givMod)
    (h : givMul * s % givMod = givMul * t % givMod) : s = t := by
  unfold givMul givMod at *
  obtain ⟨q, hq⟩ := Int.dvd_of_emod_eq_zero (Int.emod_eq_emod_iff_emod_sub_eq_zero.1 h)
  have e : s - t = 2147483647 * (340363889 * q - 150681529 * (s - t)) := by linear_combination 340363889 * hq
  clear h hq
  generalize 340363889 * q - 150681529 * (s - t) = u at e
  omega

theorem giv_mul_range (s : Int) (h1 : 1 ≤ s) (h2 : s < givMod) : 1 ≤ givMul * s % givMod ∧ givMul * s % givMod < givMod := by
  have hs : 0 ≤ s ∧ s ≠ 0 := by omega
  have hne : givMul * s % givMod ≠ 0 := fun h => hs.2 (giv_mul_inj s 0 hs.1 h2 (by decide) (by decide) (by rw [h]; decide))
  have hr := emod_canon (show 0 < givMod by decide) (givMul * s)
  omega

theorem givNext_eq (s : Int) (h1 : 1 ≤ s) (h2 : s < givMod) : givNext s = givMul * s % givMod := by
  have hr := giv_mul_range s h1 h2
  have hM : givMod = 2147483647 := rfl
  unfold givNext
  rw [giv_product_exact s (by omega) (by omega), Int.tmod_eq_emod_of_nonneg (by unfold givMul; omega)]
  exact Int.emod_eq_of_lt (by omega) (by omega)

end Givaro.Lemmas.Random
