/- C06 helper lemmas: the rint<K> wrappers on the signed reading `sval`. -/
import GivaroModel.Lemmas.RecIntDivGen
import GivaroModel.Lemmas.RecIntConv
import GivaroModel.Model.RecIntSigned
namespace Givaro.Model.RecInt

theorem s_add_ok {n : Nat} (b c : RU n) (hb : WF b) (hc : WF c) : WF (s_add b c) ∧ sval (s_add b c) = swrap n (sval b + sval c) :=
  have h := (Img.of_sval hb).addNC (Img.of_sval hc)
  ⟨h.1, h.sval⟩

theorem s_sub_ok {n : Nat} (b c : RU n) (hb : WF b) (hc : WF c) : WF (s_sub b c) ∧ sval (s_sub b c) = swrap n (sval b - sval c) :=
  have h := (Img.of_sval hb).subNC (Img.of_sval hc)
  ⟨h.1, h.sval⟩

theorem s_mul_ok (t : Nat) {n : Nat} (b c : RU n) (hb : WF b) (hc : WF c) : WF (s_mul t b c) ∧ sval (s_mul t b c) = swrap n (sval b * sval c) :=
  have h := (Img.of_sval hb).mulLow t (Img.of_sval hc)
  ⟨h.1, h.sval⟩

theorem s_addmul_ok (t : Nat) {n : Nat} (a b c : RU n) (ha : WF a) (hb : WF b) (hc : WF c) :
    WF (s_addmul t a b c) ∧ sval (s_addmul t a b c) = swrap n (sval a + sval b * sval c) :=
  have h := (Img.of_sval ha).addNC ((Img.of_sval hb).mulLow t (Img.of_sval hc))
  ⟨h.1, h.sval⟩

theorem s_neg_ok {n : Nat} (c : RU n) (hc : WF c) : WF (s_neg c) ∧ sval (s_neg c) = swrap n (-sval c) :=
  have h := (Img.of_sval hc).negate
  ⟨h.1, h.sval⟩

theorem s_shl_ok {n : Nat} (b : RU n) (d : Nat) (hb : WF b) : WF (s_shl b d) ∧ sval (s_shl b d) = swrap n (sval b * 2 ^ d) :=
  have h := (Img.of_sval hb).shl d
  ⟨h.1, h.sval⟩

/-- `~c = -c - 1` exactly (no wrap: the complement of a representable value is representable) -/
theorem s_not_ok {n : Nat} (c : RU n) (hc : WF c) : WF (s_not c) ∧ sval (s_not c) = -sval c - 1 := by
  have h := (Img.of_sval hc).not
  have r := sval_range c hc
  obtain ⟨k, hk, -⟩ := Bn_even n
  exact ⟨h.1, h.sval.trans (swrap_id n _ (by omega) (by omega))⟩

theorem s_cmp_ok {n : Nat} (a b : RU n) (ha : WF a) (hb : WF b) :
    (s_cmp a b = -1 ∧ sval a < sval b) ∨ (s_cmp a b = 0 ∧ sval a = sval b) ∨ (s_cmp a b = 1 ∧ sval a > sval b) := by
  have hc := cmp_spec a b ha hb
  unfold s_cmp
  rcases sign_cases a ha with ⟨hna, va, pa⟩ | ⟨hna, -, -, pa, va⟩ <;> rcases sign_cases b hb with ⟨hnb, vb, pb⟩ | ⟨hnb, -, -, pb, vb⟩ <;>
    simp only [hna, hnb, Bool.not_true, Bool.not_false, Bool.false_eq_true, ↓reduceIte, ne_eq, not_true_eq_false]
  · rcases hc with ⟨e, h⟩ | ⟨e, h⟩ | ⟨e, h⟩ <;> rw [e] <;> simp <;> omega
  · simp; omega
  · simp; omega
  · rcases hc with ⟨e, h⟩ | ⟨e, h⟩ | ⟨e, h⟩ <;> rw [e] <;> simp <;> omega

theorem s_ext_ok {n : Nat} (a : RU n) (ha : WF a) : WF (s_ext a) ∧ sval (s_ext a) = sval a := by
  have ra := sval_range a ha
  have hz := val_zero n
  have hle : (Bn n : Int) ≤ Bn (n+1) := by rw [Bn_succ]; exact_mod_cast Nat.le_mul_of_pos_left (Bn n) (Bn_pos n)
  have hv (x : RU n) : (val (RU.node x (zero n)) : Int) = val x := by rw [val_node, hz.2, Nat.mul_zero, Nat.add_zero]
  unfold s_ext
  rcases sign_cases a ha with ⟨hna, va, pa⟩ | ⟨hna, wa, va, pa⟩ <;> simp only [hna, Bool.false_eq_true, ↓reduceIte]
  · exact ⟨⟨ha, hz.1⟩, sval_of_val _ _ ((hv a).trans va) (by omega)⟩
  · have h := sval_neg_of_val (RU.node (neg a) (zero n)) ⟨wa, hz.1⟩ _ ((hv _).trans va) (by omega)
    rwa [Int.neg_neg] at h

theorem prod_range (B sb sc : Int) (hB : 0 < B) (b0 : -B ≤ 2 * sb) (b1 : 2 * sb < B) (c0 : -B ≤ 2 * sc) (c1 : 2 * sc < B) :
    -(B * B) ≤ 2 * (sb * sc) ∧ 2 * (sb * sc) < B * B := by
  have h1 : 0 ≤ (B + 2 * sb) * (B + 2 * sc) := mul_nonneg (by omega) (by omega)
  have h2 : 0 ≤ (B - 2 * sb) * (B - 2 * sc) := mul_nonneg (by omega) (by omega)
  have h3 : 0 ≤ (B + 2 * sb) * (B - 2 * sc) := mul_nonneg (by omega) (by omega)
  have h4 : 0 ≤ (B - 2 * sb) * (B + 2 * sc) := mul_nonneg (by omega) (by omega)
  have h5 : 0 < B * B := mul_pos hB hB
  constructor <;> linarith

theorem lmul_int (t : Nat) {n : Nat} (x y : RU n) (hx : WF x) (hy : WF y) :
    WF (lmul t x y) ∧ (val (lmul t x y) : Int) = (val x : Int) * val y := by
  obtain ⟨hw, he⟩ := lmul_ok t x y hx hy
  exact ⟨hw, by rw [he, Nat.cast_mul]⟩

theorem s_lmul_ok (t : Nat) {n : Nat} (b c : RU n) (hb : WF b) (hc : WF c) :
    WF (s_lmul t b c) ∧ sval (s_lmul t b c) = sval b * sval c := by
  have rb := sval_range b hb
  have rc := sval_range c hc
  have hpr := prod_range (Bn n) (sval b) (sval c) (by exact_mod_cast Bn_pos n) rb.1 rb.2 rc.1 rc.2
  rw [← Nat.cast_mul, ← Bn_succ] at hpr
  unfold s_lmul
  rcases sign_cases b hb with ⟨hnb, vb, pb⟩ | ⟨hnb, wb, vb, pb⟩ <;> rcases sign_cases c hc with ⟨hnc, vc, pc⟩ | ⟨hnc, wc, vc, pc⟩ <;>
    simp only [hnb, hnc, Bool.not_true, Bool.not_false, Bool.false_eq_true, ↓reduceIte]
  · obtain ⟨hw, he⟩ := lmul_int t b c hb hc
    rw [vb, vc] at he
    exact ⟨hw, sval_of_val _ _ he hpr.2⟩
  · obtain ⟨hw, he⟩ := lmul_int t b (neg c) hb wc
    rw [vb, vc, Int.mul_neg] at he
    have h := sval_neg_of_val _ hw _ he (by omega)
    rwa [Int.neg_neg] at h
  · obtain ⟨hw, he⟩ := lmul_int t (neg b) c wb hc
    rw [vb, vc, Int.neg_mul] at he
    have h := sval_neg_of_val _ hw _ he (by omega)
    rwa [Int.neg_neg] at h
  · obtain ⟨hw, he⟩ := lmul_int t (neg b) (neg c) wb wc
    rw [vb, vc, Int.neg_mul_neg] at he
    exact ⟨hw, sval_of_val _ _ he hpr.2⟩

theorem s_lsquare_ok (t : Nat) {n : Nat} (b : RU n) (hb : WF b) :
    WF (s_lsquare t b) ∧ sval (s_lsquare t b) = sval b * sval b := by
  have rb := sval_range b hb
  have hpr := prod_range (Bn n) (sval b) (sval b) (by exact_mod_cast Bn_pos n) rb.1 rb.2 rb.1 rb.2
  rw [← Nat.cast_mul, ← Bn_succ] at hpr
  unfold s_lsquare
  rcases sign_cases b hb with ⟨hnb, vb, pb⟩ | ⟨hnb, wb, vb, pb⟩ <;> simp only [hnb, Bool.false_eq_true, ↓reduceIte]
  · obtain ⟨hw, he⟩ := lsquare_ok t b hb
    exact ⟨hw, sval_of_val _ _ (by rw [he, Nat.cast_mul, vb]) hpr.2⟩
  · obtain ⟨hw, he⟩ := lsquare_ok t (neg b) wb
    exact ⟨hw, sval_of_val _ _ (by rw [he, Nat.cast_mul, vb, Int.neg_mul_neg]) hpr.2⟩

theorem s_divq_ok (t : Nat) {n : Nat} (a b : RU n) (ha : WF a) (hb : WF b) (hne : sval b ≠ 0) :
    WF (s_divq t a b) ∧ sval (s_divq t a b) = swrap n (Int.tdiv (sval a) (sval b)) := by
  have ra := sval_range a ha
  unfold s_divq
  rcases sign_cases a ha with ⟨hna, va, pa⟩ | ⟨hna, wa, va, pa⟩ <;> rcases sign_cases b hb with ⟨hnb, vb, pb⟩ | ⟨hnb, wb, vb, pb⟩ <;>
    simp only [hna, hnb, Bool.false_eq_true, ↓reduceIte]
  · obtain ⟨hq, -, hqe, -⟩ := div_int t a b ha hb (by omega)
    rw [← va, ← vb, Int.tdiv_eq_ediv_of_nonneg (Int.natCast_nonneg _)]
    exact ⟨hq, (Img.of_int hq hqe).sval⟩
  · obtain ⟨hq, -, hqe, -⟩ := div_int t a (neg b) ha wb (by omega)
    have h := (Img.of_int hq hqe).negate
    rw [← va, show sval b = -(val (neg b) : Int) by omega, Int.tdiv_neg, Int.tdiv_eq_ediv_of_nonneg (Int.natCast_nonneg _)]
    exact ⟨h.1, h.sval⟩
  · obtain ⟨hq, -, hqe, -⟩ := div_int t (neg a) b wa hb (by omega)
    have h := (Img.of_int hq hqe).negate
    rw [← vb, show sval a = -(val (neg a) : Int) by omega, Int.neg_tdiv, Int.tdiv_eq_ediv_of_nonneg (Int.natCast_nonneg _)]
    exact ⟨h.1, h.sval⟩
  · obtain ⟨hq, -, hqe, -⟩ := div_int t (neg a) (neg b) wa wb (by omega)
    rw [show sval a = -(val (neg a) : Int) by omega, show sval b = -(val (neg b) : Int) by omega, Int.neg_tdiv, Int.tdiv_neg,
      Int.neg_neg, Int.tdiv_eq_ediv_of_nonneg (Int.natCast_nonneg _)]
    exact ⟨hq, (Img.of_int hq hqe).sval⟩

theorem s_divr_ok (t : Nat) {n : Nat} (a b : RU n) (ha : WF a) (hb : WF b) (hpos : 0 < sval b) :
    WF (s_divr t a b) ∧ sval (s_divr t a b) = Int.tmod (sval a) (sval b) := by
  have rb := sval_range b hb
  obtain ⟨-, vb, -⟩ | ⟨-, -, -, pb⟩ := sign_cases b hb
  swap
  · omega
  have hp : (0 : Int) < val b := by omega
  unfold s_divr
  rcases sign_cases a ha with ⟨hna, va, pa⟩ | ⟨hna, wa, va, pa⟩ <;> simp only [hna, Bool.false_eq_true, ↓reduceIte]
  · obtain ⟨-, hr, -, hre⟩ := div_int t a b ha hb (by omega)
    have m1 := Int.emod_lt_of_pos (val a : Int) hp
    rw [← va, ← vb, Int.tmod_eq_emod_of_nonneg (Int.natCast_nonneg _)]
    exact ⟨hr, sval_of_val _ _ hre (by omega)⟩
  · obtain ⟨-, hr, -, hre⟩ := div_int t (neg a) b wa hb (by omega)
    have m1 := Int.emod_lt_of_pos (val (neg a) : Int) hp
    rw [show sval a = -(val (neg a) : Int) by omega, ← vb, Int.neg_tmod, Int.tmod_eq_emod_of_nonneg (Int.natCast_nonneg _)]
    exact sval_neg_of_val _ hr _ hre (by omega)

theorem floor_neg (A p : Int) (hp : 0 < p) : A / p = -1 - (-A - 1) / p := by
  have h1 := Int.emod_add_mul_ediv (-A - 1) p
  have h2 := Int.emod_nonneg (-A - 1) (ne_of_gt hp)
  have h3 := Int.emod_lt_of_pos (-A - 1) hp
  have key := (Int.ediv_emod_unique hp (a := A) (q := -1 - (-A - 1) / p) (r := p - 1 - (-A - 1) % p)).mpr
    ⟨by linarith [show p * (-1 - (-A - 1) / p) = -p - p * ((-A - 1) / p) by ring], by omega, by omega⟩
  exact key.1

theorem s_shr_ok {n : Nat} (b : RU n) (d : Nat) (hb : WF b) : WF (s_shr b d) ∧ sval (s_shr b d) = sval b / 2 ^ d := by
  have rb := sval_range b hb
  have hp : (0 : Int) < 2 ^ d := by positivity
  unfold s_shr
  rcases sign_cases b hb with ⟨hnb, vb, pb⟩ | ⟨hnb, -, -, pb, vb⟩ <;> simp only [hnb, Bool.false_eq_true, ↓reduceIte]
  · obtain ⟨hw, he⟩ := (shift_ok n b d hb).2
    have hv : (val (right_shift b d) : Int) = sval b / 2 ^ d := by rw [he, Int.natCast_ediv, Nat.cast_pow, vb]; rfl
    have hle : sval b / 2 ^ d ≤ sval b := Int.ediv_le_self _ pb
    exact ⟨hw, sval_of_val _ _ hv (by omega)⟩
  · -- `~b = -b - 1 ≥ 0`; shifting it and complementing again gives `-1 - ⌊(-b - 1) / 2^d⌋ = ⌊b / 2^d⌋`
    obtain ⟨hnw, hX⟩ := not_int b hb
    rw [vb] at hX
    obtain ⟨hw, he⟩ := (shift_ok n (not_ b) d hnw).2
    have hv : (val (right_shift (not_ b) d) : Int) = (-sval b - 1) / 2 ^ d := by
      rw [he, Int.natCast_ediv, Nat.cast_pow, hX, show (Bn n : Int) - 1 - (sval b + Bn n) = -sval b - 1 by ring]; rfl
    obtain ⟨hrw, hR⟩ := not_int _ hw
    have hle : (-sval b - 1) / 2 ^ d ≤ -sval b - 1 := Int.ediv_le_self _ (by omega)
    have h0 : 0 ≤ (-sval b - 1) / 2 ^ d := Int.ediv_nonneg (by omega) (by omega)
    refine ⟨hrw, ?_⟩
    rw [floor_neg (sval b) (2 ^ d) hp]
    rw [hv] at hR
    generalize (-sval b - 1) / 2 ^ d = Q at hR hle h0 ⊢
    unfold sval
    split <;> omega

end Givaro.Model.RecInt
