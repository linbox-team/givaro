/- C06 helper lemmas: the signed reading `sval`, its wrap `swrap`, the sign test; images of integers (`Img`) and the wrapping operations
   on them; ruconvert.h / rconvert.h — conversions to and from big integers. -/
import GivaroModel.Lemmas.RecIntShiftGen
import GivaroModel.Lemmas.RecIntMulLow
import GivaroModel.Lemmas.WordLemmas
namespace Givaro.Model.RecInt

theorem isNegative_eq : ∀ {n : Nat} (b : RU n), isNegative b = highest_bit b
  | _, .limb v => by simp only [isNegative, ms_limb, highest_bit]; exact decide_eq_decide.mpr Iff.rfl
  | _, .node l h => by
      have := isNegative_eq h
      simp only [isNegative, ms_limb, highest_bit] at this ⊢; exact this

/-- two's-complement reading of a residue -/
def sval {n : Nat} (b : RU n) : Int := if 2 * val b < Bn n then (val b : Int) else (val b : Int) - Bn n

/-- two's-complement wrap of an integer into `[-2^(bits-1), 2^(bits-1))` -/
def swrap (n : Nat) (v : Int) : Int := if 2 * (v % (Bn n : Int)) < Bn n then v % (Bn n : Int) else v % (Bn n : Int) - Bn n

theorem sval_eq_swrap {n : Nat} (r : RU n) (v : Int) (h : (val r : Int) = v % Bn n) : sval r = swrap n v := by
  unfold swrap
  unfold sval
  by_cases hc : 2 * val r < Bn n
  · rw [if_pos hc, if_pos (by rw [← h]; omega), h]
  · rw [if_neg hc, if_neg (by rw [← h]; omega), h]

/-- `swrap` is core's balanced remainder (the base is even, so `2r < B ↔ r < (B+1)/2`) -/
theorem swrap_eq_bmod (n : Nat) (v : Int) : swrap n v = Int.bmod v (Bn n) := by
  obtain ⟨k, hk, -⟩ := Bn_even n
  rw [Int.bmod_def]; unfold swrap
  split <;> split <;> omega

theorem swrap_id (n : Nat) (v : Int) (h0 : -(Bn n : Int) ≤ 2 * v) (h1 : 2 * v < Bn n) : swrap n v = v := by
  rw [swrap_eq_bmod]; exact Int.bmod_eq_of_le_mul_two (by omega) (by omega)

theorem swrap_spec (n : Nat) (v : Int) :
    swrap n v % (Bn n : Int) = v % Bn n ∧ -(Bn n : Int) ≤ 2 * swrap n v ∧ 2 * swrap n v < Bn n ∧
    (-(Bn n : Int) ≤ 2 * v → 2 * v < Bn n → swrap n v = v) := by
  obtain ⟨k, hk, -⟩ := Bn_even n
  have l := Int.le_bmod (x := v) (Bn_pos n)
  have u := Int.bmod_lt (x := v) (Bn_pos n)
  refine ⟨?_, ?_, ?_, swrap_id n v⟩ <;> rw [swrap_eq_bmod]
  · exact Int.bmod_emod
  · omega
  · omega

theorem sval_mod {n : Nat} (a : RU n) : sval a % (Bn n : Int) = (val a : Int) % Bn n := by
  unfold sval
  split
  · rfl
  · rw [show (val a : Int) - Bn n = val a + (-1) * (Bn n : Int) by ring, Int.add_mul_emod_self_right]

theorem wf_cast {n : Nat} (r : RU n) (h : WF r) : (0 : Int) ≤ val r ∧ (val r : Int) < Bn n :=
  ⟨by omega, by exact_mod_cast val_lt r h⟩

theorem int_of_mod_eq {n : Nat} (r : RU n) (hr : WF r) (v : Nat) (h : val r = v % Bn n) : (val r : Int) = (v : Int) % Bn n := by
  rw [h, Int.natCast_mod]

theorem sval_range {n : Nat} (a : RU n) (ha : WF a) : -(Bn n : Int) ≤ 2 * sval a ∧ 2 * sval a < Bn n := by
  have := val_lt a ha
  unfold sval
  split <;> constructor <;> omega

/-- the two cases of every sign dispatch: a non-negative value is its image; a negative one has the image `value + 2^bits` and
    is handled through `(-a).Value`, its magnitude (also for the minimum, whose magnitude `2^(bits-1)` fits the unsigned type) -/
theorem sign_cases {n : Nat} (a : RU n) (ha : WF a) :
    (isNegative a = false ∧ (val a : Int) = sval a ∧ 0 ≤ sval a) ∨
    (isNegative a = true ∧ WF (neg a) ∧ (val (neg a) : Int) = -sval a ∧ sval a < 0 ∧ (val a : Int) = sval a + Bn n) := by
  have hv := val_lt a ha
  have hb := highest_bit_iff a ha
  obtain ⟨hw, he⟩ := neg_ok a ha
  rw [isNegative_eq]
  unfold sval
  by_cases h : highest_bit a = true
  · have h2 := hb.mp h
    rw [if_neg (by omega)]
    refine Or.inr ⟨h, hw, ?_, by omega, by omega⟩
    rw [he, Nat.mod_eq_of_lt (by omega), Nat.cast_sub (Nat.le_of_lt hv)]
    omega
  · have h2 : ¬ Bn n ≤ 2 * val a := fun h' => h (hb.mpr h')
    rw [if_pos (by omega)]
    exact Or.inl ⟨eq_false_of_ne_true h, rfl, by omega⟩

theorem sval_of_val {n : Nat} (r : RU n) (v : Int) (he : (val r : Int) = v) (h1 : 2 * v < Bn n) : sval r = v := by
  unfold sval; rw [if_pos (by omega), he]

/-- `r` is the image of the integer `v`.  Both readings of a word (`val`, `sval`) are preimages of it, and the wrapping operations take
    images to images, so what they compute is read off the integers. -/
def Img {n : Nat} (r : RU n) (v : Int) : Prop := WF r ∧ (val r : Int) = v % (Bn n : Int)

theorem Img.of_int {n : Nat} {r : RU n} {v : Int} (hw : WF r) (h : (val r : Int) = v) : Img r v := by
  have := wf_cast r hw
  rw [h] at this
  exact ⟨hw, h.trans (Int.emod_eq_of_lt this.1 this.2).symm⟩
theorem Img.of_val {n : Nat} {r : RU n} (hw : WF r) : Img r (val r) := Img.of_int hw rfl
theorem Img.of_sval {n : Nat} {r : RU n} (hw : WF r) : Img r (sval r) := ⟨hw, by rw [sval_mod]; exact (Img.of_int hw rfl).2⟩
theorem Img.sval {n : Nat} {r : RU n} {v : Int} (h : Img r v) : sval r = swrap n v := sval_eq_swrap r v h.2
theorem Img.of_mod {n : Nat} {r : RU n} {s : Nat} {v : Int} (hw : WF r) (h : val r = s % Bn n) (e : (s : Int) % Bn n = v % Bn n) :
    Img r v := ⟨hw, by rw [h, Int.natCast_mod, e]⟩

/-- a value that fits the low half is unchanged by `High = 0` (every constructor from a word fills `Low` and leaves `High` default) -/
theorem Img.widen {n : Nat} {x : RU n} {v : Int} (h : Img x v) (h0 : 0 ≤ v) (h1 : v < Bn n) : Img (RU.node x (zero n)) v :=
  Img.of_int ⟨h.1, (val_zero n).1⟩
    (by rw [val_node, (val_zero n).2, Nat.mul_zero, Nat.add_zero, h.2, Int.emod_eq_of_lt h0 h1])

theorem Img.addNC {n : Nat} {b c : RU n} {x y : Int} (hb : Img b x) (hc : Img c y) : Img (addNC b c) (x + y) := by
  rw [addNC_eq]
  exact Img.of_mod (add_ok b c hb.1 hc.1).1 (add_ok b c hb.1 hc.1).exact.1 (by rw [Nat.cast_add, hb.2, hc.2, ← Int.add_emod])

theorem Img.subNC {n : Nat} {b c : RU n} {x y : Int} (hb : Img b x) (hc : Img c y) : Img (subNC b c) (x - y) := by
  have hvc := val_lt c hc.1
  rw [subNC_eq]
  refine Img.of_mod (sub_ok b c hb.1 hc.1).1 ((sub_ok b c hb.1 hc.1).exact (Nat.le_of_lt hvc)).1 ?_
  rw [Nat.cast_sub (by omega), Nat.cast_add, show (val b : Int) + Bn n - val c = ((val b : Int) - val c) + 1 * Bn n by ring,
    Int.add_mul_emod_self_right, hb.2, hc.2, ← Int.sub_emod]

theorem Img.mulLow (t : Nat) {n : Nat} {b c : RU n} {x y : Int} (hb : Img b x) (hc : Img c y) : Img (mul t b c) (x * y) :=
  Img.of_mod (mul_ok t b c hb.1 hc.1).1 (mul_ok t b c hb.1 hc.1).2 (by rw [Nat.cast_mul, hb.2, hc.2, ← Int.mul_emod])

theorem Img.shl {n : Nat} {b : RU n} {x : Int} (hb : Img b x) (d : Nat) : Img (left_shift b d) (x * 2 ^ d) :=
  Img.of_mod (shift_ok n b d hb.1).1.1 (shift_ok n b d hb.1).1.2
    (by rw [Nat.cast_mul, Nat.cast_pow, hb.2, Int.mul_emod, Int.emod_emod, ← Int.mul_emod]; rfl)

theorem Img.negate {n : Nat} {c : RU n} {x : Int} (hc : Img c x) : Img (neg c) (-x) := by
  obtain ⟨hw, he⟩ := neg_ok c hc.1
  have hvx := val_lt c hc.1
  refine Img.of_mod hw he ?_
  rw [Nat.cast_sub (Nat.le_of_lt hvx), hc.2, Int.sub_emod, Int.emod_emod, ← Int.sub_emod,
    show (Bn n : Int) - x = -x + 1 * (Bn n : Int) by ring, Int.add_mul_emod_self_right]

theorem sval_neg_of_val {n : Nat} (r : RU n) (hr : WF r) (v : Int) (he : (val r : Int) = v) (h1 : 2 * v ≤ Bn n) :
    WF (neg r) ∧ sval (neg r) = -v := by
  have hB := Bn_pos n
  have h := (Img.of_int hr he).negate
  exact ⟨h.1, h.sval.trans (swrap_id n _ (by omega) (by omega))⟩

theorem Img.not {n : Nat} {c : RU n} {x : Int} (hc : Img c x) : Img (not_ c) (-x - 1) := by
  obtain ⟨hw, he⟩ := not_int c hc.1
  exact ⟨hw, (emod_unique (wf_cast _ hw).1 (wf_cast _ hw).2 (-(1 + x / Bn n)) (by rw [he, hc.2, Int.emod_def]; ring)).symm⟩

theorem Img.addL {n : Nat} {a : RU n} {x : Int} (ha : Img a x) {c : Nat} (hc : c < B64) : Img (add_l a c).1 (x + c) :=
  Img.of_mod (add_l_ok a c ha.1 hc).1 (add_l_ok a c ha.1 hc).exact.1 (by rw [Nat.cast_add, ha.2, Int.emod_add_emod])

theorem Img.subL {n : Nat} {a : RU n} {x : Int} (ha : Img a x) {c : Nat} (hc : c < B64) : Img (sub_l a c).1 (x - c) := by
  have hB := B64_le_Bn n
  refine Img.of_mod (sub_l_ok a c ha.1 hc).1 ((sub_l_ok a c ha.1 hc).exact (by omega)).1 ?_
  rw [Nat.cast_sub (by omega), Nat.cast_add, show (val a : Int) + Bn n - c = ((val a : Int) - c) + 1 * Bn n by ring,
    Int.add_mul_emod_self_right, ha.2, Int.emod_sub_emod]

theorem Img.mulL {n : Nat} {a : RU n} {x : Int} (ha : Img a x) {c : Nat} (hc : c < B64) : Img (mul_l a c) (x * c) :=
  Img.of_mod (mul_l_ok a c ha.1 hc).1 (mul_l_ok a c ha.1 hc).2 (by rw [Nat.cast_mul, ha.2, Int.mul_emod, Int.emod_emod, ← Int.mul_emod])

theorem bits_eq (n : Nat) : bits n = 64 * nblimb n := by
  induction n with
  | zero => rfl
  | succ k ih => simp only [bits, nblimb, ih]; ring

theorem B64_pow_nblimb (n : Nat) : B64 ^ nblimb n = Bn n := by
  rw [show B64 = 2 ^ 64 from Bn_zero.symm, ← pow_mul, Bn, bits_eq]

theorem limbsLS_length : ∀ {n : Nat} (b : RU n), (limbsLS b).length = nblimb n
  | _, .limb _ => rfl
  | _, .node l h => by simp only [limbsLS, List.length_append, limbsLS_length l, limbsLS_length h, nblimb]; ring

theorem limbsVal_append (l1 l2 : List Nat) : limbsVal (l1 ++ l2) = limbsVal l1 + B64 ^ l1.length * limbsVal l2 := by
  induction l1 with
  | nil => simp [limbsVal]
  | cons x xs ih => simp only [List.cons_append, limbsVal, ih, List.length_cons, pow_succ]; ring

theorem limbsVal_limbsLS : ∀ {n : Nat} (b : RU n), limbsVal (limbsLS b) = val b
  | _, .limb v => by simp [limbsLS, limbsVal, val]
  | _, .node l h => by
      rw [limbsLS, limbsVal_append, limbsLS_length, B64_pow_nblimb, limbsVal_limbsLS l, limbsVal_limbsLS h, val_node]

theorem fold_low {n : Nat} (g : Nat → Nat) (h : RU n) : ∀ (xs : List Nat) (l : RU n), (∀ i ∈ xs, i < nblimb n) →
    xs.foldl (fun a i => set_limb a (g i) i) (RU.node l h) = RU.node (xs.foldl (fun a i => set_limb a (g i) i) l) h
  | [], _, _ => rfl
  | x :: xs, l, hx => by
      have hx0 : x < nblimb n := hx x (by simp)
      simp only [List.foldl_cons, set_limb, if_pos hx0]
      exact fold_low g h xs _ (fun i hi => hx i (by simp [hi]))

theorem fold_high {n : Nat} (g : Nat → Nat) (l : RU n) : ∀ (xs : List Nat) (h : RU n),
    (xs.map (nblimb n + ·)).foldl (fun a i => set_limb a (g i) i) (RU.node l h)
      = RU.node l (xs.foldl (fun a i => set_limb a (g (nblimb n + i)) i) h)
  | [], _ => rfl
  | x :: xs, h => by
      have hx0 : ¬ (nblimb n + x < nblimb n) := by omega
      simp only [List.map_cons, List.foldl_cons, set_limb, if_neg hx0, Nat.add_sub_cancel_left]
      exact fold_high g l xs _

/-- the loop of `mpz_to_ruint` writes every limb, so whatever `a` held, the result is the embedding `ofNat` of `c` -/
theorem fold_set_all : ∀ (n c : Nat) (a : RU n),
    (List.range (nblimb n)).foldl (fun a i => set_limb a ((c / B64 ^ i) % B64) i) a = ofNat n c
  | 0, c, .limb v => by simp [nblimb, set_limb, ofNat, List.range_succ]
  | n+1, c, .node l h => by
      have e : nblimb (n+1) = nblimb n + nblimb n := by simp only [nblimb]; ring
      rw [e, List.range_add, List.foldl_append, fold_low (fun i => (c / B64 ^ i) % B64) h _ l (fun i hi => List.mem_range.mp hi),
        fold_high (fun i => (c / B64 ^ i) % B64), fold_set_all n c l]
      simp only [pow_add, B64_pow_nblimb, ← Nat.div_div_eq_div_mul]
      rw [fold_set_all n (c / Bn n) h, ofNat, ofNat_mod]

/-- the loop of `mpz_to_ruint`: limb `i` receives `(c / 2^(64 i)) mod 2^64` -/
theorem fold_state {n : Nat} (a0 : RU n) (c0 : Nat) : ∀ m : Nat,
    (List.range m).foldl (fun (st : RU n × Nat) i => (set_limb st.1 (st.2 % B64) i, st.2 / B64)) (a0, c0)
      = ((List.range m).foldl (fun a i => set_limb a ((c0 / B64 ^ i) % B64) i) a0, c0 / B64 ^ m)
  | 0 => by simp
  | m+1 => by
      rw [List.range_succ, List.foldl_append, List.foldl_append, fold_state a0 c0 m]
      simp only [List.foldl_cons, List.foldl_nil, pow_succ, Nat.div_div_eq_div_mul]

theorem mpz_to_ruint_eq (n : Nat) (z : Int) : mpz_to_ruint n z = ofNat n (z % (Bn n : Int)).toNat := by
  unfold mpz_to_ruint; rw [fold_state, fold_set_all]

theorem mpz_to_ruint_ok (n : Nat) (z : Int) : Img (mpz_to_ruint n z) z := by
  have hB : (0 : Int) < Bn n := by exact_mod_cast Bn_pos n
  have hnn : 0 ≤ z % (Bn n : Int) := Int.emod_nonneg _ (by omega)
  have hlt : z % (Bn n : Int) < Bn n := Int.emod_lt_of_pos _ hB
  have h := ofNat_ok n (z % (Bn n : Int)).toNat
  rw [mpz_to_ruint_eq]
  refine ⟨h.1, ?_⟩
  rw [h.2, Nat.mod_eq_of_lt (by omega)]; omega

theorem ruint_to_mpz_ok {n : Nat} (b : RU n) : ruint_to_mpz b = (val b : Int) := by
  unfold ruint_to_mpz; rw [limbsVal_limbsLS]

theorem rint_to_mpz_ok {n : Nat} (b : RU n) (hb : WF b) : rint_to_mpz b = sval b := by
  unfold rint_to_mpz
  rcases sign_cases b hb with ⟨hn, hv, -⟩ | ⟨hn, -, hv, -⟩ <;> simp only [hn, Bool.false_eq_true, ↓reduceIte, ruint_to_mpz_ok, hv, Int.neg_neg]

theorem mpz_to_rint_ok (n : Nat) (z : Int) : Img (mpz_to_rint n z) z := by
  unfold mpz_to_rint
  by_cases hz : z < 0
  · rw [if_pos hz]
    have h := (mpz_to_ruint_ok n (-z)).negate
    rwa [Int.neg_neg] at h
  · rw [if_neg hz]; exact mpz_to_ruint_ok n z

end Givaro.Model.RecInt
