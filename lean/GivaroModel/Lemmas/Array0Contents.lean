/-
C17 — what the handles denote (`contents`) before and after each operation of the Array0 model; the basic lemmas about
`contents` that the equations of the operations need are in `Array0Ops.lean`.
-/
import GivaroModel.Lemmas.Array0Ops
namespace Givaro.Model.Array0
variable {α : Type}

theorem step_others [Inhabited α] {s : State α} (I : Inv s) (op : Op α) (nw : op.isWrite = false) {k : Nat}
    (ne : k ≠ op.target) (kn : k < s.n) : contents (step s op) k = contents s k := by
  by_cases hb : ∀ k, k ∈ op.handles → k < s.n
  · rw [step_eq_core I op hb]; exact contents_others (stepCore_good I op hb nw) ne kn
  · rw [step_out_of_range I op hb]

theorem write_contents {s : State α} (I : Inv s) {h : Nat} (hn : h < s.n) (i : Nat) (v : α) (k : Nat) :
    contents (write s h i v) k =
      if (s.hs k).d = (s.hs h).d ∧ i < (s.hs h).size then (contents s k).set i v else contents s k := by
  unfold write; dsimp only
  by_cases hi : i < (s.hs h).size
  · simp only [hi, ↓reduceIte, and_true]
    obtain ⟨b, hb, _, e⟩ := writeCell_eq I hn hi v
    rw [e, hb]
    unfold contents
    dsimp only
    by_cases e : (s.hs k).d = some b
    · simp only [e, ↓reduceIte, upd_same]
      exact List.take_set ..
    · simp only [e, ↓reduceIte]
      cases hd : (s.hs k).d with
      | none => rfl
      | some b' =>
        dsimp only
        rw [upd_other _ _ _ _ (fun q => e (by rw [hd, q]))]
  · simp only [hi, ↓reduceIte, and_false]

theorem destroy_contents {s : State α} (I : Inv s) {h : Nat} (hn : h < s.n) : contents (destroy s h) h = [] := by
  unfold contents; rw [(good_destroy I hn).2]; rfl

theorem share_contents {s : State α} (I : Inv s) {h g : Nat} (hn : h < s.n) (gn : g < s.n) (ne : h ≠ g) :
    contents (attachShare (destroy s h) h g) h = contents s g := by
  obtain ⟨G, he⟩ := good_destroy I hn
  obtain ⟨_, eh, _, ed, _⟩ := attachShare_inv G.inv (G.lt hn) (G.lt gn) he
  have : contents (attachShare (destroy s h) h g) h = contents (destroy s h) g := by
    unfold contents; rw [eh, ed, upd_same]
  rw [this]; exact contents_others G (fun q => ne q.symm) gn

theorem logcopy_contents {s : State α} (I : Inv s) {h g : Nat} (hn : h < s.n) (gn : g < s.n) :
    contents (logcopy s h g) h = contents s g := by
  by_cases e : h = g
  · unfold logcopy; rw [if_pos e, e]
  · rw [logcopy_eq I hn e]; exact share_contents I hn gn e

theorem ctorWithCopy_contents {s : State α} (I : Inv s) {h g : Nat} (hn : h < s.n) (gn : g < s.n) (ne : h ≠ g) :
    contents (ctorWithCopy s h g) h = contents s g := by
  rw [ctorWithCopy_eq I hn gn ne]
  have len := contents_length I gn
  split
  · rw [attachFresh_contents, ← len, List.take_length]
  · rename_i z
    rw [destroy_contents I hn]
    exact (List.length_eq_zero_iff.mp (by rw [len]; simpa using z)).symm

theorem ctorBuild_contents {s : State α} (I : Inv s) {h : Nat} (hn : h < s.n) (sz : Nat) (t : α) :
    contents (ctorBuild s h sz t) h = List.replicate sz t := by
  rw [ctorBuild_eq I hn]
  split
  · rw [attachFresh_contents, List.take_replicate, Nat.min_self]
  · rename_i z
    rw [destroy_contents I hn, Decidable.not_not.mp z]; rfl

theorem reallocate_contents [Inhabited α] {s : State α} (I : Inv s) {h : Nat} (hn : h < s.n) (sz : Nat) :
    (contents (reallocate s h sz) h).length = sz ∧
    ∀ m, m ≤ sz → m ≤ (s.hs h).size → (contents (reallocate s h sz) h).take m = (contents s h).take m := by
  obtain ⟨G, hsz, _⟩ := reallocate_good I hn sz
  refine ⟨by rw [contents_length G.inv (G.lt hn), hsz], ?_⟩
  intro m m1 m2
  by_cases F : Fast s h sz
  · rw [reallocate_fast I hn F]
    obtain ⟨c, hc, _⟩ := F
    obtain ⟨b, hb, _⟩ := owner_of_cnt I hn hc
    have hb' : ((setH s h { (s.hs h) with size := sz }).hs h).d = some b := by
      show (upd s.hs h _ h).d = _; rw [upd_same]; exact hb
    rw [contents_of_d hb', contents_of_d hb]
    show ((s.ddata b).take (upd s.hs h _ h).size).take m = _
    rw [upd_same, List.take_take, List.take_take, Nat.min_eq_left m1, Nat.min_eq_left m2]
  · rw [reallocate_slow I hn F]
    split
    · have mk : m ≤ ((contents s h).take (if (s.hs h).size < sz then (s.hs h).size else sz)).length := by
        rw [List.length_take, contents_length I hn]; split <;> omega
      rw [attachFresh_contents, List.take_take, Nat.min_eq_left m1, List.take_append_of_le_length mk, List.take_take,
        Nat.min_eq_left (by rw [List.length_take] at mk; omega)]
    · have : m = 0 := by omega
      rw [this, List.take_zero, List.take_zero]

theorem contents_same_d {s : State α} (I : Inv s) {h g : Nat} (hn : h < s.n) (gn : g < s.n) (e : (s.hs g).d = (s.hs h).d) :
    contents s h = contents s g := by
  unfold contents
  cases hd : (s.hs h).d with
  | none => rw [hd] at e; rw [e]
  | some b =>
    rw [hd] at e; rw [e]; dsimp only
    have := (I.pair h g hn gn (d_some_psz I hn hd) (d_some_psz I gn e)).2 (by rw [hd, e])
    rw [this.1]

theorem copy_contents [Inhabited α] {s : State α} (I : Inv s) {h g : Nat} (hn : h < s.n) (gn : g < s.n) :
    contents (copy s h g) h = contents s g := by
  by_cases de : (s.hs g).d = (s.hs h).d
  · unfold copy; rw [if_pos de]; exact contents_same_d I hn gn de
  · rw [copy_eq I hn gn de]
    obtain ⟨G, hs, so⟩ := reallocate_good I hn (s.hs g).size
    exact (writeCells_spec G.inv (G.lt hn) so _ (by rw [hs, contents_length I gn])).2.1

theorem pushBack_contents [Inhabited α] {s : State α} (I : Inv s) {h : Nat} (hn : h < s.n) (v : α) :
    contents (pushBack s h v) h = contents s h ++ [v] := by
  obtain ⟨G, hs, _⟩ := reallocate_good I hn ((s.hs h).size + 1)
  obtain ⟨len, pre⟩ := reallocate_contents I hn ((s.hs h).size + 1)
  have l0 := contents_length I hn
  have p := pre (s.hs h).size (by omega) (by omega)
  rw [pushBack_eq v G.inv.nofault hs]
  generalize reallocate s h ((s.hs h).size + 1) = s1 at *
  -- the store into the last cell is an element write through `h`
  have W := write_contents G.inv (G.lt hn) ((s.hs h).size) v h
  unfold write at W; dsimp only at W
  rw [if_pos (by rw [hs]; omega), if_pos ⟨rfl, by rw [hs]; omega⟩] at W
  rw [W, List.set_eq_take_append_cons_drop, if_pos (by rw [len]; omega), p, List.drop_eq_nil_of_le (by rw [len]; omega),
    ← l0, List.take_length]

theorem withCopy_write_isolated {s : State α} (I : Inv s) {h g : Nat} (hn : h < s.n) (gn : g < s.n) (ne : h ≠ g) (i : Nat) (v : α) :
    contents (write (ctorWithCopy s h g) h i v) g = contents s g ∧
    contents (write (ctorWithCopy s h g) g i v) h = contents s g := by
  have ng : g ≠ h := fun q => ne q.symm
  obtain ⟨G, so⟩ := ctorWithCopy_good I hn gn
  have ch := ctorWithCopy_contents I hn gn ne
  have cg := contents_others G ng gn
  generalize ctorWithCopy s h g = s1 at *
  have hn1 := G.lt hn
  have gn1 := G.lt gn
  -- the new handle is the sole owner of its block
  have nd : ∀ b, (s1.hs h).d = some b → (s1.hs g).d ≠ some b := fun b hb => sole_excl G.inv hn1 (so ne) hb g ng gn1
  constructor
  · rw [write_contents G.inv hn1 i v g, if_neg, cg]
    intro ⟨q, lt⟩
    obtain ⟨_, b, _, h2, _⟩ := (G.inv.wf h hn1).2 (size_pos_psz G.inv hn1 (by omega))
    exact nd b h2 (by rw [q, h2])
  · rw [write_contents G.inv gn1 i v h, if_neg, ch]
    intro ⟨q, lt⟩
    obtain ⟨_, b, _, h2, _⟩ := (G.inv.wf g gn1).2 (size_pos_psz G.inv gn1 (by omega))
    exact nd b (by rw [q, h2]) h2

theorem logcopy_write_shared {s : State α} (I : Inv s) {h g : Nat} (hn : h < s.n) (gn : g < s.n) (ne : h ≠ g) {i : Nat}
    (hi : i < (s.hs g).size) (v : α) : contents (write (logcopy s h g) h i v) g = (contents s g).set i v := by
  have ng : g ≠ h := fun q => ne q.symm
  have G := logcopy_good I hn gn
  have cg := contents_others G ng gn
  -- both handles are now the handle `g` was
  have hh : (logcopy s h g).hs h = s.hs g := by rw [logcopy_eq I hn ne]; exact share_handle I hn gn ne
  have gsame := G.frame g ng
  generalize logcopy s h g = s1 at *
  rw [write_contents G.inv (G.lt hn) i v g, if_pos ⟨by rw [hh, gsame], by rw [hh]; exact hi⟩, cg]

end Givaro.Model.Array0
