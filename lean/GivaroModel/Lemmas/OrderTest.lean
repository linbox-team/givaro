/- The test behind `is_prim_root`, `lowest_prim_root`, `prim_root` (C13), the generator search of the `GFqDom` constructor (C05) and C09's `order_certificate`:
   `x^m = 1` and `x^(m/f) ≠ 1` for the prime factors `f` of `m` say that `x` has order `m`.  (And `0` has order 0 in `ZMod n`: the case both
   searches exclude first.) -/
import Mathlib.GroupTheory.OrderOfElement
import Mathlib.Data.ZMod.Basic
namespace Givaro.Lemmas.NumTheo

theorem orderOf_eq_iff_pow_div_prime {G : Type*} [Monoid G] (x : G) (n : ℕ) (hn : 0 < n) :
    orderOf x = n ↔ x ^ n = 1 ∧ ∀ r : ℕ, r.Prime → r ∣ n → x ^ (n / r) ≠ 1 := by
  constructor
  · rintro rfl
    refine ⟨pow_orderOf_eq_one x, fun r hr hrn h1 => ?_⟩
    have h2 := orderOf_dvd_of_pow_eq_one h1
    have h3 : orderOf x / r < orderOf x := Nat.div_lt_self hn hr.one_lt
    have h4 : 0 < orderOf x / r := Nat.div_pos (Nat.le_of_dvd hn hrn) hr.pos
    have := Nat.le_of_dvd h4 h2
    omega
  · rintro ⟨h1, h2⟩
    exact orderOf_eq_of_pow_and_pow_div_prime hn h1 h2

/-- the same with the prime factors of `m` in a list, as the routines hold them -/
theorem orderOf_eq_iff_pow_div_ne_one {G : Type*} [Monoid G] (x : G) {m : Nat} (hm : 0 < m) (hx : x ^ m = 1) {Lf : List Nat}
    (hpr : ∀ f ∈ Lf, f.Prime ∧ f ∣ m) (hall : ∀ q : Nat, q.Prime → q ∣ m → q ∈ Lf) :
    (∀ f ∈ Lf, x ^ (m / f) ≠ 1) ↔ orderOf x = m := by
  rw [orderOf_eq_iff_pow_div_prime x m hm, and_iff_right hx]
  exact ⟨fun h r hr hd => h r (hall r hr hd), fun h f hf => h f (hpr f hf).1 (hpr f hf).2⟩

theorem orderOf_zero_zmod (n : Nat) [Fact (1 < n)] : orderOf (0 : ZMod n) = 0 := by
  rw [orderOf_eq_zero_iff']
  intro k hk
  rw [zero_pow (by omega)]
  exact zero_ne_one

end Givaro.Lemmas.NumTheo
